/-
  C12 — Point and line location in a geometry agree with exhaustive search.

  Property theorems about `Model.Locate` (model of geometry.in_polygon / in_rectangle /
  rectangles_intersect / sub_rectangles / bounds_of_points, class quadtree, and
  mulgrid.column_containing_point / layer_containing_elevation / block_name_containing_point /
  block_contains_point) and, in the last section, about `Model.Track` (mulgrid.column_track).
  Columns are indices into `columnlist`, layers indices into `layerlist` (0 = atmosphere layer),
  a block is (layer, column); arithmetic is exact (`Rat`).

  Clause of the property                                   theorem(s)
  ------------------------------------------------------   -----------------------------------------
  the reported column really contains the point             found_column_contains (every search aid)
  a point outside every column yields nothing               outside_gives_none (every search aid)
  same result whichever aid: none / guess / bounds /         methods_agree, plain_agrees_with_exhaustive
    column subset containing the answer
  ... / quadtree                                            quadtree_agrees_or_none_partial, quadtree_search_complete_partial,
                                                            quadtree_search_complete_rectangular, quadtree_agrees_with_plain_rectangular
  containment and the bounding-box pre-filter               in_polygon_in_bounding_rectangle (crossing parity)
  quadtree structure                                        quadtree_partition, quadtree_leaf_contains_point,
                                                            quadtree_leaf_exists
  block reported for a 3-D point                            block_at_point_*, block_reported_is_in_found_column,
                                                            reported_block_contains_point_partial,
                                                            containing_block_is_the_reported_one

  PROVED IN PART (what is not proved is checked only by the correspondence facets and the exact oracle):
  * quadtree completeness in the plane — that `qtree.search` *finds* the containing column for every
    geometry of the listed classes.  It is false in general (two islands: `search_wave` only walks through
    neighbours whose bounding boxes meet the leaf rectangle).  Proved instead: "agrees or returns None"
    unconditionally, and "finds it" whenever the column is reachable in the neighbour graph that
    `search_wave` explores (a breadth-first-search completeness theorem); the planar step is proved for
    rectangular lattices (`quadtree_search_complete_rectangular`) and left out for other geometries.
  * `column_track` (Model/Track.lean) — proved: every entry/exit point is on the line and on (or, for the
    line's own end points, inside) its column; sorted by entry distance; no column twice; the crossing of
    an edge does not depend on the edge's direction (so exit and entry through a shared edge coincide);
    lengths non-negative and summing to at most the line's length under `Ordered` (Boolean form `orderedB`); a column
    crossed at exactly two points more than the clip tolerance apart is listed; duplicate merging only
    within 1e-3 × longest side; the crossings, and under `RevHyp` the whole track, of the reversed line.
    NOT proved: that the columns crossed form a chain of neighbours covering the line inside the domain
    (a planar tessellation fact: needed for "consecutive segments abut" and "lengths add up to the length
    inside the domain" without hypotheses), the correctness of the Cohen–Sutherland bounding-box test
    (a hypothesis of `track_lists_crossed_column_partial`, evaluated per case), non-convex columns crossed
    more than twice.  These remain with the correspondence facet `track` and the exact clipping oracle.
-/
import PyTough.Proofs.LocateMore
import PyTough.Proofs.LocateTrack3

namespace Props.C12
open Model.Locate Proofs.Locate Model.Track Proofs.Track

/-! ### The column reported really contains the point — whichever search aid is used -/

/-- For every geometry, point and combination of search aids (column subset, starting guess,
    bounding rectangle or polygon, quadtree): a returned column passes `contains_point`. -/
theorem found_column_contains (g : Geo) (pos : Pt) (a : Aids) (c : Nat)
    (h : columnContainingPoint g pos a = some c) : g.containsPoint c pos = true := by
  unfold columnContainingPoint at h
  split at h
  · exact guessSearch_sound h
  · cases h

/-- A point outside every column yields `None`, whichever aids are given. -/
theorem outside_gives_none (g : Geo) (pos : Pt) (a : Aids)
    (h : ∀ c, g.containsPoint c pos = false) : columnContainingPoint g pos a = none := by
  cases hc : columnContainingPoint g pos a with
  | none => rfl
  | some c => have := found_column_contains g pos a c hc; rw [h c] at this; cases this

/-! ### Crossing parity: containment implies "in the bounding rectangle" -/

/-- If `in_polygon(pos, polygon)` is 1 then `in_rectangle(pos, bounds_of_points(polygon))`:
    unconditional for every polygon (the number of edges spanning any ordinate is even).  Hence the
    `near_point` pre-filter of the plain search loses nothing, and the unfiltered calls
    (`guess.contains_point`, `search_wave`, `block_contains_point`) cannot claim a far-away point. -/
theorem in_polygon_in_bounding_rectangle (pos : Pt) (poly : Poly) (h : inPolygon pos poly = 1) :
    inRectangle pos (boundsOfPoints poly) = true :=
  inPolygon_inBounds h

theorem contains_point_implies_near_point (g : Geo) (c : Nat) (pos : Pt)
    (h : g.containsPoint c pos = true) : g.nearPoint c pos = true :=
  containsPoint_near h

/-! ### All search aids agree with plain and with exhaustive search -/

/-- If at most one column contains the point (`UniqueAt`) and `c` does, then the search returns `c`
    with any starting guess (right, neighbouring or far away), any bounding rectangle/polygon that
    holds the point, and any column subset that holds `c` — and with none of them. -/
theorem methods_agree (g : Geo) (pos : Pt) (c : Nat) (a : Aids)
    (hu : UniqueAt g pos) (hc : g.containsPoint c pos = true)
    (hq : a.qtree = none) (hb : inBounds pos a.bounds = true) (hcols : c ∈ searchCols g a) :
    columnContainingPoint g pos a = some c := by
  unfold columnContainingPoint
  rw [hb, hq]
  exact guessSearch_complete hu hc fun _ hdc => fullSearch_plain_complete hu hcols hdc hc

theorem all_columns_hold_answer (g : Geo) (pos : Pt) (c : Nat) (a : Aids) (ha : a.columns = none)
    (hc : g.containsPoint c pos = true) : c ∈ searchCols g a := by
  unfold searchCols
  rw [ha]
  exact List.mem_range.mpr (containsPoint_lt hc)

theorem plain_agrees_with_exhaustive (g : Geo) (pos : Pt) (hu : UniqueAt g pos) :
    columnContainingPoint g pos {} = exhaustiveSearch g pos := by
  cases he : exhaustiveSearch g pos with
  | some c =>
    have hc := exhaustive_some he
    exact methods_agree g pos c {} hu hc rfl rfl (all_columns_hold_answer g pos c {} rfl hc)
  | none => exact outside_gives_none g pos {} (exhaustive_none he)

/-- With a quadtree (and any other aids) the result is the same column or `None`: never another
    column.  (`_partial`: completeness of the quadtree search is not proved — it does not hold for
    every domain; see the header.) -/
theorem quadtree_agrees_or_none_partial (g : Geo) (pos : Pt) (c : Nat) (a : Aids)
    (hu : UniqueAt g pos) (hc : g.containsPoint c pos = true) :
    columnContainingPoint g pos a = some c ∨ columnContainingPoint g pos a = none := by
  cases h : columnContainingPoint g pos a with
  | none => exact Or.inr rfl
  | some c' => rw [hu c' c (found_column_contains g pos a c' h) hc]; exact Or.inl rfl

/-! ### The quadtree -/

/-- Every node of the quadtree built by `quadtree.__init__` satisfies `NodeOK`: a node with at most
    one element is a leaf; each child is non-empty, sits in one of the four sub-rectangles, and holds
    only parent elements whose centres are in the child's rectangle; an element whose centre is in
    the node's rectangle goes to exactly one child (it occurs in the children's lists as often as in
    the parent's). -/
theorem quadtree_partition (g : Geo) (fuel : Nat) (bounds : Rect) (elements : List Nat) (t : QTree)
    (h : buildQ g fuel bounds elements = some t) : QAll (NodeOK g) t :=
  buildQ_all h

theorem quadtree_root (g : Geo) (fuel : Nat) (bounds : Rect) (elements : List Nat) (t : QTree)
    (h : buildQ g fuel bounds elements = some t) : t.bounds = bounds ∧ t.elements = elements :=
  buildQ_root h

/-- the four sub-rectangles cover the rectangle … -/
theorem sub_rectangles_cover (p : Pt) (r : Rect) (h : inRectangle p r = true) :
    ∃ k, k < 4 ∧ firstRect p (subRectangles r) = some k := subRect_cover h

/-- … and lie inside it -/
theorem sub_rectangles_inside (q : Pt) (r s : Rect) (hs : s ∈ subRectangles r)
    (h : inRectangle q s = true) : inRectangle q r = true := by
  rw [inRectangle_iff] at h ⊢
  simp only [subRectangles, List.mem_cons, List.mem_nil_iff, or_false] at hs
  rcases hs with rfl | rfl | rfl | rfl
  · exact ⟨half_inside (Or.inl h.1), half_inside (Or.inl h.2)⟩
  · exact ⟨half_inside (Or.inr h.1), half_inside (Or.inl h.2)⟩
  · exact ⟨half_inside (Or.inl h.1), half_inside (Or.inr h.2)⟩
  · exact ⟨half_inside (Or.inr h.1), half_inside (Or.inr h.2)⟩

/-- `leaf(pos)` is a node whose bounds contain `pos` … -/
theorem quadtree_leaf_contains_point (p : Pt) (t l : QTree) (h : t.leaf p = some l) :
    inRectangle p l.bounds = true := leaf_bounds p t l h

/-- … it exists exactly when `pos` is in the root's bounds. -/
theorem quadtree_leaf_exists (p : Pt) (t : QTree) :
    (∃ l, t.leaf p = some l) ↔ inRectangle p t.bounds = true := by
  rw [← leaf_isSome, Option.isSome_iff_exists]

/-- **Completeness of the quadtree search relative to the neighbour graph** (`_partial`: the reachability
    hypothesis `hr` is about the column graph, not about the plane).  If the containing column can be
    reached from an element of the point's leaf by steps to neighbours that are elements of the tree
    and whose bounding boxes meet the leaf rectangle (`AvoidReach … []`, the relation `search_wave`
    explores), then the search with a quadtree — and any guess, column subset, and bounds holding the
    point — returns that column, i.e. agrees with plain search.  What is *not* proved is the planar
    fact that such a chain exists whenever the straight segment from a leaf element's centre to the
    point stays inside the domain; `islands` below shows it can fail otherwise.  The harness evaluates
    the hypothesis (its `Reachable`) on every explored point (evidence: `hypotheses_met`). -/
theorem quadtree_search_complete_partial (g : Geo) (pos : Pt) (c : Nat) (a : Aids) (q : QT) (l : QTree)
    (hu : UniqueAt g pos) (hc : g.containsPoint c pos = true)
    (hq : a.qtree = some q) (hb : inBounds pos a.bounds = true)
    (hl : q.root.leaf pos = some l)
    (hr : ∃ e ∈ l.elements, AvoidReach g q.all l.bounds c [] e) :
    columnContainingPoint g pos a = some c := by
  unfold columnContainingPoint
  rw [hb, hq]
  exact guessSearch_complete hu hc fun _ _ => search_complete_of_reachable hu hc hl hr

/-- **Completeness of the quadtree search on rectangular lattices** (no reachability hypothesis).
    `Lattice g nx ny xs ys`: the columns' bounding boxes are the cells of a full `nx × ny` lattice with
    grid lines `xs 0 ≤ … ≤ xs nx`, `ys 0 ≤ … ≤ ys ny` (column `i + nx·j` is cell `(i, j)`), each centre is
    in its cell, and cells sharing a side are neighbours — what `mulgrid().rectangular(...)` builds.  With
    the quadtree that `column_quadtree()` builds over all columns, in any bounds covering the lattice, the
    search with the quadtree — and any guess, column subset, and bounds holding the point — returns the
    column that contains the point.  The planar step proved here: from any element of the point's leaf,
    walking along its row and then along the target's column only visits cells whose bounding boxes meet
    the leaf rectangle, so `search_wave` gets there. -/
theorem quadtree_search_complete_rectangular (g : Geo) (nx ny : Nat) (xs ys : Nat → Rat) (L : Lattice g nx ny xs ys)
    (bounds : Rect) (hcov : Covers bounds nx ny xs ys) (pos : Pt) (c : Nat) (a : Aids) (q : QT)
    (hu : UniqueAt g pos) (hc : g.containsPoint c pos = true)
    (hq : a.qtree = some q) (hbuilt : columnQuadtree g bounds (List.range g.ncols) = some q)
    (hb : inBounds pos a.bounds = true) :
    columnContainingPoint g pos a = some c := by
  obtain ⟨l, hl, hne, hr⟩ := lattice_leaf_reach L hbuilt hcov hc
  obtain ⟨e, he⟩ := List.exists_mem_of_ne_nil _ hne
  exact quadtree_search_complete_partial g pos c a q l hu hc hq hb hl ⟨e, he, hr e he⟩

/-- **Axis-aligned rectangular columns form a `Lattice`**: if column `i + nx·j` has all its nodes in the cell
    `[xs i, xs (i+1)] × [ys j, ys (j+1)]` and the cell's bottom-left and top-right corners among them (a
    rectangle, nodes in any order or orientation), its `bounding_box` is that cell — so the `bbox` clause of
    `Lattice` is derived from the polygons rather than assumed. -/
theorem rectangular_columns_form_lattice (g : Geo) (nx ny : Nat) (xs ys : Nat → Rat)
    (hn : g.ncols = nx * ny) (hx : ∀ i, i < nx → xs i ≤ xs (i + 1)) (hy : ∀ j, j < ny → ys j ≤ ys (j + 1))
    (hpoly : ∀ i j, i < nx → j < ny →
      (xs i, ys j) ∈ g.poly (i + nx * j) ∧ (xs (i + 1), ys (j + 1)) ∈ g.poly (i + nx * j) ∧
      ∀ q ∈ g.poly (i + nx * j), inRectangle q ((xs i, ys j), (xs (i + 1), ys (j + 1))) = true)
    (hcentre : ∀ k, k < g.ncols → inRectangle (g.centre k) (g.bbox k) = true)
    (hE : ∀ i j, i + 1 < nx → j < ny →
      (i + 1 + nx * j) ∈ g.nbrs (i + nx * j) ∧ (i + nx * j) ∈ g.nbrs (i + 1 + nx * j))
    (hN : ∀ i j, i < nx → j + 1 < ny →
      (i + nx * (j + 1)) ∈ g.nbrs (i + nx * j) ∧ (i + nx * j) ∈ g.nbrs (i + nx * (j + 1))) :
    Lattice g nx ny xs ys :=
  { ncols := hn, monoX := hx, monoY := hy, centre := hcentre, nbrE := hE, nbrN := hN,
    bbox := fun i j hi hj => by
      obtain ⟨h1, h2, h3⟩ := hpoly i j hi hj
      exact bounds_of_rectangle (R := ((xs i, ys j), (xs (i + 1), ys (j + 1)))) h3 h1 h2 }

/-- hence on a rectangular lattice the search with the quadtree (and any guess) **agrees with plain
    search at every point**, inside or outside the grid -/
theorem quadtree_agrees_with_plain_rectangular (g : Geo) (nx ny : Nat) (xs ys : Nat → Rat) (L : Lattice g nx ny xs ys)
    (bounds : Rect) (hcov : Covers bounds nx ny xs ys) (pos : Pt) (q : QT) (guess : Option Nat)
    (hu : UniqueAt g pos) (hbuilt : columnQuadtree g bounds (List.range g.ncols) = some q) :
    columnContainingPoint g pos { qtree := some q, guess := guess } = columnContainingPoint g pos {} := by
  rw [plain_agrees_with_exhaustive g pos hu]
  cases he : exhaustiveSearch g pos with
  | some c =>
    exact quadtree_search_complete_rectangular g nx ny xs ys L bounds hcov pos c _ q hu (exhaustive_some he) rfl hbuilt rfl
  | none => exact outside_gives_none g pos _ (exhaustive_none he)

/-- `search_wave` in the model is given `len(all_elements) + len(elements) + 1` units of fuel; giving
    it any more changes nothing, i.e. the model's loop always ends because the `todo` list empties
    or the column is found — as the Python `while` loop does — never because the fuel ran out. -/
theorem search_wave_fuel_suffices (g : Geo) (all : List Nat) (leaf : QTree) (p : Pt) (extra : Nat) :
    searchWaveLoop g all leaf.bounds p (searchFuel all leaf.elements + extra) leaf.elements [] = searchWave g all leaf p :=
  searchWave_fuel_enough g all leaf p extra

/-! ### The block reported for a 3-D point -/

/-- A reported block (layer `li`, column `ci`): `ci` is the column found for the horizontal
    position (so it contains it), the block exists (`surface > bottom`), and either the elevation
    is in the layer (`bottom ≤ z ≤ top`) or it lies between ground level and a raised surface and
    the layer is the top one. -/
theorem block_at_point_spec (g : Geo) (p : Pt) (z : Rat) (qt : Option QT) (li ci : Nat)
    (h : blockContainingPoint g p z qt = .ok (some (li, ci))) :
    columnContainingPoint g p { qtree := qt } = some ci ∧
    ∃ col lay l0, g.cols[ci]? = some col ∧ g.layers[li]? = some lay ∧ g.layers[0]? = some l0 ∧ 1 ≤ li ∧
      col.surface > lay.bottom ∧
      ((l0.bottom < z ∧ z ≤ col.surface ∧ li = 1) ∨ (lay.bottom ≤ z ∧ z ≤ lay.top)) := by
  unfold blockContainingPoint at h
  split at h
  · cases h
  · rename_i ci' hcol
    split at h
    · rename_i col l0 l1 hc h0 h1
      simp only at h
      split at h
      · cases h
      · rename_i li' hlay
        split at h
        · rename_i lay hl
          split at h
          · rename_i hsurf
            injection h with h; injection h with h
            simp only [Prod.mk.injEq] at h
            obtain ⟨rfl, rfl⟩ := h
            suffices 1 ≤ li' ∧ ((l0.bottom < z ∧ z ≤ col.surface ∧ li' = 1) ∨ (lay.bottom ≤ z ∧ z ≤ lay.top)) from
              ⟨hcol, col, lay, l0, hc, hl, h0, this.1, hsurf, this.2⟩
            split at hlay
            · rename_i hcond
              simp only [Bool.and_eq_true, decide_eq_true_eq] at hcond
              injection hlay with hlay
              exact ⟨by omega, Or.inl ⟨hcond.1, hcond.2, hlay.symm⟩⟩
            · obtain ⟨hik, l, hl', hce⟩ := layerContainingElevation_some hlay
              rw [hl] at hl'
              injection hl' with hl'; subst hl'
              exact ⟨hik, Or.inr hce⟩
          · cases h
        · cases h
    · split at h <;> cases h
    · cases h

theorem block_reported_is_in_found_column (g : Geo) (p : Pt) (z : Rat) (qt : Option QT) (li ci : Nat)
    (h : blockContainingPoint g p z qt = .ok (some (li, ci))) : g.containsPoint ci p = true :=
  found_column_contains g p _ ci (block_at_point_spec g p z qt li ci h).1

/-- With stacked layers, at or below ground level: the block of the found column and of the layer
    with `bottom < z < top` is reported (when the column reaches into that layer). -/
theorem block_at_point_in_layer (g : Geo) (p : Pt) (z : Rat) (qt : Option QT) (li ci : Nat)
    (col : Column) (lay l0 : Layer)
    (hcol : columnContainingPoint g p { qtree := qt } = some ci)
    (hc : g.cols[ci]? = some col) (h0 : g.layers[0]? = some l0) (hl : g.layers[li]? = some lay) (hli : 1 ≤ li)
    (hst : Stacked (g.layers.drop 1)) (hground : z ≤ l0.bottom)
    (hb : lay.bottom < z) (ht : z < lay.top) (hs : col.surface > lay.bottom) :
    blockContainingPoint g p z qt = .ok (some (li, ci)) := by
  have hlt : li < g.layers.length := (List.getElem?_eq_some_iff.mp hl).1
  have h1 : g.layers[1]? = some (g.layers[1]'(by omega)) := List.getElem?_eq_getElem _
  have hscan := layerContainingElevation_of_strict hst hli hl hb.le ht
  rw [blockContainingPoint_eq hcol hc h0 h1, decide_eq_false (not_lt.mpr hground), Bool.false_and, if_neg Bool.false_ne_true, hscan]
  simp only [hl, hs, if_true]

/-- Between ground level and a raised surface: the top layer's block. -/
theorem block_at_point_raised_surface (g : Geo) (p : Pt) (z : Rat) (qt : Option QT) (ci : Nat)
    (col : Column) (l0 l1 : Layer)
    (hcol : columnContainingPoint g p { qtree := qt } = some ci)
    (hc : g.cols[ci]? = some col) (h0 : g.layers[0]? = some l0) (h1 : g.layers[1]? = some l1)
    (hz : l0.bottom < z) (hzs : z ≤ col.surface) (hs : col.surface > l1.bottom) :
    blockContainingPoint g p z qt = .ok (some (1, ci)) := by
  rw [blockContainingPoint_eq hcol hc h0 h1, decide_eq_true hz, decide_eq_true hzs, Bool.and_self, if_pos rfl]
  simp only [h1, hs, if_true]

/-- `None` when no column contains the position … -/
theorem block_at_point_none_outside (g : Geo) (p : Pt) (z : Rat) (qt : Option QT)
    (h : columnContainingPoint g p { qtree := qt } = none) : blockContainingPoint g p z qt = .ok none := by
  unfold blockContainingPoint; rw [h]

/-- … and when the elevation is in no layer and not under a raised surface (above the surface and
    ground level, or below the bottom layer). -/
theorem block_at_point_none_above_or_below (g : Geo) (p : Pt) (z : Rat) (qt : Option QT) (ci : Nat)
    (col : Column) (l0 : Layer)
    (hcol : columnContainingPoint g p { qtree := qt } = some ci)
    (hc : g.cols[ci]? = some col) (h0 : g.layers[0]? = some l0)
    (hz : ¬ (l0.bottom < z ∧ z ≤ col.surface))
    (hno : ∀ l ∈ g.layers.drop 1, l.containsElevation z = false) :
    blockContainingPoint g p z qt = .ok none := by
  have hscan := layerContainingElevation_none hno
  have hcond : (decide (l0.bottom < z) && decide (z ≤ col.surface)) = false := by
    rw [Bool.and_eq_false_iff, decide_eq_false_iff_not, decide_eq_false_iff_not]
    exact not_and_or.mp hz
  cases h1 : g.layers[1]? with
  | none =>
    unfold blockContainingPoint
    rw [hcol]
    simp only [hc, h0, h1, hcond, Bool.false_eq_true, if_false]
  | some l1 => rw [blockContainingPoint_eq hcol hc h0 h1, hcond, if_neg Bool.false_ne_true, hscan]

/-- At or below ground level the reported block contains the point in the sense of
    `block_contains_point`.  (`_partial`: between ground level and a raised surface the real
    `block_contains_point` answers False for the block that is — correctly — reported; the
    hypothesis `z ≤ ground` excludes exactly that region; counted by the harness on every run.) -/
theorem reported_block_contains_point_partial (g : Geo) (p : Pt) (z : Rat) (qt : Option QT) (li ci : Nat) (l0 : Layer)
    (h : blockContainingPoint g p z qt = .ok (some (li, ci))) (h0 : g.layers[0]? = some l0)
    (hground : z ≤ l0.bottom) : blockContainsPoint g li ci p z = true := by
  obtain ⟨hcol, col, lay, l0', hc, hl, h0', _, hs, hcase⟩ := block_at_point_spec g p z qt li ci h
  rw [h0] at h0'; injection h0' with h0'; subst h0'
  have hcp := found_column_contains g p _ ci hcol
  unfold blockContainsPoint
  simp only [hc, hl, hs, if_true]
  rcases hcase with ⟨hz, _, _⟩ | ⟨hb, ht⟩
  · exact absurd hz (not_lt.mpr hground)
  · simp only [containsElevation_iff.mpr ⟨hb, ht⟩, if_true, hcp]

/-- Uniqueness: with `UniqueAt` and stacked layers, any block below the atmosphere layer that
    contains the point (in the sense of `block_contains_point`, elevation strictly inside the layer,
    at or below ground level) *is* the block reported by plain search; so no other block does. -/
theorem containing_block_is_the_reported_one (g : Geo) (p : Pt) (z : Rat) (li ci : Nat) (lay l0 : Layer)
    (hu : UniqueAt g p) (hst : Stacked (g.layers.drop 1))
    (h : blockContainsPoint g li ci p z = true) (hli : 1 ≤ li)
    (hl : g.layers[li]? = some lay) (h0 : g.layers[0]? = some l0)
    (hb : lay.bottom < z) (ht : z < lay.top) (hground : z ≤ l0.bottom) :
    blockContainingPoint g p z none = .ok (some (li, ci)) := by
  unfold blockContainsPoint at h
  cases hc : g.cols[ci]? with
  | none => simp [hc] at h
  | some col =>
    simp only [hc, hl] at h
    split at h
    · rename_i hs
      split at h
      · exact block_at_point_in_layer g p z none li ci col lay l0
          (methods_agree g p ci {} hu h rfl rfl (all_columns_hold_answer g p ci {} rfl h)) hc h0 hl hli hst hground hb ht hs
      · cases h
    · cases h

/-! ### Non-vacuity: a concrete geometry on which every hypothesis above is met -/

/-- two unit squares side by side, the second with its surface raised to 1/2; ground level 0,
    layers [-1,0] and [-3,-1] -/
def demo : Geo :=
  { cols := [ { poly := [(0, 0), (0, 1), (1, 1), (1, 0)], centre := (1/2, 1/2), surface := 0, nbrs := [1] },
              { poly := [(1, 0), (1, 1), (2, 1), (2, 0)], centre := (3/2, 1/2), surface := 1/2, nbrs := [0] } ],
    layers := [ ⟨0, 0⟩, ⟨-1, 0⟩, ⟨-3, -1⟩ ] }

def demoQT : Option QT := columnQuadtree demo ((0, 0), (2, 1)) [0, 1]

-- found_column_contains / methods_agree: plain, wrong guess, rectangle, subset, quadtree all give column 1
example : columnContainingPoint demo (3/2, 1/4) {} = some 1 := by decide +kernel
example : columnContainingPoint demo (3/2, 1/4) { guess := some 0 } = some 1 := by decide +kernel
example : columnContainingPoint demo (3/2, 1/4) { bounds := some [(0, 0), (2, 1)], columns := some [1] } = some 1 := by decide +kernel
example : columnContainingPoint demo (3/2, 1/4) { qtree := demoQT } = some 1 := by decide +kernel
example : demo.containsPoint 1 (3/2, 1/4) = true ∧ demo.containsPoint 0 (3/2, 1/4) = false := by decide +kernel
-- outside_gives_none: a point level with the vertices, left of the grid
example : columnContainingPoint demo (-5, 0) { guess := some 0 } = none := by decide +kernel
-- crossing parity on a polygon with a nearly horizontal edge
example : inPolygon (-50, 0) [(0, 0), (100, 1/1000000000), (100, 100), (0, 100)] = 0 := by decide +kernel
example : inPolygon (50, 50) [(0, 0), (100, 1/1000000000), (100, 100), (0, 100)] = 1 := by decide +kernel
-- quadtree: two elements, two children, the leaf of a point
example : (buildQ demo quadFuel ((0, 0), (2, 1)) [0, 1]).map (fun t => t.child.map QTree.elements) = some [[0], [1]] := by
  decide +kernel
example : (demoQT.map fun q => (q.root.leaf (3/2, 1/4)).map QTree.elements) = some (some [1]) := by decide +kernel
-- quadtree_search_complete_partial: its hypotheses are met on `demo` with the tree the constructor builds
-- (written out here; the leaf of the point holds column 1 itself)
def demoTree : QTree :=
  .node ((0, 0), (2, 1)) [0, 1] [.node ((0, 0), (1, 1/2)) [0] [], .node ((1, 0), (2, 1/2)) [1] []]
example : ∃ l, demoTree.leaf (3/2, 1/4) = some l ∧ ∃ e ∈ l.elements, AvoidReach demo [0, 1] l.bounds 1 [] e := by
  have h1 : inRectangle ((3/2 : Rat), (1/4 : Rat)) ((0, 0), (2, 1)) = true := by decide +kernel
  have h2 : inRectangle ((3/2 : Rat), (1/4 : Rat)) ((0, 0), (1, 1/2)) = false := by decide +kernel
  have h3 : inRectangle ((3/2 : Rat), (1/4 : Rat)) ((1, 0), (2, 1/2)) = true := by decide +kernel
  refine ⟨.node ((1, 0), (2, 1/2)) [1] [], ?_, 1, by simp [QTree.elements], AvoidReach.base (by simp)⟩
  simp only [demoTree, QTree.leaf, leafList, h1, h2, h3, if_true, Bool.false_eq_true, if_false]
example : columnContainingPoint demo (3/2, 1/4) { qtree := some ⟨demoTree, [0, 1]⟩, guess := some 0 } = some 1 := by decide +kernel
example : (demoQT.map fun q => q.root.child.map fun c => (c.bounds, c.elements)) =
    some [(((0, 0), (1, 1/2)), [0]), (((1, 0), (2, 1/2)), [1])] := by decide +kernel
-- why quadtree completeness is not a theorem: two islands (the column between them deleted); the leaf of
-- a point of the right island holds only the left column, which has no neighbours: plain search finds
-- column 1, the quadtree search returns None.  (The real code does the same: corpus case in the harness.)
def islands : Geo :=
  { cols := [ { poly := [(1, 0), (1, 1), (0, 1), (0, 0)], centre := (1/2, 1/2), surface := 0, nbrs := [] },
              { poly := [(3, 0), (3, 1), (5/4, 1), (5/4, 0)], centre := (17/8, 1/2), surface := 0, nbrs := [] } ],
    layers := [ ⟨0, 0⟩, ⟨-1, 0⟩ ] }
example : columnContainingPoint islands (21/16, 1/4) {} = some 1 ∧
          columnContainingPoint islands (21/16, 1/4) { qtree := columnQuadtree islands ((0, 0), (3, 1)) [0, 1] } = none := by
  decide +kernel
-- quadtree_search_complete_rectangular: a 2 × 2 lattice with unequal spacing (grid lines x = 0, 1, 3; y = 0, 2, 3),
-- quadtree over a larger rectangle; the hypotheses hold and the search finds cell (1, 1) from a far guess
def grid22 : Geo :=
  { cols := [ { poly := [(0, 0), (0, 2), (1, 2), (1, 0)], centre := (1/2, 1), surface := 0, nbrs := [1, 2] },
              { poly := [(1, 0), (1, 2), (3, 2), (3, 0)], centre := (2, 1), surface := 0, nbrs := [0, 3] },
              { poly := [(0, 2), (0, 3), (1, 3), (1, 2)], centre := (1/2, 5/2), surface := 0, nbrs := [0, 3] },
              { poly := [(1, 2), (1, 3), (3, 3), (3, 2)], centre := (2, 5/2), surface := 0, nbrs := [1, 2] } ],
    layers := [ ⟨0, 0⟩, ⟨-1, 0⟩ ] }
def gridX : Nat → Rat := fun i => if i = 0 then 0 else if i = 1 then 1 else 3
def gridY : Nat → Rat := fun j => if j = 0 then 0 else if j = 1 then 2 else 3
example : Lattice grid22 2 2 gridX gridY := by
  have hb : ∀ i, i < 2 → ∀ j, j < 2 → grid22.bbox (i + 2 * j) = ((gridX i, gridY j), (gridX (i + 1), gridY (j + 1))) := by
    decide +kernel
  have he : ∀ i, i < 1 → ∀ j, j < 2 →
      (i + 1 + 2 * j) ∈ grid22.nbrs (i + 2 * j) ∧ (i + 2 * j) ∈ grid22.nbrs (i + 1 + 2 * j) := by decide +kernel
  have hn : ∀ i, i < 2 → ∀ j, j < 1 →
      (i + 2 * (j + 1)) ∈ grid22.nbrs (i + 2 * j) ∧ (i + 2 * j) ∈ grid22.nbrs (i + 2 * (j + 1)) := by decide +kernel
  exact { ncols := by decide, monoX := by decide +kernel, monoY := by decide +kernel,
          bbox := fun i j hi hj => hb i hi j hj, centre := by decide +kernel,
          nbrE := fun i j hi hj => he i (by omega) j hj, nbrN := fun i j hi hj => hn i hi j (by omega) }
-- rectangular_columns_form_lattice: the polygon hypothesis holds on `grid22`
example : ∀ i, i < 2 → ∀ j, j < 2 →
    (gridX i, gridY j) ∈ grid22.poly (i + 2 * j) ∧ (gridX (i + 1), gridY (j + 1)) ∈ grid22.poly (i + 2 * j) ∧
    ∀ q ∈ grid22.poly (i + 2 * j), inRectangle q ((gridX i, gridY j), (gridX (i + 1), gridY (j + 1))) = true := by
  decide +kernel
example : Covers ((-1, -1), (4, 4)) 2 2 gridX gridY := by unfold Covers; decide +kernel
example : ∃ q, columnQuadtree grid22 ((-1, -1), (4, 4)) (List.range grid22.ncols) = some q ∧
    grid22.containsPoint 3 (5/2, 9/4) = true ∧
    columnContainingPoint grid22 (5/2, 9/4) { qtree := some q, guess := some 0 } = some 3 := by
  decide +kernel
-- blocks: in a layer, under the raised surface, above everything, below everything
example : blockContainingPoint demo (3/2, 1/4) (-2) none = .ok (some (2, 1)) := by decide +kernel
example : blockContainingPoint demo (3/2, 1/4) (1/4) none = .ok (some (1, 1)) := by decide +kernel
example : blockContainingPoint demo (3/2, 1/4) 1 none = .ok none := by decide +kernel
example : blockContainingPoint demo (1/2, 1/4) (-4) none = .ok none := by decide +kernel
example : Stacked (demo.layers.drop 1) := by
  show (-1 : Rat) ≤ 0 ∧ (-1 : Rat) ≤ -1 ∧ (-3 : Rat) ≤ -1
  decide +kernel
example : blockContainsPoint demo 2 1 (3/2, 1/4) (-2) = true ∧ blockContainsPoint demo 1 1 (3/2, 1/4) (-2) = false := by decide +kernel
-- the region excluded by `reported_block_contains_point_partial`: reported, yet `block_contains_point` is False
example : blockContainingPoint demo (3/2, 1/4) (1/4) none = .ok (some (1, 1)) ∧
          blockContainsPoint demo 1 1 (3/2, 1/4) (1/4) = false := by decide +kernel

/-! ### `column_track` -/

/-- **Entry and exit points lie on the line**: each point of each entry is `line[0] + s·(line[1] − line[0])`
    with the recorded parameter `s` in `[−1e-9, 1 + 1e-9]` (the code's own acceptance band; `s = 0` and
    `s = 1` exactly for the line's end points). -/
theorem track_points_on_line (g : Geo) (a b : Pt) (segs : List Seg) (h : columnTrack g a b = .ok segs) :
    ∀ s ∈ segs, s.pin = lerp a b s.sin ∧ InUnitTol s.sin ∧ s.pout = lerp a b s.sout ∧ InUnitTol s.sout := by
  intro s hs
  obtain ⟨hin, hout⟩ := ((columnTrack_spec h).appended s hs).2.ok
  -- an end of an entry is the line's own end point, at parameter `t0` = 0 or 1, or a crossing
  have on_line : ∀ {e pt : Pt} {t0 t : Rat} {poly : Poly} {P : Prop}, e = lerp a b t0 → InUnitTol t0 →
      ((pt = e ∧ t = t0 ∧ P) ∨ GoodCross poly a b ⟨pt, t⟩) → pt = lerp a b t ∧ InUnitTol t := by
    intro e pt t0 t poly P he h0 h
    rcases h with ⟨h1, h2, _⟩ | ⟨_, h2, h3⟩
    · rw [h1, h2]; exact ⟨he, h0⟩
    · exact ⟨h3, h2⟩
  have z : InUnitTol 0 := by unfold InUnitTol lpiTol; constructor <;> decide +kernel
  have o : InUnitTol 1 := by unfold InUnitTol lpiTol; constructor <;> decide +kernel
  have hi := on_line (by simp [lerp]) z hin
  have ho := on_line (by simp [lerp]) o hout
  exact ⟨hi.1, hi.2, ho.1, ho.2⟩

/-- **… and on their column**: the column is a column of the geometry; the entry point is the line's
    start point lying inside the column, or a point of an edge of the column, up to the code's end tolerance
    (`OnBoundary`); likewise
    the exit point with the line's end point. -/
theorem track_points_on_column (g : Geo) (a b : Pt) (segs : List Seg) (h : columnTrack g a b = .ok segs) :
    ∀ s ∈ segs, s.col < g.ncols ∧
      ((s.pin = a ∧ g.containsPoint s.col a = true) ∨ OnBoundary (g.poly s.col) s.pin) ∧
      ((s.pout = b ∧ g.containsPoint s.col b = true) ∨ OnBoundary (g.poly s.col) s.pout) := by
  intro s hs
  obtain ⟨hc, happ⟩ := (columnTrack_spec h).appended s hs
  obtain ⟨hin, hout⟩ := happ.ok
  refine ⟨hc, ?_, ?_⟩
  · rcases hin with ⟨h1, _, h3⟩ | ⟨h1, _, _⟩
    · exact Or.inl ⟨h1, h3⟩
    · exact Or.inr h1
  · rcases hout with ⟨h1, _, h3⟩ | ⟨h1, _, _⟩
    · exact Or.inl ⟨h1, h3⟩
    · exact Or.inr h1

/-- **Ordered along the line**: sorted by the distance `|sin|·‖line‖` of the entry point from the line start. -/
theorem track_sorted_by_distance (g : Geo) (a b : Pt) (segs : List Seg) (h : columnTrack g a b = .ok segs) :
    segs.Pairwise fun s s' => s.tin ≤ s'.tin :=
  (columnTrack_spec h).sorted

theorem track_no_column_twice (g : Geo) (a b : Pt) (segs : List Seg) (h : columnTrack g a b = .ok segs) :
    (segs.map (·.col)).Nodup :=
  (columnTrack_spec h).nodup

/-- **Abutting at a shared edge**: the crossing of the line with an edge (point and parameter) is the
    same whichever way round the edge is listed — so the exit point of one column through an edge and
    the entry point of its neighbour through the same edge are the same point.  (That consecutive
    entries of the track *are* such neighbours is the planar fact that is not proved.) -/
theorem track_abut_at_shared_edge (a b p q : Pt) : edgeCross a b (q, p) = edgeCross a b (p, q) := by
  unfold edgeCross
  simp only
  rw [solve2_reverse_edge]
  cases solve2 (Pt.sub q p) (Pt.sub a b) (Pt.sub a p) with
  | none => rfl
  | some x =>
    obtain ⟨x0, x1⟩ := x
    simp only [Option.map_some, inTol_one_sub]
    split
    · congr 2
      simp only [Pt.sub, Prod.mk.injEq]
      constructor <;> ring
    · rfl

/-- **Lengths** (`_partial`: under `Ordered 0`, "entries run forwards without overlap", whose Boolean form
    `orderedB` (`orderedB_sound`) is evaluated on every explored line): each length `(sout − sin)·‖line‖` is non-negative and they add up
    to at most the length of the line. -/
theorem track_lengths_partial (segs : List Seg) (h : Ordered 0 segs) :
    (segs.map fun s => s.sout - s.sin).sum ≤ 1 ∧ ∀ s ∈ segs, 0 ≤ s.sout - s.sin := by
  have := lengths_sum_le segs 0 h
  exact ⟨by linarith [this.1], this.2⟩

/-- **A crossed column is listed** (`_partial`): a column that passes the bounding-box test and that the
    line crosses at exactly two points (what a convex column and a line through none of its vertices
    give), with parameters inside the line and more than 1e-3 × (longest side) apart, is in the track —
    when the line does not lie within a single column.  All hypotheses are decidable
    (`crossedLongB`, `notInOneB`) and evaluated on every explored line. -/
theorem track_lists_crossed_column_partial (g : Geo) (a b : Pt) (segs : List Seg) (ci : Nat)
    (h : columnTrack g a b = .ok segs) (hci : ci < g.ncols)
    (hnb : notInOneB g a b = true)
    (hlir : lineIntersectsRectangle (g.bbox ci) a b = some true) (hc : crossedLongB g a b ci = true) :
    ∃ s ∈ segs, s.col = ci := by
  obtain ⟨r, ⟨_, _, _, hseg⟩, hr⟩ :=
    (columnTrack_spec h).asked.resolve_left (fun ⟨c, hc⟩ => notInOneB_sound hnb c hc) ci hci hlir
  obtain ⟨s, rfl, hcol⟩ := colSeg_listed (crossedLongB_sound hc) _ _ hseg
  exact ⟨s, hr s rfl, hcol⟩

/-- **Duplicate merging**: every crossing of the line with a polygon is reported by
    `line_polygon_intersections` or lies within 1e-3 × (longest side) of a reported one, measured along
    the line — independently of how far from the line start it is. -/
theorem track_merges_only_close_crossings (poly : Poly) (a b : Pt) (pts : List Cross)
    (hS : 0 < maxSideSq poly) (h : linePolygonIntersectionsT poly a b = .ok pts) :
    (∀ c ∈ pts, c ∈ crossings poly a b) ∧
    ∀ c ∈ crossings poly a b, ∃ c' ∈ pts,
      (c.t.abs - c'.t.abs) * (c.t.abs - c'.t.abs) * distSq a b * 1000000 ≤ maxSideSq poly :=
  ⟨lpiT_subset h, every_crossing_represented hS h⟩

/-- **Direction independence of the crossings**: the reversed line meets a polygon in the same points, in
    the same order, at parameters `1 − t`. -/
theorem track_crossings_direction_independent (poly : Poly) (a b : Pt) :
    crossings poly b a = (crossings poly a b).map Cross.rev := crossings_reverse poly a b

/-- **Direction independence of the track** (`_partial`, under the decidable `revHypB`: the line is not
    within one column, each end point is in at most one column, the bounding-box test gives the same
    answer both ways, and every column that passes it is not crossed, crossed once inside the line, or
    crossed twice more than the clip tolerance apart): the track of the reversed line has exactly the
    same entries with entry and exit exchanged. -/
theorem track_reverse_partial (g : Geo) (a b : Pt) (T T' : List Seg) (hyp : revHypB g a b = true)
    (h : columnTrack g a b = .ok T) (h' : columnTrack g b a = .ok T') :
    ∀ s, s ∈ T ↔ flipSeg s ∈ T' := by
  have hyp := revHypB_sound hyp
  intro s
  constructor
  · exact track_reverse_imp hyp h h' s
  · intro hs
    have := track_reverse_imp hyp.symm h' h _ hs
    rw [flipSeg_flipSeg] at this
    exact this

-- non-vacuity: a line from inside column 0 to inside column 1 of `demo`, the same line reversed, and a line
-- crossing both columns from outside
example : columnTrack demo (1/4, 1/2) (7/4, 1/2) =
    .ok [⟨0, (1/4, 1/2), (1, 1/2), 0, 1/2⟩, ⟨1, (1, 1/2), (7/4, 1/2), 1/2, 1⟩] :=
  columnTrack_of_sorted (st := ⟨some 0, some 1, [⟨0, (1/4, 1/2), (1, 1/2), 0, 1/2⟩, ⟨1, (1, 1/2), (7/4, 1/2), 1/2, 1⟩]⟩)
    (by decide +kernel) (by decide +kernel) (by decide +kernel)
-- the reversed line: the loop (before the final sort) collects the same two entries, flipped
example : trackLoop demo (7/4, 1/2) (1/4, 1/2) (List.range demo.ncols) {} =
    .ok ⟨some 1, some 0, [flipSeg ⟨0, (1/4, 1/2), (1, 1/2), 0, 1/2⟩, flipSeg ⟨1, (1, 1/2), (7/4, 1/2), 1/2, 1⟩]⟩ := by
  decide +kernel
example : revHypB demo (1/4, 1/2) (7/4, 1/2) = true := by decide +kernel
example : revHypB demo (-1, 1/4) (3, 3/4) = true ∧ notInOneB demo (-1, 1/4) (3, 3/4) = true ∧
    crossedLongB demo (-1, 1/4) (3, 3/4) 0 = true ∧
    lineIntersectsRectangle (demo.bbox 0) (-1, 1/4) (3, 3/4) = some true := by decide +kernel
example : columnTrack demo (-1, 1/4) (3, 3/4) =
      .ok [⟨0, (0, 3/8), (1, 1/2), 1/4, 1/2⟩, ⟨1, (1, 1/2), (2, 5/8), 1/2, 3/4⟩] ∧
    orderedB 0 [⟨0, (0, 3/8), (1, 1/2), 1/4, 1/2⟩, ⟨1, (1, 1/2), (2, 5/8), 1/2, 3/4⟩] = true :=
  ⟨columnTrack_of_sorted (st := ⟨none, none, [⟨0, (0, 3/8), (1, 1/2), 1/4, 1/2⟩, ⟨1, (1, 1/2), (2, 5/8), 1/2, 3/4⟩]⟩)
    (by decide +kernel) (by decide +kernel) (by decide +kernel), by decide +kernel⟩
example : (crossings [(0, 0), (0, 1), (1, 1), (1, 0)] (-1, 1/4) (3, 3/4)).map (·.pt) = [(0, 3/8), (1, 1/2)] := by decide +kernel

end Props.C12
