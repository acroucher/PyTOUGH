/-
  C06 — time-history extraction equals stepping through the listing, and terminates.

  The model of t2listing.history() is Model/ListingHistory.lean, built on the whole-file reader machine; the
  harness runs it against the real call for every explored selection (series compared bit for bit; a real
  call that does not return must be `LErr.diverges` in the model).  The first theorems are about the part of
  history() that differs from stepping: instead of reading every row of every table, it sorts the selected
  rows of a table by line number and reads them in one forward pass (`scanSel`).  They say that this pass
  returns, for every selected entry, the cell that the stepping reader's row reader (`read_table_line`, the same
  function in both) gives for that row's line — for any number of entries, in any order, with repetitions —
  negated for a reversed connection name.  Then: one value per result time in time order, where the call can fail
  to return (only at end of file), and that a returning call leaves the reader as it was.
-/
import PyTough.Model.ListingHistory
import PyTough.Proofs.ListingHistory
import PyTough.Proofs.ListingFile
import PyTough.Proofs.ListingSeriesStep
import PyTough.Proofs.ListingSeriesTimes
import PyTough.Proofs.ListingSeriesTerm
import PyTough.Props.C05
import PyTough.Proofs.Literals

namespace Props.C06
open Py Model Model.Listing Proofs.History Proofs.SeriesStep Proofs.SeriesTimes

/-! ### one pass over a table returns exactly the selected cells -/

/-- `L = line0 :: rest0` are the lines of the table from its first results line on (where skip_to_table +
    skip_to_results_line leave the file, `line0` already read).  For entries `ts` given in ascending order of
    line index the loop of history() returns entry by entry `cellOf … e` = column `e.col` of
    `read_table_line(L[e.lineindex])`, sign-flipped when `e.reverse`; it raises exactly when one of these cells
    cannot be read (unknown column: KeyError, short line: IndexError), with the same exception. -/
theorem scan_reads_selected_lines (readVals : Str → Except Exc (List FVal)) (colOf : Str → Option Nat)
    (line0 : Str) (rest0 : List Str) (ts : List Sel) (hasc : Ascending 0 ts) :
    (scanSel readVals colOf ts 0 line0 rest0).map (·.1) = ts.mapM (cellOf readVals colOf (line0 :: rest0)) :=
  scanSel_eq readVals colOf (line0 :: rest0) ts 0 hasc

/-- `tselect.sort()` puts any selection (any order, repeated rows) into ascending order of line index without
    losing or inventing entries; so, with the theorem above, history() returns for an arbitrary selection of one
    table exactly the cells of its entries. -/
theorem history_table_eq_cells (readVals : Str → Except Exc (List FVal)) (colOf : Str → Option Nat)
    (line0 : Str) (rest0 : List Str) (ts : List Sel) (hnn : ∀ e ∈ ts, 0 ≤ e.1) :
    (scanSel readVals colOf (sortSel ts) 0 line0 rest0).map (·.1)
        = (sortSel ts).mapM (cellOf readVals colOf (line0 :: rest0))
      ∧ (sortSel ts).Perm ts :=
  ⟨scan_reads_selected_lines readVals colOf line0 rest0 (sortSel ts) (sortSel_ascending ts 0 hnn), sortSel_perm ts⟩

-- a table of three lines; entries out of order, one line twice, one reversed
private def exRead (l : Str) : Except Exc (List FVal) := .ok [.fin false l.length 0, .fin false (10 * l.length) 0]
private def exCol (c : Str) : Option Nat := if c = ['a'] then some 0 else if c = ['b'] then some 1 else none
example : scanSel exRead exCol (sortSel [(2, ['b'], false, 0), (0, ['a'], true, 1), (2, ['a'], false, 2)]) 0 ['x'] [['y', 'y'], ['z', 'z', 'z']]
    = .ok ([(1, .fin true 1 0), (2, .fin false 3 0), (0, .fin false 30 0)], []) := by decide +kernel
example : sortSel [(2, ['b'], false, 0), (0, ['a'], true, 1), (2, ['a'], false, 2)]
    = [(0, ['a'], true, 1), (2, ['a'], false, 2), (2, ['b'], false, 0)] := by decide +kernel

/-! ### … and these cells are the cells STEPPING shows (one table at one result time, TOUGH2-family row reader)

  `L` are the lines of the table from its first results line on, at one result time.  The stepping reader (`index = i` →
  read_tables → `read_table_TOUGH2`, model `readRowsL`) reads as k-th row line the line `rowOffset skips k` of `L` (one line per
  earlier row plus the recorded `skiplines`), and stores `read_table_line(line)` in the row its key addresses, giving table `t'`.
  `rowInPlace t L k r` (decidable, per file and time): the key on the k-th row line addresses row `r` and no later row line
  of the table addresses `r` again.  `steppingCell t' r e` is `t'[r][column of e]`, negated for a reversed name. -/

/-- PARTIAL (TOUGH2-family readers: TOUGH2, TOUGH2_MP, TOUGH+, TOUGHREACT, TOUGH3 — not the AUTOUGH2 row loop; explicit
    decidable hypotheses `rowInPlace`, `data.size = rows.size`).  The value history() appends for a selected entry whose
    line is the k-th row line equals the cell of row `r`, column `e.col`, of the table the stepping reader has built from the
    same lines — same value, same sign rule, KeyError on both sides for an unknown column.
    Not proved: that `row_line[r]` recorded at the first time IS `rowOffset skips k` (set-up's bookkeeping), and that
    skip_to_table + skip_to_results_line land on `L` (checked on every run by the correspondence). -/
theorem history_cell_eq_stepping_cell_partial (t t' : Table) (L rest' : List Str)
    (hstep : readRowsL t.keyPos t.cols.length t.numpos t.skips L t = .ok (t', rest'))
    (hsz : t.data.size = t.rows.size) (k r : Nat) (hk : k < t.skips.length) (hin : rowInPlace t L k r = true)
    (e : Sel) (he : e.1 = (rowOffset t.skips k : Nat)) :
    cellOf (fun l => readTableLineTOUGH2 l t.cols.length t.numpos) (colIdx t.cols) L e = steppingCell t' r e := by
  simp only [rowInPlace, Bool.and_eq_true, List.all_eq_true, List.mem_range, Bool.or_eq_true, Bool.not_eq_true',
    decide_eq_false_iff_not] at hin
  obtain ⟨hin1, hin2⟩ := hin
  have hline := rowLines_getElem t.skips L k hk
  obtain ⟨key, vals, r0, hkey, hvals, hidx, hlen, hdata⟩ := readRowsL_row _ _ _ _ _ _ _ _ hstep hsz k _ hline
  rw [hkey] at hin1
  have hr : r0 = r := by
    have : lastIdx t.rows key = some r := by simpa using hin1
    rw [hidx] at this; injection this
  subst hr
  have hd := hdata (by
    intro k' line' key' hkk' hl' hk'
    have hk'lt : k' < t.skips.length := by
      have := (List.getElem?_eq_some_iff.mp hl').1; rwa [rowLines_length] at this
    rw [rowLines_getElem t.skips L k' hk'lt] at hl'
    injection hl' with hl'; subst hl'
    rcases hin2 k' hk'lt with h | h
    · exact absurd hkk' h
    · rw [hk'] at h; simpa using h)
  obtain ⟨_, hcols, _⟩ := readRowsL_frame _ _ _ _ _ _ _ _ hstep
  exact cellOf_eq_steppingCell_stored t t' L r0 vals e (by rw [he, Int.toNat_natCast]; exact hvals) hlen hd hcols

/-- PARTIAL (same restrictions).  The whole one-pass read of one table at one result time against stepping: for ANY selection
    `ts` of row lines of the table (any number, any order, repeats, reversed names; `row e` = the table row entry `e` stands for),
    history() returns, entry by entry in sorted order, the cells of the stepping reader's table — and raises exactly when one of
    those cells does not exist. -/
theorem history_table_eq_stepping_partial (t t' : Table) (line0 : Str) (rest0 rest' : List Str)
    (hstep : readRowsL t.keyPos t.cols.length t.numpos t.skips (line0 :: rest0) t = .ok (t', rest'))
    (hsz : t.data.size = t.rows.size) (ts : List Sel) (row : Sel → Nat)
    (hsel : ∀ e ∈ ts, ∃ k, k < t.skips.length ∧ e.1 = (rowOffset t.skips k : Nat) ∧ rowInPlace t (line0 :: rest0) k (row e) = true) :
    (scanSel (fun l => readTableLineTOUGH2 l t.cols.length t.numpos) (colIdx t.cols) (sortSel ts) 0 line0 rest0).map (·.1)
      = (sortSel ts).mapM (fun e => steppingCell t' (row e) e) := by
  refine scanSel_sortSel_eq _ _ (line0 :: rest0) ts _ (fun e he => ?_) fun e he => ?_
  · obtain ⟨k, _, hk, _⟩ := hsel e he
    rw [hk]; exact Int.natCast_nonneg _
  · obtain ⟨k, hk, hek, hin⟩ := hsel e he
    exact history_cell_eq_stepping_cell_partial t t' _ rest' hstep hsz k (row e) hk hin e hek

-- a table of two rows printed on lines 0 and 2 (a blank line between them: skiplines = [1, 0])
private def exL : List Str := ["  AA 1     1 0.99013E+07 0.00000E+00-0.12409E+03\n".toList, "\n".toList,
  "  BA 1     2 0.94153E+07 0.19209-103-0.66842E+01\n".toList]
private def exT : Table := { mkTable [['P'], ['T'], ['X']] #[["AA 1 ".toList], ["BA 1 ".toList]] 1 false with
  keyPos := [2], numpos := [some 12, some 24, some 36, some 49], skips := [1, 0] }
-- stepping succeeds on it; both row lines are in place; row 1 is printed on line 2
example : (match readRowsL exT.keyPos exT.cols.length exT.numpos exT.skips exL exT with
    | .ok (t', r) => t'.data == #[#[.fin false 99013 2, .fin false 0 (-5), .fin true 12409 (-2)],
                                  #[.fin false 94153 2, .fin false 19209 (-108), .fin true 66842 (-4)]] && r.isEmpty
    | .error _ => false) = true := by
  -- the goal mentions `exT` six times: its literals are rewritten once, in the defining equation
  have hL := exL.eq_1
  have hT := exT.eq_1
  repeat rewrite [String.toList_ofList] at hL
  repeat rewrite [String.toList_ofList] at hT
  rw [hL, hT]
  decide_lits
example : exT.data.size = exT.rows.size ∧ rowInPlace exT exL 0 0 = true ∧ rowInPlace exT exL 1 1 = true ∧ rowOffset exT.skips 1 = 2 := by
  rw [exL, exT]
  decide_lits
-- history() asked for X of row 1 (line 2) and then P of row 0 reads them in line order
example : (scanSel (fun l => readTableLineTOUGH2 l 3 exT.numpos) (colIdx exT.cols) (sortSel [(2, ['X'], false, 0), (0, ['P'], false, 1)]) 0
    (exL.headD []) exL.tail).map (·.1) = .ok [(1, .fin false 99013 2), (0, .fin true 66842 (-4))] := by
  rw [exL, exT]
  decide_lits

/-! ### … from the REGION predicate of the table instead of `rowInPlace` (TOUGH2 family)

  `Props.C05.TableRegionT t header segs` (decidable on concrete lines) describes the lines of a table as the layout recorded at
  set-up sees them: `header_skiplines` lines, then for every entry of `skiplines` one printed data line followed by that many lines.
  On such a region the offset `rowOffset t.skips k` at which the scan expects the k-th row line IS the k-th printed data line
  (`Proofs.SeriesStep.lineAt_region`), and stepping is known to succeed (`Props.C05.table_read_TOUGH2`), so neither
  `rowInPlace` nor a successful `readRowsL` has to be assumed. -/

open Proofs.Whole in
/-- PARTIAL (one table at one result time; decidable hypothesis `TableRegionT`; the selected rows are printed once — no later data
    line of the table names the same row; the line index of an entry is `rowOffset t.skips k` for the data line `k` it stands for).
    For a reader whose `read_table_line` is `read_table_line_TOUGH2` (TOUGH2, TOUGH2_MP, TOUGH3, TOUGHREACT, TOUGH+): the stepping
    reader `read_table_TOUGH2`, started at the first line of the region, succeeds and builds table `t'`; for ANY selection `ts` (any
    number, any order, repeats, reversed names) history()'s one-pass read over the lines from the first data line on returns, entry
    by entry in sorted order, the cell of row `row e` (the row NAMED by the key printed on that data line), column `e.col`, of `t'`,
    negated for a reversed name — KeyError on both sides for an unknown column.
    Not proved: that set-up records `row_line[row e] = rowOffset t.skips k` (the loop of setup_table_TOUGH2 counts lines exactly
    as `skiplines` sums them — evaluated per file by the correspondence), and that skip_to_table + skip_to_results_line land
    on the first data line of the region. -/
theorem history_table_eq_stepping_region_partial (fam : Fam) (tn : String) (t : Table) (s : Rd) (header : List Str)
    (segs : List (Str × List Str)) (after : List Str)
    (hfam : (bound fam "read_table_line" == "read_table_line_AUTOUGH2") = false)
    (ht : s.tables.lookup tn = some t)
    (hrest : s.pos.rest = header ++ (flat segs ++ after))
    (hwf : Props.C05.TableRegionT t header segs)
    (ts : List Sel) (row : Sel → Nat)
    (hsel : ∀ e ∈ ts, ∃ (k : Nat) (d : Str) (vals : List FVal), (segs.map (·.1))[k]? = some d ∧ e.1 = (rowOffset t.skips k : Nat) ∧
        rowOfLineT t.rows t.keyPos t.cols.length t.numpos d = some (row e, vals) ∧
        ∀ (k' : Nat) d', k < k' → (segs.map (·.1))[k']? = some d' →
          ∀ v', rowOfLineT t.rows t.keyPos t.cols.length t.numpos d' ≠ some (row e, v')) :
    ∃ s' t', (readTableTOUGH2 tn).run s = .ok ((), s') ∧ s'.tables.lookup tn = some t' ∧
      (scanSel (readTableLineOf fam t) (colIdx t.cols) (sortSel ts) 0 ((flat segs ++ after).headD []) (flat segs ++ after).tail).map (·.1)
        = (sortSel ts).mapM (fun e => steppingCell t' (row e) e) := by
  obtain ⟨s', t', hrun, _, htab, hframe, _, hline, _⟩ := Props.C05.table_read_TOUGH2 tn t s header segs after ht hrest hwf
  refine ⟨s', t', hrun, htab, ?_⟩
  simp only [readTableLineOf_eq, hfam, Bool.false_eq_true, if_false]
  refine scanSel_sortSel_eq _ _ (flat segs ++ after) ts _ (fun e he => ?_) fun e he => ?_
  · obtain ⟨k, _, _, _, hk, _⟩ := hsel e he
    rw [hk]; exact Int.natCast_nonneg _
  · obtain ⟨k, d, vals, hkd, hek, hrow, hlater⟩ := hsel e he
    obtain ⟨_, _, _, hv, hl⟩ := (rowOfLineT_spec _ _ _ _ _ _ _).mp hrow
    have hat : lineAt (flat segs ++ after) e.1.toNat = d := by
      rw [hek, Int.toNat_natCast, ← hwf.2.1]; exact lineAt_region segs after k d hkd
    exact cellOf_eq_steppingCell_row _ t.cols t' _ (by rw [hframe]) e (row e) vals (by rw [hat]; exact hv) hl
      (hline k d (row e) vals hkd hrow hlater)

-- the table of C05's example (header line, blank line, a data line followed by a blank line, a data line, the `@@@@@` line)
private def exT2 : Table :=
  { mkTable [['P'], ['T'], ['X']] #[[" AA 1".toList], [" BA 1".toList]] 1 false with
    keyPos := [1], numpos := [some 12, some 24, some 36, some 49], headerSkip := 2, skips := [1, 0] }
private def exHdr : List Str := [" ELEM. INDEX P T X\n".toList, "\n".toList]
private def exSegs : List (Str × List Str) :=
  [("  AA 1     1 0.99013E+07 0.00000E+00-0.12409E+03\n".toList, ["\n".toList]),
   ("  BA 1     2 0.94153E+07 0.19209-103-0.66842E+01\n".toList, [])]
private def exRdT : Rd :=
  { all := exHdr ++ (Proofs.Whole.flat exSegs ++ [" @@@@@@@@@@\n".toList]), isOutputData := false,
    pos := ⟨0, exHdr ++ (Proofs.Whole.flat exSegs ++ [" @@@@@@@@@@\n".toList])⟩, fam := Fam.tough2, tables := [("element", exT2)] }
example : (bound Fam.tough2 "read_table_line" == "read_table_line_AUTOUGH2") = false ∧ exRdT.tables.lookup "element" = some exT2 ∧
    exRdT.pos.rest = exHdr ++ (Proofs.Whole.flat exSegs ++ [" @@@@@@@@@@\n".toList]) ∧ Props.C05.TableRegionT exT2 exHdr exSegs :=
by
  refine ⟨by decide +kernel, rfl, rfl, ?_⟩
  rw [exT2, exHdr, exSegs]
  decide_lits
-- the entry (line 2, X) stands for data line k = 1, which names row 1 and is the last data line: the hypothesis on entries holds
example : (exSegs.map (·.1))[1]? = some exSegs[1].1 ∧ ((2 : Int) = (rowOffset exT2.skips 1 : Nat)) ∧
    Proofs.Whole.rowOfLineT exT2.rows exT2.keyPos exT2.cols.length exT2.numpos exSegs[1].1
      = some (1, [.fin false 94153 2, .fin false 19209 (-108), .fin true 66842 (-4)]) := by
  simp only [exT2, exSegs, List.getElem_cons_succ, List.getElem_cons_zero]
  decide_lits

/-! ### the same for the AUTOUGH2 row loop (terminator-driven: rows are filled in printing order)

  The region of an AUTOUGH2 table is `Proofs.Whole.autRegion A b B b2 Bl D term tail` (title block, blank line, column header,
  blank lines, printed data lines `D`, the terminator line, what follows), well-formed for the set-up table `t` when
  `Props.C05.TableRegionA` holds (decidable on concrete lines).  AUTOUGH2 tables have no `row_line`: the line index history() uses
  for row `j` is `j` itself, counted from the first results line = the first data line. -/

open Proofs.Whole in
/-- PARTIAL (one table at one result time; explicit decidable hypothesis `TableRegionA` on the lines of the table; every selected
    line index addresses a printed data line).  For a reader whose `read_table_line` is `read_table_line_AUTOUGH2`: the stepping
    reader (`read_table_AUTOUGH2`, started behind the table's keyword line) succeeds on the region and builds table `t'`; for ANY
    selection `ts` of rows (any number, any order, repeats, reversed names) the one-pass read of history() over the lines from the
    first data line on returns, entry by entry in sorted order, the cell of row `e.1` (= its line index), column `e.col`, of `t'`,
    negated for a reversed name — and raises KeyError exactly when the column does not exist.
    Not proved here: that skip_to_table_AUTOUGH2 brings the file to the column header of this region (checked on every
    run by the correspondence); `history_scan_starts_at_first_data_line_AUTOUGH2` below covers skip_to_results_line from there. -/
theorem history_table_eq_stepping_AUTOUGH2_partial (fam : Fam) (tn : String) (t : Table) (s : Rd)
    (A : List Str) (b : Str) (B : List Str) (b2 : Str) (Bl D : List Str) (term : Str) (tail : List Str)
    (hfam : (bound fam "read_table_line" == "read_table_line_AUTOUGH2") = true)
    (ht : s.tables.lookup tn = some t)
    (hrest : s.pos.rest = autRegion A b B b2 Bl D term tail)
    (hwf : Props.C05.TableRegionA tn t A b B b2 Bl D term)
    (ts : List Sel) (hsel : ∀ e ∈ ts, 0 ≤ e.1 ∧ e.1 < D.length) :
    ∃ s' t', (readTableAUTOUGH2 tn).run s = .ok ((), s') ∧ s'.tables.lookup tn = some t' ∧
      (scanSel (readTableLineOf fam t) (colIdx t.cols) (sortSel ts) 0 ((D ++ [term]).headD []) ((D ++ [term]).tail ++ tail)).map (·.1)
        = (sortSel ts).mapM (fun e => steppingCell t' e.1.toNat e) := by
  obtain ⟨s', t', hrun, _, htab, hframe, _, hrows, _⟩ := Props.C05.table_read_AUTOUGH2 tn t s A b B b2 Bl D term tail ht hrest hwf
  refine ⟨s', t', hrun, htab, ?_⟩
  simp only [readTableLineOf_eq, hfam, if_true]
  have h1 : (D ++ [term]).headD [] = (D ++ term :: tail).headD [] := by cases D <;> rfl
  have h2 : (D ++ [term]).tail ++ tail = (D ++ term :: tail).tail := by cases D <;> simp
  rw [h1, h2]
  refine scanSel_sortSel_eq _ _ (D ++ term :: tail) ts _ (fun e he => (hsel e he).1) fun e he => ?_
  -- the line index of an entry is the row the stepping reader filled from that line
  have hj : e.1.toNat < D.length := by have := hsel e he; omega
  have hd : D[e.1.toNat]? = some D[e.1.toNat] := List.getElem?_eq_getElem hj
  obtain ⟨vals, hv, hl, hdata⟩ := hrows _ _ hd
  exact cellOf_eq_steppingCell_row _ t.cols t' _ (by rw [hframe]) e _ vals (by rw [lineAt_append_left D _ _ hj]; exact hv) hl hdata

/-- … and `L = D ++ term :: tail` IS where history() starts its pass: from the column header of the region (behind the first blank
    line, where skip_to_table_AUTOUGH2's `skip_to_blank; skip_to_nonblank` leave the file) `skip_to_results_line` stops at the
    first printed data line, when no line of the header block shows the awaited number of floats and the first data line does. -/
theorem history_scan_starts_at_first_data_line_AUTOUGH2 (e : Int) (B : List Str) (b2 : Str) (Bl : List Str) (d : Str) (D' : List Str)
    (term : Str) (tail : List Str) (n : Nat)
    (hhead : ∀ x ∈ B ++ b2 :: Bl, isResultsLine (strip x) e = false) (hd : isResultsLine (strip d) e = true) :
    skipToResultsLineL e (B ++ b2 :: (Bl ++ (((d :: D') ++ [term]) ++ tail))) n 1
      = some (1 + (B.length + 1 + Bl.length), ⟨n + (B.length + 1 + Bl.length), ((d :: D') ++ [term]) ++ tail⟩) := by
  have hsplit : B ++ b2 :: (Bl ++ (((d :: D') ++ [term]) ++ tail)) = (B ++ b2 :: Bl) ++ d :: ((D' ++ [term]) ++ tail) := by simp
  rw [hsplit, Proofs.Whole.skipToResultsLineL_app e (B ++ b2 :: Bl) d _ n 1 hhead hd]
  simp only [List.length_append, List.length_cons, List.cons_append]
  have e1 : B.length + (Bl.length + 1) = B.length + 1 + Bl.length := by omega
  rw [e1]

-- an AUTOUGH2 element table of two rows between its two `EEEEE` lines; the reader stands behind the first
private def exAT : Table := { mkTable [['P'], ['T']] #[["A 1".toList], ["B 1".toList]] 1 false with keyPos := [1], numpos := [some 8] }
private def exAD : List Str := [" A 1  1  1.5 2.5\n".toList, " B 1  2  3.5 4.5\n".toList]
private def exARd : Rd :=
  let ls := Proofs.Whole.autRegion [" a title line\n".toList] "\n".toList [" ELEM INDEX P T\n".toList] "\n".toList [] exAD " EEEEE\n".toList ["\n".toList]
  { all := ls, isOutputData := false, pos := ⟨2, ls⟩, fam := Fam.autough2, tables := [("element", exAT)] }
example : (bound Fam.autough2 "read_table_line" == "read_table_line_AUTOUGH2") = true ∧ exARd.tables.lookup "element" = some exAT ∧
    exARd.pos.rest = Proofs.Whole.autRegion [" a title line\n".toList] "\n".toList [" ELEM INDEX P T\n".toList] "\n".toList [] exAD " EEEEE\n".toList ["\n".toList] ∧
    Props.C05.TableRegionA "element" exAT [" a title line\n".toList] "\n".toList [" ELEM INDEX P T\n".toList] "\n".toList [] exAD " EEEEE\n".toList ∧
    (∀ e ∈ [((1 : Int), ['T'], false, 0), (0, ['P'], true, 1), (1, ['P'], false, 2)], 0 ≤ e.1 ∧ e.1 < (exAD.length : Int)) :=
by
  refine ⟨by decide +kernel, rfl, rfl, ?_, ?_⟩
  · rw [exAT, exAD]
    decide_lits
  · rw [exAD]
    decide +kernel
-- the pass over the data lines: T of row 1, -P of row 0 (reversed name), P of row 1, returned in line order
example : (scanSel (readTableLineOf Fam.autough2 exAT) (colIdx exAT.cols) (sortSel [(1, ['T'], false, 0), (0, ['P'], true, 1), (1, ['P'], false, 2)]) 0
    ((exAD ++ [" EEEEE\n".toList]).headD []) ((exAD ++ [" EEEEE\n".toList]).tail ++ ["\n".toList])).map (·.1)
    = .ok [(1, .fin true 15 (-1)), (2, .fin false 35 (-1)), (0, .fin false 45 (-1))] := by
  rw [exAT, exAD]
  decide_lits
-- skip_to_results_line (2 floats awaited) from the column header stops at the first data line
example : (∀ x ∈ [" ELEM INDEX P T\n".toList] ++ "\n".toList :: [], isResultsLine (strip x) 2 = false) ∧
    isResultsLine (strip " A 1  1  1.5 2.5\n".toList) 2 = true := by decide_lits

/-! ### over all result times: one value per result time, in time order

  `valuesAt … pb i` is what history() appends at ONE result position `pb` with index `i` — it seeks there and sets the index
  before reading, so it is a function of the position alone; `visitAll f ps 0` visits the positions `ps` in turn with indices
  0, 1, 2, …; `seriesOf k hits` are the values appended for selection item `k`. -/

/-- Whole call, every simulator, any selection, with or without short output: a history() call that returns series has
    visited every result position of the file in turn (`hitss` has one entry per position, in file order = time order), what it
    appended at a position does not depend on the positions before it, and the series it returns for item `k` is the
    concatenation, in that order, of the values appended for `k` at each position (paired with `fulltimes` exactly when its
    length is the number of full result times — the Boolean). -/
theorem history_series_visits_every_time (items : List Item) (short : Bool) (env : Rd) (c c' : Cur) (r : List (Bool × List FVal))
    (h : historyC items short env c = .ok (some r, c')) :
    ∃ tsel hitss, orderedSelection env items = .ok tsel ∧
      visitAll (valuesAt env tsel short (fileTablesOf env) env) (resultPositions env) 0 = .ok hitss ∧
      hitss.length = (resultPositions env).length ∧
      r = (List.range items.length).map fun k =>
        (((hitss.map (seriesOf k)).flatten).length == env.fulltimes.size, (hitss.map (seriesOf k)).flatten) := by
  have h' := congrArg (Except.map (·.1)) h
  rw [historyC_run] at h'
  split at h'
  · cases h'
  · rename_i tsel hos
    split at h'
    · cases h'
    · obtain ⟨hitss, hv, hr⟩ := Proofs.map_ok_iff.mp h'
      cases hr
      exact ⟨tsel, hitss, hos, hv, visitAll_length _ _ _ _ hv, rfl⟩

/-- … so when every visited position contributes exactly one value `vs[i]` for item `k` (a row present at every time), the
    series of `k` is `vs`: one value per result time, in time order. -/
theorem series_one_value_per_time (k : Nat) (hitss : List (List (Nat × FVal))) (vs : List FVal)
    (h : hitss.map (seriesOf k) = vs.map (fun v => [v])) :
    (hitss.map (seriesOf k)).flatten = vs ∧ ((hitss.map (seriesOf k)).flatten).length = hitss.length := by
  have : (hitss.map (seriesOf k)).flatten = vs := by rw [h, ← List.flatMap_def, List.flatMap_singleton']
  refine ⟨this, ?_⟩
  rw [this]
  have := congrArg List.length h
  simpa using this.symm

/-- One table at one result position (any simulator): once skip_to_table has brought the file to the table, history() finds the
    first results line with `skip_to_results_line` (`L` = the lines from it on) and what it appends for that table is exactly the
    one-pass read `scanSel` over `L` — the function the theorems above are about — with the stepping reader's own
    `read_table_line` and column index of that table. -/
theorem history_one_table_is_one_scan (tname : String) (ts : List Sel) (env : Rd) (c : Cur) (t : Table) (k n : Nat) (L : List Str)
    (ht : env.tables.lookup tname = some t) (hne : t.cols ≠ [])
    (hs : skipToResultsLineL (expectedOf tname t) c.pos.rest c.pos.no 1 = some (k, ⟨n, L⟩)) :
    (historyTable tname ts env c).map (·.1)
      = match scanSel (readTableLineOf env.fam t) (colIdx t.cols) ts 0 (L.headD []) L.tail with
        | .ok (hits, _) => .ok hits
        | .error e => .error (.py e) := by
  obtain ⟨c0, cs, hc⟩ := List.exists_cons_of_ne_nil hne
  simp only [historyTable_run, ht, hs, hc]
  rfl

-- an AUTOUGH2-style file with two result times, an element table of two rows; items: T of row 1 (by index), P of row 'A 1' (by name)
private def exR1 : List Str := [" OUTPUT\n".toList, " EEEEE\n".toList, "\n".toList, " A 1  1  1.5 2.5\n".toList, " B 1  2  3.5 4.5\n".toList, " EEEEE\n".toList]
private def exR2 : List Str := [" OUTPUT\n".toList, " EEEEE\n".toList, "\n".toList, " A 1  1  5.5 6.5\n".toList, " B 1  2  7.5 8.5\n".toList, " EEEEE\n".toList]
private def exTA : Table := { mkTable [['P'], ['T']] #[["A 1".toList], ["B 1".toList]] 1 false with keyPos := [1], numpos := [some 8] }
private def exEnv : Rd := {
  all := exR1 ++ exR2
  isOutputData := false
  pos := ⟨0, exR1 ++ exR2⟩
  fam := Fam.autough2
  allpos := #[⟨0, exR1 ++ exR2⟩, ⟨6, exR2⟩]
  fullpos := #[⟨0, exR1 ++ exR2⟩, ⟨6, exR2⟩]
  short := #[false, false]
  fulltimes := #[zero, zero]
  times := #[zero, zero]
  tables := [("element", exTA)] }
private def exItems : List Item := [⟨['e'], .int 1, ['T']⟩, ⟨['e'], .name ["A 1".toList], ['P']⟩]
-- (evaluated by the kernel: the whole call on the concrete file)
example : (match historyC exItems false exEnv ⟨exEnv.pos, 0⟩ with
    | .ok (some r, _) => r == [(true, [.fin false 45 (-1), .fin false 85 (-1)]), (true, [.fin false 15 (-1), .fin false 55 (-1)])]
    | _ => false) = true := by decide +kernel
example : (match orderedSelection exEnv exItems with
    | .ok tsel => (match visitAll (valuesAt exEnv tsel false (fileTablesOf exEnv) exEnv) (resultPositions exEnv) 0 with
        | .ok hitss => hitss == [[(1, .fin false 15 (-1)), (0, .fin false 45 (-1))], [(1, .fin false 55 (-1)), (0, .fin false 85 (-1))]]
        | _ => false)
    | _ => false) = true := by decide +kernel
example : [[(1, FVal.fin false 15 (-1)), (0, .fin false 45 (-1))], [(1, .fin false 55 (-1)), (0, .fin false 85 (-1))]].map (seriesOf 0)
    = [FVal.fin false 45 (-1), .fin false 85 (-1)].map (fun v => [v]) := by decide +kernel

example : exEnv.tables.lookup "element" = some exTA := rfl
example : exTA.cols ≠ [] ∧ (skipToResultsLineL (expectedOf "element" exTA) (exR1.drop 2) 2 1).map (fun x => (x.1, x.2.no, x.2.rest))
    = some (2, 3, exR1.drop 3) := by decide +kernel

/-! ### a connection named in reverse order yields the negated series -/

theorem reversed_key_negated (readVals : Str → Except Exc (List FVal)) (colOf : Str → Option Nat) (line col : Str) :
    pickCell readVals colOf line col true = (pickCell readVals colOf line col false).map negF := by
  unfold pickCell
  cases readVals line with
  | error e => rfl
  | ok vals =>
    cases colOf col with
    | none => rfl
    | some vi =>
      simp only
      cases vals[vi]? <;> rfl

/-! ### the call terminates: where the model can fail to

  Every loop of the model is a recursion over the lines still to be read, or over a counter that starts above their
  number (`0 => throw .diverges`), so the model's history() always
  produces an outcome; "does not terminate" is the explicit outcome `LErr.diverges`, compared on every run with the
  real call under a timeout (and, on files cut at arbitrary places, with the real reader: the model is `diverges`
  exactly where the reader gives no answer).  The theorems of this section and the next are about the three line scans that give
  `diverges` (`skip_to_nonblank`, a `while not …: readline()` loop, `skip_to_results_line`), all at end of file; none is about a
  counter that runs out. -/

/-- `skip_to_nonblank` (`while not self.readline().strip()`) spins exactly when only blank lines are left -/
theorem skip_to_nonblank_spins_iff (rest : List Str) (n : Nat) :
    skipToNonblankL rest n = none ↔ ∀ l ∈ rest, isBlank l = true :=
  Proofs.File.skipToNonblank_spins_iff rest n

/-- a `while not <condition>: line = readline()` loop without an end-of-file test (e.g. the `'total time'` loop of
    setup_pos_TOUGH2, skip_table_AUTOUGH2; not skip_to_results_line, see below) spins exactly when neither a remaining line nor the
    `''` read at end of file satisfies its condition -/
theorem read_until_spins_iff (stop : Str → Bool) (eofStops : Bool) (rest : List Str) (n : Nat) :
    readUntilL stop eofStops rest n = none ↔ (eofStops = false ∧ stop [] = false ∧ ∀ l ∈ rest, stop l = false) :=
  Proofs.File.readUntil_spins_iff stop eofStops rest n

/-- `skipto` tests for end of file, and whenever a line is left it consumes at least one: a step towards, not a proof of,
    "the `while tname != tablename: skipto(...); tname = next_table()` loops of skip_to_table_* can spin only at end of file" -/
theorem skipto_progresses (kws : List Str) (start : Nat) (l : Str) (r : List Str) (n : Nat) :
    (skipToL kws start (l :: r) n).2.no > n :=
  Proofs.File.skipTo_progress kws start l r n

example : skipToNonblankL [[' ', '\n'], ['\n']] 0 = none ∧ (skipToNonblankL [[' ', '\n'], ['x', '\n']] 0).isSome = true := by decide +kernel

/-! ### the whole call: it fails to return exactly when the read at ONE result position fails to return -/

/-- converting the selection (`ordered_selection`: table names, row names, reversed names, row_line and short-output indices,
    sorting) never spins, for any reader and any selection -/
theorem ordered_selection_never_spins (s : Rd) (items : List Item) : orderedSelection s items ≠ .error .diverges :=
  Proofs.SeriesTerm.orderedSelection_nodiv s items

/-- Whole call, every simulator, any selection: history() does not return **iff** the selection is non-empty and there is a
    result position `j` such that the reads at all earlier positions returned and the read at position `j` — which depends on
    that position alone (`valuesAt`, it seeks there first) — does not return.  So termination of the call is termination of at
    most `len(_pos)` independent per-position reads; nothing else in the call (the selection, the loop over the positions, the
    bookkeeping of indices) can spin. -/
theorem history_spins_iff_some_position_spins (items : List Item) (short : Bool) (env : Rd) (c : Cur) :
    historyC items short env c = .error .diverges ↔
      ∃ tsel, orderedSelection env items = .ok tsel ∧ tsel.isEmpty = false ∧
        ∃ j pb, (resultPositions env)[j]? = some pb ∧
          valuesAt env tsel short (fileTablesOf env) env pb j = .error .diverges ∧
          ∀ j' pb', j' < j → (resultPositions env)[j']? = some pb' →
            ∃ h, valuesAt env tsel short (fileTablesOf env) env pb' j' = .ok h := by
  simp only [historyC_error_iff, visitAll_error_iff]
  exact or_iff_right (ordered_selection_never_spins env items)

/-- One table at one result position, every simulator, exactly: reading the selected lines of table `tn` does not return
    **iff** the table is known, has a column, and from the file position on no line — nor the `''` read at end of file — shows the
    number of floats `skip_to_results_line` waits for.  (On any file where a results line of the table follows, it returns.) -/
theorem history_table_spins_iff (tn : String) (ts : List Sel) (env : Rd) (c : Cur) :
    historyTable tn ts env c = .error .diverges ↔
      ∃ t, env.tables.lookup tn = some t ∧ t.cols ≠ [] ∧
        isResultsLine [] (Proofs.SeriesTerm.expectedFloats tn t.cols) = false ∧
        ∀ l ∈ c.pos.rest, isResultsLine (strip l) (Proofs.SeriesTerm.expectedFloats tn t.cols) = false :=
  Proofs.SeriesTerm.historyTable_diverges_iff tn ts env c

/-- `skip_to_results_line` spins exactly when neither a remaining line nor the `''` read at end of file is a results line -/
theorem skip_to_results_line_spins_iff (e : Int) (rest : List Str) (n k : Nat) :
    skipToResultsLineL e rest n k = none ↔ (isResultsLine [] e = false ∧ ∀ l ∈ rest, isResultsLine (strip l) e = false) :=
  Proofs.SeriesTerm.skipToResultsLineL_spins_iff e rest n k

-- on the two-time file above the call returns; cut after the keyword line of the second result (no row line left) it does not,
-- and the position that spins is the second one (the first was read)
private def exCut : Rd := { exEnv with all := exR1 ++ exR2.take 3, allpos := #[⟨0, exR1 ++ exR2.take 3⟩, ⟨6, exR2.take 3⟩] }
example : (match historyC exItems false exCut ⟨exCut.pos, 0⟩ with | .error .diverges => true | _ => false) = true := by decide +kernel
example : (match orderedSelection exCut exItems with
    | .ok tsel => (match valuesAt exCut tsel false (fileTablesOf exCut) exCut ⟨⟨6, exR2.take 3⟩, false⟩ 1,
                         valuesAt exCut tsel false (fileTablesOf exCut) exCut ⟨⟨0, exR1 ++ exR2.take 3⟩, false⟩ 0 with
        | .error .diverges, .ok _ => true
        | _, _ => false)
    | _ => false) = true := by decide +kernel
example : skipToResultsLineL 2 [" EEEEE\n".toList, "\n".toList] 0 1 = none := by decide_lits

/-! ### afterwards the reader still shows the same current time and tables as before the call -/

/-- For the whole-file model: a history() call that returns (any selection, with or without short output, from any
    current index, on any file) leaves every attribute of the reader as it was — index, time, step, every table —
    except the file position, which every later action sets before it reads.  (history() is a computation that can
    only move the file position and the index, and it restores the index.) -/
theorem history_leaves_reader_unchanged (items : List Item) (short : Bool) (s s' : Rd)
    (r : Option (List (Bool × List FVal))) (h : (history items short).run s = .ok (r, s')) :
    s' = { s with pos := s'.pos } :=
  Proofs.File.history_frame items short s s' r h

theorem history_preserves_view (items : List Item) (short : Bool) (s s' : Rd)
    (r : Option (List (Bool × List FVal))) (h : (history items short).run s = .ok (r, s')) :
    s'.index = s.index ∧ s'.time = s.time ∧ s'.step = s.step ∧ s'.tables = s.tables := by
  have := history_leaves_reader_unchanged items short s s' r h
  rw [this]; exact ⟨rfl, rfl, rfl, rfl⟩

end Props.C06
