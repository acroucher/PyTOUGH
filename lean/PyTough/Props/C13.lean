/-
  C13 — initial-conditions file write/read round trip preserves every block's state.

  Property theorems about `Model/Incon.lean` (model of t2incon.read / write / add_incon, t2blockincon)
  over `Model/Fixed.lean` (records) and `Model/Names.lean` (fix/unfix/valid_blockname), instantiated
  on the `t2incon` format table regenerated from /repo (`Gen/Specs.lean`).
-/
import PyTough.Model.Incon
import PyTough.Gen.Specs
import PyTough.Proofs.InconRoundtrip
import PyTough.Proofs.InconFixpoint
import PyTough.Proofs.InconPrecision
import PyTough.Proofs.InconClean
import PyTough.Proofs.Literals

namespace Props.C13
open Py Model Model.Incon Model.Names Proofs Proofs.Incon

def specOf (name : String) : List FieldSpec :=
  match Gen.Specs.t2incon.find name with
  | none => []
  | some sec => match parseSpecs (sec.specs.map String.toList) with | .ok fs => fs | .error _ => []

/-- `t2incon_format_specification` as regenerated from /repo on this run -/
def theSpecs : Specs :=
  { headerShort := specOf "header_short", headerLong := specOf "header_long", incon1 := specOf "incon1",
    incon1Tr := specOf "incon1_toughreact", incon2 := specOf "incon2", timing := specOf "timing",
    timingTr := specOf "timing_toughreact" }

/-- a field the table lacks defaults to a `'?'` field (a record kind it lacks, to `[]`): no clause of
    `LayoutOK` / `TimingOK` about the shape of a record or the type letter of a field holds of these -/
def fieldAt (fs : List FieldSpec) (k : Nat) : FieldSpec :=
  fs.getD k { raw := [], width := 0, left := false, prec := none, typ := '?' }

def theLayout : Layout :=
  let f := fieldAt theSpecs.incon1Tr
  { name := f 0, nseq := f 1, nadd := f 2, por := f 3, k1 := f 4, k2 := f 5, k3 := f 6, v := fieldAt theSpecs.incon2 0 }

def timingLayout (fs : List FieldSpec) : TLayout :=
  { kcyc := fieldAt fs 0, iter := fieldAt fs 1, nm := fieldAt fs 2, tstart := fieldAt fs 3, sumtim := fieldAt fs 4 }

/-- the `t2incon` table as it is in /repo, record by record (checked here against the
    regenerated table); the concrete facts below rewrite with it first, so that the specification
    strings are parsed here and not again by every `decide` -/
theorem theSpecs_eq : theSpecs =
    let s (w : Nat) (raw : Str) : FieldSpec := ⟨raw, w, false, none, 's'⟩
    let d (w : Nat) (raw : Str) : FieldSpec := ⟨raw, w, false, none, 'd'⟩
    let e15 : FieldSpec := ⟨['1', '5', '.', '9'], 15, false, some 9, 'e'⟩
    let e20 : FieldSpec := ⟨['2', '0', '.', '1', '3'], 20, false, some 13, 'e'⟩
    { headerShort := [s 5 ['5']],
      headerLong := [s 31 ['3', '1'], d 5 ['5'], s 19 ['1', '9'], ⟨['1', '2', '.', '6'], 12, false, some 6, 'e'⟩],
      incon1 := [s 5 ['5'], d 5 ['5'], d 5 ['5'], e15],
      incon1Tr := [s 5 ['5'], d 5 ['5'], d 5 ['5'], e15, e15, e15, e15],
      incon2 := [e20, e20, e20, e20],
      timing := [d 5 ['5'], d 5 ['5'], d 5 ['5'], e15, e15],
      timingTr := [d 6 ['6'], d 6 ['6'], d 3 ['3'], e15, e15] } := by
  simp only [theSpecs, Specs.mk.injEq]
  decide +kernel

/-- the table has the shape the reader relies on: `incon1` is the first four fields of
    `incon1_toughreact` (name `5s`, two integers, porosity, three permeabilities as reals), a value
    line is four equal real fields, both timing records are three integers and two reals
    (`decide` over the generated table: re-checked on every run) -/
theorem layout_ok : LayoutOK theSpecs theLayout := by
  unfold theLayout; rw [theSpecs_eq]; decide +kernel

theorem timing_ok : TimingOK theSpecs.timing (timingLayout theSpecs.timing) := by
  rw [theSpecs_eq]; decide +kernel

theorem timing_toughreact_ok : TimingOK theSpecs.timingTr (timingLayout theSpecs.timingTr) := by
  rw [theSpecs_eq]; decide +kernel

theorem real_field_shapes :
    (theLayout.v.prec.getD 6 = 13 ∧ theLayout.v.width = 13 + 7) ∧
    ∀ f ∈ [theLayout.por, theLayout.k1, theLayout.k2, theLayout.k3,
            (timingLayout theSpecs.timing).tstart, (timingLayout theSpecs.timing).sumtim,
            (timingLayout theSpecs.timingTr).tstart, (timingLayout theSpecs.timingTr).sumtim],
      f.typ = 'e' ∧ f.prec.getD 6 = 9 ∧ f.width = 9 + 6 := by
  unfold theLayout; rw [theSpecs_eq]
  decide +kernel

/-- what `read` returns for a file `write` produced (definition in `Proofs/InconRoundtrip.lean`):
    the same simulator, the blocks in order with every value replaced by the reading of its own
    written text, a block's permeabilities iff it has them and the flavour is TOUGHREACT, the timing iff it was written -/
def canon (rf : ReadFn) (x : Incon Val) (reset : Bool) : Incon PVal :=
  canonIncon rf theLayout (timingLayout theSpecs.timing) (timingLayout theSpecs.timingTr) x reset

/-- **Round trip** (`_partial`: what `InconWF` excludes is listed below; for E1–E3 a witness further down
    (for `noplus`: `excluded_plus_name`) shows that the model really fails there, and the harness replays the
    witnesses on the real code).

    For every set of initial conditions with `InconWF x nvars`: any number of blocks ≥ 0 with
    pairwise distinct five-character names; ≥ 1 real primary variables per block: the same number
    `n` in every block with `num_variables = n` passed to `read`, or nothing passed and at most four
    in each block;
    porosity a real or absent; `nseq/nadd` integers or absent; permeability triples of reals on any
    subset of the blocks; timing absent, or with integer/absent counters, `tstart` real or absent
    and `sumtim` real; for
    `reset` on or off, either conversion dictionary, `check_blocknames` on or off: if `write`
    succeeds (every value fits its columns, possibly at reduced precision) then a fresh
    `t2incon(file, num_variables)` returns exactly `canon x reset`.

    Excluded by `InconWF`:
    * E1 `BlockWF.valid`: names rejected by `valid_blockname` — all of naming convention 3
      (known finding `conv3-name-rejected-on-read`; witness `excluded_conv3`);
    * E2 `InconWF.flavour`: simulator TOUGHREACT with no block carrying permeabilities
      (known finding `toughreact-flavour-lost-without-permeability`; witness `excluded_toughreact_bare`);
    * E3 `BlockWF.canonical`: names that `fix ∘ unfix` changes (`abc07`, `ab1 7`; witnesses after
      `name_written_then_read`), and `BlockWF.noplus`: a name starting with `+++` ends the block loop;
    * E4 `NvarsOK`: more than four variables without `num_variables`, or unequal counts
      (`num_variables_needed` says what the reader does instead);
    * left out, not known to fail: `int`, `nan`, `inf`, `-0.0` in a real field; absent `sumtim` under `reset`. -/
theorem incon_roundtrip_partial (rf : ReadFn) (x : Incon Val) (nvars : Option Nat) (check reset : Bool)
    (hwf : InconWF x nvars) {file : List Str} (hw : write theSpecs x reset = .ok file) :
    read rf theSpecs TOUGH2 nvars check file = .ok (canon rf x reset) :=
  read_write rf layout_ok timing_ok timing_toughreact_ok x nvars check reset hwf hw

theorem blocks_in_order (rf : ReadFn) (x : Incon Val) (reset : Bool) :
    (canon rf x reset).blocks.map (·.block) = x.blocks.map (·.block) := by
  simp [canon, canonIncon, canonBlock, Function.comp_def]

theorem flavour_preserved (rf : ReadFn) (x : Incon Val) (reset : Bool) :
    (canon rf x reset).simulator = x.simulator := rfl

/-- restart timing comes back exactly when it was set and `reset` is off -/
theorem timing_iff_not_reset (rf : ReadFn) (x : Incon Val) (reset : Bool) :
    ((canon rf x reset).timing.isSome = true ↔ (x.timing.isSome = true ∧ reset = false)) := by
  unfold canon canonIncon timingWritten
  cases x.timing <;> cases reset <;> simp

/-- every primary variable comes back as its printed digits: the value rounded (half-even, see
    `Props.C02.fmtE_nearest`) to `q+1` significant digits with `q = 13` decimals, or fewer when the
    width guard of C02 had to reduce the precision so that the value fits its 20 columns -/
theorem variables_to_13_decimals (rf : ReadFn) (r : Rat) {s : Str}
    (h : writeField theLayout.v (.real r) = .ok s) :
    ∃ q, q ≤ 13 ∧ reparse rf theLayout.v (.real r) =
      .flt (.fin (decide (r < 0)) (fmtEParts q r.num.natAbs r.den).1 ((fmtEParts q r.num.natAbs r.den).2 - q)) := by
  obtain ⟨q, hq, hr⟩ := reparse_real rf layout_ok.v_e r h
  exact ⟨q, real_field_shapes.1.1 ▸ hq, hr⟩

/-- porosities and permeabilities likewise to 9 decimals (`15.9e`) -/
theorem porosity_to_9_decimals (rf : ReadFn) (r : Rat) {s : Str}
    (h : writeField theLayout.por (.real r) = .ok s) :
    ∃ q, q ≤ 9 ∧ reparse rf theLayout.por (.real r) =
      .flt (.fin (decide (r < 0)) (fmtEParts q r.num.natAbs r.den).1 ((fmtEParts q r.num.natAbs r.den).2 - q)) := by
  obtain ⟨q, hq, hr⟩ := reparse_real rf layout_ok.por_e r h
  exact ⟨q, (real_field_shapes.2 theLayout.por (by simp)).2.1 ▸ hq, hr⟩

/-- sequence numbers (and the timing counters) come back exactly; an absent one stays absent -/
theorem integers_exact (rf : ReadFn) {f : FieldSpec} (ht : f.typ = 'd') :
    (∀ (i : Int) (s : Str), writeField f (.int i) = .ok s → reparse rf f (.int i) = .int i) ∧
    reparse rf f .none = .none :=
  ⟨fun i _ h => reparse_int rf ht i h, reparse_none rf (numeric_of_d ht)⟩

/-- Without `num_variables` the reader takes exactly one line of variables per block (so files with
    more than four variables per block need the argument — the hypothesis `NvarsOK` above). -/
theorem num_variables_needed (rf : ReadFn) (S : Specs) (fuel : Nat) (l : Str) (rest : List Str) (acc : List PVal) :
    readVals rf S none (fuel + 1) (l :: rest) acc =
      (match parseString rf S.incon2 l with
       | .ok vals => .ok (acc ++ popNones vals, rest)
       | .error e => .error e) := by
  unfold readVals
  simp only [readline, bind, Except.bind, pure, Except.pure]
  cases parseString rf S.incon2 l <;> rfl

/-- memory → file → memory: a canonical name is written by `unfix_blockname` and read back by
    `fix_blockname` unchanged.  `Canonical` excludes exactly two shapes, both replayed below: the
    *file* form "digit, blank, digit" and a zero-padded number after a non-digit (`abc07`). -/
theorem name_written_then_read (n : Str) (h : Canonical n) : fixBlockname (unfixBlockname n) = .ok n :=
  fix_unfix_canonical n h

/-- file → memory → file: a name as the simulator prints it is re-written identically -/
theorem name_read_then_written (m : Str) (hlen : m.length = 5) (h : unfixBlockname m = m) :
    ∃ n, fixBlockname m = .ok n ∧ unfixBlockname n = m ∧ n.length = 5 := by
  -- `m` is its own file form, so reading it is one write/read cycle of `m`
  obtain ⟨h1, h2, _, h4⟩ := Proofs.Names.cycle_ok hlen
  rw [h] at h1 h4
  exact ⟨_, h1, h4, h2⟩

/-- whatever `fix_blockname` (hence `mulgrid.block_name`) returns satisfies the first half of `Canonical` -/
theorem fixed_names_have_no_blank (m : Str) (hlen : m.length = 5) :
    ∃ a b c d e, fixBlockname m = .ok [a, b, c, d, e] ∧ ¬ (isDigit c = true ∧ isDigit e = true ∧ d = ' ') :=
  Proofs.Names.fix_no_blank hlen

example : Canonical "ab107".toList ∧ Canonical "  a 1".toList ∧ Canonical " a100".toList ∧ Canonical "ATM 0".toList := by decide_lits
example : fixBlockname (unfixBlockname "abc07".toList) = .ok "abc 7".toList := by decide_lits   -- excluded shape 2
example : fixBlockname (unfixBlockname "ab1 7".toList) = .ok "ab107".toList := by decide_lits   -- excluded shape 1

/-- `BlockWF.name5` is not an independent hypothesis: a `Canonical` name has five characters -/
theorem canonical_name_has_5 (n : Str) (h : Canonical n) : n.length = 5 := by
  match n, h with
  | [_, _, _, _, _], _ => rfl

theorem blockWF_of_canonical (b : Block Val) (hc : Canonical b.block)
    (hv : validBlockname (unfixBlockname b.block) = .ok true)
    (hplus : (unfixBlockname b.block).take 3 ≠ ['+', '+', '+'])
    (hne : b.vars ≠ []) (hreal : ∀ x ∈ b.vars, IsReal x) (hpor : IsRealOrNone b.porosity)
    (hseq : IsIntOrNone b.nseq) (hadd : IsIntOrNone b.nadd)
    (hperm : ∀ k, b.permeability = some k → IsReal k.1 ∧ IsReal k.2.1 ∧ IsReal k.2.2) : BlockWF b :=
  ⟨canonical_name_has_5 _ hc, hc, hv, hplus, hne, hreal, hpor, hseq, hadd, hperm⟩

/-! ### non-vacuity: a concrete object meets `InconWF`, is written, and read back -/

def exBlock : Block Val :=
  { block := "ab107".toList, vars := [.real (-2600), .real (mkRat 1 (10 ^ 100))], porosity := .real (mkRat 1 10),
    permeability := none, nseq := .none, nadd := .int 3 }
def exIncon : Incon Val := { simulator := TOUGH2, blocks := [exBlock], timing := none }

theorem exBlock_wf : BlockWF exBlock :=
  blockWF_of_canonical exBlock (by unfold exBlock; decide_lits) (by unfold exBlock; decide_lits)
    (by unfold exBlock; decide_lits) (by decide)
    (by intro x hx; simp only [exBlock, List.mem_cons, List.not_mem_nil, or_false] at hx
        rcases hx with rfl | rfl <;> exact ⟨_, rfl⟩)
    (Or.inr ⟨_, rfl⟩) (Or.inl rfl) (Or.inr ⟨_, rfl⟩) (by intro k h; cases h)

example : InconWF exIncon none := by
  refine ⟨?_, by unfold exIncon exBlock; decide_lits, Or.inl rfl, by intro t h; cases h⟩
  intro b hb
  obtain rfl := List.mem_singleton.mp hb
  exact ⟨exBlock_wf, by unfold NvarsOK; decide⟩

example : write theSpecs exIncon false = .ok
    ["INCON\n".toList, "ab1 7         31.000000000e-01\n".toList,
     "-2.6000000000000e+031.0000000000000e-100\n".toList, "\n".toList, "\n".toList] := by
  unfold exIncon exBlock
  rw [theSpecs_eq]
  decide_lits

example : (read .fortran theSpecs TOUGH2 none true
    ["INCON\n".toList, "ab1 7         31.000000000e-01\n".toList,
     "-2.6000000000000e+031.0000000000000e-100\n".toList, "\n".toList, "\n".toList]).map (fun x => x.blocks.map (·.block))
    = .ok ["ab107".toList] := by rw [theSpecs_eq]; decide_lits

def exConv3 : Incon Val := { exIncon with blocks := [{ exBlock with block := "aakbb".toList }] }

/-- E1: a convention-3 name is written, but reading the file back raises (`Exception('Invalid block name')`) -/
theorem excluded_conv3 :
    (write theSpecs exConv3 false).toOption.isSome = true ∧
    (write theSpecs exConv3 false >>= read .fortran theSpecs TOUGH2 none true) = .error .generic := by
  unfold exConv3 exIncon exBlock
  rw [theSpecs_eq]
  decide_lits

def exBare : Incon Val := { exIncon with simulator := TOUGHREACT }

/-- E2: a TOUGHREACT object without permeabilities comes back as TOUGH2 -/
theorem excluded_toughreact_bare :
    (write theSpecs exBare false >>= read .fortran theSpecs TOUGH2 none true).map (·.simulator) = .ok TOUGH2 := by
  unfold exBare exIncon exBlock
  rw [theSpecs_eq]
  decide_lits

/-- **The second write of a value reproduces the first** (`_partial`: only for values whose first
    write kept the field's own precision; the excluded class is witnessed below).
    For a real `r` in a `%e` field: if `'%w.pe' % r` fits the field, then the decimal that
    `parse_string` returns for it (`reparse`, handed back to the writer as an exact decimal
    — assumption A-float) is written with exactly the same text.  With `fmtE_reprint_stable` below
    this is the per-value content of "byte for byte": every record of the second generation is made
    of the same field texts. -/
theorem rewrite_real_stable_partial (rf : ReadFn) {f : FieldSpec} (ht : f.typ = 'e') (r : Rat) {s : Str}
    (hfull : fmtVal f (.real r) = .ok s) (hfit : s.length ≤ f.width) :
    writeField f (.real r) = .ok s ∧ writeField f (pvalToVal (reparse rf f (.real r))) = .ok s :=
  rewrite_real_stable rf ht r hfull hfit

/-- formatting a decimal that already has exactly `p+1` significant digits returns it unchanged
    (`decNum m t / decDen t` is the decimal `m·10^t` as a fraction), and the result does not depend
    on how the fraction is written -/
theorem fmtE_reprint_stable (p m : Nat) (t : Int) (hlo : 10 ^ p ≤ m) (hhi : m < 10 ^ (p + 1)) :
    fmtEParts p (decNum m t) (decDen t) = (m, t + p) ∧
    ∀ c, 0 < c → fmtEParts p (decNum m t * c) (decDen t * c) = (m, t + p) := by
  have h := fmtEParts_decimal p m t hlo hhi
  exact ⟨h, fun c hc => by rw [fmtEParts_scale p _ _ c (decDen_pos t) hc, h]⟩

/-- the double `-9.99999999999995e-100` (exact value) -/
def exCarry : Rat := mkRat (-4925250774549285) 4925250774549309901534880012517951725634967408808180833493536675530715221437151326426783281860614455100828498788352

/-- Excluded from the fixpoint (known finding `rewrite-differs-same-values`): a negative value just below a
    power of ten with a three-digit exponent does not fit `20.13e`; the width guard writes it with 12
    decimals, the rounding carries to `-1.000000000000e-99`, and the re-read value `-1e-99` *does*
    fit with 13 decimals: same number, different bytes. -/
theorem excluded_reduced_precision_carry :
    writeField theLayout.v (.real exCarry) = .ok " -1.000000000000e-99".toList ∧
    writeField theLayout.v (pvalToVal (reparse .fortran theLayout.v (.real exCarry))) = .ok "-1.0000000000000e-99".toList := by
  unfold theLayout; rw [theSpecs_eq]
  decide_lits

/-- the double `1.2345644999` (exact value) -/
def exSumtim : Rat := mkRat 5559984221714483 4503599627370496

/-- Excluded from the fixpoint (known finding `rewrite-differs-header`): the long header prints `sumtim` in
    `12.6e` from the in-memory value, the next generation from the value re-read from the `15.9e`
    timing record: rounding to 9 and then to 6 decimals is not rounding to 6 decimals.  (Here the
    re-read value is taken as the double Python holds, `pvalToDouble`: the 9-decimal text
    `1.234564500` is a tie for 6 decimals, and the nearest double lies above it.) -/
theorem excluded_header_double_rounding :
    writeField (fieldAt theSpecs.headerLong 3) (.real exSumtim) = .ok "1.234564e+00".toList ∧
    writeField (fieldAt theSpecs.headerLong 3)
      (pvalToDouble (reparse .fortran (timingLayout theSpecs.timing).sumtim (.real exSumtim))) = .ok "1.234565e+00".toList := by
  rw [theSpecs_eq]
  decide_lits

theorem header_ok : HeaderOK theSpecs (fieldAt theSpecs.headerLong 0) (fieldAt theSpecs.headerLong 1)
    (fieldAt theSpecs.headerLong 2) (fieldAt theSpecs.headerLong 3) := ⟨by rw [theSpecs_eq]; decide +kernel⟩

/-- no value needed reduced precision, and the long header's time is printed identically for the
    in-memory and the re-read `sumtim` (definition `AllFull` in `Proofs/InconFixpoint.lean`) -/
def NoPrecisionLost (rf : ReadFn) (x : Incon Val) (reset : Bool) : Prop :=
  AllFull rf theLayout (timingLayout theSpecs.timing) (timingLayout theSpecs.timingTr)
    (fieldAt theSpecs.headerLong 3) x reset

/-- **Writing it again reproduces the file** (`_partial`).  For every well-formed `x` (as in
    `incon_roundtrip_partial`) with `NoPrecisionLost`: the file `write` produced is read back as some
    `y`, and writing `y` (its values handed back as the exact decimals read: assumption A-float)
    with the same `reset` yields the very same lines.
    Excluded, with witnesses: values that the width guard wrote with reduced precision
    (`excluded_reduced_precision_carry`) and a header time that rounds differently from the 9-decimal
    value (`excluded_header_double_rounding`) — the two known findings of the byte-for-byte clause. -/
theorem incon_write_fixpoint_partial (rf : ReadFn) (x : Incon Val) (nvars : Option Nat) (check reset : Bool)
    (hwf : InconWF x nvars) (hfull : NoPrecisionLost rf x reset) {file : List Str}
    (hw : write theSpecs x reset = .ok file) :
    ∃ y, read rf theSpecs TOUGH2 nvars check file = .ok y ∧
      write theSpecs (y.mapVals pvalToVal) reset = .ok file :=
  ⟨canon rf x reset, incon_roundtrip_partial rf x nvars check reset hwf hw,
    write_back rf layout_ok timing_ok timing_toughreact_ok header_ok x nvars reset hwf hfull hw⟩

/-- value class of a `20.13e` field (primary variables): the text `'%20.13e' % r` has at most 20
    characters — every non-negative `r` whose printed exponent has at most three digits (every
    non-negative double), every negative `r` whose printed exponent has two digits
    (`printedExp 13 r`: the exponent `'%.13e' % r` prints, a function of the value) -/
def Fits20_13 (r : Rat) : Prop :=
  (0 ≤ r ∧ (printedExp 13 r).natAbs < 1000) ∨ (r < 0 ∧ (printedExp 13 r).natAbs < 100)

/-- value class of a `15.9e` field (porosity, permeabilities, `tstart`, `sumtim`): non-negative with
    a two-digit printed exponent -/
def Fits15_9 (r : Rat) : Prop := 0 ≤ r ∧ (printedExp 9 r).natAbs < 100

instance (r : Rat) : Decidable (Fits20_13 r) := by unfold Fits20_13; exact inferInstance
instance (r : Rat) : Decidable (Fits15_9 r) := by unfold Fits15_9; exact inferInstance

/-- **Exact class, primary variables**: a variable is written with all 13 decimals iff it is in `Fits20_13` -/
theorem variable_full_precision_iff (v : Val) :
    FullPrec theLayout.v v ↔ ∀ r, v = .real r → Fits20_13 r :=
  fullPrec_iff_class layout_ok.v_e real_field_shapes.1.1 real_field_shapes.1.2 (eTextLen_le_p7 13 (by decide)) v

/-- **Exact class, 15.9e fields**: written with all 9 decimals iff in `Fits15_9` -/
theorem field15_full_precision_iff {f : FieldSpec}
    (hf : f ∈ [theLayout.por, theLayout.k1, theLayout.k2, theLayout.k3,
            (timingLayout theSpecs.timing).tstart, (timingLayout theSpecs.timing).sumtim,
            (timingLayout theSpecs.timingTr).tstart, (timingLayout theSpecs.timingTr).sumtim]) (v : Val) :
    FullPrec f v ↔ ∀ r, v = .real r → Fits15_9 r :=
  have h := real_field_shapes.2 f hf
  fullPrec_iff_class h.1 h.2.1 h.2.2 (eTextLen_le_p6 9 (by decide)) v

/-- **A sufficient condition purely on the magnitude**: `r = 0` or `10⁻⁹⁹ ≤ |r| < 10⁹⁹` (any sign), or
    `r ≥ 0` and (`r = 0` or `10⁻⁹⁹⁹ ≤ r < 10⁹⁹⁹`) — the latter contains every non-negative double -/
theorem fits20_13_of_magnitude (r : Rat) (h : InDecades 99 99 r ∨ (0 ≤ r ∧ InDecades 999 999 r)) : Fits20_13 r := by
  unfold Fits20_13
  rcases h with h | ⟨h0, h⟩
  · have := printedExp_natAbs_lt 13 99 99 2 r h (by decide) (by decide)
    by_cases hr : r < 0
    · exact Or.inr ⟨hr, this⟩
    · exact Or.inl ⟨Rat.not_lt.mp hr, by omega⟩
  · exact Or.inl ⟨h0, printedExp_natAbs_lt 13 999 999 3 r h (by decide) (by decide)⟩

theorem fits15_9_of_magnitude (r : Rat) (h0 : 0 ≤ r) (h : InDecades 99 99 r) : Fits15_9 r :=
  ⟨h0, printedExp_natAbs_lt 9 99 99 2 r h (by decide) (by decide)⟩

/-- every real of `x` that is written lies in the value class of its field -/
structure ValuesFit (x : Incon Val) (reset : Bool) : Prop where
  vars : ∀ b ∈ x.blocks, ∀ v ∈ b.vars, ∀ r, v = .real r → Fits20_13 r
  por : ∀ b ∈ x.blocks, ∀ r, b.porosity = .real r → Fits15_9 r
  perm : ∀ b ∈ x.blocks, ∀ k, b.permeability = some k →
    (∀ r, k.1 = .real r → Fits15_9 r) ∧ (∀ r, k.2.1 = .real r → Fits15_9 r) ∧ (∀ r, k.2.2 = .real r → Fits15_9 r)
  timing : ∀ t, x.timing = some t → reset = false →
    (∀ r, t.tstart = .real r → Fits15_9 r) ∧ (∀ r, t.sumtim = .real r → Fits15_9 r)

/-- when the long header is written, its `12.6e` time is the same text for the in-memory `sumtim`
    and for the value re-read from the `15.9e` timing record (fails only through double rounding:
    `excluded_header_double_rounding`) -/
def HeaderStable (rf : ReadFn) (x : Incon Val) (reset : Bool) : Prop :=
  ∀ t, x.timing = some t → reset = false → ∀ s,
    writeField (fieldAt theSpecs.headerLong 3) t.sumtim = .ok s →
    writeField (fieldAt theSpecs.headerLong 3)
      (back rf (if x.simulator = TOUGHREACT then timingLayout theSpecs.timingTr else timingLayout theSpecs.timing).sumtim
        t.sumtim) = .ok s

theorem timing_fields_15_9 (x : Incon Val) :
    (if x.simulator = TOUGHREACT then timingLayout theSpecs.timingTr else timingLayout theSpecs.timing).tstart ∈
      [theLayout.por, theLayout.k1, theLayout.k2, theLayout.k3,
        (timingLayout theSpecs.timing).tstart, (timingLayout theSpecs.timing).sumtim,
        (timingLayout theSpecs.timingTr).tstart, (timingLayout theSpecs.timingTr).sumtim] ∧
    (if x.simulator = TOUGHREACT then timingLayout theSpecs.timingTr else timingLayout theSpecs.timing).sumtim ∈
      [theLayout.por, theLayout.k1, theLayout.k2, theLayout.k3,
        (timingLayout theSpecs.timing).tstart, (timingLayout theSpecs.timing).sumtim,
        (timingLayout theSpecs.timingTr).tstart, (timingLayout theSpecs.timingTr).sumtim] := by
  split <;> simp

/-- **`NoPrecisionLost` characterised**: it holds exactly when every written real lies in the value
    class of its field (`ValuesFit`, a condition on the values, not on the written text) and the
    header time is stable -/
theorem no_precision_lost_iff (rf : ReadFn) (x : Incon Val) (reset : Bool) :
    NoPrecisionLost rf x reset ↔ (ValuesFit x reset ∧ HeaderStable rf x reset) := by
  have hpor := fun v => field15_full_precision_iff (f := theLayout.por) (by simp) v
  have hk1 := fun v => field15_full_precision_iff (f := theLayout.k1) (by simp) v
  have hk2 := fun v => field15_full_precision_iff (f := theLayout.k2) (by simp) v
  have hk3 := fun v => field15_full_precision_iff (f := theLayout.k3) (by simp) v
  have hts := fun v => field15_full_precision_iff (timing_fields_15_9 x).1 v
  have hst := fun v => field15_full_precision_iff (timing_fields_15_9 x).2 v
  constructor
  · intro h
    refine ⟨⟨?_, ?_, ?_, ?_⟩, ?_⟩
    · intro b hb v hv; exact (variable_full_precision_iff v).mp ((h.blocks b hb).vars v hv)
    · intro b hb; exact (hpor _).mp (h.blocks b hb).por
    · intro b hb k hk
      obtain ⟨a1, a2, a3⟩ := (h.blocks b hb).perm k hk
      exact ⟨(hk1 _).mp a1, (hk2 _).mp a2, (hk3 _).mp a3⟩
    · intro t ht hr
      obtain ⟨a1, a2, _⟩ := h.timing t ht hr
      exact ⟨(hts _).mp a1, (hst _).mp a2⟩
    · intro t ht hr; exact (h.timing t ht hr).2.2
  · intro ⟨hv, hh⟩
    refine ⟨?_, ?_⟩
    · intro b hb
      refine ⟨?_, (hpor _).mpr (hv.por b hb), ?_⟩
      · intro v hvm; exact (variable_full_precision_iff v).mpr (hv.vars b hb v hvm)
      · intro k hk
        obtain ⟨a1, a2, a3⟩ := hv.perm b hb k hk
        exact ⟨(hk1 _).mpr a1, (hk2 _).mpr a2, (hk3 _).mpr a3⟩
    · intro t ht hr
      obtain ⟨a1, a2⟩ := hv.timing t ht hr
      exact ⟨(hts _).mpr a1, (hst _).mpr a2, hh t ht hr⟩

/-- **Writing it again reproduces the file, hypothesis on the values** (`_partial`: `InconWF` as in
    `incon_roundtrip_partial`; the reals outside `ValuesFit` are the class witnessed by
    `excluded_reduced_precision_carry`; `HeaderStable` fails only as in `excluded_header_double_rounding`). -/
theorem incon_write_fixpoint_values_partial (rf : ReadFn) (x : Incon Val) (nvars : Option Nat) (check reset : Bool)
    (hwf : InconWF x nvars) (hv : ValuesFit x reset) (hh : HeaderStable rf x reset) {file : List Str}
    (hw : write theSpecs x reset = .ok file) :
    ∃ y, read rf theSpecs TOUGH2 nvars check file = .ok y ∧
      write theSpecs (y.mapVals pvalToVal) reset = .ok file :=
  incon_write_fixpoint_partial rf x nvars check reset hwf ((no_precision_lost_iff rf x reset).mpr ⟨hv, hh⟩) hw

/-- without restart timing in the file (no timing, or `reset`) the header is the short one and only
    the value classes remain -/
theorem incon_write_fixpoint_untimed_partial (rf : ReadFn) (x : Incon Val) (nvars : Option Nat) (check reset : Bool)
    (hwf : InconWF x nvars) (hv : ValuesFit x reset) (hnt : x.timing = none ∨ reset = true) {file : List Str}
    (hw : write theSpecs x reset = .ok file) :
    ∃ y, read rf theSpecs TOUGH2 nvars check file = .ok y ∧
      write theSpecs (y.mapVals pvalToVal) reset = .ok file :=
  incon_write_fixpoint_values_partial rf x nvars check reset hwf hv
    (by intro t ht hr; rcases hnt with h | h
        · rw [h] at ht; cases ht
        · rw [h] at hr; cases hr) hw

-- non-vacuity: the example object (a negative variable, one with a 3-digit exponent) is in the value classes,
-- so it loses no precision
theorem exIncon_fits : ValuesFit exIncon false := by
  refine ⟨?_, ?_, ?_, ?_⟩
  · intro b hb v hv r hr
    obtain rfl := List.mem_singleton.mp hb
    simp only [exBlock, List.mem_cons, List.not_mem_nil, or_false] at hv
    rcases hv with rfl | rfl <;> cases hr <;> decide +kernel
  · intro b hb r hr
    obtain rfl := List.mem_singleton.mp hb
    cases hr
    decide +kernel
  · intro b hb k hk
    obtain rfl := List.mem_singleton.mp hb
    cases hk
  · intro t ht; cases ht
example : ValuesFit exIncon false ∧ (exIncon.timing = none ∨ false = true) := ⟨exIncon_fits, Or.inl rfl⟩
example : NoPrecisionLost .fortran exIncon false :=
  (no_precision_lost_iff _ _ _).mpr ⟨exIncon_fits, by intro t ht; cases ht⟩
example : InDecades 99 99 (-2600) ∧ (0 ≤ mkRat 1 (10 ^ 100) ∧ InDecades 999 999 (mkRat 1 (10 ^ 100))) ∧
    ¬ Fits20_13 exCarry := by decide +kernel

/-- an object with restart timing whose header time is stable -/
def exTimed : Incon Val :=
  { exIncon with timing := some { kcyc := .int 12, iter := .int 3, nm := .none, tstart := .real 0,
                                  sumtim := .real (mkRat 31557600 1) } }
example : HeaderStable .fortran exTimed false := by
  intro t ht _ s hs
  cases ht
  have h1 : writeField (fieldAt theSpecs.headerLong 3) (Val.real (mkRat 31557600 1)) = .ok "3.155760e+07".toList := by
    rw [theSpecs_eq]; decide_lits
  rw [h1] at hs
  cases hs
  rw [theSpecs_eq]; decide_lits

theorem header_types : HeaderTypes theSpecs (fieldAt theSpecs.headerLong 0) (fieldAt theSpecs.headerLong 1)
    (fieldAt theSpecs.headerLong 2) (fieldAt theSpecs.headerLong 3) := by rw [theSpecs_eq]; decide +kernel

/-- **Every written line is clean**: for a well-formed `x`, each line `write` emits is some text
    without `'\n'` or `'\r'` followed by exactly one `'\n'` (numbers print as digits, sign, `.`, `e`,
    blanks; a name accepted by `valid_blockname` consists of characters of the three generated
    tables, none of which is a line end) — so the lines can be recovered from the text. -/
theorem written_lines_clean (x : Incon Val) (nvars : Option Nat) (reset : Bool)
    (hwf : InconWF x nvars) {file : List Str} (hw : write theSpecs x reset = .ok file) :
    ∀ l ∈ file, CleanLine l :=
  write_clean layout_ok timing_ok timing_toughreact_ok header_ok header_types x nvars reset hwf hw

/-- **Line ends do not matter** (`_partial` only through `InconWF`, as `incon_roundtrip_partial`).
    The text of the written file (`file.flatten`) is split by text-mode reading (`splitLines`:
    `"\r\n"` and `'\r'` are translated to `'\n'`, then the text is cut after each `'\n'`) into
    exactly the lines `write` produced, and so is the same text with every `'\n'` replaced by
    `"\r\n"` (`crlf`, a file that went through a DOS tool) or by `'\r'` (`crOnly`); hence `read` of
    any of the three texts returns `canon x reset`. -/
theorem read_any_line_ends_partial (rf : ReadFn) (x : Incon Val) (nvars : Option Nat) (check reset : Bool)
    (hwf : InconWF x nvars) {file : List Str} (hw : write theSpecs x reset = .ok file) :
    splitLines file.flatten = file ∧
    read rf theSpecs TOUGH2 nvars check (splitLines file.flatten) = .ok (canon rf x reset) ∧
    read rf theSpecs TOUGH2 nvars check (splitLines (crlf file.flatten)) = .ok (canon rf x reset) ∧
    read rf theSpecs TOUGH2 nvars check (splitLines (crOnly file.flatten)) = .ok (canon rf x reset) := by
  obtain ⟨h1, h2, h3⟩ := splitLines_clean file (written_lines_clean x nvars reset hwf hw)
  have h := incon_roundtrip_partial rf x nvars check reset hwf hw
  rw [h1, h2, h3]
  exact ⟨rfl, h, h, h⟩

/-- the second generation too: the object read from the CRLF text is written as the original lines -/
theorem write_fixpoint_any_line_ends_partial (rf : ReadFn) (x : Incon Val) (nvars : Option Nat) (check reset : Bool)
    (hwf : InconWF x nvars) (hv : ValuesFit x reset) (hh : HeaderStable rf x reset) {file : List Str}
    (hw : write theSpecs x reset = .ok file) :
    ∃ y, read rf theSpecs TOUGH2 nvars check (splitLines (crlf file.flatten)) = .ok y ∧
      write theSpecs (y.mapVals pvalToVal) reset = .ok file := by
  obtain ⟨y, h1, h2⟩ := incon_write_fixpoint_values_partial rf x nvars check reset hwf hv hh hw
  rw [(splitLines_clean file (written_lines_clean x nvars reset hwf hw)).2.1]
  exact ⟨y, h1, h2⟩

-- the example file (written from `exIncon`, which satisfies `InconWF`) has clean lines
example : ∀ l ∈ ["INCON\n".toList, "ab1 7         31.000000000e-01\n".toList,
     "-2.6000000000000e+031.0000000000000e-100\n".toList, "\n".toList, "\n".toList], CleanLine l := by
  decide_lits
example : crlf "a\n\nb\n".toList = "a\r\n\r\nb\r\n".toList ∧ crOnly "a\n\nb\n".toList = "a\r\rb\r".toList := by decide_lits

def exPlus : Incon Val := { exIncon with blocks := [{ exBlock with block := "+++ 1".toList }] }

/-- `BlockWF.noplus` is NOT redundant: `+++ 1` is canonical and accepted by `valid_blockname`
    (`'+'` is in the table of first characters), it is written, but the reader takes its record for
    the `+++` marker that ends the block list: the block is lost -/
theorem excluded_plus_name :
    Canonical "+++ 1".toList ∧ validBlockname (unfixBlockname "+++ 1".toList) = .ok true ∧
    (write theSpecs exPlus false).toOption.isSome = true ∧
    (write theSpecs exPlus false >>= read .fortran theSpecs TOUGH2 none true).map (fun y => y.blocks.length) ≠ .ok 1 := by
  unfold exPlus exIncon exBlock
  rw [theSpecs_eq]
  decide_lits

example : BlockWF exBlock := exBlock_wf

/-
  The core theorems work on the list of lines (`write` returns them, `read` takes them);
  `read_any_line_ends_partial` shows that the text of the file splits back into exactly these lines
  (`splitLines`, universal newlines) for `\n`, `\r\n` and `\r` line ends.  That `splitLines` is what
  Python's text mode does is part of the model tied by the correspondence.  On the real code the second generation is
  compared byte for byte with the first by the oracle and with the model (through an exact model
  of `float()` rounding, `pvalToDouble`) by the correspondence facet `incon_rewrite` on every run.
-/

end Props.C13
