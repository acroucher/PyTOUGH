/-
  C14 — IAPWS-97 water properties are thermodynamically consistent over their range.

  The theorems are about the definitions of `PyTough/Gen/Iapws.lean`, which are regenerated from
  /repo/IAPWS97.py on every run (harness/translate/thermo.py), read over the real numbers
  (`Proofs/ThermoReal.lean`: literals are the exact rationals of the doubles).  The same
  definitions over `Float` are what the compiled driver runs against CPython, bit for bit
  (`visc` to 1e-14 relative: harness/props/c14.py).
-/
import PyTough.Proofs.ThermoIapws
import PyTough.Proofs.ThermoSat
import PyTough.Proofs.ThermoSatOn
import PyTough.Proofs.ThermoMono
import PyTough.Proofs.IapwsMonoR1
import PyTough.Proofs.IapwsMonoSatBounds
import PyTough.Proofs.ThermoVisc

namespace Props.C14
open Model.Thermo Proofs.Thermo Proofs.Iapws Gen.Iapws

/-- Every one of the ten chains (`pc1 tc1 tc2 pc2 tsc2 tc3 dc3 ticv tscv dscv`) is well formed:
    each entry's operands are already defined, its target is new, inside the array (so positive and
    negative slots never alias), and equals the sum of the operand exponents.
    `decide` over the whole generated tables. -/
theorem power_chains_wf : ∀ c ∈ allChains, chainWF c = true := Proofs.Iapws.power_chains_wf

/-- hence, for every well-formed chain and every non-zero `v`, `power_array v chain` holds `v ^ k`
    at every defined index `k` (0, 1, −1 and the chain targets) -/
theorem power_array_eq_zpow (comb : List (Int × List Int)) (hwf : chainWF comb = true) (v : ℝ) (hv : v ≠ 0) :
    ∀ k ∈ chainDefined comb, PArr.get (powerArray v comb) k = v ^ k :=
  powerArray_eq_zpow comb hwf v hv

example : chainWF tc1 = true ∧ (-41 : Int) ∈ chainDefined tc1 := by decide +kernel

/-- Every index that a sum of `cowat`, `supst`, `super`, `visc` reads with a non-zero integer
    multiplier is a *defined* entry of its power array (otherwise the array's initial `0.0` would
    silently enter the sum).  The read sets `allReads` are computed by the translator from the
    subscript expressions of the source; `decide` over all of them.  Nothing in Lean ties `allReads` to the function
    bodies; the closed forms rest on `Proofs.Iapws.RowsDefined` instead. -/
theorem indices_defined : ∀ r ∈ allReads, readsDefined r.1 r.2 = true := by decide +kernel

example : allReads.length = 15 := by decide

/-! ### density and internal energy derive from a single potential -/

/-- **Region 1 (liquid water, `cowat`).**  With `γ₁(π, τ) = Σ nᵢ (7.1 − π)^Iᵢ (τ − 1.222)^Jᵢ` over
    the generated tables (`gamma1`), the value returned at every state `0 ≤ t ≤ 350`, `p ≤ 100 MPa`
    is `(p* / (R T γ_π), R T (τ γ_τ − π γ_π))` where `γ_π`, `γ_τ` are the two partial derivatives of
    that one function at `π = p / p*`, `τ = T* / T`. -/
theorem single_potential_r1 (t p : ℝ) (ht0 : 0 ≤ t) (ht : t ≤ 350) (hp : p ≤ 100000000) :
    ∃ gπ gτ : ℝ,
      HasDerivAt (fun π' => gamma1 π' (tau1 t)) gπ (pi1 p) ∧
      HasDerivAt (fun τ' => gamma1 (pi1 p) τ') gτ (tau1 t) ∧
      cowat t p = Ret.pair (pstar1 / (rconst * (t + tc_k) * gπ))
        (rconst * (t + tc_k) * (tau1 t * gτ - pi1 p * gπ)) :=
  Proofs.Iapws.single_potential_r1 t p ht0 ht hp

-- the hypotheses can be met: one state (likewise the bare `example`s after the theorems below)
example : (0 : ℝ) ≤ 300 ∧ (300 : ℝ) ≤ 350 ∧ (3000000 : ℝ) ≤ 100000000 := by norm_num
example : ∃ gπ gτ : ℝ, cowat (300 : ℝ) 3000000 = Ret.pair (pstar1 / (rconst * (300 + tc_k) * gπ))
    (rconst * (300 + tc_k) * (tau1 300 * gτ - pi1 3000000 * gπ)) := by
  obtain ⟨a, b, _, _, h⟩ := single_potential_r1 300 3000000 (by norm_num) (by norm_num) (by norm_num)
  exact ⟨a, b, h⟩

/-- **Region 2 (steam, `supst`).**  `γ₂(π, τ) = ln π + Σ n⁰ᵢ τ^J⁰ᵢ + Σ nᵢ π^Iᵢ (τ − 0.5)^Jᵢ`
    (`gamma2`); every state `0 ≤ t ≤ 800`, `0 < p ≤ 100 MPa`. -/
theorem single_potential_r2 (t p : ℝ) (ht0 : 0 ≤ t) (ht : t ≤ 800) (hp0 : 0 < p) (hp : p ≤ 100000000) :
    ∃ gπ gτ : ℝ,
      HasDerivAt (fun π' => gamma2 π' (tau2 t)) gπ (pi2 p) ∧
      HasDerivAt (fun τ' => gamma2 (pi2 p) τ') gτ (tau2 t) ∧
      supst t p = Ret.pair (pstar2 / (rconst * (t + tc_k) * gπ))
        (rconst * (t + tc_k) * (tau2 t * gτ - pi2 p * gπ)) := by
  have hx := r2_pi_ne p hp0
  have hy := (r2_y_pos t ht0 ht).ne'
  have ht' := ne_of_gt (r2_tau_pos t ht0)
  refine ⟨1 / pi2 p + laurentDx tbl2 (pi2 p) (tau2 t - 1 / 2),
    poly1D tbl20 (tau2 t) + laurentDy tbl2 (pi2 p) (tau2 t - 1 / 2), ?_, ?_, supst_eq t p ht0 ht hp0 hp⟩
  · unfold gamma2
    have h1 := laurent_hasDerivAt_x tbl2 (pi2 p) (tau2 t - 1 / 2) hx
    have h0 := ((Real.hasDerivAt_log hx).add_const (poly1 tbl20 (tau2 t))).add h1
    exact h0.congr_deriv (by ring)
  · unfold gamma2
    have h1 := laurent_hasDerivAt_y tbl2 (pi2 p) (tau2 t - 1 / 2) hy
    have h2 : HasDerivAt (fun τ' : ℝ => τ' - 1 / 2) 1 (tau2 t) := (hasDerivAt_id' (tau2 t)).sub_const (1 / 2 : ℝ)
    have h3 := h1.comp (tau2 t) h2
    have h0 := ((poly1_hasDerivAt tbl20 (tau2 t) ht').const_add (Real.log (pi2 p))).add h3
    exact h0.congr_deriv (by ring)

example : (0 : ℝ) ≤ 450 ∧ (450 : ℝ) ≤ 800 ∧ (0 : ℝ) < 30000000 ∧ (30000000 : ℝ) ≤ 100000000 := by norm_num

/-- **Region 3 (supercritical, `super`).**  `φ(δ, τ) = n₁ ln δ + Σ nᵢ δ^Iᵢ τ^Jᵢ` (`phi3`, Helmholtz);
    the routine returns `(ρ R T δ φ_δ, R T τ φ_τ)` at every density `d ≠ 0` and `t ≥ 0`. -/
theorem single_potential_r3 (d t : ℝ) (hd : d ≠ 0) (ht0 : 0 ≤ t) :
    ∃ φδ φτ : ℝ,
      HasDerivAt (fun δ' => phi3 δ' (tau3 t)) φδ (delta3 d) ∧
      HasDerivAt (fun τ' => phi3 (delta3 d) τ') φτ (tau3 t) ∧
      super_ d t = Ret.pair (d * (rconst * (t + tc_k)) * delta3 d * φδ) (rconst * (t + tc_k) * tau3 t * φτ) := by
  have hx := r3_delta_ne d hd
  have hy := ne_of_gt (r3_tau_pos t ht0)
  refine ⟨nr3_0 * (delta3 d) ^ (-1 : ℤ) + laurentDx tbl3 (delta3 d) (tau3 t), laurentDy tbl3 (delta3 d) (tau3 t), ?_, ?_,
    super_eq d t hd ht0⟩
  · unfold phi3
    have h0 := ((Real.hasDerivAt_log hx).const_mul (nr3_0 : ℝ)).add (laurent_hasDerivAt_x tbl3 (delta3 d) (tau3 t) hx)
    exact h0.congr_deriv (by rw [zpow_neg_one])
  · unfold phi3
    exact (laurent_hasDerivAt_y tbl3 (delta3 d) (tau3 t) hy).const_add _

example : (500 : ℝ) ≠ 0 ∧ (0 : ℝ) ≤ 400 := by norm_num

/-! ### the region classifier names the region whose equation is valid -/

/-- `region t p = 1` exactly on the validity domain of the region-1 equation inside the box:
    `0.01 ≤ t ≤ 350` and `p_sat(t) < p ≤ 100 MPa` (`tmin` is the double nearest 0.01,
    `satP t` the value of `sat t`). -/
theorem region_classifier_one (t p : ℝ) : region t p = Ret.int 1 ↔
    tmin ≤ t ∧ t ≤ 350 ∧ 0 ≤ p ∧ p ≤ 100000000 ∧ satP t < p := by
  rw [region_unfold]
  constructor
  · intro h
    -- in the order `region_unfold` tests them: `h1` the box, `h2 : t ≤ 350`, `h3 : satP t < p`, `h4 : t ≤ 590`, `h5 : b23P t < p` (so also below)
    split_ifs at h with h1 h2 h3 h4 h5 <;> cases h
    exact ⟨h1.1, h2, h1.2.2.1, h1.2.2.2, h3⟩
  · rintro ⟨a, b, c, d, e⟩
    rw [if_pos ⟨a, b.trans (by norm_num), c, d⟩, if_pos b, if_pos e]

/-- `region t p = 3` exactly for `350 < t ≤ 590` above the B23 line -/
theorem region_classifier_three (t p : ℝ) : region t p = Ret.int 3 ↔
    350 < t ∧ t ≤ 590 ∧ 0 ≤ p ∧ p ≤ 100000000 ∧ b23P t < p := by
  rw [region_unfold]
  constructor
  · intro h
    split_ifs at h with h1 h2 h3 h4 h5 <;> cases h
    exact ⟨not_le.mp h2, h4, h1.2.2.1, h1.2.2.2, h5⟩
  · rintro ⟨a, b, c, d, e⟩
    have : tmin ≤ t := le_trans (by unfold tmin; norm_num) a.le
    rw [if_pos ⟨this, b.trans (by norm_num), c, d⟩, if_neg (not_le.mpr a), if_pos b, if_pos e]

/-- `region t p = 2` exactly on the rest of the box `[0.01, 800] × [0, 100 MPa]` -/
theorem region_classifier_two (t p : ℝ) : region t p = Ret.int 2 ↔
    tmin ≤ t ∧ t ≤ 800 ∧ 0 ≤ p ∧ p ≤ 100000000 ∧
      ((t ≤ 350 ∧ p ≤ satP t) ∨ (350 < t ∧ t ≤ 590 ∧ p ≤ b23P t) ∨ 590 < t) := by
  rw [region_unfold]
  constructor
  · intro h
    split_ifs at h with h1 h2 h3 h4 h5 <;> cases h
    · exact ⟨h1.1, h1.2.1, h1.2.2.1, h1.2.2.2, Or.inl ⟨h2, not_lt.mp h3⟩⟩
    · exact ⟨h1.1, h1.2.1, h1.2.2.1, h1.2.2.2, Or.inr (Or.inl ⟨not_le.mp h2, h4, not_lt.mp h5⟩)⟩
    · exact ⟨h1.1, h1.2.1, h1.2.2.1, h1.2.2.2, Or.inr (Or.inr (not_le.mp h4))⟩
  · rintro ⟨a, b, c, d, e⟩
    rw [if_pos ⟨a, b, c, d⟩]
    rcases e with ⟨e1, e2⟩ | ⟨e1, e2, e3⟩ | e1
    · rw [if_pos e1, if_neg (not_lt.mpr e2)]
    · rw [if_neg (not_le.mpr e1), if_pos e2, if_neg (not_lt.mpr e3)]
    · rw [if_neg (not_le.mpr (lt_trans (by norm_num) e1)), if_neg (not_le.mpr e1)]

/-- `None` exactly outside the box, and nothing else is ever returned -/
theorem region_classifier_none (t p : ℝ) : region t p = Ret.none ↔
    ¬(tmin ≤ t ∧ t ≤ 800 ∧ 0 ≤ p ∧ p ≤ 100000000) := by
  rw [region_unfold]
  constructor
  · intro h
    split_ifs at h with h1
    exact h1
  · intro h; rw [if_neg h]

theorem region_classifier_total (t p : ℝ) :
    region t p = Ret.int 1 ∨ region t p = Ret.int 2 ∨ region t p = Ret.int 3 ∨ region t p = Ret.none := by
  rw [region_unfold]
  split_ifs <;> simp

/-- where the classifier answers 1 (resp. 2), the routine of that region accepts the state (its
    guard holds), and the call `sat(t)` made by the classifier itself returned a number -/
theorem region_equation_valid (t p : ℝ) :
    (region t p = Ret.int 1 → (∃ d u, cowat t p = Ret.pair d u) ∧ ∃ s, sat t = Ret.num s) ∧
    (region t p = Ret.int 2 → ∃ d u, supst t p = Ret.pair d u) := by
  constructor
  · intro h
    obtain ⟨a, b, _, d, _⟩ := (region_classifier_one t p).mp h
    obtain ⟨ρ, u, e⟩ := cowat_guard t p
    exact ⟨⟨ρ, u, e.trans (if_pos ⟨b, d⟩)⟩, _, sat_eq t (tmin_nonneg.trans a) (b.trans (le_trans (by norm_num) tcritical_bounds.1.le))⟩
  · intro h
    obtain ⟨_, b, _, d, _⟩ := (region_classifier_two t p).mp h
    obtain ⟨ρ, u, e⟩ := supst_guard t p
    exact ⟨ρ, u, e.trans (if_pos ⟨b.trans (by norm_num), d⟩)⟩

/-- **Region 2, on six boxes from the ideal-gas limit up to 10 MPa**: at fixed `t`, `supst` returns a positive density
    that strictly increases with pressure.  `ρ = p* / (R T γ_π)`, `γ_π = 1/π + γʳ_π`; on each box the ideal-gas term varies
    faster than the residual sum can (termwise bounds of the residual parts of `γ_π` and `γ_ππ` over the generated table, times
    `P` resp. `P²`, stay below 1: `Box2.ok`, `r2Boxes_ok` in `Proofs/ThermoMono.lean`, rational arithmetic evaluated by the kernel), so the
    density has a positive pressure derivative and increases by the mean value theorem.  `_partial`: region 2 between these
    boxes and the saturation / B23 line is not proved (sampled by the oracle); region 1 follows below, region 3 is not proved. -/
theorem density_monotone_r2_partial (t p1 p2 : ℝ) (ht : t ≤ 800) (h1 : 0 < p1) (h12 : p1 < p2)
    (hbox : (350 ≤ t ∧ p2 ≤ 10000000) ∨ (300 ≤ t ∧ p2 ≤ 5000000) ∨ (250 ≤ t ∧ p2 ≤ 3000000) ∨
            (200 ≤ t ∧ p2 ≤ 1500000) ∨ (100 ≤ t ∧ p2 ≤ 100000) ∨ (0 ≤ t ∧ p2 ≤ 600)) :
    ∃ d1 u1 d2 u2, supst t p1 = Ret.pair d1 u1 ∧ supst t p2 = Ret.pair d2 u2 ∧ 0 < d1 ∧ d1 < d2 := by
  rcases hbox with h | h | h | h | h | ⟨a, b⟩
  iterate 5 exact Box2.density_mono (r2Boxes_ok _ (by decide)) h.1 ht h1 h12 h.2
  exact Box2.density_mono (tlo := 0) (r2Boxes_ok _ (by decide)) (by simpa using a) ht h1 h12 b

example : (400 : ℝ) ≤ 800 ∧ (0 : ℝ) < 100000 ∧ (100000 : ℝ) < 8000000 ∧ ((350 : ℝ) ≤ 400 ∧ (8000000 : ℝ) ≤ 10000000) := by norm_num

/-- **Region 1 (liquid water, `cowat`), on sixteen boxes**: at fixed `t`, for pressures `p1 < p2 ≤ 100 MPa` of the box, `cowat` returns a
    positive density that strictly increases with pressure.  Covered: every pressure `0 … 100 MPa` for `0 ≤ t ≤ 230` degC; for the five slabs
    230–235–240–243–246–250 degC every pressure from a limit (2.0, 2.5, 3.0, 3.0, 3.3 MPa) that lies below the saturation pressure
    everywhere on the slab (proved: `Proofs/IapwsMonoSatBounds.lean`, used in `density_monotone_region1_partial`) up to 100 MPa, so liquid
    water is covered up to 250 degC; and for each 10-degree slab from 250 to 350 degC the pressures from the stated lower limit (14.5 MPa at 250–260 … 50 MPa at
    340–350) up to 100 MPa.
    `ρ = p* / (R T γ_π)`, `γ_π = −Σ nᵢ Iᵢ (7.1 − π)^(Iᵢ−1) (τ − 1.222)^Jᵢ`; on each box every monomial of `γ_π` and of `γ_ππ`
    is bounded at the corner chosen by the signs of its coefficient and exponents (both bases are positive), and the two sums of corner
    values over the generated 34-row table are negative (`Box1.ok`, rational arithmetic evaluated by the kernel), i.e. `γ_π > 0`,
    `γ_ππ < 0`, so the density has a positive pressure derivative on the box and increases (mean value theorem).  The boxes are `r1Boxes`
    of `Proofs/IapwsMonoR1.lean`; `Box1.chain` finds those of one slab, pressure interval after pressure interval.
    `_partial`: above 250 degC the strip between the saturation pressure (4.0 MPa at 250 … 16.5 MPa at 350 degC) and the stated lower
    limit is not proved — there the terms `I = 29 … 32` cancel to many digits and termwise bounds fail even on tiny boxes (sampled by the
    oracle); region 3 is not proved. -/
theorem density_monotone_r1_partial (t p1 p2 : ℝ) (h12 : p1 < p2) (hp2 : p2 ≤ 100000000)
    (hbox : (0 ≤ t ∧ t ≤ 230 ∧ 0 ≤ p1) ∨
            (230 ≤ t ∧ t ≤ 235 ∧ 2000000 ≤ p1) ∨ (235 ≤ t ∧ t ≤ 240 ∧ 2500000 ≤ p1) ∨ (240 ≤ t ∧ t ≤ 243 ∧ 3000000 ≤ p1) ∨
            (243 ≤ t ∧ t ≤ 246 ∧ 3000000 ≤ p1) ∨ (246 ≤ t ∧ t ≤ 250 ∧ 3300000 ≤ p1) ∨ (250 ≤ t ∧ t ≤ 260 ∧ 14500000 ≤ p1) ∨
            (260 ≤ t ∧ t ≤ 270 ∧ 19000000 ≤ p1) ∨ (270 ≤ t ∧ t ≤ 280 ∧ 23500000 ≤ p1) ∨ (280 ≤ t ∧ t ≤ 290 ∧ 28000000 ≤ p1) ∨
            (290 ≤ t ∧ t ≤ 300 ∧ 32000000 ≤ p1) ∨ (300 ≤ t ∧ t ≤ 310 ∧ 36000000 ≤ p1) ∨ (310 ≤ t ∧ t ≤ 320 ∧ 40000000 ≤ p1) ∨
            (320 ≤ t ∧ t ≤ 330 ∧ 43500000 ≤ p1) ∨ (330 ≤ t ∧ t ≤ 340 ∧ 46500000 ≤ p1) ∨ (340 ≤ t ∧ t ≤ 350 ∧ 50000000 ≤ p1)) :
    ∃ d1 u1 d2 u2, cowat t p1 = Ret.pair d1 u1 ∧ cowat t p2 = Ret.pair d2 u2 ∧ 0 < d1 ∧ d1 < d2 := by
  -- each disjunct names a slab that the boxes of `r1Boxes` chain up to 100 MPa (`by decide` looks it up)
  rcases hbox with ⟨a, b, c⟩ | h | h | h | h | h | h | h | h | h | h | h | h | h | h | h
  · by_cases h : t ≤ 225
    · exact Box1.density_mono r1Boxes_ok (tlo := 0) (plo := 0) (by decide) (by simpa using a) h (by simpa using c) h12 hp2
    · exact Box1.density_mono r1Boxes_ok (plo := 0) (by decide) (not_le.mp h).le b (by simpa using c) h12 hp2
  all_goals exact Box1.density_mono r1Boxes_ok (by decide) h.1 h.2.1 h.2.2 h12 hp2

example : (101325 : ℝ) < 50000000 ∧ (50000000 : ℝ) ≤ 100000000 ∧ ((0 : ℝ) ≤ 100 ∧ (100 : ℝ) ≤ 230 ∧ (0 : ℝ) ≤ 101325) := by norm_num
example : (3800000 : ℝ) < 4000000 ∧ (4000000 : ℝ) ≤ 100000000 ∧ ((246 : ℝ) ≤ 248 ∧ (248 : ℝ) ≤ 250 ∧ (3300000 : ℝ) ≤ 3800000) := by norm_num
example : (60000000 : ℝ) < 90000000 ∧ (90000000 : ℝ) ≤ 100000000 ∧ ((340 : ℝ) ≤ 345 ∧ (345 : ℝ) ≤ 350 ∧ (50000000 : ℝ) ≤ 60000000) := by norm_num

/-- **All of region 1 up to 250 degC**: whenever the classifier puts both states `(t, p1)`, `(t, p2)`, `p1 < p2`, in region 1 and
    `t ≤ 250`, the density `cowat` returns is positive and strictly larger at the higher pressure — no box hypothesis (between 230 and
    250 degC the saturation pressure is enclosed from below on each slab: `sat t ≥` 2.0, 2.5, 3.0, 3.0, 3.3 MPa, so `p1 > sat t` puts the
    state in the slab's box).  `_partial`: only `t ≤ 250` (for hotter liquid see the boxes of `density_monotone_r1_partial`). -/
theorem density_monotone_region1_partial (t p1 p2 : ℝ) (ht : t ≤ 250) (h12 : p1 < p2)
    (hr1 : region t p1 = Ret.int 1) (hr2 : region t p2 = Ret.int 1) :
    ∃ d1 u1 d2 u2, cowat t p1 = Ret.pair d1 u1 ∧ cowat t p2 = Ret.pair d2 u2 ∧ 0 < d1 ∧ d1 < d2 := by
  obtain ⟨a, _, c, _, e⟩ := (region_classifier_one t p1).mp hr1
  obtain ⟨_, _, _, d, _⟩ := (region_classifier_one t p2).mp hr2
  rw [satP_eq_satK] at e
  by_cases h230 : t ≤ 230
  · exact density_monotone_r1_partial t p1 p2 h12 d (Or.inl ⟨tmin_nonneg.trans a, h230, c⟩)
  -- above 230 degC the slabs of `satEncls.tail` reach 250 degC: `L ≤ sat t < p1` on the slab of `t`, and `r1Boxes` chain that slab from `L` up to 100 MPa
  exact Box1.slabs_density_mono r1Boxes_ok ht e h12 d satEncls.tail _ (List.tail_subset _) (by decide) (not_le.mp h230)

/-- non-vacuity: the classifier does put `(100 degC, 0.2 MPa)`, `(100 degC, 0.3 MPa)` and `(248 degC, 5 MPa)`, `(248 degC, 6 MPa)` in
    region 1 (`sat 100 ≤ 107 kPa`, `sat 248 ≤ 4.31 MPa` by the same enclosures), so the theorem applies to them -/
example : region (100 : ℝ) 200000 = Ret.int 1 ∧ region (100 : ℝ) 300000 = Ret.int 1 := by
  have h := (satK_Q99 100 (by norm_num) (by norm_num)).2
  constructor <;> rw [region_classifier_one, satP_eq_satK] <;> refine ⟨by unfold tmin; norm_num, by norm_num, by norm_num, by norm_num, by linarith⟩
example : ∃ d1 u1 d2 u2, cowat (248 : ℝ) 5000000 = Ret.pair d1 u1 ∧ cowat (248 : ℝ) 6000000 = Ret.pair d2 u2 ∧ 0 < d1 ∧ d1 < d2 := by
  have h := (satK_Q246 248 (by norm_num) (by norm_num)).2
  apply density_monotone_region1_partial 248 5000000 6000000 (by norm_num) (by norm_num) <;> rw [region_classifier_one, satP_eq_satK] <;>
    refine ⟨by unfold tmin; norm_num, by norm_num, by norm_num, by norm_num, by linarith⟩

/-- **Isothermal compressibility of liquid water is positive, in the conventional form** `κ_T = (1/ρ)(∂ρ/∂p)_T = −(1/v)(∂v/∂p)_T > 0`:
    `rho1 t p' = p* / (R T γ_π(t, p'))` is the density `cowat` returns at every `p' ≤ 100 MPa` (first conjunct); at every state of the
    thirteen slabs below it is positive and differentiable in `p` with `(1/ρ) ∂ρ/∂p > 0` (`γ_ππ ≤` the same termwise corner sum `< 0`).
    Boxes: every pressure `0 … 100 MPa` for `0 ≤ t ≤ 230` degC; 230–240 from 4 MPa, 240–250 from 9.5 MPa, then the ten 10-degree slabs of
    `density_monotone_r1_partial` (single boxes only — the chained pressure intervals between 230 and 250 degC are not repeated here).
    At `p = 100 MPa` exactly the derivative is that of the formula, of which `cowat` realises the left half-neighbourhood.
    `_partial`: same uncovered strip near saturation above 230 degC as stated; regions 2 and 3 not done in this form. -/
theorem compressibility_pos_r1_partial (t p : ℝ) (hp2 : p ≤ 100000000)
    (hbox : (0 ≤ t ∧ t ≤ 230 ∧ 0 ≤ p) ∨
            (230 ≤ t ∧ t ≤ 240 ∧ 4000000 ≤ p) ∨ (240 ≤ t ∧ t ≤ 250 ∧ 9500000 ≤ p) ∨ (250 ≤ t ∧ t ≤ 260 ∧ 14500000 ≤ p) ∨
            (260 ≤ t ∧ t ≤ 270 ∧ 19000000 ≤ p) ∨ (270 ≤ t ∧ t ≤ 280 ∧ 23500000 ≤ p) ∨ (280 ≤ t ∧ t ≤ 290 ∧ 28000000 ≤ p) ∨
            (290 ≤ t ∧ t ≤ 300 ∧ 32000000 ≤ p) ∨ (300 ≤ t ∧ t ≤ 310 ∧ 36000000 ≤ p) ∨ (310 ≤ t ∧ t ≤ 320 ∧ 40000000 ≤ p) ∨
            (320 ≤ t ∧ t ≤ 330 ∧ 43500000 ≤ p) ∨ (330 ≤ t ∧ t ≤ 340 ∧ 46500000 ≤ p) ∨ (340 ≤ t ∧ t ≤ 350 ∧ 50000000 ≤ p)) :
    (∀ p' : ℝ, p' ≤ 100000000 → ∃ u, cowat t p' = Ret.pair (rho1 t p') u) ∧ 0 < rho1 t p ∧
    ∃ ρ', HasDerivAt (fun p' => rho1 t p') ρ' p ∧ 0 < 1 / rho1 t p * ρ' := by
  have key : ∃ b : Box1, b.ok ∧ (b.tlo : ℝ) ≤ t ∧ t ≤ b.thi ∧ (b.plo : ℝ) ≤ p ∧ p ≤ b.phi := by
    rcases hbox with ⟨a, b, c⟩ | h | h | h | h | h | h | h | h | h | h | h | h
    · by_cases h : t ≤ 225
      · exact Box1.chain_box r1Boxes_ok (tlo := 0) (plo := 0) (by decide) (by simpa using a) h (by simpa using c) hp2
      · exact Box1.chain_box r1Boxes_ok (plo := 0) (by decide) (not_le.mp h).le b (by simpa using c) hp2
    all_goals exact Box1.chain_box r1Boxes_ok (by decide) h.1 h.2.1 h.2.2 hp2
  obtain ⟨b, hb, ht1, ht2, hp1, hpb⟩ := key
  obtain ⟨_, hpos, ρ', hd, hρ⟩ := b.risesOn hb ht1 ht2 p ⟨hp1, hpb⟩
  exact ⟨fun p' hp' => cowat_rho1 t p' ((Nat.cast_nonneg _).trans ht1) (ht2.trans (by exact_mod_cast hb.1)) hp', hpos, ρ', hd,
    mul_pos (one_div_pos.mpr hpos) hρ⟩

example : (20000000 : ℝ) ≤ 100000000 ∧ ((0 : ℝ) ≤ 150 ∧ (150 : ℝ) ≤ 230 ∧ (0 : ℝ) ≤ 20000000) := by norm_num

/-! ### saturation pressure and saturation temperature

  `satPoly β ϑ` is the implicit saturation equation of the formulation
  (`β²ϑ² + n₁β²ϑ + n₂β² + n₃βϑ² + n₄βϑ + n₅β + n₆ϑ² + n₇ϑ + n₈` over the generated coefficients) in
  `β = (p/p*)^¼`, `ϑ = T + n₉/(T − n₁₀)` (`thetaOf`). -/

/-- `sat` solves the implicit equation: inside its range it returns `p* β⁴` where `β` (`satBeta`, the
    root `2C / (−B + √(B² − 4AC))` the code takes) satisfies `satPoly β ϑ(T) = 0` — whenever the
    discriminant is non-negative and the denominator non-zero (otherwise Python raises). -/
theorem sat_root (t : ℝ) (h0 : 0 ≤ t) (h1 : t ≤ tcritical)
    (hΔ : 0 ≤ satDisc (thetaOf (t + tc_k))) (hD : satDen (thetaOf (t + tc_k)) ≠ 0) :
    sat t = Ret.num (pstar4 * (satBeta (thetaOf (t + tc_k)) * satBeta (thetaOf (t + tc_k)))
      * (satBeta (thetaOf (t + tc_k)) * satBeta (thetaOf (t + tc_k)))) ∧
    satPoly (satBeta (thetaOf (t + tc_k))) (thetaOf (t + tc_k)) = 0 :=
  ⟨sat_eq t h0 h1, satPoly_satBeta _ hΔ hD⟩

/-- `tsat` solves the same implicit equation: inside its range (`pmin` = the double nearest 611.213)
    it returns `T − 273.15` where, with `β = (p/p*)^¼`, the `ϑ` it computes (`tsTheta`) satisfies
    `satPoly β ϑ = 0`, and `T` satisfies `T² − (n₁₀ + ϑ) T + n₉ + n₁₀ ϑ = 0`, i.e. `ϑ = T + n₉/(T − n₁₀)`. -/
theorem tsat_root (p : ℝ) (h0 : pmin ≤ p) (h1 : p ≤ pcritical)
    (hΔ : 0 ≤ tsDisc (Real.sqrt (Real.sqrt (p / pstar4)) * Real.sqrt (Real.sqrt (p / pstar4))) (Real.sqrt (Real.sqrt (p / pstar4))))
    (hD : tsDen (Real.sqrt (Real.sqrt (p / pstar4)) * Real.sqrt (Real.sqrt (p / pstar4))) (Real.sqrt (Real.sqrt (p / pstar4))) ≠ 0)
    :
    let β := Real.sqrt (Real.sqrt (p / pstar4))
    let ϑ := tsTheta (β * β) β
    tsat p = Ret.num (tsT ϑ - tc_k) ∧ β * β * (β * β) = p / pstar4 ∧ satPoly β ϑ = 0 ∧
      tsT ϑ * tsT ϑ - (nr4_9 + ϑ) * tsT ϑ + (nr4_8 + nr4_9 * ϑ) = 0 ∧
      (tsT ϑ - nr4_9 ≠ 0 → ϑ = thetaOf (tsT ϑ)) := by
  intro β ϑ
  have hp0 : 0 ≤ p / pstar4 := div_nonneg (pmin_pos.le.trans h0) pstar4_pos.le
  have hb2 : β * β = Real.sqrt (p / pstar4) := Real.mul_self_sqrt (Real.sqrt_nonneg _)
  refine ⟨?_, ?_, satPoly_tsTheta β hΔ hD, tsT_root ϑ (tsDisc2_nonneg ϑ), fun h => thetaOf_of_root _ _ h (tsT_root ϑ (tsDisc2_nonneg ϑ))⟩
  · have := tsat_eq p h0 h1
    rw [this]; show Ret.num (tsT (tsTheta (Real.sqrt (p / pstar4)) β) - tc_k) = Ret.num (tsT (tsTheta (β * β) β) - tc_k)
    rw [hb2]
  · rw [hb2]; exact Real.mul_self_sqrt hp0

/-- **`tsat (sat t) = t` exactly (over the reals)** for every `t` of `sat`'s range `0 ≤ t ≤ tcritical`
    at which `tsat`'s range test accepts the saturation pressure (hypothesis `hg`), on the branch of
    the two quadratics that the routines take (`hΔ hD hβ hbr hne`: discriminant ≥ 0, denominator ≠ 0,
    `β ≥ 0`, `2Eϑ + F ≥ 0`, `Eϑ + F ≠ 0`).  `_partial`: the branch conditions are numeric facts about
    the coefficients on the interval (evaluated on every explored `t` by the harness, never violated);
    `hg` is *false* within 1.2e-9 K of the critical temperature — see `sat_tsat_critical_end`
    and the known finding `sat-tsat-inverse:critical-end`. -/
theorem sat_tsat_inverse_partial (t : ℝ) (h0 : 0 ≤ t) (h1 : t ≤ tcritical)
    (hΔ : 0 ≤ satDisc (thetaOf (t + tc_k))) (hD : satDen (thetaOf (t + tc_k)) ≠ 0)
    (hβ : 0 ≤ satBeta (thetaOf (t + tc_k)))
    (hbr : 0 ≤ 2 * tsE (satBeta (thetaOf (t + tc_k)) * satBeta (thetaOf (t + tc_k))) (satBeta (thetaOf (t + tc_k))) * thetaOf (t + tc_k)
      + tsF (satBeta (thetaOf (t + tc_k)) * satBeta (thetaOf (t + tc_k))) (satBeta (thetaOf (t + tc_k))))
    (hne : tsE (satBeta (thetaOf (t + tc_k)) * satBeta (thetaOf (t + tc_k))) (satBeta (thetaOf (t + tc_k))) * thetaOf (t + tc_k)
      + tsF (satBeta (thetaOf (t + tc_k)) * satBeta (thetaOf (t + tc_k))) (satBeta (thetaOf (t + tc_k))) ≠ 0)
    (hg : pmin ≤ (sat t).toK ∧ (sat t).toK ≤ pcritical) :
    tsat (sat t).toK = Ret.num t :=
  sat_tsat_inverse t h0 h1 hΔ hD hβ hbr hne hg

/-- **`sat (tsat p) = p` exactly (over the reals)** for every `p` of `tsat`'s range
    `611.213 ≤ p ≤ pcritical` whose saturation temperature `sat`'s range test accepts (`hg`), on the
    branches the routines take (`tsat`: `hΔ hD`; `sat`: `2Aβ + B ≤ 0`, `Aβ + B ≠ 0`).  `_partial` for
    the same reason as above. -/
theorem tsat_sat_inverse_partial (p : ℝ) (h0 : pmin ≤ p) (h1 : p ≤ pcritical)
    (hΔ : 0 ≤ tsDisc (Real.sqrt (Real.sqrt (p / pstar4)) * Real.sqrt (Real.sqrt (p / pstar4))) (Real.sqrt (Real.sqrt (p / pstar4))))
    (hD : tsDen (Real.sqrt (Real.sqrt (p / pstar4)) * Real.sqrt (Real.sqrt (p / pstar4))) (Real.sqrt (Real.sqrt (p / pstar4))) ≠ 0)
    (hbr : 2 * satA (tsTheta (Real.sqrt (Real.sqrt (p / pstar4)) * Real.sqrt (Real.sqrt (p / pstar4))) (Real.sqrt (Real.sqrt (p / pstar4))))
        * Real.sqrt (Real.sqrt (p / pstar4))
      + satB (tsTheta (Real.sqrt (Real.sqrt (p / pstar4)) * Real.sqrt (Real.sqrt (p / pstar4))) (Real.sqrt (Real.sqrt (p / pstar4)))) ≤ 0)
    (hne : satA (tsTheta (Real.sqrt (Real.sqrt (p / pstar4)) * Real.sqrt (Real.sqrt (p / pstar4))) (Real.sqrt (Real.sqrt (p / pstar4))))
        * Real.sqrt (Real.sqrt (p / pstar4))
      + satB (tsTheta (Real.sqrt (Real.sqrt (p / pstar4)) * Real.sqrt (Real.sqrt (p / pstar4))) (Real.sqrt (Real.sqrt (p / pstar4)))) ≠ 0)
    (hg : 0 ≤ (tsat p).toK ∧ (tsat p).toK ≤ tcritical) :
    sat (tsat p).toK = Ret.num p := by
  -- `tsat p` is the temperature `T` that `tsat_root` describes: `β⁴ = p/p*`, `(β, ϑ)` on the saturation line, `ϑ = ϑ(T)`
  obtain ⟨hts, hb4, hpoly, _, hth⟩ := tsat_root p h0 h1 hΔ hD
  set β := Real.sqrt (Real.sqrt (p / pstar4)) with hβ
  set ϑ := tsTheta (β * β) β with hϑ
  have hpp := pstar4_pos
  have htk : (tsat p).toK = tsT ϑ - tc_k := by rw [hts]; rfl
  rw [htk] at hg ⊢
  have hTT : tsT ϑ - tc_k + tc_k = tsT ϑ := by ring
  have hw : tsT ϑ - nr4_9 < 0 := by have := T_lt_nr4_9 _ hg.2; rwa [hTT] at this
  -- so `sat` starts from the same `ϑ`, and the `β` it takes is the `β` we started from
  rw [sat_eq _ hg.1 hg.2, hTT, ← hth (ne_of_lt hw), satBeta_eq β ϑ hpoly hbr hne, mul_assoc, hb4]
  congr 1
  field_simp

/-- outside `[611.213 Pa, pcritical]` `tsat` returns `None` — so the inverse fails wherever `sat t`
    leaves that interval (which it does at the critical end: `sat(373.946) = 22064000.00032 > pcritical`,
    exhibited bit for bit by the driver corpus, facet `critical_end_witness`) -/
theorem tsat_outside_range (p : ℝ) (h : ¬(pmin ≤ p ∧ p ≤ pcritical)) : tsat p = Ret.none := tsat_none p h

/-- **`tsat (sat t) = t` for every `t` with 0.01 ≤ t ≤ 373.9 degC — no further hypothesis.**  The range tests of both
    routines and all branch conditions are *proved* on this interval, by a cover of 273.16 K .. 647.05 K in 54 pieces with
    interval enclosures of `ϑ, A, B, C, Δ, √Δ, β` computed and checked in rational arithmetic by the kernel
    (`Proofs/ThermoSatPiece.lean`, `ThermoSatCover.lean`).  What is left to `_partial` is 0 .. 0.01 degC, which `sat` accepts as well,
    and 373.9 .. 373.946 degC, the last 0.046 K, at whose end the statement is false (`sat_tsat_critical_end`). -/
theorem sat_tsat_inverse_on (t : ℝ) (h0 : 1 / 100 ≤ t) (h1 : t ≤ 3739 / 10) : tsat (sat t).toK = Ret.num t :=
  Proofs.Iapws.sat_tsat_inverse_on t h0 h1

/-- **`sat (tsat p) = p` for every pressure 613 Pa ≤ p ≤ 22.039 MPa — no further hypothesis** (`sat` is continuous on
    0.01 .. 373.9 degC, so by the intermediate value theorem every such `p` is a saturation pressure `sat t`; then
    `sat_tsat_inverse_on`; the two ends `sat 0.01 ≤ 613`, `sat 373.9 ≥ 22 039 000` come from the same enclosures) -/
theorem tsat_sat_inverse_on (p : ℝ) (h0 : 613 ≤ p) (h1 : p ≤ 22039000) : sat (tsat p).toK = Ret.num p :=
  Proofs.Iapws.tsat_sat_inverse_on p (le_trans satK_ends.1 h0) (le_trans h1 satK_ends.2)

example : (1 / 100 : ℝ) ≤ 100 ∧ (100 : ℝ) ≤ 3739 / 10 ∧ (613 : ℝ) ≤ 101325 ∧ (101325 : ℝ) ≤ 22039000 := by norm_num

/-- non-vacuity: at `T = 500 K` and at `p = 1 MPa` all hypotheses of the four theorems above hold
    together (`exT_all`: a point of that cover; `exP_all`: 1 MPa is a saturation pressure by the intermediate value theorem, and at every
    saturation pressure of the cover the hypotheses follow from the branch conditions), so they yield -/
example : tsat (sat ((500 : ℝ) - tc_k)).toK = Ret.num (500 - tc_k) := by
  obtain ⟨h0, h1, hΔ, hD, hβ, hbr, hne, hg1, hg2⟩ := exT_all
  exact sat_tsat_inverse_partial _ h0 h1 hΔ hD hβ hbr hne ⟨hg1, hg2⟩

example : sat (tsat (pstar4 : ℝ)).toK = Ret.num pstar4 := by
  obtain ⟨h0, h1, hΔ, hD, hbr, hne, hg1, hg2⟩ := exP_all
  exact tsat_sat_inverse_partial _ h0 h1 hΔ hD hbr hne ⟨hg1, hg2⟩

example : satPoly (satBeta (thetaOf ((500 : ℝ) - tc_k + tc_k))) (thetaOf ((500 : ℝ) - tc_k + tc_k)) = 0 := by
  obtain ⟨h0, h1, hΔ, hD, _⟩ := exT_all
  exact (sat_root _ h0 h1 hΔ hD).2

example : satPoly (Real.sqrt (Real.sqrt ((pstar4 : ℝ) / pstar4)))
    (tsTheta (Real.sqrt (Real.sqrt ((pstar4 : ℝ) / pstar4)) * Real.sqrt (Real.sqrt ((pstar4 : ℝ) / pstar4)))
      (Real.sqrt (Real.sqrt ((pstar4 : ℝ) / pstar4)))) = 0 := by
  obtain ⟨h0, h1, hΔ, hD, _⟩ := exP_all
  exact (tsat_root _ h0 h1 hΔ hD).2.2.1

/-- **The negative result at the critical end** (the known finding `sat-tsat-inverse:critical-end`),
    proved in exact real arithmetic on the code's own constants, not just observed in doubles:
    `sat tcritical > pcritical` (by 3.2e-4 Pa), hence `tsat (sat tcritical)` is `None` — the full-strength
    statement "`tsat (sat t) = t` on the closed interval" is *false* for this code, which is why
    `sat_tsat_inverse_partial` carries `hg`. -/
theorem sat_tsat_critical_end :
    (pcritical : ℝ) < (sat (tcritical : ℝ)).toK ∧ tsat (sat (tcritical : ℝ)).toK = Ret.none :=
  ⟨sat_critical_exceeds, tsat_none _ (fun h => absurd h.2 (not_le.mpr sat_critical_exceeds))⟩

/-- for **every** density and every temperature `t ≥ 0` degC the viscosity routine returns a positive
    number (`exp > 0`, `√τ > 0`, and the cubic `Σ h⁰ᵢ (T_c/T)ⁱ > 0` because `T_c/T ≤ 2.6`) -/
theorem visc_pos (d t : ℝ) (ht0 : 0 ≤ t) : ∃ μ, visc d t = Ret.num μ ∧ 0 < μ := Proofs.Iapws.visc_pos d t ht0

/-- over the full 350..590 degC boundary `b23t (b23p t)` exceeds `t` by at most 1e-9 K -/
theorem b23_near_inverse (t : ℝ) (h0 : 350 ≤ t) (h1 : t ≤ 590) :
    ∃ p t', b23p t = Ret.num p ∧ b23t p = Ret.num t' ∧ 0 ≤ t' - t ∧ t' - t ≤ 1 / 1000000000 :=
  Proofs.Iapws.b23_near_inverse t h0 h1

/-- and `b23p (b23t p)` differs from `p` by at most 1e-4 Pa (1e-11 relative) over `16.5 … 100 MPa`,
    which contains the whole boundary `b23p 350 = 16.529 MPa … b23p 590 = 100 MPa` -/
theorem b23_near_inverse_p (p : ℝ) (h0 : 16500000 ≤ p) (h1 : p ≤ 100000000) :
    ∃ t p', b23t p = Ret.num t ∧ b23p t = Ret.num p' ∧ |p' - p| ≤ 1 / 10000 := by
  refine ⟨_, _, b23t_eq p, b23p_eq _, ?_⟩
  obtain ⟨hn2, hn2u, hn3l, hn3, hn4, hn4u, hA0, hA1, hB0, hB1⟩ := nr23_facts
  have hn2p : (0 : ℝ) < nr23_2 := lt_of_lt_of_le (by norm_num) hn2
  have hn2' : (nr23_2 : ℝ) ≠ 0 := ne_of_gt hn2p
  have hq0 : 0 ≤ (p / 1000000 - nr23_4) / nr23_2 := div_nonneg (by linarith only [h0, hn4u]) (le_of_lt hn2p)
  have hq1 : (p / 1000000 - nr23_4) / nr23_2 ≤ 300 ^ 2 := by
    rw [div_le_iff₀ hn2p]
    linarith only [h1, hn4, hn2]
  have hs0 := Real.sqrt_nonneg ((p / 1000000 - nr23_4) / nr23_2)
  have hs1 : Real.sqrt ((p / 1000000 - nr23_4) / nr23_2) ≤ 300 := (Real.sqrt_le_left (by norm_num)).mpr hq1
  have hss : nr23_2 * Real.sqrt ((p / 1000000 - nr23_4) / nr23_2) ^ 2 = p / 1000000 - nr23_4 := by
    rw [Real.sq_sqrt hq0]
    field_simp
  generalize Real.sqrt ((p / 1000000 - nr23_4) / nr23_2) = s at hs0 hs1 hss ⊢
  -- with `T' = nr23_3 + s` the value is `p + 1e6 nr23_2 (B + A T')`, `A`, `B` the two small numbers of `nr23_facts`
  have e : 1000000 * (nr23_0 + (nr23_3 + s - tc_k + tc_k) * (nr23_1 + (nr23_3 + s - tc_k + tc_k) * nr23_2)) - p
      = 1000000 * (nr23_2 * (((nr23_0 - nr23_4) / nr23_2 - nr23_3 ^ 2) + (nr23_1 / nr23_2 + 2 * nr23_3) * (nr23_3 + s))) := by
    field_simp
    linear_combination (1000000 : ℝ) * hss
  rw [e]
  exact b23_near_p _ _ _ _ s hA0 hA1 hB0 hB1 (le_of_lt hn2p) hn2u hn3 (add_nonneg (le_trans (by norm_num) hn3l) hs0) hs1

end Props.C14
