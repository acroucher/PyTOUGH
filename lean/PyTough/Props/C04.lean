/-
  C04 — Geometry-to-TOUGH2-grid conversion is geometrically exact and index-consistent.

  Property theorems about `Model.FromGeo.fromgeo` (model of `t2grid.fromgeo` and the `mulgrid`
  / `geometry` helpers it calls).  Arithmetic is exact (ℚ); a quantity under a square root is
  a `Surd ⟨coef, rad⟩ = coef * sqrt rad`, so distances and areas are stated through their
  squares.  Hypotheses are decidable predicates of the model (`Fresh`, `LayersWF`, `ConnsWF`,
  `parseOk`, `atmType ≤ 2`, `Nodup` of the mapped names) and are evaluated by the driver on every
  explored case.
-/
import PyTough.Proofs.FromGeoTotal
import PyTough.Proofs.FromGeoConnNodup
import PyTough.Proofs.FromGeoExample

namespace Props.C04
open Py Model.FromGeo
open Proofs.FromGeo

/-! ### exactly the announced blocks and connections, in the same order and orientation -/

/-- The block list of the grid built from `g` with block map `m` is the geometry's own
    `block_name_list` (mapped), element by element, for every geometry, convention, atmosphere
    type and block order — provided the cached list is up to date and the mapped names are
    distinct (an injective map on distinct names). -/
theorem fromgeo_blocks_eq_namelist (g : Geo) (m : BlockMap) (T : Grid) (hfresh : Fresh g)
    (hinj : (g.blockNames.map (applyMap m)).Nodup) (h : fromgeo g m = .ok T) :
    T.blocks.map (·.name) = g.blockNames.map (applyMap m) :=
  addBlocks_names hfresh hinj (fromgeo_inv h).1

/-- The two independent loops — `setup_block_connection_name_index` and `add_connections` —
    enumerate the same sequence of ordered pairs: whenever `fromgeo` returns, the name-list
    loop returns too and the connection list of the grid is that list, mapped, in the same order
    and orientation.  No distinctness of the announced pairs has to be assumed: it follows from
    the distinct block names, the layer stack (`LayersWF`) and the geometry's connection registry
    (`ConnsWF`: one entry per ordered column pair, joining two different columns). -/
theorem fromgeo_connections_eq_namelist (g : Geo) (m : BlockMap) (T : Grid) (hfresh : Fresh g)
    (hinj : (g.blockNames.map (applyMap m)).Nodup) (hwf : LayersWF g) (hcw : ConnsWF g)
    (h : fromgeo g m = .ok T) :
    ∃ L, blockConnectionNameList g = .ok L ∧ T.conns.map TConn.names = L.map (mapPair m) := by
  obtain ⟨hb, hc⟩ := fromgeo_inv h
  obtain ⟨L, hL, hres⟩ := addConnsFrom_names (addBlocks_names hfresh hinj hb) hc
  exact ⟨L, hL, hres.trans (pushNames_nodup [] _ (connNames_nodup hfresh hinj hwf hcw hL))⟩

/-- The grid `fromgeo` builds is consistent in the sense of C08 (clauses of `Model.Grid.Inv`
    restated on this model): block names are unique (list and dictionary describe the same
    blocks), connection keys are unique, every connection joins two different registered blocks,
    and a block's `connection_name` record is exactly the set of keys of the connections that
    mention it. -/
theorem fromgeo_consistent (g : Geo) (m : BlockMap) (T : Grid) (hfresh : Fresh g)
    (hinj : (g.blockNames.map (applyMap m)).Nodup) (hwf : LayersWF g) (hcw : ConnsWF g)
    (h : fromgeo g m = .ok T) :
    (T.blocks.map (·.name)).Nodup ∧ (T.conns.map TConn.names).Nodup ∧
    (∀ c ∈ T.conns, (∃ b, findBlock T.blocks c.b0 = .ok b) ∧ (∃ b, findBlock T.blocks c.b1 = .ok b) ∧ c.b0 ≠ c.b1) ∧
    (∀ b k, k ∈ connRecord T.conns b ↔ ∃ c ∈ T.conns, c.names = k ∧ (c.b0 = b ∨ c.b1 = b)) := by
  have hb := fromgeo_blocks_eq_namelist g m T hfresh hinj h
  obtain ⟨L, hL, hc⟩ := fromgeo_connections_eq_namelist g m T hfresh hinj hwf hcw h
  have hLnd := connNames_nodup hfresh hinj hwf hcw hL
  have hends := connNames_ends hfresh hinj hwf hcw hL
  refine ⟨by rw [hb]; exact hinj, by rw [hc]; exact hLnd, ?_, ?_⟩
  · intro c hcm
    have : c.names ∈ L.map (mapPair m) := by rw [← hc]; exact List.mem_map.2 ⟨c, hcm, rfl⟩
    rw [List.mem_map] at this
    obtain ⟨p, hp, hpe⟩ := this
    obtain ⟨m1, m2, hne⟩ := hends p hp
    simp only [mapPair, TConn.names, Prod.mk.injEq] at hpe
    refine ⟨?_, ?_, by rw [← hpe.1, ← hpe.2]; exact hne⟩
    · exact findBlock_of_mem_names (by rw [hb, ← hpe.1]; exact List.mem_map.2 ⟨p.1, m1, rfl⟩)
    · exact findBlock_of_mem_names (by rw [hb, ← hpe.2]; exact List.mem_map.2 ⟨p.2, m2, rfl⟩)
  · intro b k
    simp only [connRecord, List.mem_map, List.mem_filter, Bool.or_eq_true, decide_eq_true_eq]
    constructor
    · rintro ⟨c, ⟨hc1, hc2⟩, rfl⟩; exact ⟨c, hc1, rfl, hc2⟩
    · rintro ⟨c, hc1, rfl, hc2⟩; exact ⟨c, ⟨hc1, hc2⟩, rfl⟩

example : Fresh Ex.geo ∧ (Ex.geo.blockNames.map (applyMap Ex.bmap)).Nodup ∧ LayersWF Ex.geo ∧ ConnsWF Ex.geo := by decide +kernel
example : Ex.grid.blocks.map (·.name) =
    [['A','T','M',' ','0'], ['#','0','0','0','1'], [' ',' ','b',' ','1'], [' ',' ','a',' ','2'], [' ',' ','b',' ','2']] := by
  decide +kernel
example : (Ex.grid.conns.map TConn.names).length = 6 ∧
    (Ex.grid.conns.map TConn.names).head? = some (['#','0','0','0','1'], ['A','T','M',' ','0']) := by decide +kernel

/-! ### the conversion never fails on a valid geometry; where its blocks and connections come from

  `grid_block_data`, `grid_connection_origin` and `layer_stack_adjacent` discharge, for the grid `T`
  that `fromgeo` returns, the hypotheses that the connection theorems below state about a block
  list `bs` and a pair of layers: take `bs := T.blocks`. -/

/-- On every well-formed geometry (fresh name cache, distinct mapped names, every block name
    parsing back to its layer and column, chained layer tops with distinct layer names,
    atmosphere type 0, 1 or 2) `fromgeo` returns a grid: no `KeyError`, `IndexError` or
    `TypeError` can escape. -/
theorem fromgeo_succeeds (g : Geo) (m : BlockMap) (hfresh : Fresh g)
    (hinj : (g.blockNames.map (applyMap m)).Nodup) (hparse : parseOk g = true) (hwf : LayersWF g)
    (hatm : g.atmType ≤ 2) : ∃ T, fromgeo g m = .ok T := by
  obtain ⟨bs, hbs⟩ := addBlocks_total g m hfresh hparse hatm
  obtain ⟨cs, hcs⟩ := addConnsFrom_total hfresh hinj hparse hwf hbs (.start g) []
  simp only [fromgeo, hbs, hcs]
  exact ⟨_, rfl⟩

/-- The block the grid holds for layer `lay` and column `col` (a column whose surface is above the
    layer bottom): it carries the mapped announced name, the volume `block_volume(lay, col)` and
    the centre `block_centre(lay, col)`. -/
theorem grid_block_data (g : Geo) (m : BlockMap) (T : Grid) (hfresh : Fresh g)
    (hinj : (g.blockNames.map (applyMap m)).Nodup) (hparse : parseOk g = true) (h : fromgeo g m = .ok T)
    (lay : Layer) (hl : lay ∈ g.layers) (col : Column) (hc : col ∈ layerCols g lay) (nm : Str)
    (hnm : blockName g.convention lay.name col.name = .ok nm) :
    findBlock T.blocks (applyMap m nm) =
      .ok ⟨applyMap m nm, blockVolume g lay col, blockCentre g lay col, false⟩ :=
  addBlocks_data hfresh hinj hparse (fromgeo_inv h).1 hl hc hnm

/-- Every connection of the grid was built by the vertical loop body (`vertConn`) for a column of
    a layer, or by the horizontal loop body (`horizConn`) for a geometry connection of a layer,
    applied to the grid's own block list; `above` is the layer just above `lay` in `layerlist`. -/
theorem grid_connection_origin (g : Geo) (m : BlockMap) (T : Grid) (h : fromgeo g m = .ok T) :
    ∀ c ∈ T.conns, ∃ pre above lay post, g.layerlist = pre ++ above :: lay :: post ∧
      ((∃ col ∈ layerCols g lay, vertConn g m T.blocks (decide (pre = [])) above lay col = .ok (some c)) ∨
       (∃ k ∈ layerConns g (layerCols g lay), horizConn g m T.blocks lay k = .ok c)) := by
  intro c hcm
  rcases addConnsFrom_mem (.start g) (fromgeo_inv h).2 hcm with h1 | h1
  · cases h1
  · exact h1

/-- Adjacent layers of a well-formed stack: the lower one starts where the upper one ends, has
    positive thickness, is an underground layer and is not named like the atmosphere layer. -/
theorem layer_stack_adjacent (g : Geo) (hwf : LayersWF g) (pre : List Layer) (above lay : Layer)
    (post : List Layer) (hll : g.layerlist = pre ++ above :: lay :: post) :
    lay.top = above.bottom ∧ lay.bottom < lay.top ∧ lay ∈ g.layers ∧ lay.name ≠ g.layer0.name := by
  obtain ⟨a, b, c, _⟩ := adjacent_layers hwf hll
  exact ⟨a, b, c, layer_name_ne0 hwf c⟩

example : ∃ T, fromgeo Ex.geo Ex.bmap = .ok T :=
  fromgeo_succeeds Ex.geo Ex.bmap (by decide +kernel) (by decide +kernel) (by decide +kernel) (by decide +kernel) (by decide +kernel)
-- the hypotheses of `grid_block_data` on the example: the truncated block (layer 1, column a), renamed by the map
example : Ex.l1 ∈ Ex.geo.layers ∧ Ex.colA ∈ layerCols Ex.geo Ex.l1 ∧
    blockName Ex.geo.convention Ex.l1.name Ex.colA.name = .ok [' ',' ','a',' ','1'] ∧
    findBlock Ex.grid.blocks ['#','0','0','0','1'] =
      .ok ⟨['#','0','0','0','1'], some 2, some ⟨1, 1, -3/4⟩, false⟩ := by decide +kernel
-- the layer stack of the example: l2 lies directly below l1
example : Ex.geo.layerlist = [Ex.l0] ++ Ex.l1 :: Ex.l2 :: [] := by decide +kernel

/-! ### volumes -/

/-- Each block volume is column area times the height from the layer bottom to the block top:
    the column surface in the column's top block (`blockTop`), the layer top otherwise. -/
theorem block_volume_formula (g : Geo) (lay : Layer) (col : Column) (hwf : LayersWF g)
    (hl : lay ∈ g.layers) (hb : lay.bottom < col.surface) :
    blockVolume g lay col = some (col.area * (blockTop g lay col - lay.bottom)) :=
  blockVolume_eq hwf hl hb

/-- The volumes of a column's blocks add up to area times depth from the surface to the bottom
    of the lowest layer — for a surface inside any layer, at a layer boundary, or above the top
    layer; a column whose surface is not above that bottom has no block. -/
theorem column_volume_telescopes (g : Geo) (col : Column) (hwf : LayersWF g) (hne : g.layers ≠ []) :
    columnVolume g col =
      if lowestBottom g < col.surface then col.area * (col.surface - lowestBottom g) else 0 := by
  by_cases hs : lowestBottom g < col.surface
  · simp only [hs, if_true]; exact columnVolume_eq hwf hne hs
  · simp only [hs, if_false]; exact columnVolume_zero hwf (not_lt.1 hs)

/-- Total rock volume (all announced underground blocks, layer by layer) is the sum over the
    columns of area times depth to the surface. -/
theorem total_volume (g : Geo) (hwf : LayersWF g) (hne : g.layers ≠ []) :
    totalVolume g = (g.columns.map (fun c =>
      if lowestBottom g < c.surface then c.area * (c.surface - lowestBottom g) else 0)).sum := by
  rw [totalVolume_eq_columns]
  congr 1
  apply List.map_congr_left
  intro c _
  exact column_volume_telescopes g c hwf hne

example : LayersWF Ex.geo ∧ Ex.geo.layers ≠ [] := by decide +kernel
-- truncated block: area 4 x (surface -1/2 - bottom -1); block above the top layer: 6 x (1 - -1)
example : blockVolume Ex.geo Ex.l1 Ex.colA = some 2 ∧ blockVolume Ex.geo Ex.l1 Ex.colB = some 12 := by decide +kernel
example : totalVolume Ex.geo = 4 * (-1/2 - -3) + 6 * (1 - -3) := by decide +kernel

/-- A column's area is the absolute value of the shoelace sum of its nodes (the shift by the
    first vertex in `polygon_area` is immaterial). -/
theorem polygon_area_is_shoelace (name : Str) (nodes : List P2) (c : P2) (s : Rat) :
    (mkColumn name nodes c s).area = |shoelace nodes| := by
  unfold mkColumn
  rw [polygonArea_eq_shoelace]
  by_cases h : shoelace nodes < 0
  · simp only [h, if_true]; rw [abs_of_neg h]
  · simp only [h, if_false]; rw [abs_of_nonneg (not_lt.1 h)]

example : Ex.colB.area = 6 := by decide +kernel

/-! ### vertical connections -/

/-- Interior vertical connection (`lay` not the first layer, surface above its top): the area is
    the column area and the two distances add up to the separation of the block centres — the
    upper block's centre elevation minus the layer centre, which is the lower block's centre
    elevation.  `hadj`, `hpos` are the layer-stack invariants `lay.top = above.bottom`, `lay.bottom < lay.top`. -/
theorem vertical_connection_geometry (g : Geo) (m : BlockMap) (bs : List Block) (first : Bool)
    (above lay : Layer) (col : Column) (c : TConn)
    (h : vertConn g m bs first above lay col = .ok (some c))
    (hc : ¬ (first = true ∨ col.surface ≤ lay.top)) (hadj : lay.top = above.bottom)
    (hpos : lay.bottom < lay.top) (hn : lay.name ≠ g.layer0.name) :
    c.area = .exact col.area ∧
    blockCentre g lay col = some ⟨col.centre.x, col.centre.y, lay.centre⟩ ∧
    ∃ lower upper zu, findBlock bs c.b0 = .ok lower ∧ findBlock bs c.b1 = .ok upper ∧
      centreZ upper = .ok zu ∧ c.d0.rad = 1 ∧ c.d1.rad = 1 ∧
      c.d0.coef + c.d1.coef = zu - lay.centre := by
  obtain ⟨_, lower, V⟩ := vertConn_some h
  obtain ⟨_, upper, zu, _, _, h1, hz, hd0, hd1⟩ := V.interior hc
  have htop : lay.top < col.surface := not_le.1 (not_or.1 hc).2
  exact ⟨V.area, blockCentre_full hn (hpos.trans htop) htop, lower, upper, zu, V.found0, h1, hz,
    by rw [hd0]; rfl, by rw [hd1]; rfl, by rw [hd0, hd1, hadj]; simp only [Surd.exact]; ring⟩

/-- Connection to the atmosphere (first layer, or surface not above the layer top): the column
    area, the distance from the block centre to the ground surface, and the geometry's
    atmosphere connection distance. -/
theorem vertical_connection_atmosphere (g : Geo) (m : BlockMap) (bs : List Block) (first : Bool)
    (above lay : Layer) (col : Column) (c : TConn)
    (h : vertConn g m bs first above lay col = .ok (some c))
    (hc : first = true ∨ col.surface ≤ lay.top) :
    c.area = .exact col.area ∧
    ∃ blk cz, findBlock bs c.b0 = .ok blk ∧ centreZ blk = .ok cz ∧
      c.d0 = .exact (col.surface - cz) ∧ c.d1 = .exact g.atmConn := by
  obtain ⟨_, blk, V⟩ := vertConn_some h
  obtain ⟨cz, hcz, hd0, hd1⟩ := V.atm hc
  exact ⟨V.area, blk, cz, V.found0, hcz, hd0, hd1⟩

/-! ### composed statements about the grid `fromgeo` returns -/

/-- Every underground block of the grid: its volume is column area times the height from the
    layer bottom to the block top (column surface in the top block, layer top otherwise). -/
theorem grid_block_volume (g : Geo) (m : BlockMap) (T : Grid) (hfresh : Fresh g)
    (hinj : (g.blockNames.map (applyMap m)).Nodup) (hparse : parseOk g = true) (hwf : LayersWF g)
    (h : fromgeo g m = .ok T) (lay : Layer) (hl : lay ∈ g.layers) (col : Column)
    (hc : col ∈ layerCols g lay) (nm : Str) (hnm : blockName g.convention lay.name col.name = .ok nm) :
    ∃ b, findBlock T.blocks (applyMap m nm) = .ok b ∧ b.atm = false ∧
      b.volume = some (col.area * (blockTop g lay col - lay.bottom)) :=
  ⟨_, grid_block_data g m T hfresh hinj hparse h lay hl col hc nm hnm, rfl,
   block_volume_formula g lay col hwf hl (mem_layerCols.1 hc).2⟩

/-- Every interior vertical connection of the grid (column `col`, layer `lay` below layer `above`,
    surface above the top of `lay`): it joins the grid's block of (`lay`, `col`) — lower, centre at
    the layer centre — to the grid's block of (`above`, `col`) — upper, centre `block_centre(above,
    col)` —, in that order, and its two distances add up to the difference of the two centre
    elevations. -/
theorem grid_vertical_distances_add_up (g : Geo) (m : BlockMap) (T : Grid) (hfresh : Fresh g)
    (hinj : (g.blockNames.map (applyMap m)).Nodup) (hparse : parseOk g = true) (hwf : LayersWF g)
    (h : fromgeo g m = .ok T) (pre : List Layer) (above lay : Layer) (post : List Layer)
    (hll : g.layerlist = pre ++ above :: lay :: post) (hpre : pre ≠ []) (col : Column)
    (hc : col ∈ layerCols g lay) (htop : lay.top < col.surface) (c : TConn)
    (hv : vertConn g m T.blocks (decide (pre = [])) above lay col = .ok (some c)) :
    ∃ lower upper cu, findBlock T.blocks c.b0 = .ok lower ∧ findBlock T.blocks c.b1 = .ok upper ∧
      lower.centre = some ⟨col.centre.x, col.centre.y, lay.centre⟩ ∧
      upper.centre = some cu ∧ blockCentre g above col = some cu ∧
      c.d0.rad = 1 ∧ c.d1.rad = 1 ∧ c.d0.coef + c.d1.coef = cu.z - lay.centre := by
  obtain ⟨hadj, hpos, hlay, hn0⟩ := layer_stack_adjacent g hwf pre above lay post hll
  have hcond : ¬ (decide (pre = []) = true ∨ col.surface ≤ lay.top) := fun hh =>
    hh.elim (fun e => hpre (by simpa using e)) fun e => absurd htop (not_lt.2 e)
  obtain ⟨_, hcl, lower, upper, zu, h0, h1, hz, hsum⟩ :=
    vertical_connection_geometry g m T.blocks _ above lay col c hv hcond hadj hpos hn0
  obtain ⟨nm, _, V⟩ := vertConn_some hv
  obtain ⟨nm2, _, _, hnm2, hb1, _⟩ := V.interior hcond
  -- the two blocks the loop found are the grid's blocks of (`lay`, `col`) and (`above`, `col`)
  have e0 := grid_block_data g m T hfresh hinj hparse h lay hlay col hc nm V.name0
  have e1 := grid_block_data g m T hfresh hinj hparse h above (above_mem_layers hll hpre) col
    (mem_layerCols.2 ⟨(mem_layerCols.1 hc).1, by rw [← hadj]; exact htop⟩) nm2 hnm2
  rw [← V.b0] at e0
  rw [← hb1] at e1
  rw [e0] at h0
  rw [e1] at h1
  cases h0
  cases h1
  obtain ⟨cu, hcu, rfl⟩ := centreZ_inv hz
  exact ⟨_, _, cu, e0, e1, hcl, hcu, hcu, hsum⟩

-- hypotheses of `grid_vertical_distances_add_up` on the example: column b (surface 1) in layer 2 below layer 1
example : Ex.colB ∈ layerCols Ex.geo Ex.l2 ∧ Ex.l2.top < Ex.colB.surface ∧
    (match vertConn Ex.geo Ex.bmap Ex.grid.blocks (decide ([Ex.l0] = [])) Ex.l1 Ex.l2 Ex.colB with
     | .ok (some c) => c.names == ([' ',' ','b',' ','2'], [' ',' ','b',' ','1']) && c.d0.coef + c.d1.coef == -1/2 - -2
     | _ => false) = true := by decide +kernel

/-! ### gravity cosines -/

/-- `tilt_vector` of an untilted geometry (`gdcx`, `gdcy` each `None` or 0) is straight down. -/
theorem untilted_tilt_vector (gx gy : Option Rat) (hx : gx = none ∨ gx = some 0)
    (hy : gy = none ∨ gy = some 0) : tiltVector? gx gy = some ⟨0, 0, -1⟩ := by
  rcases hx with rfl | rfl <;> rcases hy with rfl | rfl <;> decide +kernel

example : tiltVector? none (some 0) = some ⟨0, 0, -1⟩ ∧ tiltVector? (some 1) (some 0) = some ⟨1, 0, 0⟩ := by decide +kernel

/-- Every vertical connection has permeability direction 3 and, in an untilted geometry, gravity
    cosine -1 (the order lower block, upper block is in `grid_vertical_distances_add_up`). -/
theorem gravity_cosine_vertical (g : Geo) (m : BlockMap) (bs : List Block) (first : Bool)
    (above lay : Layer) (col : Column) (c : TConn)
    (h : vertConn g m bs first above lay col = .ok (some c))
    (gx gy : Option Rat) (hx : gx = none ∨ gx = some 0) (hy : gy = none ∨ gy = some 0)
    (ht : tiltVector? gx gy = some g.tilt) :
    c.dirn = 3 ∧ c.dircos = ⟨-1, 1⟩ := by
  obtain ⟨_, _, V⟩ := vertConn_some h
  rw [untilted_tilt_vector gx gy hx hy] at ht
  have : g.tilt = ⟨0, 0, -1⟩ := (Option.some.inj ht).symm
  exact ⟨V.dirn, by rw [V.dircos, this]; rfl⟩

/-- A horizontal connection's cosine is that of the centre-to-centre line against gravity:
    in an untilted geometry `-Δz / ‖Δ‖` (coefficient `-Δz`, radicand `1/‖Δ‖²`), hence zero
    exactly when the two block centres are at equal elevation. -/
theorem gravity_cosine_horizontal (g : Geo) (m : BlockMap) (bs : List Block) (lay : Layer)
    (k : Conn) (c : TConn) (h : horizConn g m bs lay k = .ok c) (ht : g.tilt = ⟨0, 0, -1⟩) :
    ∃ b0 b1 c0 c1, findBlock bs c.b0 = .ok b0 ∧ findBlock bs c.b1 = .ok b1 ∧
      b0.centre = some c0 ∧ b1.centre = some c1 ∧
      c.dircos.coef = -(c1.z - c0.z) ∧ c.dircos.rad = 1 / P3.normSq (P3.sub c1 c0) ∧
      (c.dircos.coef = 0 ↔ c0.z = c1.z) := by
  obtain ⟨b0, b1, c0, c1, _, _, F⟩ := horizConn_fields h
  refine ⟨b0, b1, c0, c1, F.found0, F.found1, F.centre0, F.centre1, ?_, by rw [F.dircos], ?_⟩
  · rw [F.dircos, ht]; simp only [P3.dot, P3.sub]; ring
  · rw [F.dircos, ht]; simp only [P3.dot, P3.sub]
    constructor
    · intro hz; linarith
    · intro hz; rw [hz]; ring

/-- Beside a truncated surface block the two centres are not level, so by `gravity_cosine_horizontal`
    the connection's cosine is not zero: a block cut by its column's surface has its centre below that
    of a full block of the layer (for a layer whose centre is its midpoint). -/
theorem gravity_cosine_truncated (g : Geo) (lay : Layer) (cola colb : Column)
    (hn : lay.name ≠ g.layer0.name) (hmid : lay.centre = (1 / 2 : Rat) * (lay.bottom + lay.top))
    (ha : lay.bottom < cola.surface ∧ cola.surface < lay.top) (hb : lay.top ≤ colb.surface) :
    ∃ ca cb, blockCentre g lay cola = some ca ∧ blockCentre g lay colb = some cb ∧ ca.z < cb.z := by
  have hb1 : lay.bottom < colb.surface := lt_of_lt_of_le (lt_trans ha.1 ha.2) hb
  refine ⟨⟨cola.centre.x, cola.centre.y, (1 / 2 : Rat) * (lay.bottom + cola.surface)⟩,
          ⟨colb.centre.x, colb.centre.y, (1 / 2 : Rat) * (lay.bottom + lay.top)⟩, ?_, ?_, ?_⟩
  · exact blockCentre_truncated hn ha.1 (le_of_lt ha.2)
  · by_cases he : colb.surface ≤ lay.top
    · rw [blockCentre_truncated hn hb1 he, le_antisymm he hb]
    · rw [blockCentre_full hn hb1 (not_le.1 he), hmid]
  · exact mul_lt_mul_of_pos_left (add_lt_add_right ha.2 _) (by norm_num)

-- the example: layer 1 (centre at its midpoint), column a truncated, column b a full block
example : Ex.l1.name ≠ Ex.geo.layer0.name ∧ Ex.l1.centre = (1 / 2 : Rat) * (Ex.l1.bottom + Ex.l1.top) ∧
    (Ex.l1.bottom < Ex.colA.surface ∧ Ex.colA.surface < Ex.l1.top) ∧ Ex.l1.top ≤ Ex.colB.surface := by decide +kernel

/-! ### horizontal connections -/

/-- Area is the shared-edge length times the lower of the two block heights
    (`coef = min`, `rad = ‖n0 - n1‖²`); each distance is the length of the offset from the column
    centre to its projection on the edge line (`coef = 1`, `rad = ‖p - c‖²`), and that offset is
    perpendicular to the edge. -/
theorem horizontal_connection_geometry (g : Geo) (m : BlockMap) (bs : List Block) (lay : Layer)
    (k : Conn) (c : TConn) (h : horizConn g m bs lay k = .ok c) (hedge : k.n0 ≠ k.n1) :
    ∃ s0 s1, blockSurface g lay k.col0 = some s0 ∧ blockSurface g lay k.col1 = some s1 ∧
      c.area = ⟨min (s0 - lay.bottom) (s1 - lay.bottom), P2.normSq (P2.sub k.n0 k.n1)⟩ ∧
      c.d0 = ⟨1, P2.normSq (P2.sub (lineProjection k.col0.centre k.n0 k.n1) k.col0.centre)⟩ ∧
      c.d1 = ⟨1, P2.normSq (P2.sub (lineProjection k.col1.centre k.n0 k.n1) k.col1.centre)⟩ ∧
      P2.dot (P2.sub k.col0.centre (lineProjection k.col0.centre k.n0 k.n1)) (P2.sub k.n1 k.n0) = 0 ∧
      P2.dot (P2.sub k.col1.centre (lineProjection k.col1.centre k.n0 k.n1)) (P2.sub k.n1 k.n0) = 0 := by
  obtain ⟨_, _, _, _, s0, s1, F⟩ := horizConn_fields h
  exact ⟨s0, s1, F.surface0, F.surface1, F.area, F.d0, F.d1,
    lineProjection_perp _ _ _ hedge, lineProjection_perp _ _ _ hedge⟩

/-- The permeability direction of a horizontal connection is the index of the larger component
    (in absolute value) of the centre-to-centre vector rotated by the permeability angle — 1 on a
    tie, as `np.argmax` returns the first maximum. -/
theorem direction_by_permeability_angle (g : Geo) (m : BlockMap) (bs : List Block) (lay : Layer)
    (k : Conn) (c : TConn) (h : horizConn g m bs lay k = .ok c) :
    ∃ b0 b1 c0 c1, findBlock bs c.b0 = .ok b0 ∧ findBlock bs c.b1 = .ok b1 ∧
      b0.centre = some c0 ∧ b1.centre = some c1 ∧
      (let dx := c1.x - c0.x
       let dy := c1.y - c0.y
       let u := absRat (g.rot.x * dx + g.rot.y * dy)
       let v := absRat (-g.rot.y * dx + g.rot.x * dy)
       (c.dirn = 2 ↔ u < v) ∧ (c.dirn = 1 ↔ ¬ u < v)) := by
  obtain ⟨b0, b1, c0, c1, _, _, F⟩ := horizConn_fields h
  refine ⟨b0, b1, c0, c1, F.found0, F.found1, F.centre0, F.centre1, ?_⟩
  simp only [F.dirn, permDirection, P3.sub]
  simp

/-- The perpendicular offset is the shortest: no point of the edge line is closer to the column
    centre than the projection; and its squared length is the classical
    `cross(e, c - n0)² / ‖e‖²`. -/
theorem perpendicular_is_shortest (a l0 l1 : P2) (hedge : l0 ≠ l1) :
    (∀ t : Rat, P2.normSq (P2.sub (lineProjection a l0 l1) a) ≤
        P2.normSq (P2.sub a (P2.add l0 (P2.smul t (P2.sub l1 l0))))) ∧
    P2.normSq (P2.sub (lineProjection a l0 l1) a) =
      (cross (P2.sub l1 l0) (P2.sub a l0)) ^ 2 / P2.normSq (P2.sub l1 l0) := by
  refine ⟨fun t => ?_, perp_dist_cross a l0 l1 hedge⟩
  -- Pythagoras: the distance to any point of the line splits at the projection
  rw [perp_pythagoras a l0 l1 hedge t]
  have h1 : P2.normSq (P2.sub (lineProjection a l0 l1) a) = P2.normSq (P2.sub a (lineProjection a l0 l1)) := by
    simp only [P2.normSq, P2.dot, P2.sub]; ring
  rw [h1]
  linarith [normSq_nonneg (P2.sub (lineProjection a l0 l1) (P2.add l0 (P2.smul t (P2.sub l1 l0))))]

-- a point at distance 3 from the line y = 0: no point of the line is closer
example : lineProjection ⟨2, 3⟩ ⟨0, 0⟩ ⟨5, 0⟩ = ⟨2, 0⟩ ∧
    P2.normSq (P2.sub (lineProjection ⟨2, 3⟩ ⟨0, 0⟩ ⟨5, 0⟩) ⟨2, 3⟩) = 9 := by decide +kernel

-- the horizontal connection of the example: edge length 2, lower height 1/2 (the truncated block),
-- distances 1 and 3/2, centres at -3/4 and -1/2 so the cosine is not zero
example : ∃ c ∈ Ex.grid.conns, c.names = (['#','0','0','0','1'], [' ',' ','b',' ','1']) ∧
    c.area = ⟨1/2, 4⟩ ∧ c.d0 = ⟨1, 1⟩ ∧ c.d1 = ⟨1, 9/4⟩ ∧ c.dircos.coef = -(1/4) ∧ c.dirn = 1 := by decide +kernel
example : ∃ c ∈ Ex.grid.conns, c.names = ([' ',' ','a',' ','2'], ['#','0','0','0','1']) ∧
    c.dirn = 3 ∧ c.dircos = ⟨-1, 1⟩ ∧ c.d0.coef + c.d1.coef = -3/4 - -2 := by decide +kernel

end Props.C04
