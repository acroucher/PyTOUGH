/-
  C17 — Block, column, layer and node names are unique, well-formed and invertible.

  Property theorems about `Model/Names.lean` (the model of the naming code of mulgrids.py; the
  convention tables come from `Gen/Conventions.lean`, regenerated from the source on every run).
  Proofs are in `Proofs/Names*.lean`.

  Vocabulary (defined in `Proofs/NamesGen.lean`, `Proofs/NamesDigits.lean`, `Proofs/NamesFix.lean`):
    AlphabetOK chars spaces   the alphabet is duplicate-free (what `uniqstring` returns), has no blank and no
                              digit (letters, for instance), is non-empty, and has ≥ 2 characters if spaces = False
    capB n L                  n + n² + … + n^L
    capA n sp L               largest number with an alphabetic name of L characters: capB n L (spaces), n^L − 1 (no spaces)
    columnCapacity conv n sp  largest column/node number with a name: capB n 3 (spaces) or n³ − 1 (no spaces)
                              for conventions 0 and 3, 99 for convention 1, 999 for convention 2
    layerCapacity conv n sp   99 for convention 0; capB n L / n^L − 1 with L = 3 (convention 1) or 2 (2 and 3)
    NameChar chars c          c is in the alphabet, a blank, or a decimal digit
    simForm name              the name as a simulator holding it as (A3, I2) prints it
-/
import PyTough.Proofs.NamesRect
import PyTough.Proofs.Literals

namespace Props.C17
open Py Model.Names Proofs.Names

/-! ## `int_to_chars`: an injective numeration with exact lengths -/

/-- In both modes (`spaces=True`: bijective base-`n` numeration; `False`: positional numerals
    padded with `chars[0]` to `length`) distinct integers give distinct strings. -/
theorem int_to_chars_injective {chars : Str} {spaces : Bool} (h : AlphabetOK chars spaces) (length i j : Nat) (s : Str)
    (hi : intToChars i [] chars spaces length = .ok s) (hj : intToChars j [] chars spaces length = .ok s) : i = j := by
  rw [intToChars_ok h] at hi hj
  cases hi
  have e : alphaName chars spaces false length i = alphaName chars spaces false length j := by
    unfold alphaName; rw [Except.ok.inj hj]
  rw [← decodeA_alphaName h false length i, e, decodeA_alphaName h false length j]

/-- `spaces=True`: the string for `i` has at most `K` characters exactly when `i ≤ n + n² + … + n^K`. -/
theorem int_to_chars_length_spaces {chars : Str} (h : AlphabetOK chars true) (length i K : Nat) :
    ∃ s, intToChars i [] chars true length = .ok s ∧ (s.length ≤ K ↔ i ≤ capB chars.length K) ∧ ∀ c ∈ s, c ∈ chars := by
  refine ⟨_, intToChars_ok h i length, ?_, ?_⟩
  · simp only [padS, Bool.true_eq_false, and_false, if_false]
    exact length_D_le h.stepOK h.pos K i
  · exact mem_padS h length i

/-- `spaces=False`: the string has exactly `length` characters when `i < n^length`, and more otherwise. -/
theorem int_to_chars_length_padded {chars : Str} (h : AlphabetOK chars false) (length i : Nat) (hL : 0 < length) :
    ∃ s, intToChars i [] chars false length = .ok s ∧ (i < chars.length ^ length → s.length = length) ∧
      (chars.length ^ length ≤ i → length < s.length) ∧ ∀ c ∈ s, c ∈ chars := by
  refine ⟨_, intToChars_ok h i length, ?_, ?_, mem_padS h length i⟩
  all_goals
    have := length_D_le h.stepOK h.pos length i
    have hp : 0 < chars.length ^ length := Nat.pow_pos h.pos
    have hne : length ≠ 0 := by omega
    simp only [capA, Bool.false_eq_true, if_false] at this
    simp only [padS, hne, ne_eq, not_false_eq_true, and_self, if_true, List.length_append, List.length_replicate]
    intro hk; omega

example : AlphabetOK Gen.Conventions.defaultChars true := ⟨by decide +kernel, by decide +kernel, by decide +kernel⟩
example : AlphabetOK Gen.Conventions.defaultChars false := ⟨by decide +kernel, by decide +kernel, by decide +kernel⟩
example : AlphabetOK ['a', 'b'] false := ⟨by decide +kernel, by decide +kernel, by decide +kernel⟩
example : intToChars 18278 [] Gen.Conventions.defaultChars true 0 = .ok ['z', 'z', 'z'] := by decide +kernel
example : intToChars 5 [] ['a', 'b'] false 4 = .ok ['a', 'b', 'a', 'b'] := by decide +kernel
example : capB 26 3 = 18278 := by decide +kernel

/-! ## `column_/node_/layer_name_from_number`: a name of the convention's length, or the naming error -/

/-- Under every convention: a number up to the capacity gives a name of exactly the convention's
    length made of alphabet characters, blanks or digits; any larger number raises
    `NamingConventionError` — never a truncated or over-long name.  Left or right justified. -/
theorem column_name_from_number_total {conv : Nat} (hconv : conv < 4) {chars : Str} {spaces : Bool}
    (h : AlphabetOK chars spaces) (left : Bool) (k : Nat) :
    (k ≤ columnCapacity conv chars.length spaces →
      ∃ name, columnNameFromNumber conv k left chars spaces = .ok name ∧ name.length = colnameLength conv ∧
        ∀ c ∈ name, NameChar chars c) ∧
    (columnCapacity conv chars.length spaces < k → columnNameFromNumber conv k left chars spaces = .error .naming) :=
  have hg := genSpec_column hconv h left
  ⟨fun hk => ⟨_, hg.ok_iff.mpr ⟨hk, rfl⟩, (hg.wf k hk).safe.len, (hg.wf k hk).chars⟩, fun hk => hg.error_iff.mpr ⟨hk, rfl⟩⟩

theorem node_name_from_number_total {conv : Nat} (hconv : conv < 4) {chars : Str} {spaces : Bool}
    (h : AlphabetOK chars spaces) (left : Bool) (k : Nat) :
    (k ≤ columnCapacity conv chars.length spaces →
      ∃ name, nodeNameFromNumber conv k left chars spaces = .ok name ∧ name.length = colnameLength conv ∧
        ∀ c ∈ name, NameChar chars c) ∧
    (columnCapacity conv chars.length spaces < k → nodeNameFromNumber conv k left chars spaces = .error .naming) :=
  column_name_from_number_total hconv h left k

theorem layer_name_from_number_total {conv : Nat} (hconv : conv < 4) {chars : Str} {spaces : Bool}
    (h : AlphabetOK chars spaces) (left : Bool) (k : Nat) :
    (k ≤ layerCapacity conv chars.length spaces →
      ∃ name, layerNameFromNumber conv k left chars spaces = .ok name ∧ name.length = layernameLength conv ∧
        ∀ c ∈ name, NameChar chars c) ∧
    (layerCapacity conv chars.length spaces < k → layerNameFromNumber conv k left chars spaces = .error .naming) :=
  have hg := genSpec_layer hconv h left
  ⟨fun hk => ⟨_, hg.ok_iff.mpr ⟨hk, rfl⟩, (hg.wf k hk).safe.len, (hg.wf k hk).chars⟩, fun hk => hg.error_iff.mpr ⟨hk, rfl⟩⟩

/-- distinct numbers give distinct names -/
theorem column_name_from_number_injective {conv : Nat} (hconv : conv < 4) {chars : Str} {spaces : Bool}
    (h : AlphabetOK chars spaces) (left : Bool) (k1 k2 : Nat) (name : Str)
    (h1 : columnNameFromNumber conv k1 left chars spaces = .ok name)
    (h2 : columnNameFromNumber conv k2 left chars spaces = .ok name) : k1 = k2 :=
  (genSpec_column hconv h left).inj_ok h1 h2

theorem node_name_from_number_injective {conv : Nat} (hconv : conv < 4) {chars : Str} {spaces : Bool}
    (h : AlphabetOK chars spaces) (left : Bool) (k1 k2 : Nat) (name : Str)
    (h1 : nodeNameFromNumber conv k1 left chars spaces = .ok name)
    (h2 : nodeNameFromNumber conv k2 left chars spaces = .ok name) : k1 = k2 :=
  column_name_from_number_injective hconv h left k1 k2 name h1 h2

theorem layer_name_from_number_injective {conv : Nat} (hconv : conv < 4) {chars : Str} {spaces : Bool}
    (h : AlphabetOK chars spaces) (left : Bool) (k1 k2 : Nat) (name : Str)
    (h1 : layerNameFromNumber conv k1 left chars spaces = .ok name)
    (h2 : layerNameFromNumber conv k2 left chars spaces = .ok name) : k1 = k2 :=
  (genSpec_layer hconv h left).inj_ok h1 h2

-- the capacity limits named in the property: 99 layers, 99 / 999 columns, 26 + 26² + 26³ letter names
example : columnCapacity 0 26 true = 18278 ∧ columnCapacity 3 26 true = 18278 ∧ columnCapacity 0 26 false = 17575 := by decide +kernel
example : columnCapacity 1 26 true = 99 ∧ columnCapacity 2 26 true = 999 := by decide +kernel
example : layerCapacity 0 26 true = 99 ∧ layerCapacity 1 26 true = 18278 ∧ layerCapacity 2 26 true = 702 ∧
    layerCapacity 3 26 false = 675 := by decide +kernel
example : columnNameFromNumber 0 18278 false Gen.Conventions.defaultChars true = .ok ['z', 'z', 'z'] := by decide +kernel
example : columnNameFromNumber 0 18279 false Gen.Conventions.defaultChars true = .error .naming := by decide +kernel
example : columnNameFromNumber 1 99 false Gen.Conventions.defaultChars true = .ok ['9', '9'] ∧
    columnNameFromNumber 1 100 false Gen.Conventions.defaultChars true = .error .naming := by decide +kernel
example : layerNameFromNumber 0 100 true Gen.Conventions.defaultChars true = .error .naming := by decide +kernel

/-! ## `new_dict_key`, `new_node_name`, `new_column_name`: a fresh name, or the naming error -/

/-- The search loop terminates (within `len(d) + 1` steps) and returns a key that is not in `d`,
    the justified `int_to_chars` of the returned index. -/
theorem new_dict_key_fresh {chars : Str} {spaces : Bool} (h : AlphabetOK chars spaces) (d : List Str)
    (istart : Nat) (left : Bool) (length : Nat) :
    ∃ name i s, newDictKey d istart left length chars spaces = .ok (name, i) ∧ name ∉ d ∧
      istart < i ∧ i ≤ istart + d.length + 1 ∧
      intToChars i [] chars spaces length = .ok s ∧ name = just left s length := by
  obtain ⟨j, h1, h2, h3, h4, _⟩ := newDictKey_spec h d istart left length
  exact ⟨_, j, _, h1, h4, h2, h3, intToChars_ok h j length, rfl⟩

/-- `new_node_name` / `new_column_name` return an unused name of the convention's length, or raise
    the naming error — and that only when every name from `istart + 1` up to the capacity is taken. -/
theorem new_node_name_fresh {conv : Nat} {chars : Str} {spaces : Bool} (h : AlphabetOK chars spaces)
    (d : List Str) (istart : Nat) (left : Bool) :
    (∃ name i, newNodeName conv d istart left chars spaces = .ok (name, i) ∧ name ∉ d ∧
        name.length = colnameLength conv ∧ istart < i) ∨
    (newNodeName conv d istart left chars spaces = .error .naming ∧
      ∀ m, istart < m → m ≤ capA chars.length spaces (colnameLength conv) →
        ∃ s, intToChars m [] chars spaces (colnameLength conv) = .ok s ∧ just left s (colnameLength conv) ∈ d) := by
  obtain ⟨j, h1, h2, h3, h4, h5⟩ := newDictKey_spec h d istart left (colnameLength conv)
  have hlen := alphaName_length h left (colnameLength conv) j
  unfold newNodeName
  rw [h1]
  by_cases hj : j ≤ capA chars.length spaces (colnameLength conv)
  · left
    have := hlen.1 hj
    exact ⟨_, j, by simp [this], h4, this, h2⟩
  · right
    have := hlen.2 (by omega)
    refine ⟨by simp [this], fun m hm1 hm2 => ⟨_, intToChars_ok h m _, h5 m hm1 (by omega)⟩⟩

example : newColumnName 0 [[' ', ' ', 'a'], [' ', ' ', 'b']] 0 false Gen.Conventions.defaultChars true =
    .ok ([' ', ' ', 'c'], 3) := by decide +kernel

/-! ## `add_layers`: layer names avoid the surface layer name -/

/-- For `m` layer thicknesses: the result is the surface layer followed by `m` generated names, all
    distinct (so none equals the surface layer name `' 0'` / `'atm'` / `'at'`), each of the
    convention's length; or the naming error.  There is always room for `capacity − 1` layers (one
    number may be skipped because its name is the surface layer's); more than `capacity` raises. -/
theorem add_layers_names {conv : Nat} (hconv : conv < 4) (m : Nat) (left : Bool) {chars : Str} {spaces : Bool}
    (h : AlphabetOK (uniqstring chars) spaces) :
    ((∃ names, addLayers conv m left chars spaces = .ok (surfaceLayerName conv :: names) ∧
        names.length = m ∧ (surfaceLayerName conv :: names).Nodup ∧
        ∀ x ∈ names, x.length = layernameLength conv ∧ ∀ c ∈ x, NameChar (uniqstring chars) c) ∨
      addLayers conv m left chars spaces = .error .naming) ∧
    (m + 1 ≤ layerCapacity conv (uniqstring chars).length spaces → ∃ names, addLayers conv m left chars spaces = .ok names) ∧
    (layerCapacity conv (uniqstring chars).length spaces < m → addLayers conv m left chars spaces = .error .naming) := by
  obtain ⟨h1, h2, h3⟩ := addLayers_spec hconv m left h
  refine ⟨?_, h2, h3⟩
  rcases h1 with ⟨names, a, b, c, d⟩ | h1
  · exact Or.inl ⟨names, a, b, c, fun x hx => ⟨(d x hx).safe.len, (d x hx).chars⟩⟩
  · exact Or.inr h1

-- convention 2 with the lower-case alphabet: number 46 would be 'at', the surface layer; it is skipped
example : (addLayers 2 46 false Gen.Conventions.defaultChars true).map (fun l => (l.take 1, l.drop 45)) =
    .ok ([['a', 't']], [['a', 's'], ['a', 'u']]) := by decide +kernel
example : addLayers 0 100 false Gen.Conventions.defaultChars true = .error .naming := by decide +kernel

/-- what `uniqstring` returns from letters is an alphabet -/
theorem uniqstring_alphabet {chars : Str} {spaces : Bool} (hclean : ∀ c ∈ chars, c ≠ ' ' ∧ isDigit c = false)
    (hsize : if spaces = true then 1 ≤ (uniqstring chars).length else 2 ≤ (uniqstring chars).length) :
    AlphabetOK (uniqstring chars) spaces :=
  ⟨nodup_uniqstring chars, fun c hc => hclean c ((mem_uniqstring chars c).mp hc), hsize⟩

/-! ## `block_name` is invertible -/

/-- a column name the library generates (or the atmosphere column name of the convention) -/
def IsColumnName (conv : Nat) (chars : Str) (spaces : Bool) (col : Str) : Prop :=
  (∃ k left, columnNameFromNumber conv k left chars spaces = .ok col) ∨ col = atmosphereColumnName conv

/-- a layer name the library generates (or the surface layer name of the convention) -/
def IsLayerName (conv : Nat) (chars : Str) (spaces : Bool) (lay : Str) : Prop :=
  (∃ k left, layerNameFromNumber conv k left chars spaces = .ok lay) ∨ lay = surfaceLayerName conv

theorem IsLayerName.safe {conv : Nat} (hconv : conv < 4) {chars : Str} {spaces : Bool} (h : AlphabetOK chars spaces)
    {lay : Str} (hl : IsLayerName conv chars spaces lay) : LaySafe conv lay := by
  rcases hl with ⟨k, left, hk⟩ | rfl
  · exact ((genSpec_layer hconv h left).wf_of_ok hk).safe
  · exact (conv_shapes hconv).surf

theorem IsColumnName.safe {conv : Nat} (hconv : conv < 4) {chars : Str} {spaces : Bool} (h : AlphabetOK chars spaces)
    {col : Str} (hc : IsColumnName conv chars spaces col) : ColSafe conv col := by
  rcases hc with ⟨k, left, hk⟩ | rfl
  · exact ((genSpec_column hconv h left).wf_of_ok hk).safe
  · exact (conv_shapes hconv).atm

/-- Under every convention the block name built from a layer and a column name has five
    characters, and its column part and layer part are exactly the column and the layer
    (`fix_blockname` never fires on generated names). -/
theorem block_name_invertible {conv : Nat} (hconv : conv < 4) {chars : Str} {spaces : Bool}
    (h : AlphabetOK chars spaces) {lay col : Str} (hl : IsLayerName conv chars spaces lay)
    (hc : IsColumnName conv chars spaces col) :
    ∃ b, blockName conv lay col = .ok b ∧ b.length = 5 ∧ columnName conv b = some col ∧ layerName conv b = some lay :=
  ⟨_, blockName_inv hconv (hl.safe hconv h) (hc.safe hconv h)⟩

/-- hence different (layer, column) pairs have different block names -/
theorem block_name_injective {conv : Nat} (hconv : conv < 4) {chars : Str} {spaces : Bool}
    (h : AlphabetOK chars spaces) {lay col lay' col' b : Str}
    (hl : IsLayerName conv chars spaces lay) (hc : IsColumnName conv chars spaces col)
    (hl' : IsLayerName conv chars spaces lay') (hc' : IsColumnName conv chars spaces col')
    (h1 : blockName conv lay col = .ok b) (h2 : blockName conv lay' col' = .ok b) : lay = lay' ∧ col = col' := by
  have s1 := hl.safe hconv h
  have s2 := hc.safe hconv h
  have s3 := hl'.safe hconv h
  have s4 := hc'.safe hconv h
  have e1 := (blockName_inv hconv s1 s2).1.symm.trans h1
  have e2 := (blockName_inv hconv s3 s4).1.symm.trans h2
  exact rawBlockName_inj hconv s1 s2 s3 s4 (Except.ok.inj (e1.trans e2.symm))

example : blockName 0 [' ', '7'] [' ', 'a', 'b'] = .ok [' ', 'a', 'b', ' ', '7'] := by decide +kernel
example : blockName 2 ['a', 't'] [' ', ' ', '0'] = .ok ['a', 't', ' ', ' ', '0'] := by decide +kernel
-- outside the generated names the inverse fails: the digit-blank-digit quirk
example : blockName 0 [' ', '5'] ['a', 'b', '1'] = .ok ['a', 'b', '1', '0', '5'] := by decide +kernel

/-- **Any** geometry (not only rectangular ones) whose layer and column names are distinct names
    of the generators — whatever its surface and for the 3 atmosphere types: `setup_block_name_index`
    yields a duplicate-free list of five-character block names whose parts are the layer and the
    column (or atmosphere column) they were built from. -/
theorem block_name_list_distinct {conv : Nat} (hconv : conv < 4) (atmos : Nat) {chars : Str} {spaces : Bool}
    (h : AlphabetOK chars spaces) {top : Str} {below cols : List Str} (present : Nat → Nat → Bool)
    (hl : ∀ l ∈ top :: below, IsLayerName conv chars spaces l) (hc : ∀ c ∈ cols, IsColumnName conv chars spaces c)
    (hln : (top :: below).Nodup) (hcn : cols.Nodup) :
    ∃ (blocks : List Str) (pairs : List (Str × Str)), blockNameList conv atmos (top :: below) cols present = .ok blocks ∧ blocks.Nodup ∧
      blocks = pairs.map (fun p : Str × Str => rawBlockName conv p.1 p.2) ∧
      ∀ p ∈ pairs, p.1 ∈ top :: below ∧ (p.2 ∈ cols ∨ p.2 = atmosphereColumnName conv) ∧
        (rawBlockName conv p.1 p.2).length = 5 ∧
        columnName conv (rawBlockName conv p.1 p.2) = some p.2 ∧ layerName conv (rawBlockName conv p.1 p.2) = some p.1 := by
  obtain ⟨b1, b2, b3⟩ := blockNameList_spec hconv atmos present (fun l hl' => (hl l hl').safe hconv h)
    (fun c hc' => (hc c hc').safe hconv h) hln hcn
  exact ⟨_, _, b1, b2, rfl, b3⟩

/-! ## every rectangular geometry has distinct, well-formed names -/

/-- Node, column and layer names of `rectangular(…)` (any block counts, the 4 conventions, left or
    right justified, `case` None / lower / upper, spaces allowed or not) are duplicate-free, of the
    convention's length, as many as requested. -/
theorem rectangular_names_distinct {conv : Nat} (hconv : conv < 4) (nx ny nz atmos : Nat) (left : Bool)
    (case : Option Bool) {chars : Str} {spaces : Bool} (present : Nat → Nat → Bool)
    (h : AlphabetOK (uniqstring (applyCase case chars)) spaces) (r : RectNames)
    (hr : rectangular nx ny nz conv atmos left case chars spaces present = .ok r) :
    r.nodes.length = (nx + 1) * (ny + 1) ∧ r.cols.length = nx * ny ∧ r.layers.length = nz + 1 ∧
    r.nodes.Nodup ∧ r.cols.Nodup ∧ r.layers.Nodup ∧
    (∀ x ∈ r.nodes, x.length = colnameLength conv) ∧ (∀ x ∈ r.cols, x.length = colnameLength conv) ∧
    (∀ x ∈ r.layers, x.length = layernameLength conv) := by
  have s := (rectangular_spec hconv nx ny nz atmos left case present rfl h).1 r hr
  exact ⟨s.nNodes, s.nCols, s.nLayers, s.nodesNodup, s.colsNodup, s.layersNodup, s.nodeLen, s.colLen, s.layerLen⟩

/-- `block_name_list` of every rectangular geometry — the 3 atmosphere types, and **any surface**
    (`present l c` says whether column `c` reaches into layer `l`) — has no duplicates; every entry
    has five characters and its column / layer parts are the column (or the atmosphere column) and
    the layer it was built from. -/
theorem rectangular_block_names_distinct {conv : Nat} (hconv : conv < 4) (nx ny nz atmos : Nat) (left : Bool)
    (case : Option Bool) {chars : Str} {spaces : Bool} (present : Nat → Nat → Bool)
    (h : AlphabetOK (uniqstring (applyCase case chars)) spaces) (r : RectNames)
    (hr : rectangular nx ny nz conv atmos left case chars spaces present = .ok r) :
    r.blocks.Nodup ∧
    ∃ pairs : List (Str × Str), r.blocks = pairs.map (fun p => rawBlockName conv p.1 p.2) ∧
      ∀ p ∈ pairs, p.1 ∈ r.layers ∧ (p.2 ∈ r.cols ∨ p.2 = atmosphereColumnName conv) ∧
        (rawBlockName conv p.1 p.2).length = 5 ∧
        columnName conv (rawBlockName conv p.1 p.2) = some p.2 ∧ layerName conv (rawBlockName conv p.1 p.2) = some p.1 := by
  have s := (rectangular_spec hconv nx ny nz atmos left case present rfl h).1 r hr
  exact ⟨s.blocksNodup, s.blocks⟩

/-- `rectangular` fails only with `NamingConventionError`, and only when a name space runs out: it
    succeeds when the `(nx+1)(ny+1)` node numbers and `nz + 1` layer numbers are within capacity, and
    a geometry that is returned has its node numbers within the column capacity and `nz` within the
    layer capacity.  This leaves open `nz` equal to the layer capacity, where the outcome depends on
    whether a number is skipped for having the surface layer's name. -/
theorem rectangular_error_is_naming {conv : Nat} (hconv : conv < 4) (nx ny nz atmos : Nat) (left : Bool)
    (case : Option Bool) {chars : Str} {spaces : Bool} (present : Nat → Nat → Bool)
    (h : AlphabetOK (uniqstring (applyCase case chars)) spaces) :
    (∀ e, rectangular nx ny nz conv atmos left case chars spaces present = .error e → e = .naming) ∧
    ((nx + 1) * (ny + 1) ≤ columnCapacity conv (uniqstring (applyCase case chars)).length spaces →
      nz + 1 ≤ layerCapacity conv (uniqstring (applyCase case chars)).length spaces →
      ∃ r, rectangular nx ny nz conv atmos left case chars spaces present = .ok r) ∧
    (∀ r, rectangular nx ny nz conv atmos left case chars spaces present = .ok r →
      (nx + 1) * (ny + 1) ≤ columnCapacity conv (uniqstring (applyCase case chars)).length spaces ∧
      nz ≤ layerCapacity conv (uniqstring (applyCase case chars)).length spaces) := by
  obtain ⟨s1, s2, s3⟩ := rectangular_spec hconv nx ny nz atmos left case present rfl h
  exact ⟨s2, s3, fun r hr => ⟨(s1 r hr).withinCols, (s1 r hr).withinLayers⟩⟩

/-- letters stay letters under `case`, so the hypothesis is met by any alphabetic `chars` -/
theorem rectangular_alphabet (case : Option Bool) {chars : Str} {spaces : Bool}
    (hclean : ∀ c ∈ chars, c ≠ ' ' ∧ isDigit c = false)
    (hsize : if spaces = true then 1 ≤ (uniqstring (applyCase case chars)).length
             else 2 ≤ (uniqstring (applyCase case chars)).length) :
    AlphabetOK (uniqstring (applyCase case chars)) spaces :=
  uniqstring_alphabet (applyCase_clean case hclean) hsize

example : (rectangular 2 1 2 0 0 false (some false) Gen.Conventions.defaultChars true).map (·.blocks) =
    .ok [['A','T','M',' ','0'], [' ',' ','A',' ','1'], [' ',' ','B',' ','1'], [' ',' ','A',' ','2'], [' ',' ','B',' ','2']] := by
  decide +kernel
example : AlphabetOK (uniqstring (applyCase (some false) Gen.Conventions.defaultChars)) true :=
  rectangular_alphabet _ (by decide +kernel) (by decide +kernel)
example : rectangular 49 1 1 1 0 false none Gen.Conventions.defaultChars true = .error .naming := by decide +kernel

/-! ## the blank-in-fourth-column quirk: `fix_blockname`, `unfix_blockname` -/

/-- Repairing is idempotent — for **all** five-character names (in particular over letters, digits and blanks). -/
theorem fix_idempotent (n : Str) (hn : n.length = 5) :
    ∃ m, fixBlockname n = .ok m ∧ fixBlockname m = .ok m ∧ m.length = 5 := by
  obtain ⟨a, b, c, d, e, h1, h2⟩ := fix_no_blank hn
  exact ⟨_, h1, by rw [fix5, if_neg h2], rfl⟩

/-- Un-repairing returns exactly the name as the simulator prints it. -/
theorem unfix_is_simulator_form (n : Str) (hn : n.length = 5) : unfixBlockname n = simForm n := by
  obtain ⟨a, b, c, d, e, rfl⟩ := len5 hn
  have hb : isDigit ' ' = false := by decide
  rw [unfix5]
  unfold simForm
  by_cases he : isDigit e = true
  · have hne : e ≠ ' ' := by rintro rfl; rw [hb] at he; cases he
    by_cases hd : isDigit d = true
    · have hnd : d ≠ ' ' := by rintro rfl; rw [hb] at hd; cases hd
      have hf : [d, e].filter (· != ' ') = [d, e] := by simp [hnd, hne]
      simp only [he, hd, true_or, and_self, if_true, hf, fmt_two_digits hd he, and_true]
      by_cases h0 : d = '0' <;> simp [h0]
    · have h0 : d ≠ '0' := by rintro rfl; exact hd (by decide)
      by_cases hdb : d = ' '
      · subst hdb
        have hf : [' ', e].filter (· != ' ') = [e] := by simp [hne]
        simp only [he, hf, fmt_one_digit he, h0]
        simp
      · simp [he, hd, hdb, h0]
  · simp [he]

/-- One write (`unfix`) then read (`fix`) cycle of any name reaches a form that further cycles leave unchanged. -/
theorem name_cycle_stabilises (n : Str) (hn : n.length = 5) :
    ∃ c1, fixBlockname (unfixBlockname n) = .ok c1 ∧ c1.length = 5 ∧ fixBlockname (unfixBlockname c1) = .ok c1 := by
  obtain ⟨h1, h2, h3, _⟩ := cycle_ok hn
  exact ⟨_, h1, h2, (cycle_ok h2).1.trans (congrArg _ h3)⟩

/-- … and the written text itself is already stable: writing what was read back gives the same text. -/
theorem unfix_cycle_stabilises (n : Str) (hn : n.length = 5) :
    ∃ c1, fixBlockname (unfixBlockname n) = .ok c1 ∧ unfixBlockname c1 = unfixBlockname n :=
  ⟨_, (cycle_ok hn).1, (cycle_ok hn).2.2.2⟩

example : fixBlockname "ab1 5".toList = .ok "ab105".toList := by decide_lits
example : unfixBlockname "ab105".toList = "ab1 5".toList ∧ simForm "ab105".toList = "ab1 5".toList := by decide_lits
example : unfixBlockname "abc05".toList = "abc 5".toList ∧ fixBlockname "abc 5".toList = .ok "abc 5".toList := by decide_lits
example : unfixBlockname "  a12".toList = "  a12".toList := by decide_lits

end Props.C17
