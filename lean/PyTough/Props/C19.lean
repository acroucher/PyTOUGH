/-
  C19 — Transfers between geometries are total, nearest-based, identity on equal grids.

  Property theorems about the model in `Model/Mapping.lean` of
  `mulgrid.block_mapping` (with `column_mapping`, `layer_mapping`, `column_surface_layer`),
  `t2incon.transfer_from` and the `t2data` generator / rock-type transfer.

  Vocabulary (defined in `Model/Mapping.lean`; `nearestIdx` in `Proofs/MappingNearest.lean`; `mappedBlocks`, `mappedCols`, `insideCols` below):
    `blockMapping q s t`   `s.block_mapping(t, True)`: the block mapping and the column mapping,
                           `s` = geometry mapped FROM, `t` = geometry mapped ONTO;
    `q`                    `cKDTree.query`, a parameter; `IsNearest q` = "returns the index of a
                           point at minimal distance";
    `t.blockNameList`      `t.block_name_list` = `t.atmNames ++ t.underNames`;
    `t.underPairs`         the (layer, column) pairs having a block: `col.surface > layer.bottom`;
    `NearestCol s p C`     `C` is a column of `s` whose centre is nearest to the point `p`;
    `NearestLay L z S`     `S` is a layer among `L` whose centre is nearest to the elevation `z`;
    `s.firstBelow C`       the first layer of `s.layerlist[1:]` whose bottom is below `C.surface`;
    `srcOK`, `tgtOK`       well-formedness of a geometry as Booleans written out in the model (not `geoInv` of C10;
                           no theorem connects the two): atmosphere type ≤ 2, unique names of the convention's
                           lengths, DMPlex order only with 3- or 4-node columns (both); a column, a layer below the
                           atmosphere layer, layer bottoms descending, stored `num_layers` consistent and ≥ 1 (source);
                           an atmosphere layer, and `fix_blockname` leaves alone the name of every layer with every
                           column name and with the atmosphere column name (target);
    `atmOK s t`            NOT (target atmosphere type 0 and source type 1 or 2).
-/
import PyTough.Model.Mapping
import PyTough.Proofs.MappingIdentity
import PyTough.Proofs.MappingIncon
import PyTough.Proofs.MappingGen
import PyTough.Proofs.MappingRefine

namespace Props.C19
open Py Model.Mapping Proofs.Mapping

/-! ### concrete geometries and data used to show that hypotheses are satisfiable -/

/-- two columns, the second with its surface one layer down; three layers below the atmosphere layer -/
def exSrc (atm : Nat) : Geo :=
  { conv := .c0, atm := atm, dmplex := false,
    cols := [⟨[' ', ' ', 'a'], 5, 5, 0, 3, 4, 100⟩, ⟨[' ', ' ', 'b'], 15, 5, -10, 2, 4, 100⟩],
    lays := [⟨[' ', '0'], 0, 0⟩, ⟨[' ', '1'], -10, -5⟩, ⟨[' ', '2'], -20, -15⟩, ⟨[' ', '3'], -30, -25⟩] }

/-- four columns, six thinner layers, naming convention 2 -/
def exTgt (atm : Nat) : Geo :=
  { conv := .c2, atm := atm, dmplex := false,
    cols := [⟨[' ', ' ', '1'], 5/2, 5, 0, 6, 4, 50⟩, ⟨[' ', ' ', '2'], 15/2, 5, 0, 6, 4, 50⟩,
             ⟨[' ', ' ', '3'], 25/2, 5, 0, 6, 4, 50⟩, ⟨[' ', ' ', '4'], 35/2, 5, -5, 5, 4, 50⟩],
    lays := [⟨['a', 't'], 0, 0⟩, ⟨[' ', 'a'], -5, -5/2⟩, ⟨[' ', 'b'], -10, -15/2⟩, ⟨[' ', 'c'], -15, -25/2⟩,
             ⟨[' ', 'd'], -20, -35/2⟩, ⟨[' ', 'e'], -25, -45/2⟩, ⟨[' ', 'f'], -30, -55/2⟩] }

/-- the image of block `k` under a computed block mapping (for the examples) -/
def image (r : Except Exc (Dict Str × Dict Str)) (k : Str) : Option Str :=
  match r with
  | .ok (m, _) => (match dget m k with | .ok v => some v | .error _ => none)
  | .error _ => none

/-- an initial-conditions object over `exSrc`: two variables per block -/
def exInc (atm : Nat) : Incon :=
  match (exSrc atm).blockNameList with
  | .ok names => (enumFrom 0 names).map (fun p => (p.2, ⟨[(p.1 : Rat), 20], none, some p.1⟩))
  | .error _ => []

/-- the heap and the `t2incon` for `exInc` -/
def exHeap (atm : Nat) : Heap := (exInc atm).map (fun p => ⟨p.1, p.2⟩)
def exSrcInc (atm : Nat) : InconH := (enumFrom 0 (exInc atm)).map (fun x => (x.2.1, x.1))

/-- block volumes: 1000 in `exSrc 2`, 125 in `exTgt 2` -/
def exSVol : Dict Rat := match (exSrc 2).blockNameList with | .ok ns => ns.map (fun n => (n, 1000)) | .error _ => []
def exTGrid : List (Str × Rat) := match (exTgt 2).blockNameList with | .ok ns => ns.map (fun n => (n, 125)) | .error _ => []
/-- two interior generators WITH THE SAME NAME (blocks '  a 2', '  b 3') and a top generator on column 'b' -/
def exGens2 : List Gen :=
  [⟨[' ', ' ', 'a', 'w', 'l'], [' ', ' ', 'a', ' ', '2'], ['M', 'A', 'S', 'S'], none, some 8, none⟩,
   ⟨[' ', ' ', 'a', 'w', 'l'], [' ', ' ', 'b', ' ', '3'], ['M', 'A', 'S', 'S'], none, some 8, none⟩,
   ⟨[' ', ' ', 'b', '9', '9'], [' ', ' ', 'b', ' ', '2'], ['H', 'E', 'A', 'T'], none, some 6, none⟩]

/-! ### evaluations shared by several examples

  Examples that run the same call are evaluated together: within one evaluation the kernel computes the
  block mapping once.  `nearestIdx` is the same function as `nearestFirst`
  (`Proofs.Mapping.nearestIdx_eq_nearestFirst`): the examples about it are the same evaluations. -/

/-- the decidable hypotheses (`srcOK`, `tgtOK`, distinct centres) on the example geometries -/
private theorem ex_ok :
    (∀ a ∈ [0, 1, 2], srcOK (exSrc a) = true ∧ tgtOK (exSrc a) = true ∧ distinctCentres (exSrc a) = true) ∧
    tgtOK (exTgt 0) = true ∧ tgtOK (exTgt 1) = true ∧ srcOK (exTgt 1) = true ∧ distinctCentres (exTgt 1) = true := by
  decide +kernel

/-- `exSrc 2` onto `exTgt 2`: the block mapping and two generator transfers -/
private theorem ex_run_2_2 :
    image (blockMapping nearestFirst (exSrc 2) (exTgt 2)) [' ', 'a', ' ', ' ', '3'] = some [' ', ' ', 'b', ' ', '2'] ∧
    image (blockMapping nearestFirst (exSrc 2) (exTgt 2)) [' ', 'a', ' ', ' ', '1'] = some [' ', ' ', 'a', ' ', '1'] ∧
    (match transferGenerators nearestFirst exGens2 (exSrc 2) (exTgt 2) exSVol exTGrid [true, true, true, true]
        [['9', '9']] [['9', '8']] [] [] false true with
      | .ok outs => outs.map (fun o => (o.src, o.block, o.gx))
      | .error _ => []) =
      [(0, [' ', 'c', ' ', ' ', '1'], some 2), (0, [' ', 'c', ' ', ' ', '2'], some 2),
       (0, [' ', 'd', ' ', ' ', '1'], some 2), (0, [' ', 'd', ' ', ' ', '2'], some 2),
       (1, [' ', 'e', ' ', ' ', '3'], some 2), (1, [' ', 'e', ' ', ' ', '4'], some 2),
       (1, [' ', 'f', ' ', ' ', '3'], some 2), (1, [' ', 'f', ' ', ' ', '4'], some 2),
       (2, [' ', 'a', ' ', ' ', '3'], some 3), (2, [' ', 'b', ' ', ' ', '4'], some 3)] ∧
    (transferGenerators nearestFirst exGens2 (exSrc 2) (exTgt 2) exSVol exTGrid [true, true, true, true]
      [['9', '9']] [['9', '8']] [] [] true false).toBool = true := by
  decide +kernel

/-- `exSrc 1` onto `exTgt 1`: the block mapping and both models of `transfer_from` -/
private theorem ex_run_1_1 :
    image (blockMapping nearestFirst (exSrc 1) (exTgt 1)) ['a', 't', ' ', ' ', '4'] = some [' ', ' ', 'b', ' ', '0'] ∧
    (match transferFrom nearestFirst (exInc 1) (exSrc 1) (exTgt 1) [] [] with
      | .ok res => (dget res ['a', 't', ' ', ' ', '4']).toOption.map (·.vars)
      | .error _ => none) = some [1, 20] ∧
    (transferFrom nearestFirst (exInc 1) (exSrc 1) (exTgt 1) [] []).toBool = true ∧
    (transferFromH nearestFirst (exHeap 1) (exSrcInc 1) (exSrc 1) (exTgt 1) [] []).toBool = true := by
  decide +kernel

/-! ### the nearest-centre search -/

/-- The executable stand-in for `cKDTree.query` used by the driver satisfies the
    specification assumed of the real one. -/
theorem nearestFirst_is_nearest : IsNearest nearestFirst := by
  intro pts p hne
  obtain ⟨i, y, hi, hy, hmin, _⟩ := argminFirst_map (fun x => sqDist x p) pts hne
  unfold nearestFirst
  rw [hi]
  exact ⟨y, hy, hmin⟩

/-! ### totality and existence in the source (7 of the 9 atmosphere combinations)

  PARTIAL: the full statement quantifies over all nine combinations of atmosphere type.
  It is false for source type 1 or 2 onto target type 0 (the code raises KeyError: theorems
  `block_mapping_keyerror_*` below; a known finding about the code, which the model follows).  The
  hypothesis `atmOK` excludes exactly these two combinations. -/

/-- `block_mapping` returns; every target block name is a key; every underground target
    block is mapped to a block of the source's `block_name_list` (an underground one); every
    atmosphere target block is mapped to an atmosphere block of the source when the source
    has any (type 0 or 1); every target column is mapped to a source column. -/
theorem block_mapping_total_partial (q : List (Rat × Rat) → Rat × Rat → Nat) (hq : IsNearest q) (s t : Geo)
    (hs : srcOK s = true) (ht : tgtOK t = true) (ha : atmOK s t = true) :
    ∃ m cm tnames snames,
      blockMapping q s t = .ok (m, cm) ∧ t.blockNameList = .ok tnames ∧ s.blockNameList = .ok snames ∧
      (∀ d ∈ tnames, ∃ v, dget m d = .ok v) ∧
      (∀ un, t.underNames = .ok un → ∀ d ∈ un, ∃ v, dget m d = .ok v ∧ v ∈ snames ∧
          ∃ sun, s.underNames = .ok sun ∧ v ∈ sun) ∧
      (∀ an, t.atmNames = .ok an → s.atm ≤ 1 → ∀ d ∈ an, ∃ v, dget m d = .ok v ∧ v ∈ snames ∧
          ∃ san, s.atmNames = .ok san ∧ v ∈ san) ∧
      (∀ c ∈ t.cols, ∃ C ∈ s.cols, dget cm c.name = .ok C.name) := by
  obtain ⟨m, cm, g0, s0, an, un, san, sun, M⟩ := mapped_of_ok q hq s t hs ht ha
  have hT := M.tnames
  have hS := M.snames
  -- atmosphere blocks
  have hA : ∀ d ∈ an, ∃ v, dget m d = .ok v ∧ (s.atm ≤ 1 → v ∈ san) := by
    intro d hd
    rw [M.atm_names] at hd
    obtain ⟨cn, hcn, rfl⟩ := List.mem_map.mp hd
    obtain ⟨_, v, _, _, h3, h4⟩ := M.atm cn hcn
    exact ⟨v, h4, h3⟩
  refine ⟨m, cm, an ++ un, san ++ sun, M.run, hT.all, hS.all, ?_, ?_, ?_, ?_⟩
  · intro d hd
    rcases List.mem_append.mp hd with hd | hd
    · obtain ⟨v, hv, _⟩ := hA d hd; exact ⟨v, hv⟩
    · obtain ⟨v, _, hv⟩ := M.under_name d hd; exact ⟨v, hv⟩
  · intro un' hun' d hd
    rw [hT.under] at hun'; cases hun'
    obtain ⟨v, h2, h1⟩ := M.under_name d hd
    exact ⟨v, h1, List.mem_append_right _ h2, sun, hS.under, h2⟩
  · intro an' han' hle d hd
    rw [hT.atm] at han'; cases han'
    obtain ⟨v, h1, h2⟩ := hA d hd
    exact ⟨v, h1, List.mem_append_left _ (h2 hle), san, hS.atm, h2 hle⟩
  · intro c hc
    obtain ⟨C, hC, hget⟩ := M.cols c hc
    exact ⟨C, hC.1, hget⟩

example : srcOK (exSrc 1) = true ∧ tgtOK (exTgt 1) = true ∧ atmOK (exSrc 1) (exTgt 1) = true :=
  ⟨(ex_ok.1 1 (by decide)).1, ex_ok.2.2.1, rfl⟩
example : srcOK (exSrc 0) = true ∧ tgtOK (exTgt 0) = true ∧ atmOK (exSrc 0) (exTgt 0) = true :=
  ⟨(ex_ok.1 0 (by decide)).1, ex_ok.2.1, rfl⟩
example : srcOK (exSrc 2) = true ∧ tgtOK (exTgt 1) = true ∧ atmOK (exSrc 2) (exTgt 1) = true :=
  ⟨(ex_ok.1 2 (by decide)).1, ex_ok.2.2.1, rfl⟩

/-! ### which block: nearest column, nearest layer, moved down below the surface -/

/-- For every underground target block (layer `l`, column `c`): the image is the block of a
    source column `C` with nearest centre and of the layer `L'`, where `S` is a source layer
    (below the atmosphere layer) with nearest centre and `L'` is `S` itself, or the column's
    first layer below ground exactly when `C`'s surface is at or below the bottom of `S`
    (the block (S, C) would be above the surface); that block exists in the source.
    The column mapping returned alongside maps every target column to a nearest column.
    (PARTIAL only through `atmOK`, as above: in the two excluded combinations nothing is returned.) -/
theorem block_mapping_spec_partial (q : List (Rat × Rat) → Rat × Rat → Nat) (hq : IsNearest q) (s t : Geo)
    (hs : srcOK s = true) (ht : tgtOK t = true) (ha : atmOK s t = true) :
    ∃ m cm, blockMapping q s t = .ok (m, cm) ∧
      (∀ c ∈ t.cols, ∃ C, NearestCol s c.centre C ∧ dget cm c.name = .ok C.name) ∧
      ∀ l c, (l, c) ∈ t.underPairs →
        ∃ C S L', NearestCol s c.centre C ∧ NearestLay (s.lays.drop 1) l.centre S ∧
          (if C.surface ≤ S.bottom then s.firstBelow C = some L' else L' = S) ∧
          (L', C) ∈ s.underPairs ∧
          ∃ d v, blockName t.conv l.name c.name = .ok d ∧ blockName s.conv L'.name C.name = .ok v ∧
            dget m d = .ok v := by
  obtain ⟨m, cm, _, _, _, _, _, _, M⟩ := mapped_of_ok q hq s t hs ht ha
  refine ⟨m, cm, M.run, M.cols, ?_⟩
  intro l c hp
  obtain ⟨C, S, L', v, h1, h2, h3, h4, h5, h6⟩ := M.under l c hp
  exact ⟨C, S, L', h1, h2, h3, h4, _, v, tgt_under_name M.tgt hp, h5, h6⟩

-- the above-surface correction at work: target block (layer ' a', column 3) lies nearest source column
-- 'b', whose surface (-10) is at the bottom of the nearest layer ' 1': the image is '  b 2'
example : image (blockMapping nearestFirst (exSrc 2) (exTgt 2)) [' ', 'a', ' ', ' ', '3'] = some [' ', ' ', 'b', ' ', '2'] :=
  ex_run_2_2.1
example : image (blockMapping nearestFirst (exSrc 2) (exTgt 2)) [' ', 'a', ' ', ' ', '1'] = some [' ', ' ', 'a', ' ', '1'] :=
  ex_run_2_2.2.1

/-- Atmosphere blocks.  Target type 0 (then the source is type 0 too): the single atmosphere
    block goes to the source's single atmosphere block.  Target type 1: the block over column
    `c` goes to the source's single atmosphere block (source type 0), else to the block of the
    source's atmosphere layer over a nearest column `C` — the source's atmosphere block there
    when the source is type 1. -/
theorem block_mapping_atmosphere_partial (q : List (Rat × Rat) → Rat × Rat → Nat) (hq : IsNearest q) (s t : Geo)
    (hs : srcOK s = true) (ht : tgtOK t = true) (ha : atmOK s t = true) :
    ∃ m cm g0 s0, blockMapping q s t = .ok (m, cm) ∧ t.lays.head? = some g0 ∧ s.lays.head? = some s0 ∧
      (t.atm = 0 → s.atm = 0 ∧ ∃ d v, t.atmNames = .ok [d] ∧ s.atmNames = .ok [v] ∧ dget m d = .ok v) ∧
      (t.atm = 1 → ∀ c ∈ t.cols, ∃ C, NearestCol s c.centre C ∧
          ∃ d v, blockName t.conv g0.name c.name = .ok d ∧
            blockName s.conv s0.name (if s.atm = 0 then atmColName s.conv else C.name) = .ok v ∧
            dget m d = .ok v) := by
  obtain ⟨m, cm, g0, s0, an, un, san, sun, M⟩ := mapped_of_ok q hq s t hs ht ha
  refine ⟨m, cm, g0, s0, M.run, by rw [M.tlays]; rfl, by rw [M.slays]; rfl, ?_, ?_⟩
  · intro h0
    obtain ⟨hsa, v, _, hta, hsan, hget⟩ := M.atm_single h0
    exact ⟨hsa, _, v, hta, hsan, hget⟩
  · intro h1 c hc
    obtain ⟨sc, v, hsc, hv, _, hget⟩ := M.atm c.name (atmCols_one h1 ▸ List.mem_map_of_mem hc)
    obtain ⟨C, hC, hdc⟩ := M.cols c hc
    cases Except.ok.inj (hsc.symm.trans hdc)
    exact ⟨C, hC, _, v, tgt_atm_name M.tgt M.tlays (colName_mem hc), hv, hget⟩

example : image (blockMapping nearestFirst (exSrc 1) (exTgt 1)) ['a', 't', ' ', ' ', '4'] = some [' ', ' ', 'b', ' ', '0'] :=
  ex_run_1_1.1
example : image (blockMapping nearestFirst (exSrc 0) (exTgt 1)) ['a', 't', ' ', ' ', '4'] = some ['A', 'T', 'M', ' ', '0'] := by decide +kernel

/-! ### identity -/

/-- Mapping a geometry (pairwise distinct column centres and underground layer centres) onto itself is
    the identity on every block name and every column name — for all three atmosphere types
    (no exclusion: equal types are never one of the failing combinations). -/
theorem block_mapping_identity (q : List (Rat × Rat) → Rat × Rat → Nat) (hq : IsNearest q) (g : Geo)
    (hs : srcOK g = true) (ht : tgtOK g = true) (hd : distinctCentres g = true) :
    ∃ m cm names, blockMapping q g g = .ok (m, cm) ∧ g.blockNameList = .ok names ∧
      (∀ d ∈ names, dget m d = .ok d) ∧ (∀ c ∈ g.cols, dget cm c.name = .ok c.name) :=
  Proofs.Mapping.identity q hq g hs ht hd

example : srcOK (exSrc 0) = true ∧ tgtOK (exSrc 0) = true ∧ distinctCentres (exSrc 0) = true := ex_ok.1 0 (by decide)
example : srcOK (exTgt 1) = true ∧ tgtOK (exTgt 1) = true ∧ distinctCentres (exTgt 1) = true :=
  ⟨ex_ok.2.2.2.1, ex_ok.2.2.1, ex_ok.2.2.2.2⟩

/-! ### the known defect: the two failing combinations -/

/-- witness: one atmosphere block per column in the source, a single one in the target -/
theorem block_mapping_keyerror_src1_tgt0 : blockMapping nearestFirst (exSrc 1) (exTgt 0) = .error .keyError := by
  decide +kernel

/-- witness: no atmosphere blocks in the source, a single one in the target -/
theorem block_mapping_keyerror_src2_tgt0 : blockMapping nearestFirst (exSrc 2) (exTgt 0) = .error .keyError := by
  decide +kernel

/-- In general: for well-formed geometries, a target with a single atmosphere block and a
    source with none or with one per column ALWAYS make `block_mapping` raise KeyError (provided no
    target column happens to be called like the atmosphere column): the hypothesis `atmOK` of the
    theorems above excludes nothing that works. -/
theorem block_mapping_keyerror_general (q : List (Rat × Rat) → Rat × Rat → Nat) (hq : IsNearest q) (s t : Geo)
    (hs : srcOK s = true) (ht : tgtOK t = true) (h0 : t.atm = 0) (hsa : s.atm ≠ 0)
    (hnc : ∀ c ∈ t.cols, c.name ≠ atmColName t.conv) :
    blockMapping q s t = .error .keyError :=
  blockMapping_keyError q hq s t (srcWF_of hs) (tgtWF_of ht) h0 hsa hnc

example : srcOK (exSrc 1) = true ∧ tgtOK (exTgt 0) = true ∧ (exTgt 0).atm = 0 ∧ (exSrc 1).atm ≠ 0 ∧
    ∀ c ∈ (exTgt 0).cols, c.name ≠ atmColName (exTgt 0).conv :=
  ⟨(ex_ok.1 1 (by decide)).1, ex_ok.2.1, rfl, by decide, by decide +kernel⟩

/-! ### transferring initial conditions (`t2incon.transfer_from`)

  `transferFrom q src s t mapping colmapping` is the new contents of the receiving object:
  a dict from block names to states (`IncVal`: variables, porosity, and a tag standing for the
  attributes `copy()` carries along).  `effectiveMaps` are the mappings used: the ones passed in,
  or those of `block_mapping` when either is empty.  This model is functional, so the clause
  "without altering the source" cannot be said of it: for that clause the method is modelled a second time, on an
  object heap (`transferFromH`: `incon_transfer_source_unaltered`, `incon_heap_model_agrees`); on the real code the oracle
  compares the source before and after on every run. -/

/-- Every underground target block receives exactly the state of its mapped source block —
    whenever the call returns; any number of variables; mappings passed in or computed. -/
theorem incon_transfer_underground (q : List (Rat × Rat) → Rat × Rat → Nat) (src : Incon) (s t : Geo)
    (mp cmp : Dict Str) (res : Incon) (h : transferFrom q src s t mp cmp = .ok res) :
    ∃ m cm names na, effectiveMaps q s t mp cmp = .ok (m, cm) ∧ t.blockNameList = .ok names ∧
      t.numAtmBlocks = .ok na ∧
      ∀ blk ∈ names.drop na, ∃ sb v, dget m blk = .ok sb ∧ dget src sb = .ok v ∧ dget res blk = .ok v := by
  obtain ⟨m, cm, atmPart, names, na, ps, h1, _, h3, h4, h5, rfl⟩ := transferFrom_inv h
  refine ⟨m, cm, names, na, h1, h3, h4, ?_⟩
  intro blk hblk
  obtain ⟨p, _, hf⟩ := mapE_mem_left h5 blk hblk
  obtain ⟨_, sb, hsb, hv⟩ := incUnder_inv hf
  exact ⟨sb, p.2, hsb, hv, dget_foldl_mapE h5 id (fun b _ p' h' => (incUnder_inv h').1) (fun _ _ _ _ e => e)
    atmPart hblk hf⟩

example : (transferFrom nearestFirst (exInc 1) (exSrc 1) (exTgt 1) [] []).toBool = true := ex_run_1_1.2.2.1
-- the block over target column 4 gets the state of the source's atmosphere block over column 'b' (block number 1)
example : (match transferFrom nearestFirst (exInc 1) (exSrc 1) (exTgt 1) [] [] with
    | .ok res => (dget res ['a', 't', ' ', ' ', '4']).toOption.map (·.vars)
    | .error _ => none) = some [1, 20] := ex_run_1_1.2.1

/-- Target with a single atmosphere block: it receives the first source state (source type 0:
    the source's own atmosphere block), the average over the source's per-column atmosphere
    blocks (type 1), or the default state `[1.013e5, 20]` (source without atmosphere). -/
theorem incon_transfer_atmosphere_single (q : List (Rat × Rat) → Rat × Rat → Nat) (src : Incon) (s t : Geo)
    (mp cmp : Dict Str) (res : Incon) (ht : tgtOK t = true) (h0 : t.atm = 0)
    (h : transferFrom q src s t mp cmp = .ok res) :
    ∃ atmblk, t.atmNames = .ok [atmblk] ∧
      (s.atm = 0 → ∃ v, firstInc src = .ok v ∧ dget res atmblk = .ok v) ∧
      (s.atm = 1 → ∃ v, atmAverage s src = .ok v ∧ dget res atmblk = .ok v) ∧
      (s.atm ≠ 0 → s.atm ≠ 1 → dget res atmblk = .ok defaultAtm) := by
  have htw := tgtWF_of ht
  obtain ⟨g0, grest, hg⟩ := htw.lays
  obtain ⟨m, cm, atmPart, _, hatm, han0, hkey⟩ := incon_atm_key htw hg h
  have hk := hkey _ (List.mem_cons_self ..)
  refine ⟨_, han0 h0, ?_⟩
  unfold transferAtm at hatm
  simp only [if_pos h0, lay0_eq hg, tgt_atm_name htw hg (List.mem_cons_self ..)] at hatm
  split at hatm
  · cases hatm
  · rename_i v hv
    cases hatm
    rw [dget_single] at hk
    refine ⟨fun hs0 => ?_, fun hs1 => ?_, fun hn0 hn1 => ?_⟩
    · rw [if_pos hs0] at hv; exact ⟨v, hv, hk⟩
    · have hs0 : ¬ s.atm = 0 := by omega
      rw [if_neg hs0, if_pos hs1] at hv; exact ⟨v, hv, hk⟩
    · rw [if_neg hn0, if_neg hn1] at hv; cases hv; exact hk

/-- what "average" is: with a state of the same length over every source column, the
    componentwise sum divided by the number of columns, as a fresh object (no porosity) -/
theorem incon_average_value (s : Geo) (src : Incon) (first : IncVal) (vss : List (List Rat))
    (hfirst : firstInc src = .ok first) (hcols : mapE (atmColVars s src) s.cols = .ok vss)
    (hlen : ∀ v ∈ vss, v.length = first.vars.length) (hne : s.cols ≠ []) :
    atmAverage s src = .ok ⟨(vss.foldl (List.zipWith (· + ·)) (List.replicate first.vars.length 0)).map
        (· / (s.cols.length : Rat)), none, none⟩ := by
  unfold atmAverage
  rw [hfirst]
  simp only
  rw [foldE_avg _ hcols (by simpa using hlen)]
  simp only
  have : s.cols.isEmpty = false := by
    cases hc : s.cols with
    | nil => exact absurd hc hne
    | cons a b => rfl
  simp [this]

-- averaging is reachable only with the mappings passed in (block_mapping itself fails for 1 -> 0):
-- the two atmosphere states [0, 20] and [1, 20] of `exInc 1` average to [1/2, 20]
example : atmAverage (exSrc 1) (exInc 1) = .ok ⟨[1/2, 20], none, none⟩ := by decide +kernel

/-- Target with an atmosphere block over each column: the block over column `c` receives the
    first source state (source type 0), the state of the source's atmosphere block over the
    column `c` is mapped to (type 1), or the default state (source without atmosphere). -/
theorem incon_transfer_atmosphere_percolumn (q : List (Rat × Rat) → Rat × Rat → Nat) (src : Incon) (s t : Geo)
    (mp cmp : Dict Str) (res : Incon) (ht : tgtOK t = true) (h1 : t.atm = 1)
    (h : transferFrom q src s t mp cmp = .ok res) :
    ∃ m cm g0, effectiveMaps q s t mp cmp = .ok (m, cm) ∧ t.lay0 = .ok g0 ∧
      ∀ c ∈ t.cols, ∃ blk, blockName t.conv g0.name c.name = .ok blk ∧
        (s.atm = 0 → ∃ v, firstInc src = .ok v ∧ dget res blk = .ok v) ∧
        (s.atm = 1 → ∃ mc s0 old v, dget cm c.name = .ok mc ∧ s.lay0 = .ok s0 ∧
            blockName s.conv s0.name mc = .ok old ∧ dget src old = .ok v ∧ dget res blk = .ok v) ∧
        (s.atm ≠ 0 → s.atm ≠ 1 → dget res blk = .ok defaultAtm) := by
  have htw := tgtWF_of ht
  obtain ⟨g0, grest, hg⟩ := htw.lays
  obtain ⟨m, cm, atmPart, hmaps, hatm, _, hkey⟩ := incon_atm_key htw hg h
  refine ⟨m, cm, g0, hmaps, lay0_eq hg, ?_⟩
  intro c hc
  refine ⟨_, tgt_atm_name htw hg (colName_mem hc), ?_⟩
  have h0 : ¬ t.atm = 0 := by omega
  unfold transferAtm at hatm
  rw [if_neg h0, if_pos h1] at hatm
  split at hatm
  · cases hatm
  · rename_i ps hps
    cases hatm
    rw [hkey _ (colName_mem hc)]
    refine ⟨fun hs0 => ?_, fun hs1 => ?_, fun hn0 hn1 => ?_⟩
    · rw [if_pos hs0] at hps
      obtain ⟨p, hf, hget⟩ := atmLoop_get htw hg (fun _ _ hf => (atmBroadcast_inv hf).1) hps hc
      exact ⟨p.2, (atmBroadcast_inv hf).2, hget⟩
    · have hs0 : ¬ s.atm = 0 := by omega
      rw [if_neg hs0, if_pos hs1] at hps
      obtain ⟨p, hf, hget⟩ := atmLoop_get htw hg (fun _ _ hf => (atmPerColumn_inv hf).1) hps hc
      obtain ⟨_, mc, s0, old, hmc, hs0', hold, hv⟩ := atmPerColumn_inv hf
      exact ⟨mc, s0, old, p.2, hmc, hs0', hold, hv, hget⟩
    · rw [if_neg hn0, if_neg hn1] at hps
      obtain ⟨p, hf, hget⟩ := atmLoop_get htw hg (fun _ _ hf => (atmDefaultCol_inv hf).1) hps hc
      rw [hget, (atmDefaultCol_inv hf).2]

/-- The transfer with computed mappings returns and gives every target block a state, when the
    source object has a state for every source block.  PARTIAL through `atmOK` only: for source
    type 1 or 2 onto target type 0 `block_mapping` raises (known finding) and so does this. -/
theorem incon_transfer_total_partial (q : List (Rat × Rat) → Rat × Rat → Nat) (hq : IsNearest q)
    (src : Incon) (s t : Geo)
    (hs : srcOK s = true) (ht : tgtOK t = true) (ha : atmOK s t = true) (hne : src ≠ [])
    (hcover : ∀ snames, s.blockNameList = .ok snames → ∀ n ∈ snames, ∃ v, dget src n = .ok v) :
    ∃ res tnames, transferFrom q src s t [] [] = .ok res ∧ t.blockNameList = .ok tnames ∧
      ∀ d ∈ tnames, ∃ v, dget res d = .ok v := by
  obtain ⟨m, cm, g0', s0', an, un, san, sun, M⟩ := mapped_of_ok q hq s t hs ht ha
  have htw := M.tgt
  have hg := M.tlays
  have hT := M.tnames
  obtain ⟨na, hna, hdrop, hnot, _⟩ := tgt_names_split htw hg hT
  have han := M.atm_names
  have hcov := hcover _ M.snames.all
  obtain ⟨f, hf⟩ : ∃ f, firstInc src = .ok f := by
    cases src with
    | nil => exact absurd rfl hne
    | cons p ps => exact ⟨p.2, rfl⟩
  have hl0 := lay0_eq hg
  have hsl0 := lay0_eq M.slays
  -- the atmosphere part succeeds, and holds a state for every atmosphere block
  obtain ⟨atmPart, hatmPart, hkeys⟩ : ∃ atmPart, transferAtm src s t cm = .ok atmPart ∧
      ∀ cn ∈ atmCols t, ∃ v, dget atmPart (rawName t.conv g0'.name cn) = .ok v := by
    unfold transferAtm
    by_cases h0 : t.atm = 0
    · simp only [if_pos h0, hl0, tgt_atm_name htw hg (List.mem_cons_self ..), if_pos (M.atmSrc h0), hf]
      refine ⟨_, rfl, fun cn hcn => ?_⟩
      rw [atmCols_zero h0, List.mem_singleton] at hcn
      exact ⟨f, hcn ▸ dget_single _ f⟩
    · by_cases h1 : t.atm = 1
      · simp only [if_neg h0, if_pos h1]
        -- each loop body returns, and files its pair under the name of the column's atmosphere block
        have hall : ∀ c ∈ t.cols, ∃ v, (if s.atm = 0 then atmBroadcast t src
            else if s.atm = 1 then atmPerColumn s t src cm else atmDefaultCol t) c
              = .ok (rawName t.conv g0'.name c.name, v) := by
          intro c hc
          have hnm := tgt_atm_name htw hg (colName_mem hc)
          by_cases hs0a : s.atm = 0
          · rw [if_pos hs0a]; unfold atmBroadcast; simp only [hl0, hnm, hf]; exact ⟨_, rfl⟩
          · by_cases hs1a : s.atm = 1
            · rw [if_neg hs0a, if_pos hs1a]
              obtain ⟨sc, old, hsc, hold, hmem, _⟩ := M.atm c.name (atmCols_one h1 ▸ List.mem_map_of_mem hc)
              rw [if_neg hs0a] at hold
              obtain ⟨v, hv⟩ := hcov old (List.mem_append_left _ (hmem (by omega)))
              unfold atmPerColumn
              simp only [hsc, hsl0, hold, hl0, hnm, hv]
              exact ⟨_, rfl⟩
            · rw [if_neg hs0a, if_neg hs1a]; unfold atmDefaultCol; simp only [hl0, hnm]; exact ⟨_, rfl⟩
        obtain ⟨ps, hps⟩ := mapE_ok_of_each _ _ fun c hc => let ⟨v, hv⟩ := hall c hc; ⟨_, hv⟩
        rw [hps]
        refine ⟨_, rfl, fun cn hcn => ?_⟩
        rw [atmCols_one h1] at hcn
        obtain ⟨c, hc, rfl⟩ := List.mem_map.mp hcn
        obtain ⟨p, hp, hfp⟩ := mapE_mem_left hps c hc
        obtain ⟨v, hv⟩ := hall c hc
        rw [hv] at hfp
        obtain ⟨p', _, _, hd⟩ := dget_dictOf_mem ps _ ⟨p, hp, congrArg Prod.fst (Except.ok.inj hfp).symm⟩
        exact ⟨p'.2, hd⟩
      · simp only [if_neg h0, if_neg h1]
        exact ⟨_, rfl, fun cn hcn => by rw [atmCols, if_neg h0, if_neg h1] at hcn; cases hcn⟩
  -- the underground part succeeds
  have hU : ∀ d ∈ un, ∃ b, incUnder src m d = .ok b := by
    intro d hd
    obtain ⟨v, hv, hget⟩ := M.under_name d hd
    obtain ⟨w, hw⟩ := hcov v (List.mem_append_right _ hv)
    unfold incUnder
    simp only [hget, hw]
    exact ⟨_, rfl⟩
  obtain ⟨ps, hps⟩ := mapE_ok_of_each _ _ hU
  have hkey : ∀ p ∈ ps, p.1 ∈ un := fun p hp => by
    obtain ⟨blk, hblk, hf⟩ := mapE_mem_right hps p hp
    exact (incUnder_inv hf).1 ▸ hblk
  refine ⟨ps.foldl (fun d p => dset d p.1 p.2) atmPart, an ++ un, ?_, hT.all, fun d hd => ?_⟩
  · unfold transferFrom
    rw [effectiveMaps_nil, M.run]
    simp only [hatmPart, hT.all, hna, hdrop, hps]
  by_cases hdu : d ∈ un
  · obtain ⟨p, _, hp⟩ := mapE_mem_left hps d hdu
    exact ⟨p.2, dget_foldl_mapE hps id (fun b _ p' h' => (incUnder_inv h').1) (fun _ _ _ _ e => e) atmPart hdu hp⟩
  · -- an atmosphere block: no underground block has its name, so what the atmosphere part filed is still there
    have hda : d ∈ an := (List.mem_append.mp hd).resolve_right hdu
    rw [han] at hda
    obtain ⟨cn, hcn, rfl⟩ := List.mem_map.mp hda
    rw [dget_foldl_none ps _ (rawName t.conv g0'.name cn) fun p hp hpk =>
      hnot cn (atmCols_sub hcn) (hpk ▸ hkey p hp)]
    exact hkeys cn hcn

/-! ### ... without altering the source

  For this clause the same method is modelled on an object heap (`transferFromH`): a
  `t2blockincon` is an object with a `block` attribute, `copy()` allocates a new object,
  `self[key] = value` sets `value.block = key` (the only mutation the method performs) and files
  the object under `key`.  `h` is the heap before the call (it contains the source's objects),
  `src` the source `t2incon` (names → object ids). -/

/-- Whenever the call returns: every object that existed before the call — in particular every
    `t2blockincon` of the source — is unchanged, and every object held by the receiving
    `t2incon` is a new one (nothing is shared with the source at the level of these objects;
    `copy()` being shallow, the variable lists are shared — not modelled). -/
theorem incon_transfer_source_unaltered (q : List (Rat × Rat) → Rat × Rat → Nat) (h : Heap) (src : InconH)
    (s t : Geo) (mp cmp : Dict Str) (h' : Heap) (self' : InconH)
    (hr : transferFromH q h src s t mp cmp = .ok (h', self')) :
    h.length ≤ h'.length ∧ (∀ i, i < h.length → h'[i]? = h[i]?) ∧ ∀ p ∈ self', h.length ≤ p.2 := by
  unfold transferFromH at hr
  split at hr
  · cases hr
  simp only [Heap.alloc] at hr
  ok_inv hr
  -- `Inv` over `h` itself (not over `baseHeap h` as in `transferAtmH_refines`): nothing is assumed about the ids in `src`
  have hk0 : Inv h.length h (h ++ [⟨[], defaultAtm⟩], []) :=
    ⟨by simp, fun i hi => List.getElem?_append_left hi, fun p hp => by cases hp⟩
  have hk := Proofs.foldlM_inv (Inv h.length h) _
    (fun b a b' hf hb => by unfold stepUnder at hf; ok_inv hf; exact inv_assignCopy hb hf)
    _ _ _ (foldE_eq_foldlM .. ▸ hr) (inv_transferAtmH hk0 ‹transferAtmH .. = _›)
  exact ⟨hk.le, hk.old, fun p hp => (hk.new p hp).1⟩

/-- The heap model and the functional model are the same function: reading the source
    through the heap (`viewD h src`: name ↦ state of its object), the functional model returns
    exactly the states the heap model files (`viewD h' self'`), and one fails exactly when the
    other does, with the same exception.  So the theorems above describe the object left by
    `transferFromH`, and `incon_transfer_source_unaltered` is about the same call. -/
theorem incon_heap_model_agrees (q : List (Rat × Rat) → Rat × Rat → Nat) (h : Heap) (src : InconH)
    (hvalid : ∀ p ∈ src, p.2 < h.length) (s t : Geo) (mp cmp : Dict Str) :
    match transferFrom q (viewD h src) s t mp cmp with
    | .ok res => ∃ h' self', transferFromH q h src s t mp cmp = .ok (h', self') ∧ viewD h' self' = res
    | .error e => transferFromH q h src s t mp cmp = .error e := by
  unfold transferFrom transferFromH
  cases effectiveMaps q s t mp cmp with
  | error e => rfl
  | ok maps =>
    obtain ⟨m, cm⟩ := maps
    simp only [Heap.alloc]
    have hatm := transferAtmH_refines h src hvalid s t cm
    cases ha : transferAtm (viewD h src) s t cm with
    | error e =>
      rw [ha] at hatm
      have hatm : transferAtmH src s t cm h.length (h ++ [⟨[], defaultAtm⟩], []) = .error e := hatm
      simp only [hatm]
    | ok atmPart =>
      rw [ha] at hatm
      obtain ⟨st, e1, e2, e3⟩ := hatm
      simp only [baseHeap] at e1
      simp only [e1]
      cases t.blockNameList with
      | error e => rfl
      | ok names =>
        simp only
        cases t.numAtmBlocks with
        | error e => rfl
        | ok na =>
          simp only
          have := foldE_refines (stepUnder_refines h src hvalid m) (names.drop na) e2
          cases hm : mapE (incUnder (viewD h src) m) (names.drop na) with
          | error e => rw [hm] at this; exact this
          | ok ps =>
            rw [hm] at this
            obtain ⟨st', f1, _, f3⟩ := this
            exact ⟨st'.1, st'.2, f1, by rw [f3, e3]⟩

example : (transferFromH nearestFirst (exHeap 1) (exSrcInc 1) (exSrc 1) (exTgt 1) [] []).toBool = true :=
  ex_run_1_1.2.2.2
example : (∀ p ∈ exSrcInc 1, p.2 < (exHeap 1).length) ∧ viewD (exHeap 1) (exSrcInc 1) = exInc 1 := by decide +kernel

/-! ### transferring a model (`t2data`): rock types -/

/-- every target block gets the rock type of its mapped source block -/
theorem rocktype_transfer_spec (sr m : Dict Str) (tb rs : List Str) (h : transferRocktypes sr m tb = .ok rs) :
    rs.length = tb.length ∧ ∀ p ∈ tb.zip rs, ∃ sb, dget m p.1 = .ok sb ∧ dget sr sb = .ok p.2 := by
  unfold transferRocktypes at h
  refine ⟨mapE_length h, ?_⟩
  intro p hp
  have := mapE_zip h p hp
  unfold rockOf at this
  split at this
  · cases this
  · rename_i sb hsb
    exact ⟨sb, hsb, this⟩

/-- onto an identical geometry (identity block mapping) every assignment is preserved -/
theorem rocktype_transfer_identity (sr m : Dict Str) (tb : List Str) (rock : Str → Str)
    (hid : ∀ b ∈ tb, dget m b = .ok b) (hsr : ∀ b ∈ tb, dget sr b = .ok (rock b)) :
    transferRocktypes sr m tb = .ok (tb.map rock) := by
  unfold transferRocktypes
  apply mapE_ok_of_forall
  intro b hb
  unfold rockOf
  rw [hid b hb]
  exact hsr b hb

/-! ### transferring a model (`t2data`): generators onto an identical geometry

  `transferGenerators q gens s t sgridVol tgrid incolFlags top bottom mapping colmapping rename preserve`
  is the new `generatorlist`; each item is (index of the source generator it is a `deepcopy` of,
  name, block, gx, rate) — the attributes the method may change.  Inputs of the model that come
  from other parts of the library: the block volumes of the two grids (`sgridVol`, `tgrid`), and
  which target columns lie inside the source (`incolFlags`).
  `genIdentitySetting`: identical geometry, identity block / column mappings, every column
  inside, unique block names.  `genPlaced`: the generator sits where its name says — its name is
  the block name of (its category, the column of its block); a top generator is on the top block
  of its column, a bottom generator in the bottom layer, any other on a block of the grid with
  the same volume in both grids; a table generator has its `rate` list. -/

/-- Every generator is reproduced item for item (same name, block, gx, rate; everything else
    is a `deepcopy`), for generators at top, bottom and interior blocks, with and without
    tables, with and without renaming, with and without preservation of totals. -/
theorem generator_transfer_identity (q : List (Rat × Rat) → Rat × Rat → Nat) (gens : List Gen) (g : Geo)
    (sgridVol : Dict Rat) (tgrid : List (Str × Rat)) (flags : List Bool) (top bottom : List Str)
    (m cm : Dict Str) (rename preserve : Bool)
    (hset : genIdentitySetting g tgrid flags m cm = true)
    (hgens : ∀ sg ∈ gens, genPlaced g sgridVol tgrid top bottom sg = true) :
    transferGenerators q gens g g sgridVol tgrid flags top bottom m cm rename preserve =
      .ok ((enumFrom 0 gens).map (fun p => ⟨p.1, p.2.name, p.2.block, p.2.gx, p.2.rate⟩)) := by
  have hs := genSetting_of hset
  have hf := hs.flags
  subst hf
  unfold transferGenerators effectiveMaps
  simp only [hs.mne, hs.cmne, Bool.or_self, Bool.false_eq_true, if_false, incols_all]
  have hall : mapE (genStep g g sgridVol tgrid g.cols top bottom m cm rename preserve) (enumFrom 0 gens) =
      .ok ((enumFrom 0 gens).map (fun p => [(⟨p.1, p.2.name, p.2.block, p.2.gx, p.2.rate⟩ : GenOut)])) := by
    apply mapE_ok_of_forall
    intro p hp
    unfold genStep
    apply transferOneGen_identity rename preserve p.1 hs
    apply hgens
    rw [← enumFrom_map_snd 0 gens]
    exact List.mem_map_of_mem hp
  rw [hall]
  simp only
  congr 1
  rw [← List.flatMap_def]
  exact List.map_eq_flatMap.symm

/-- hence the total generation is unchanged: the list of (gx, rate) is the same list -/
theorem generator_totals_identity (q : List (Rat × Rat) → Rat × Rat → Nat) (gens : List Gen) (g : Geo)
    (sgridVol : Dict Rat) (tgrid : List (Str × Rat)) (flags : List Bool) (top bottom : List Str)
    (m cm : Dict Str) (rename preserve : Bool)
    (hset : genIdentitySetting g tgrid flags m cm = true)
    (hgens : ∀ sg ∈ gens, genPlaced g sgridVol tgrid top bottom sg = true) :
    ∃ outs, transferGenerators q gens g g sgridVol tgrid flags top bottom m cm rename preserve = .ok outs ∧
      outs.map (fun o => (o.gx, o.rate)) = gens.map (fun sg => (sg.gx, sg.rate)) := by
  refine ⟨_, generator_transfer_identity q gens g sgridVol tgrid flags top bottom m cm rename preserve hset hgens, ?_⟩
  conv => rhs; rw [← enumFrom_map_snd 0 gens]
  rw [List.map_map, List.map_map]
  rfl

/-- the blocks of `exSrc 0`, each of volume 1000, and the identity mappings on them -/
def exGrid : List (Str × Rat) :=
  match (exSrc 0).blockNameList with
  | .ok names => names.map (fun n => (n, 1000))
  | .error _ => []
def exIdMap : Dict Str := exGrid.map (fun b => (b.1, b.1))
def exIdCols : Dict Str := (exSrc 0).cols.map (fun c => (c.name, c.name))
/-- a top generator ('99') on the top block of column 'b' with a rate table, a bottom generator
    ('98') under column 'a', an interior one -/
def exGens : List Gen :=
  [⟨[' ', ' ', 'b', '9', '9'], [' ', ' ', 'b', ' ', '2'], ['M', 'A', 'S', 'S'], some 2, some 5, some [1, 2]⟩,
   ⟨[' ', ' ', 'a', '9', '8'], [' ', ' ', 'a', ' ', '3'], ['H', 'E', 'A', 'T'], some 0, some (-3), some []⟩,
   ⟨[' ', ' ', 'a', 'w', 'l'], [' ', ' ', 'a', ' ', '2'], ['M', 'A', 'S', 'S'], none, some 7, none⟩]

example : genIdentitySetting (exSrc 0) exGrid [true, true] exIdMap exIdCols = true ∧
    ∀ sg ∈ exGens, genPlaced (exSrc 0) exGrid exGrid [['9', '9']] [['9', '8']] sg = true := by decide +kernel

/-! ### `layer_mapping`: the nearest centre, and the first of the nearest

  No `srcOK`, `tgtOK` here: the layer structures are ARBITRARY (centres and bottoms in any order, any
  thickness); only needed: the source has a layer below its atmosphere layer (else `np.argmin`
  of an empty array raises) and the target's layer names are distinct (they are dict keys). -/

/-- `s.layer_mapping(t)` returns; the atmosphere layer goes to the atmosphere layer; every other
    target layer `l` goes to the source layer `S = s.layerlist[1 + i]` with
    (nearest) `|S.centre − l.centre| ≤ |X.centre − l.centre|` for EVERY source layer `X` below the
    atmosphere layer, and (tie rule of `np.argmin`) strictly `<` for every such `X` before `S`. -/
theorem layer_mapping_nearest_first (s t : Geo) (g0 s0 : Lay) (grest srest : List Lay)
    (hg : t.lays = g0 :: grest) (hs : s.lays = s0 :: srest) (hne : srest ≠ [])
    (hnd : nodupB (t.lays.map (·.name)) = true) :
    ∃ lm, layerMapping s t = .ok lm ∧ dget lm g0.name = .ok s0.name ∧
      ∀ l ∈ grest, ∃ (i : Nat) (S : Lay), srest[i]? = some S ∧ dget lm l.name = .ok S.name ∧
        (∀ X ∈ srest, absQ (S.centre - l.centre) ≤ absQ (X.centre - l.centre)) ∧
        ∀ (j : Nat) (X : Lay), j < i → srest[j]? = some X → absQ (S.centre - l.centre) < absQ (X.centre - l.centre) := by
  obtain ⟨lm, hlm, h0, hrest⟩ := layerMapping_spec hg hs hne ((nodupB_iff _).mp hnd)
  refine ⟨lm, hlm, h0, fun l hl => ?_⟩
  obtain ⟨i, S, hn, hS, hmin, hfirst⟩ := nearestLayer_first hne l
  exact ⟨i, S, hS, hrest l hl S hn, hmin, hfirst⟩

/-- unordered source layers (centres −25, −5, −15, −5) and a target layer (centre −10) exactly
    half way between two of them -/
def exLaySrc : Geo :=
  { conv := .c0, atm := 2, dmplex := false, cols := [],
    lays := [⟨[' ', '0'], 0, 0⟩, ⟨[' ', '3'], -30, -25⟩, ⟨[' ', '1'], -10, -5⟩, ⟨[' ', '2'], -20, -15⟩, ⟨[' ', '4'], -7, -5⟩] }
def exLayTgt : Geo :=
  { conv := .c0, atm := 2, dmplex := false, cols := [],
    lays := [⟨['a', 't'], 0, 0⟩, ⟨[' ', 'x'], -12, -10⟩, ⟨[' ', 'y'], -100, -50⟩] }

example : exLaySrc.lays.drop 1 ≠ [] ∧ nodupB (exLayTgt.lays.map (·.name)) = true := by decide +kernel
-- the tie between ' 1' (index 1) and ' 2' (index 2) goes to the first; ' 4' (same centre as ' 1') loses too
example : layerMapping exLaySrc exLayTgt =
    .ok [(['a', 't'], [' ', '0']), ([' ', 'x'], [' ', '1']), ([' ', 'y'], [' ', '3'])] := by decide +kernel

/-! ### a concrete nearest-neighbour search instead of the parameter `q`

  `nearestIdx pts p` (defined in `Proofs/MappingNearest.lean`, namespace `Model.Mapping`):
  one left-to-right pass over the exact squared distances, keeping the best index so far and
  replacing it only by a STRICTLY nearer point; 0 for an empty set.  In exact arithmetic it is what the scipy-less
  fallback of `column_mapping` (`np.argmin` of the distances) computes (the code takes `norm` in floats, whose rounding can tie
  distances whose squares differ).
  The theorems above hold for every `q` with `IsNearest q`; instantiated here they carry no
  uninterpreted parameter. -/

/-- `nearestIdx` meets the specification assumed of `cKDTree.query` -/
theorem nearestIdx_is_nearest : IsNearest nearestIdx := nearestIdx_eq_nearestFirst ▸ nearestFirst_is_nearest

/-- more precisely: the point it returns is at minimal distance, and every point before it is
    strictly farther (first minimum) -/
theorem nearestIdx_first_minimum (pts : List (Rat × Rat)) (p : Rat × Rat) (hne : pts ≠ []) :
    ∃ y, pts[nearestIdx pts p]? = some y ∧ (∀ x ∈ pts, sqDist y p ≤ sqDist x p) ∧
      ∀ j w, j < nearestIdx pts p → pts[j]? = some w → sqDist y p < sqDist w p := by
  obtain ⟨i, y, hi, hy, hmin, hfirst⟩ := argminFirst_map (fun x => sqDist x p) pts hne
  have : nearestIdx pts p = i := by rw [nearestIdx_eq_nearestFirst, nearestFirst, hi]; rfl
  exact this ▸ ⟨y, hy, hmin, hfirst⟩

example : nearestIdx [(0, 0), (3, 0), (1, 0), (1, 2)] (2, 0) = 1 := by decide +kernel
example : nearestIdx [(0, 0), (3, 0), (1, 0), (1, 2)] (2, 0) = nearestFirst [(0, 0), (3, 0), (1, 0), (1, 2)] (2, 0) := by
  rw [nearestIdx_eq_nearestFirst]

/-- `block_mapping_total_partial` at `nearestIdx` (PARTIAL through `atmOK` only) -/
theorem block_mapping_total_nearestIdx_partial (s t : Geo)
    (hs : srcOK s = true) (ht : tgtOK t = true) (ha : atmOK s t = true) :
    ∃ m cm tnames snames,
      blockMapping nearestIdx s t = .ok (m, cm) ∧ t.blockNameList = .ok tnames ∧ s.blockNameList = .ok snames ∧
      (∀ d ∈ tnames, ∃ v, dget m d = .ok v) ∧
      (∀ un, t.underNames = .ok un → ∀ d ∈ un, ∃ v, dget m d = .ok v ∧ v ∈ snames ∧
          ∃ sun, s.underNames = .ok sun ∧ v ∈ sun) ∧
      (∀ an, t.atmNames = .ok an → s.atm ≤ 1 → ∀ d ∈ an, ∃ v, dget m d = .ok v ∧ v ∈ snames ∧
          ∃ san, s.atmNames = .ok san ∧ v ∈ san) ∧
      (∀ c ∈ t.cols, ∃ C ∈ s.cols, dget cm c.name = .ok C.name) :=
  block_mapping_total_partial nearestIdx nearestIdx_is_nearest s t hs ht ha

/-- `block_mapping_spec_partial` at `nearestIdx` (PARTIAL through `atmOK` only) -/
theorem block_mapping_spec_nearestIdx_partial (s t : Geo)
    (hs : srcOK s = true) (ht : tgtOK t = true) (ha : atmOK s t = true) :
    ∃ m cm, blockMapping nearestIdx s t = .ok (m, cm) ∧
      (∀ c ∈ t.cols, ∃ C, NearestCol s c.centre C ∧ dget cm c.name = .ok C.name) ∧
      ∀ l c, (l, c) ∈ t.underPairs →
        ∃ C S L', NearestCol s c.centre C ∧ NearestLay (s.lays.drop 1) l.centre S ∧
          (if C.surface ≤ S.bottom then s.firstBelow C = some L' else L' = S) ∧
          (L', C) ∈ s.underPairs ∧
          ∃ d v, blockName t.conv l.name c.name = .ok d ∧ blockName s.conv L'.name C.name = .ok v ∧
            dget m d = .ok v :=
  block_mapping_spec_partial nearestIdx nearestIdx_is_nearest s t hs ht ha

/-- `block_mapping_atmosphere_partial` at `nearestIdx` (PARTIAL through `atmOK` only) -/
theorem block_mapping_atmosphere_nearestIdx_partial (s t : Geo)
    (hs : srcOK s = true) (ht : tgtOK t = true) (ha : atmOK s t = true) :
    ∃ m cm g0 s0, blockMapping nearestIdx s t = .ok (m, cm) ∧ t.lays.head? = some g0 ∧ s.lays.head? = some s0 ∧
      (t.atm = 0 → s.atm = 0 ∧ ∃ d v, t.atmNames = .ok [d] ∧ s.atmNames = .ok [v] ∧ dget m d = .ok v) ∧
      (t.atm = 1 → ∀ c ∈ t.cols, ∃ C, NearestCol s c.centre C ∧
          ∃ d v, blockName t.conv g0.name c.name = .ok d ∧
            blockName s.conv s0.name (if s.atm = 0 then atmColName s.conv else C.name) = .ok v ∧
            dget m d = .ok v) :=
  block_mapping_atmosphere_partial nearestIdx nearestIdx_is_nearest s t hs ht ha

/-- `incon_transfer_total_partial` at `nearestIdx` (PARTIAL through `atmOK` only) -/
theorem incon_transfer_total_nearestIdx_partial (src : Incon) (s t : Geo)
    (hs : srcOK s = true) (ht : tgtOK t = true) (ha : atmOK s t = true) (hne : src ≠ [])
    (hcover : ∀ snames, s.blockNameList = .ok snames → ∀ n ∈ snames, ∃ v, dget src n = .ok v) :
    ∃ res tnames, transferFrom nearestIdx src s t [] [] = .ok res ∧ t.blockNameList = .ok tnames ∧
      ∀ d ∈ tnames, ∃ v, dget res d = .ok v :=
  incon_transfer_total_partial nearestIdx nearestIdx_is_nearest src s t hs ht ha hne hcover

/-- `block_mapping_identity` at `nearestIdx` -/
theorem block_mapping_identity_nearestIdx (g : Geo)
    (hs : srcOK g = true) (ht : tgtOK g = true) (hd : distinctCentres g = true) :
    ∃ m cm names, blockMapping nearestIdx g g = .ok (m, cm) ∧ g.blockNameList = .ok names ∧
      (∀ d ∈ names, dget m d = .ok d) ∧ (∀ c ∈ g.cols, dget cm c.name = .ok c.name) :=
  block_mapping_identity nearestIdx nearestIdx_is_nearest g hs ht hd

/-- `block_mapping_keyerror_general` at `nearestIdx` -/
theorem block_mapping_keyerror_nearestIdx (s t : Geo)
    (hs : srcOK s = true) (ht : tgtOK t = true) (h0 : t.atm = 0) (hsa : s.atm ≠ 0)
    (hnc : ∀ c ∈ t.cols, c.name ≠ atmColName t.conv) :
    blockMapping nearestIdx s t = .error .keyError :=
  block_mapping_keyerror_general nearestIdx nearestIdx_is_nearest s t hs ht h0 hsa hnc

-- hypotheses: the same examples as for the parametric theorems (`exSrc`, `exTgt`, `exInc`); the
-- instantiated functions compute:
example : image (blockMapping nearestIdx (exSrc 2) (exTgt 2)) [' ', 'a', ' ', ' ', '3'] = some [' ', ' ', 'b', ' ', '2'] :=
  nearestIdx_eq_nearestFirst ▸ ex_run_2_2.1
example : (transferFrom nearestIdx (exInc 1) (exSrc 1) (exTgt 1) [] []).toBool = true :=
  nearestIdx_eq_nearestFirst ▸ ex_run_1_1.2.2.1
example : exInc 1 ≠ [] ∧ ∀ snames, (exSrc 1).blockNameList = .ok snames → ∀ n ∈ snames, ∃ v, dget (exInc 1) n = .ok v := by
  refine ⟨by decide +kernel, ?_⟩
  intro snames h n hn
  have e : (exSrc 1).blockNameList = .ok ((exInc 1).map (·.1)) := by decide +kernel
  rw [e] at h; cases h
  have : ∀ n ∈ (exInc 1).map (·.1), (dget (exInc 1) n).toBool = true := by decide +kernel
  have := this n hn
  cases hv : dget (exInc 1) n with
  | ok v => exact ⟨v, rfl⟩
  | error e => rw [hv] at this; cases this

/-! ### identity on equal grids, for every atmosphere combination that returns

  `block_mapping_identity` maps a geometry onto ITSELF, so source and target atmosphere types
  coincide (3 of the 9 combinations).  Here `s` and `t` are the same grid — same naming convention,
  columns and layers — with independent atmosphere types and block orders: all 7 combinations
  allowed by `atmOK` (the other two raise: `block_mapping_keyerror_general`). -/

/-- Every underground block and every column is mapped to itself.  Atmosphere blocks:
    single onto single is the identity; the target's block over column `c` (target type 1) keeps
    its name when the source is type 1 (its own atmosphere block there) or type 2 (a name the
    source does not have — as the code does), and goes to the source's single atmosphere block
    when the source is type 0.  PARTIAL through `atmOK` only. -/
theorem block_mapping_identity_same_grid_partial (q : List (Rat × Rat) → Rat × Rat → Nat) (hq : IsNearest q)
    (s t : Geo) (hconv : s.conv = t.conv) (hcols : s.cols = t.cols) (hlays : s.lays = t.lays)
    (hs : srcOK s = true) (ht : tgtOK t = true) (ha : atmOK s t = true) (hd : distinctCentres t = true) :
    ∃ m cm un g0, blockMapping q s t = .ok (m, cm) ∧ t.underNames = .ok un ∧ t.lays.head? = some g0 ∧
      (∀ d ∈ un, dget m d = .ok d) ∧ (∀ c ∈ t.cols, dget cm c.name = .ok c.name) ∧
      (t.atm = 0 → s.atm = 0 ∧ ∃ d, t.atmNames = .ok [d] ∧ s.atmNames = .ok [d] ∧ dget m d = .ok d) ∧
      (t.atm = 1 → ∀ c ∈ t.cols, ∃ d, blockName t.conv g0.name c.name = .ok d ∧
          (s.atm ≠ 0 → dget m d = .ok d) ∧
          (s.atm = 0 → ∃ a, s.atmNames = .ok [a] ∧ dget m d = .ok a)) := by
  have ht := tgtWF_of ht
  obtain ⟨m, cm, g0, an, un, san, sun, M, hunder, hcm, hatm⟩ :=
    blockMapping_sameGrid q hq s t hconv hcols hlays (srcWF_of hs) ht ha hd
  refine ⟨m, cm, un, g0, M.run, M.tnames.under, by rw [M.tlays]; rfl, hunder, hcm, fun h0 => ?_, fun h1 c hc => ?_⟩
  · obtain ⟨hs0, v, hv, hta, hsa, hget⟩ := M.atm_single h0
    rw [hconv] at hv
    cases (tgt_atm_name ht M.tlays (List.mem_cons_self ..)).symm.trans hv
    exact ⟨hs0, _, hta, hsa, hget⟩
  · have hnm := tgt_atm_name ht M.tlays (colName_mem hc)
    have hget := hatm c.name (atmCols_one h1 ▸ List.mem_map_of_mem hc)
    refine ⟨_, hnm, fun hne => ?_, fun h0 => ?_⟩
    · rw [hget, if_neg hne, hnm]
    · obtain ⟨a, ha, hsa⟩ := M.snames.atm0 h0
      rw [hconv] at ha
      exact ⟨a, by rw [M.snames.atm, hsa], by rw [hget, if_pos h0, ha]⟩

/-- the same at the concrete search `nearestIdx` -/
theorem block_mapping_identity_same_grid_nearestIdx_partial
    (s t : Geo) (hconv : s.conv = t.conv) (hcols : s.cols = t.cols) (hlays : s.lays = t.lays)
    (hs : srcOK s = true) (ht : tgtOK t = true) (ha : atmOK s t = true) (hd : distinctCentres t = true) :
    ∃ m cm un g0, blockMapping nearestIdx s t = .ok (m, cm) ∧ t.underNames = .ok un ∧ t.lays.head? = some g0 ∧
      (∀ d ∈ un, dget m d = .ok d) ∧ (∀ c ∈ t.cols, dget cm c.name = .ok c.name) ∧
      (t.atm = 0 → s.atm = 0 ∧ ∃ d, t.atmNames = .ok [d] ∧ s.atmNames = .ok [d] ∧ dget m d = .ok d) ∧
      (t.atm = 1 → ∀ c ∈ t.cols, ∃ d, blockName t.conv g0.name c.name = .ok d ∧
          (s.atm ≠ 0 → dget m d = .ok d) ∧
          (s.atm = 0 → ∃ a, s.atmNames = .ok [a] ∧ dget m d = .ok a)) :=
  block_mapping_identity_same_grid_partial nearestIdx nearestIdx_is_nearest s t hconv hcols hlays hs ht ha hd

-- the hypotheses hold for all 7 admissible (source type, target type) pairs over `exSrc` ...
example : ∀ p ∈ [(0, 0), (0, 1), (0, 2), (1, 1), (1, 2), (2, 1), (2, 2)],
    srcOK (exSrc p.1) = true ∧ tgtOK (exSrc p.2) = true ∧ atmOK (exSrc p.1) (exSrc p.2) = true ∧
    distinctCentres (exSrc p.2) = true := by
  intro p hp
  have h : p.1 ∈ [0, 1, 2] ∧ p.2 ∈ [0, 1, 2] ∧ atmOK (exSrc p.1) (exSrc p.2) = true := by
    revert p
    decide
  exact ⟨(ex_ok.1 p.1 h.1).1, (ex_ok.1 p.2 h.2.1).2.1, h.2.2, (ex_ok.1 p.2 h.2.1).2.2⟩
-- ... and the two excluded ones raise
example : blockMapping nearestIdx (exSrc 1) (exSrc 0) = .error .keyError ∧
    blockMapping nearestIdx (exSrc 2) (exSrc 0) = .error .keyError := ⟨by decide +kernel, by decide +kernel⟩
-- source type 0, target type 1: the block over column 'b' goes to the single atmosphere block
example : image (blockMapping nearestIdx (exSrc 0) (exSrc 1)) [' ', ' ', 'b', ' ', '0'] = some ['A', 'T', 'M', ' ', '0'] := by decide +kernel
example : image (blockMapping nearestIdx (exSrc 2) (exSrc 1)) [' ', ' ', 'b', ' ', '0'] = some [' ', ' ', 'b', ' ', '0'] := by decide +kernel

/-! ### transferring generators between DIFFERENT geometries

  `generator_transfer_identity` covers identical geometries.  Here: any two geometries, any
  mappings (passed in, or computed by `block_mapping` when either is empty: `effectiveMaps`),
  `rename` and `preserve_totals` on or off — whenever `transfer_generators_from` returns.
  The new `generatorlist` is the concatenation `ls.flatten` of one list per source generator, in
  source order; generator number `i` yields `ls[i]` and every item of it records `src = i`, so
  the statement is by POSITION: source lists with repeated generator names are covered. -/

/-- `[b for b in self.grid.blocklist if mapping[b.name] == k]` (name, volume) -/
def mappedBlocks (m : Dict Str) (k : Str) (tgrid : List (Str × Rat)) : List (Str × Rat) :=
  tgrid.filter (fun b => decide (dget m b.1 = .ok k))

/-- `[c for c in incols if colmapping[c.name] == k]` -/
def mappedCols (cm : Dict Str) (k : Str) (incols : List Col) : List Col :=
  incols.filter (fun c => decide (dget cm c.name = .ok k))

/-- the target columns whose centre lies inside the source geometry (`incolFlags`, an input) -/
def insideCols (t : Geo) (flags : List Bool) : List Col := ((t.cols.zip flags).filter (·.2)).map (·.1)

/-- A source generator that is not a column (top/bottom) generator is moved to the MAPPED blocks:
    it is copied once onto every target block whose image under the block mapping is the
    generator's block — exactly those, in grid order (`p.2.block = p.1.1`,
    `mapping[p.2.block] = sg.block`).  Its `gx`/`rate` are scaled by (target block volume) /
    (source block volume), or / (total volume of the mapped blocks) with `preserve_totals`;
    its name is kept, or with `rename` rebuilt from its category and the new block's column. -/
theorem generator_transfer_interior (q : List (Rat × Rat) → Rat × Rat → Nat) (gens : List Gen) (s t : Geo)
    (sgridVol : Dict Rat) (tgrid : List (Str × Rat)) (flags : List Bool) (top bottom : List Str)
    (mp cmp : Dict Str) (rename preserve : Bool) (outs : List GenOut)
    (h : transferGenerators q gens s t sgridVol tgrid flags top bottom mp cmp rename preserve = .ok outs) :
    ∃ (m cm : Dict Str) (ls : List (List GenOut)), effectiveMaps q s t mp cmp = .ok (m, cm) ∧
      outs = ls.flatten ∧ ls.length = gens.length ∧
      ∀ (i : Nat) (sg : Gen), gens[i]? = some sg → (top ++ bottom).contains (layerName s.conv sg.name) = false →
        ∃ l svol, ls[i]? = some l ∧ dget sgridVol sg.block = .ok svol ∧
          l.length = (mappedBlocks m sg.block tgrid).length ∧
          ∀ p ∈ (mappedBlocks m sg.block tgrid).zip l,
            p.2.src = i ∧ p.2.block = p.1.1 ∧ dget m p.2.block = .ok sg.block ∧
            (if preserve then sumQ ((mappedBlocks m sg.block tgrid).map (·.2)) else svol) ≠ 0 ∧
            scaleGen sg (p.1.2 / (if preserve then sumQ ((mappedBlocks m sg.block tgrid).map (·.2)) else svol))
              = .ok (p.2.gx, p.2.rate) ∧
            (rename = false → p.2.name = sg.name) ∧
            (rename = true → ∃ cat, (if t.conv = s.conv then .ok (layerName s.conv sg.name)
                 else pick3 t.conv [' ', '0'] (layerName s.conv sg.name) : Except Exc Str) = .ok cat ∧
               blockName t.conv cat (columnName t.conv p.1.1) = .ok p.2.name) := by
  obtain ⟨m, cm, ls, hem, hfl, hlen, hall⟩ :=
    transferGenerators_split h
  refine ⟨m, cm, ls, hem, hfl, hlen, ?_⟩
  intro i sg hi hcat
  obtain ⟨l, hl, hone⟩ := hall i sg hi
  obtain ⟨svol, hsv, hlen', hz⟩ := transferOneGen_interior hcat hone
  refine ⟨l, svol, hl, hsv, hlen', ?_⟩
  intro p hp
  obtain ⟨h1, h2, h3, h4, h5, h6⟩ := blkGenOne_inv (hz p hp)
  have hmem : p.1 ∈ mappedBlocks m sg.block tgrid := (List.of_mem_zip (show (p.1, p.2) ∈ _ from hp)).1
  have hd : dget m p.1.1 = .ok sg.block := by
    have := (List.mem_filter.mp hmem).2
    exact of_decide_eq_true this
  exact ⟨h1, h2, by rw [h2]; exact hd, h3, h4, h5, h6⟩

/-- A column generator (its category — the layer part of its name — is listed in `top` or
    `bottom`) is moved to the MAPPED columns: one copy for every target column inside the source
    whose image under the column mapping is the column of the generator's block, in column
    order; the copy sits on the block of that column's top layer (`column_surface_layer`) for a
    top generator, of the bottom layer for a bottom generator; `gx`/`rate` are scaled by (target
    column area) / (source column area), or / (total area of the mapped columns) with
    `preserve_totals`; the name is (category, new column). -/
theorem generator_transfer_column (q : List (Rat × Rat) → Rat × Rat → Nat) (gens : List Gen) (s t : Geo)
    (sgridVol : Dict Rat) (tgrid : List (Str × Rat)) (flags : List Bool) (top bottom : List Str)
    (mp cmp : Dict Str) (rename preserve : Bool) (outs : List GenOut)
    (h : transferGenerators q gens s t sgridVol tgrid flags top bottom mp cmp rename preserve = .ok outs) :
    ∃ (m cm : Dict Str) (ls : List (List GenOut)), effectiveMaps q s t mp cmp = .ok (m, cm) ∧
      outs = ls.flatten ∧ ls.length = gens.length ∧
      ∀ (i : Nat) (sg : Gen), gens[i]? = some sg → (top ++ bottom).contains (layerName s.conv sg.name) = true →
        ∃ l area, ls[i]? = some l ∧
          l.length = (mappedCols cm (columnName s.conv sg.block) (insideCols t flags)).length ∧
          (preserve = true → area = sumQ ((mappedCols cm (columnName s.conv sg.block) (insideCols t flags)).map (·.area))) ∧
          (preserve = false → ∃ C, s.findCol (columnName s.conv sg.block) = .ok C ∧ area = C.area) ∧
          ∀ p ∈ (mappedCols cm (columnName s.conv sg.block) (insideCols t flags)).zip l,
            p.2.src = i ∧ p.1 ∈ t.cols ∧ dget cm p.1.name = .ok (columnName s.conv sg.block) ∧
            area ≠ 0 ∧ scaleGen sg (p.1.area / area) = .ok (p.2.gx, p.2.rate) ∧
            (∃ ln, colGenLayer t top (layerName s.conv sg.name) p.1 = .ok ln ∧
                blockName t.conv ln p.1.name = .ok p.2.block) ∧
            (∃ cat, colGenCategory s t (top ++ bottom) (layerName s.conv sg.name) = .ok cat ∧
                blockName t.conv cat p.1.name = .ok p.2.name) := by
  obtain ⟨m, cm, ls, hem, hfl, hlen, hall⟩ :=
    transferGenerators_split h
  refine ⟨m, cm, ls, hem, hfl, hlen, ?_⟩
  intro i sg hi hcat
  obtain ⟨l, hl, hone⟩ := hall i sg hi
  obtain ⟨area, harea, hlen', hz⟩ := transferOneGen_column hcat hone
  refine ⟨l, area, hl, hlen', ?_, ?_, ?_⟩
  · intro hp
    rw [hp] at harea
    simp only [if_true] at harea
    exact (Except.ok.inj harea).symm
  · intro hp
    rw [hp] at harea
    simp only [Bool.false_eq_true, if_false] at harea
    split at harea
    · cases harea
    · rename_i C hC
      exact ⟨C, hC, (Except.ok.inj harea).symm⟩
  · intro p hp
    obtain ⟨h1, h2, h3, h4, h5⟩ := colGenOne_inv (hz p hp)
    have hmem : p.1 ∈ mappedCols cm (columnName s.conv sg.block) (insideCols t flags) :=
      (List.of_mem_zip (show (p.1, p.2) ∈ _ from hp)).1
    obtain ⟨hin, hdec⟩ := List.mem_filter.mp hmem
    have hgeo : p.1 ∈ t.cols := by
      obtain ⟨x, hx, hx1⟩ := List.mem_map.mp hin
      have := (List.of_mem_zip (show (x.1, x.2) ∈ _ from (List.mem_filter.mp hx).1)).1
      rw [← hx1]; exact this
    exact ⟨h1, hgeo, of_decide_eq_true hdec, h2, h3, h4, h5⟩

-- the call returns (coarse `exSrc 2` onto fine `exTgt 2`, computed mappings, preserve_totals): (src, block, gx) of the
-- new list: each 'awl' generator lands on the four target blocks mapped to its block with a quarter of gx;
-- the top generator on the top blocks of the two target columns mapped to column 'b' with half of gx
example : (match transferGenerators nearestIdx exGens2 (exSrc 2) (exTgt 2) exSVol exTGrid [true, true, true, true]
      [['9', '9']] [['9', '8']] [] [] false true with
    | .ok outs => outs.map (fun o => (o.src, o.block, o.gx))
    | .error _ => []) =
    [(0, [' ', 'c', ' ', ' ', '1'], some 2), (0, [' ', 'c', ' ', ' ', '2'], some 2),
     (0, [' ', 'd', ' ', ' ', '1'], some 2), (0, [' ', 'd', ' ', ' ', '2'], some 2),
     (1, [' ', 'e', ' ', ' ', '3'], some 2), (1, [' ', 'e', ' ', ' ', '4'], some 2),
     (1, [' ', 'f', ' ', ' ', '3'], some 2), (1, [' ', 'f', ' ', ' ', '4'], some 2),
     (2, [' ', 'a', ' ', ' ', '3'], some 3), (2, [' ', 'b', ' ', ' ', '4'], some 3)] :=
  nearestIdx_eq_nearestFirst ▸ ex_run_2_2.2.2.1
-- and with rename, without preserve_totals
example : (transferGenerators nearestIdx exGens2 (exSrc 2) (exTgt 2) exSVol exTGrid [true, true, true, true]
      [['9', '9']] [['9', '8']] [] [] true false).toBool = true :=
  nearestIdx_eq_nearestFirst ▸ ex_run_2_2.2.2.2

end Props.C19
