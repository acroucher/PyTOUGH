/-
  C10 — Geometry stays internally consistent under any sequence of edits.

  The geometry model is `Model/Geo.lean` (heap, primitive edits), `Model/GeoOps.lean` (split, subdivide,
  decompose, refine, reduce, check) and the invariant is `Model/GeoInv.lean`:

    geoInv0 g   heap references valid, the five by-name dictionaries agree with the ordered lists, every node
                knows exactly the columns that use it, every column exactly its connections and neighbours, each
                connection's node pair is a side of both its columns, every column is counter-clockwise with
                positive area
    layersOK g  every column's layer count matches its surface
    namesFresh g  block_name_list / block_connection_name_list are what a fresh recomputation gives
    geoInv g    all of the above;      meshValid g   no missing / extra connection, no orphan node

  The same predicates are evaluated by the compiled driver on every state of every explored history and
  compared, clause by clause, with the Python oracle's verdict on the real object (facet `geo_inv`).
-/
import PyTough.Proofs.GeoRun
import PyTough.Proofs.GeoLayers
import PyTough.Proofs.GeoRename
namespace Props.C10
open Model.Geo Model.Geo.Geo Py Proofs.Geo

/-! ### the block and connection name lists are fresh after every operation that recomputes them -/

theorem setup_names_fresh (g g' : Geo) (h : g.setupNames = .ok g') : g'.namesFresh = true :=
  setupNames_fresh h

theorem split_column_names_fresh (g g' : Geo) (c n : Name) (h : g.splitColumn c n = .ok (g', true)) :
    g'.namesFresh = true := by
  unfold splitColumn at h
  obtain ⟨r, _, h⟩ := bind_ok h
  cases r with
  | none => cases h
  | some g1 =>
    obtain ⟨g2, h2, h⟩ := bind_ok h
    cases h
    exact setupNames_fresh h2

theorem rename_column_names_fresh (g g' : Geo) (olds news : List Name) (h : g.renameColumn olds news = .ok g') :
    g'.namesFresh = true := by
  unfold renameColumn at h
  exact setupNames_last_fresh h

theorem rename_layer_names_fresh (g g' : Geo) (olds news : List Name) (h : g.renameLayer olds news = .ok g') :
    g'.namesFresh = true := by
  unfold renameLayer at h
  exact setupNames_last_fresh h

theorem copy_layers_from_names_fresh (g g' : Geo) (ls : List Layer) (h : g.copyLayersFrom ls = .ok g') :
    g'.namesFresh = true := by
  unfold copyLayersFrom at h
  exact setupNames_last_fresh h

theorem snap_columns_to_layers_names_fresh (g g' : Geo) (t : Rat) (ht : t > 0) (cols : List Nat)
    (h : g.snapColumnsToLayers t cols = .ok g') : g'.namesFresh = true := by
  unfold snapColumnsToLayers at h
  rw [if_pos ht] at h
  exact setupNames_last_fresh h

theorem snap_columns_to_nearest_layers_names_fresh (g g' : Geo) (cols : List Nat)
    (h : g.snapColumnsToNearestLayers cols = .ok g') : g'.namesFresh = true := by
  unfold snapColumnsToNearestLayers at h
  exact setupNames_last_fresh h

theorem refine_layers_names_fresh (g g' : Geo) (layers : List Name) (f : Nat)
    (h : g.refineLayers layers f = .ok g') : g'.namesFresh = true := by
  unfold refineLayers at h
  obtain ⟨st, _, h⟩ := bind_ok h
  obtain ⟨g1, atm⟩ := st
  simp only at h
  obtain ⟨g2, _, h⟩ := bind_ok h
  exact setupNames_last_fresh h

theorem decompose_columns_names_fresh (g g' : Geo) (cols : List Nat) (h : g.decomposeColumns cols = .ok g') :
    g'.namesFresh = true := by
  unfold decomposeColumns at h
  obtain ⟨g1, _, h⟩ := bind_ok h
  exact setupNames_last_fresh h

theorem reduce_names_fresh (g g' : Geo) (cols : List Nat) (h : g.reduce cols = .ok g') :
    g'.namesFresh = true := by
  unfold reduce at h
  obtain ⟨g1, _, h⟩ := bind_ok h
  exact setupNames_last_fresh h

/-- `refine`, whenever it refines (every column involved has 3 or 4 sides; otherwise it prints
    'not supported' and returns without recomputing anything) -/
theorem refine_names_fresh (g g' : Geo) (cols : List Nat) (b : Bisect) (edge : List Nat)
    (h : g.refine cols b edge = .ok g')
    (hs : ∀ p, g.refinePlan (if cols.isEmpty then g.columnlist else cols) b edge = .ok p → p.supported = true) :
    g'.namesFresh = true := by
  unfold refine at h
  obtain ⟨p, hp, h⟩ := bind_ok h
  rw [if_pos (hs p hp)] at h
  unfold refineApply at h
  obtain ⟨x1, _, h⟩ := bind_ok h
  obtain ⟨x2, _, h⟩ := bind_ok h
  obtain ⟨x3, _, h⟩ := bind_ok h
  obtain ⟨x4, _, h⟩ := bind_ok h
  exact setupNames_last_fresh h

/-! ### the bare `add_` / `delete_` operations do NOT refresh the name lists

Two unit squares side by side with one layer (`strip2`, built with the model's own operations) satisfy
the whole invariant; deleting a column keeps the structural part `geoInv0` but leaves both name lists
stale; a following `setup_*` call repairs them.  (Evaluated by the kernel on this one geometry: a
witness, not a universal statement.  The real code behaves the same: known finding
`namelists:blocks@delete_column`.) -/

def nm (c : Char) : Name := [' ', ' ', c]

def strip2 : Except Exc Geo := do
  let g : Geo := { convention := 0, atmosType := 2 }
  let g := g.addNode (nm 'a') (0, 0)
  let g := g.addNode (nm 'b') (1, 0)
  let g := g.addNode (nm 'c') (2, 0)
  let g := g.addNode (nm 'd') (0, 1)
  let g := g.addNode (nm 'e') (1, 1)
  let g := g.addNode (nm 'f') (2, 1)
  let g := g.addLayer { name := [' ', '0'], bottom := 0, centre := 0, top := 0 }
  let g := g.addLayer { name := [' ', '1'], bottom := -1, centre := -1/2, top := 0 }
  let g ← g.addColumn (nm 'a') [0, 1, 4, 3] none (some 0) 1
  let g ← g.addColumn (nm 'b') [1, 2, 5, 4] none (some 0) 1
  let g := g.addConnection 0 1
  g.setupNames

theorem strip2_satisfies_invariant : strip2.map (fun g => g.geoInv && g.meshValid) = .ok true := by
  decide +kernel

theorem raw_edits_leave_indices_stale :
    (strip2 >>= fun g => g.deleteColumn (nm 'b')).map (fun g => (g.geoInv0, g.layersOK, g.namesFresh))
      = .ok (true, true, false) ∧
    (strip2 >>= fun g => g.deleteColumn (nm 'b') >>= Geo.setupNames).map Geo.geoInv = .ok true := by
  constructor <;> decide +kernel

/-! ### primitive edits

`add_node`, `delete_node` (of a node no column uses), `add_well`, `delete_well` preserve the whole invariant;
`add_layer` and `delete_layer` preserve its structural part (what they do not refresh is the known finding
above).  `add_connection` / `delete_connection` / `add_column` / `delete_column` preserve the structural part too: all ten
primitive edits are covered. -/

theorem add_node_preserves (g : Geo) (name : Name) (pos : Pt) (h : g.geoInv = true) :
    (g.addNode name pos).geoInv = true := by
  refine geoInv_lift (addNode_inv0 name pos) ?_ ?_ h
  · unfold addNode; split
    · rfl
    · rfl
  · unfold addNode; split
    · rfl
    · rfl

theorem delete_node_preserves (g g' : Geo) (name : Name) (hd : g.deleteNode name = .ok g')
    (hunused : ∀ i, g.nodeD.get? name = some i → ∀ c ∈ g.columnlist, i ∉ (g.col c).nodes)
    (h : g.geoInv = true) : g'.geoInv = true := deleteNode_geoInv hd hunused h

/-- the layer counts and the name lists do not depend on wells -/
theorem add_well_preserves (g : Geo) (w : Well) (h : g.geoInv = true) : (g.addWell w).geoInv = true := by
  refine geoInv_lift (addWell_inv0 w) ?_ ?_ h
  · unfold addWell; split
    · rfl
    · rfl
  · unfold addWell; split
    · rfl
    · rfl

theorem delete_well_preserves (g g' : Geo) (name : Name) (hd : g.deleteWell name = .ok g') (h : g.geoInv = true) :
    g'.geoInv = true := by
  obtain ⟨i, -, rfl⟩ := deleteWell_spec hd
  exact geoInv_lift (deleteWell_inv0 hd) rfl rfl h

theorem add_layer_preserves_structure (g : Geo) (l : Layer) (h : g.geoInv0 = true) :
    (g.addLayer l).geoInv0 = true := inv0_lift (addLayer_inv0 l) h

theorem delete_layer_preserves_structure (g g' : Geo) (name : Name) (hd : g.deleteLayer name = .ok g')
    (h : g.geoInv0 = true) : g'.geoInv0 = true := inv0_lift (deleteLayer_inv0 hd) h

/-- `add_connection` between two different, not yet joined columns of the geometry that share a side
    (`AddConnPre`): registries, both columns' connection sets, both neighbour sets and the connection's node pair
    are all right afterwards (the connection name list is not refreshed: known finding) -/
theorem add_connection_preserves_structure (g : Geo) (c0 c1 : Nat) (pre : AddConnPre g c0 c1)
    (h : g.geoInv0 = true) : (g.addConnection c0 c1).geoInv0 = true :=
  inv0_lift (addConnection_inv0 c0 c1 pre) h

/-- `delete_connection`: the connection leaves the dictionary, the list and both columns' connection sets, and
    the two columns stop being neighbours exactly when no other connection joins them -/
theorem delete_connection_preserves_structure (g g' : Geo) (names : Name × Name)
    (hd : g.deleteConnection names = .ok g') (h : g.geoInv0 = true) : g'.geoInv0 = true :=
  inv0_lift (deleteConnection_inv0 hd) h

/-- `add_column(column(name, nodes, centre, surface))` with a new name, nodes of the geometry and a
    non-degenerate polygon, in either orientation (the constructor reverses a clockwise node list: reversing
    negates the shoelace sum): every node of the column learns about it, nothing else changes -/
theorem add_column_preserves_structure (g g' : Geo) (name : Name) (nodes : List Nat) (centre : Option Pt)
    (surface : Option Rat) (nl : Int) (hd : g.addColumn name nodes centre surface nl = .ok g')
    (hfresh : g.columnD.contains name = false) (hnodes : ∀ n ∈ nodes, n ∈ g.nodelist)
    (harea : polygonArea (g.polygon nodes) ≠ 0) (h : g.geoInv0 = true) : g'.geoInv0 = true :=
  inv0_lift (addColumn_inv0 hd hfresh hnodes harea) h

/-- `delete_column(colname)`, cascade included: the column's connections are deleted one by one (each as in
    `delete_connection`), after which its neighbour set is empty, its nodes forget it, dictionary and list lose it -/
theorem delete_column_preserves_structure (g g' : Geo) (name : Name) (hd : g.deleteColumn name = .ok g')
    (h : g.geoInv0 = true) : g'.geoInv0 = true := inv0_lift (deleteColumn_inv0 hd) h

-- non-vacuity: delete a column of the strip, then add it back with its nodes listed clockwise
example : (strip2 >>= fun g => g.deleteColumn (nm 'b') >>= fun g =>
    g.addColumn (nm 'c') [4, 5, 2, 1] none (some 0) 1).map (fun g => (g.geoInv0, (g.col 2).nodes)) =
      .ok (true, [1, 2, 5, 4]) := by decide +kernel

-- non-vacuity: on the two-column strip, delete the connection and add it again (in the other direction)
example : (strip2 >>= fun g => g.deleteConnection (nm 'a', nm 'b')).map
    (fun g => (g.geoInv0, g.joined 0 1, g.addConnPreB 1 0)) = .ok (true, false, true) := by
  decide +kernel
example : (strip2 >>= fun g => g.deleteConnection (nm 'a', nm 'b')).map
    (fun g => (g.addConnection 1 0).geoInv0 && (g.addConnection 1 0).meshValid) = .ok true := by decide +kernel

-- non-vacuity: adding an (orphan) node and deleting it again on the two-column strip
example : (strip2 >>= fun g => (g.addNode (nm 'z') (5, 5)).deleteNode (nm 'z')).map Geo.geoInv = .ok true := by
  decide +kernel

/-! ### histories

`Edit` (Model/GeoInv.lean) lists the primitive edits with the arguments a caller gives (objects by name);
`g.editOK e` says, decidably, that the request is sensible on `g` (a node is deleted only when no column uses it;
a new column has a new name, nodes of the geometry and a non-degenerate polygon; a new connection joins two
unconnected columns that share a side); `g.run es` applies a history, checking `editOK` at each step. -/

/-- **After any sequence of primitive edits** — adding and deleting nodes, columns (with the cascade over their
    connections), connections, layers and wells, translating, recomputing the name lists —, each sensible at the
    moment it is applied: the by-name lookups and ordered lists agree, each node knows exactly the columns that use
    it, each column exactly its connections and neighbours, each connection's two nodes are a side of both its
    columns, and every column is counter-clockwise with positive area. -/
theorem edit_histories_preserve_structure (es : List Edit) (g g' : Geo) (hrun : g.run es = .ok g')
    (h : g.geoInv0 = true) : g'.geoInv0 = true := by
  induction es generalizing g with
  | nil =>
    cases hrun
    exact h
  | cons e es ih =>
    obtain ⟨hok, g1, h1, h2⟩ := run_cons hrun
    exact ih g1 h2 (inv0_lift (edit_inv0 hok h1) h)

/-- …and when the history ends with the two `setup_*` calls, the block and connection name lists are fresh too -/
theorem edit_history_then_setup_names (es : List Edit) (g g' : Geo)
    (hrun : g.run (es ++ [Edit.setupNames]) = .ok g') (h : g.geoInv0 = true) :
    g'.geoInv0 = true ∧ g'.namesFresh = true := by
  refine ⟨edit_histories_preserve_structure _ g g' hrun h, ?_⟩
  obtain ⟨g1, -, h1⟩ := run_append _ es g hrun
  obtain ⟨-, g2, h2, h3⟩ := run_cons h1
  cases h3
  exact setupNames_fresh h2

-- non-vacuity: a seven-step history on the two-column strip that is accepted at every step
example : (strip2 >>= fun g => g.run
    [.deleteConnection (nm 'a') (nm 'b'), .addNode (nm 'z') (3, 1/2), .addColumn (nm 'c') [nm 'c', nm 'z', nm 'f'] none (some 0) 1,
     .addConnection (nm 'b') (nm 'a'), .addConnection (nm 'b') (nm 'c'), .translate 1 2 3 false, .deleteColumn (nm 'a'),
     .setupNames]).map (fun g => (g.geoInv0, g.namesFresh, g.columnlist.length, g.connlist.length)) = .ok (true, true, 2, 1) := by
  decide +kernel

/-- `rename_column(old, new)` to a name that no other column has: the column dictionary is re-keyed in place, the
    connection dictionary is rebuilt under the new names (its keys stay distinct), the name lists are recomputed -/
theorem rename_column_preserves (g g' : Geo) (old new : Name) (hd : g.renameColumn [old] [new] = .ok g')
    (hnew : g.columnD.contains new = false ∨ new = old) (h : g.geoInv = true) : g'.geoInv = true :=
  renameColumn_geoInv hd (And.intro hnew fun _ _ => True.intro) h

theorem rename_layer_preserves (g g' : Geo) (old new : Name) (hd : g.renameLayer [old] [new] = .ok g')
    (hnew : g.layerD.contains new = false ∨ new = old) (h : g.geoInv = true) : g'.geoInv = true := by
  obtain ⟨i, hk, h2⟩ := renameLayer_spec hd
  obtain ⟨h0, hl, -⟩ := (geoInv_iff g).mp h
  exact setupNames_geoInv h2 (inv0_lift (renamedLayer_inv0 old new i hk hnew) h0)
    ((renamedLayer_layersOK g old new i).trans hl)

/-- `copy_layers_from(geo)` needs only the structural invariant and RESTORES the rest: every column's layer count is
    recomputed from its surface and the name lists from scratch (so it also repairs what a bare `add_layer` /
    `delete_layer` left stale) -/
theorem copy_layers_from_establishes_invariant (g g' : Geo) (layers : List Layer)
    (hc : g.copyLayersFrom layers = .ok g') (h : g.geoInv0 = true) : g'.geoInv = true := by
  unfold copyLayersFrom at hc
  obtain ⟨g2, h2, h3⟩ := bind_ok hc
  exact setNumLayers_setupNames_geoInv h2 h3
    (List.foldlRecOn layers addLayer (clearLayers_inv0 ((inv0_iff g).mp h)) fun _ hg l _ => addLayer_inv0 l hg)

/-- `refine_layers(layers, factor)` likewise needs only the structural invariant and re-establishes layer counts and
    name lists — PARTIAL: under `NoAtmNameClash`, i.e. provided the atmosphere layer's old name, which is put back
    after all layers have been renamed in sequence, is not one of the freshly generated names.  Without that
    hypothesis the statement is false, in the model (witness below) and in the code (known finding
    `registry:dup-name@refine_layers:atm-name-clash`, e.g. the shipped g4.dat whose atmosphere layer is ' 1'). -/
theorem refine_layers_establishes_invariant_partial (g g' : Geo) (layers : List Name) (f : Nat)
    (hr : g.refineLayers layers f = .ok g')
    (hno : ∀ g1 atm, g.refineLayersStack layers f = .ok (g1, atm) → NoAtmNameClash g1 atm)
    (h : g.geoInv0 = true) : g'.geoInv = true := by
  unfold refineLayers at hr
  obtain ⟨⟨g1, atm⟩, hst, hr⟩ := bind_ok hr
  simp only at hr
  obtain ⟨g2, h2, hr⟩ := bind_ok hr
  obtain ⟨g3, h3, hr⟩ := bind_ok hr
  refine setNumLayers_setupNames_geoInv h3 hr ?_
  -- renaming the atmosphere layer back: only the structural part and the layer registry matter here
  cases hll : g1.layerlist with
  | nil => rw [hll] at h2; cases h2
  | cons n0 rest =>
    rw [hll] at h2
    obtain ⟨i, hk, hsu⟩ := renameLayer_spec h2
    exact setupNames_inv0 hsu (renamedLayer_inv0 _ atm i hk (hno g1 atm hst n0 rest hll)
      (refineLayersStack_inv0 hst ((inv0_iff g).mp h)))

-- the hypothesis is met on the strip (atmosphere layer ' 0') …
example : (strip2 >>= fun g => g.refineLayers [] 2).map (fun g => (g.geoInv, g.layerlist.length)) = .ok (true, 3) := by
  decide +kernel
-- … and its negation is a real failure: rename the atmosphere layer to ' 1' first
example : (strip2 >>= fun g => g.renameLayer [[' ', '0']] [[' ', '9']] >>= fun g =>
    g.renameLayer [[' ', '1']] [[' ', '0']] >>= fun g => g.renameLayer [[' ', '9']] [[' ', '1']] >>= fun g =>
    g.refineLayers [] 2).map (fun g => (g.registriesOK, g.layerlist.map fun l => (g.lay l).name)) =
    .ok (false, [[' ', '1'], [' ', '1'], [' ', '2']]) := by decide +kernel

example : (strip2 >>= fun g => g.renameColumn [nm 'a'] [nm 'q'] >>= fun g =>
    g.renameLayer [[' ', '1']] [[' ', '7']] >>= fun g =>
    g.copyLayersFrom [{ name := [' ', '0'], bottom := 0, centre := 0, top := 0 },
                      { name := [' ', '1'], bottom := -2, centre := -1, top := 0 },
                      { name := [' ', '2'], bottom := -3, centre := -5/2, top := -2 }]).map
      (fun g => (g.geoInv, g.connD.map (·.1), g.blockNames.length)) =
    .ok (true, [(nm 'q', nm 'b')], 4) := by decide +kernel

/-- `snap_columns_to_layers` / `snap_columns_to_nearest_layers` change nothing but the surfaces and layer counts of
    the selected columns: the structural invariant is kept (and the name lists are fresh afterwards, see above).
    That the layer count still matches the snapped surface is NOT proved (it needs the layer stack to be ordered). -/
theorem snap_columns_to_layers_preserves_structure (g g' : Geo) (t : Rat) (cols : List Nat)
    (hs : g.snapColumnsToLayers t cols = .ok g') (h : g.geoInv0 = true) : g'.geoInv0 = true := by
  unfold snapColumnsToLayers at hs
  split at hs
  · obtain ⟨g1, h1, h2⟩ := bind_ok hs
    refine inv0_lift (fun h0 => setupNames_inv0 h2 (Proofs.foldlM_inv Inv0 _ ?_ _ g g1 h1 h0)) h
    intro s c s' hstep hp
    obtain ⟨tl, _, hstep⟩ := bind_ok hstep
    cases hsf : (s.col c).surface with
    | none => rw [hsf] at hstep; cases hstep
    | some z =>
      rw [hsf] at hstep
      simp only at hstep
      split at hstep
      · cases hstep
        exact updCol_surf_inv0 c _ (fun _ => rfl) hp
      · cases hstep
        exact hp
  · cases hs
    exact h

theorem snap_columns_to_nearest_layers_preserves_structure (g g' : Geo) (cols : List Nat)
    (hs : g.snapColumnsToNearestLayers cols = .ok g') (h : g.geoInv0 = true) : g'.geoInv0 = true := by
  unfold snapColumnsToNearestLayers at hs
  obtain ⟨g1, h1, h2⟩ := bind_ok hs
  refine inv0_lift (fun h0 => setupNames_inv0 h2 (Proofs.foldlM_inv Inv0 _ ?_ _ g g1 h1 h0)) h
  intro s c s' hstep hp
  obtain ⟨tl, _, hstep⟩ := bind_ok hstep
  cases hsf : (s.col c).surface with
  | none => rw [hsf] at hstep; cases hstep
  | some z =>
    rw [hsf] at hstep
    simp only at hstep
    split at hstep
    · cases hstep
      exact updCol_surf_inv0 c _ (fun _ => rfl) hp
    · cases hstep
      exact updCol_surf_inv0 c _ (fun _ => rfl) hp

/-- in a consistent geometry `identify_neighbours()` is the identity: `add_connection` / `delete_connection` keep
    the neighbour sets exact, there is nothing left for it to add -/
theorem identify_neighbours_identity (g : Geo) (h : g.geoInv0 = true) : g.identifyNeighbours = g := by
  have hi := (inv0_iff g).mp h
  -- adding a neighbour that is already there changes nothing
  have hadd : ∀ c d, d ∈ (g.col c).nbrs → (g.updCol c fun cl => { cl with nbrs := setAdd cl.nbrs d }) = g := by
    intro c d hm
    simp only [updCol]
    rw [modify_id]
    intro _
    show { g.col c with nbrs := setAdd (g.col c).nbrs d } = g.col c
    rw [setAdd_of_mem _ _ hm]
  refine List.foldlRecOn (motive := (· = g)) g.connlist _ rfl fun b hb k hk => ?_
  rw [hb]
  have hj : g.joined (g.con k).c0 (g.con k).c1 = true := (joined_iff _ _ _).mpr ⟨k, hk, Or.inl ⟨rfl, rfl⟩⟩
  have hj' : g.joined (g.con k).c1 (g.con k).c0 = true := (joined_iff _ _ _).mpr ⟨k, hk, Or.inr ⟨rfl, rfl⟩⟩
  simp only [hadd _ _ ((hi.nbrs _ (hi.conEnds k hk).1 _).mpr hj)]
  exact hadd _ _ ((hi.nbrs _ (hi.conEnds k hk).2 _).mpr hj')

/-- `delete_orphans()`: every node with an empty column set is used by no column (that is the invariant), so they
    are deleted one by one as in `delete_node`: the whole invariant is kept -/
theorem delete_orphans_preserves (g g' : Geo) (hd : g.deleteOrphans = .ok g') (h : g.geoInv = true) :
    g'.geoInv = true := by
  unfold deleteOrphans at hd
  have hi := inv0_of_geoInv h
  apply deleteNodes_fold g.orphans g g' hd h (hi.nodes.nodup.sublist List.filter_sublist)
  intro n hn
  simp only [Geo.orphans, List.mem_filter, List.isEmpty_iff] at hn
  exact ⟨hn.1, fun c hc hm => List.not_mem_nil (hn.2 ▸ (hi.nodeCols n hn.1 c).mpr ⟨hc, hm⟩)⟩

/-- `translate(shift, wells)`: every clause of the invariant survives (positions, centres, surfaces and
    layer elevations all move together; areas and orientation by translation invariance of the shoelace sum) -/
theorem translate_preserves (g : Geo) (dx dy dz : Rat) (wells : Bool) (h : g.geoInv = true) :
    (g.translate dx dy dz wells).geoInv = true ∧ (g.translate dx dy dz wells).meshValid = g.meshValid :=
  ⟨translate_geoInv g dx dy dz wells h, (translate_sameStructure g dx dy dz wells).meshValid⟩

/-- `rotate(angle, centre, wells)` for any angle (given by its cosine and sine, `cs² + sn² = 1`) about
    any centre, or about the grid centre when none is given: orientation is preserved because the
    shoelace sum is multiplied by `cs² + sn² = 1 > 0` -/
theorem rotate_preserves (g g' : Geo) (cs sn : Rat) (centre : Option Pt) (wells : Bool)
    (hrot : g.rotate cs sn centre wells = .ok g') (hunit : cs * cs + sn * sn = 1) (h : g.geoInv = true) :
    g'.geoInv = true := by
  unfold rotate at hrot
  cases centre with
  | some c =>
    cases hrot
    exact rotateAbout_geoInv g cs sn c wells hunit h
  | none =>
    simp only at hrot
    cases hg : g.gridCentre with
    | none => rw [hg] at hrot; cases hrot
    | some c =>
      rw [hg] at hrot
      cases hrot
      exact rotateAbout_geoInv g cs sn c wells hunit h

-- non-vacuity: a 3-4-5 rotation of the two-column strip
example : (strip2 >>= fun g => g.rotate (3/5) (4/5) none false).map Geo.geoInv = .ok true := by decide +kernel
example : ((3 : Rat)/5) * (3/5) + (4/5) * (4/5) = 1 := by decide +kernel

end Props.C10
