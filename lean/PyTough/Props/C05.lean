/-
  C05 — listing tables hold exactly the numbers printed in the listing file.

  Models: Model/Listing.lean (row layer: start_of_values, key_positions, parse_table_line, read_table_line_*,
  listingtable) and Model/ListingFile.lean (the whole reader, all simulators).  On every run the harness
  compares the whole-file model with the real t2listing, table by table and cell by cell (bit-equal doubles), on
  the 37 shipped files and on value-perturbed copies; an independent tokenizer of the printed rows is the oracle.
  The theorems state the clauses of the property for the row layer, on which everything else rests, and then their
  composition over the whole-file reader: one printed table, the tables of one result block, `set_index`, and the
  layout that the set-up of a table records.
-/
import PyTough.Model.Listing
import PyTough.Proofs.Listing
import PyTough.Proofs.ListingValues
import PyTough.Proofs.ListingRowFormat
import PyTough.Proofs.ListingFile
import PyTough.Proofs.ListingWholeBlock
import PyTough.Proofs.ListingWholeAutBlock
import PyTough.Proofs.ListingWholeSetupA
import PyTough.Proofs.ListingWholeSetupT
import PyTough.Gen.ListingBind
import PyTough.Proofs.Literals

namespace Props.C05
open Py Model Model.Listing Proofs.Listing Proofs.Rows Proofs.Values

/-! ### each cell equals the number printed in that row and column (TOUGH2 family: fixed columns) -/

/-- **Column inference.**  The longest line of a table is `P ++ fields ++ tail`: a prefix `P` (keys and index,
    no decimal point) whose length is passed as the start of the values, then number fields, each `pad`
    blanks followed by a number text with exactly one decimal point and no blank (`Cell.WF`), consecutive fields
    related by `Sep`: either a blank in front of the next number, or the next number fills its field and this one
    ends in `E`, sign, two digits.  Then `parse_table_line` returns exactly the column where each field starts,
    followed by the length of the line.  (First column not the integer column `I` of ECO2M tables.) -/
theorem column_boundaries_correct (P : Str) (cells : List Cell) (tail : Str) (cols : List Str) (c0 : Str) (cs : List Str)
    (hcols : cols = c0 :: cs) (hI : c0 ≠ ['I'])
    (hP : '.' ∉ P) (ht : '.' ∉ tail) (hwf : ∀ c ∈ cells, c.WF) (hsep : SepChain cells) (hne : cells ≠ []) :
    parseTableLine (P ++ (renderAll cells ++ tail)) (some (P.length : Int)) cols
      = .ok ((starts P.length cells ++ [(P ++ (renderAll cells ++ tail)).length]).map natPos) := by
  unfold parseTableLine
  rw [hcols]
  simp only [pure, Except.pure, bind, Except.bind, if_neg hI]
  rw [indicesOf_line P cells tail hP ht hwf, boundaries_cells P cells tail hwf hsep]
  simp only
  cases cells with
  | nil => exact absurd rfl hne
  | cons c r => simp [starts, natPos]

/-- The excluded case is a known finding, exhibited on the model: in an ECO2M table (integer column `I` first) whose
    first row prints a negative first real right against the integer, `parse_table_line` bounds the `I` column by the
    first blank after the digit — which lies behind the pressure — so the `I` cell of an ordinary row reads as
    digit and pressure glued together (20.219638E+08 instead of 2) and the pressure column is empty. -/
theorem icolumn_negative_first_real_witness :
    startOfValues " A1001     1 2-0.221166E+08  45.0000\n".toList [['I'], ['P'], ['T']] = .ok (some 12) ∧
    parseTableLine " A1001     1 2-0.221166E+08  45.0000\n".toList (some 12) [['I'], ['P'], ['T']]
      = .ok [some 12, some 27, some 27, some 37] ∧
    readTableLineTOUGH2 " A1003     3 2 0.219638E+08  45.0000\n".toList 3 [some 12, some 27, some 27, some 37]
      = .ok [.fin false 20219638 2, .fin false 0 0, .fin false 450000 (-4)] ∧
    -- with the positive value the shipped file prints, the same functions give the right columns
    parseTableLine " A1001     1 2 0.221166E+08  45.0000\n".toList (some 12) [['I'], ['P'], ['T']]
      = .ok [some 12, some 14, some 27, some 37] := by
  decide_lits

/-- **Row slicing.**  With boundaries `b₀ … bₙ` (as inferred above) `read_table_line_TOUGH2` never raises on any
    line whatsoever, returns at least `ncols` values, value `k` is `fortran_float` of columns `[b_k, b_{k+1})` of the
    row, and the values beyond the inferred fields are 0.0. -/
theorem row_slicing_correct (row : Str) (ncols : Nat) (bounds : List Nat) :
    ∃ vals, readTableLineTOUGH2 row ncols (bounds.map natPos) = .ok vals ∧
      (∀ (k a b : Nat), bounds[k]? = some a → bounds[k + 1]? = some b → vals[k]? = some (readField (slice row a b))) ∧
      (∀ (k : Nat), bounds.length - 1 ≤ k → k < ncols → vals[k]? = some zero) := by
  refine ⟨_, readTableLineTOUGH2_eq row ncols bounds, ?_, ?_⟩
  · intro k a b ha hb
    have hk : k + 1 < bounds.length := (List.getElem?_eq_some_iff.mp hb).1
    rw [List.getElem?_append_left (by rw [List.length_map, fieldTexts_length]; omega), List.getElem?_map,
      fieldTexts_get row bounds k a b ha hb]
    rfl
  · intro k hk hkn
    rw [List.getElem?_append_right (by rw [List.length_map, fieldTexts_length]; exact hk), List.length_map,
      fieldTexts_length, List.getElem?_replicate, if_pos (by omega)]

/-- (this theorem and the three behind it) what `fortran_float` makes of the text of a field (C16): any Fortran rendering of a real — `E±dd`, `D`, three
    exponent digits without the letter, negative, zero — padded with blanks anywhere, reads as the decimal
    printed; a blank field, or one that lies beyond the end of a short row, reads as 0.0; a line terminator
    behind the last field changes nothing. -/
theorem field_value_printed (r : Proofs.FReal) (hr : r.WF) (s : Str) (hs : s.filter (· != ' ') = r.render) :
    readField s = r.value := by
  unfold readField; rw [Proofs.fortranFloat_reads r hr s hs]; rfl

theorem blank_field_is_zero (s : Str) (h : ∀ c ∈ s, isStrWs c = true) : readField s = zero := by
  unfold readField; rw [Proofs.fortranFloat_blank s h]; rfl

theorem field_beyond_row_is_zero (row : Str) (a b : Nat) (h : row.length ≤ a) : readField (slice row a b) = zero := by
  rw [slice_past_end h]; exact blank_field_is_zero [] (by simp)

theorem line_terminator_ignored (s t : Str) (ht : ∀ c ∈ t, isNumWs c = true) : readField (s ++ t) = readField s := by
  unfold readField; rw [fortranFloat_append_ws s t ht]

-- the generation-table row of rfp.listing with its two trailing columns blank, and a row of adjacent numbers
example : readTableLineTOUGH2 "      AA 1   INJ 1 1           0.37500E+01    0.50000E+06\n".toList 4 ([30, 42, 57, 70].map natPos)
    = .ok [.fin false 37500 (-4), .fin false 50000 1, .fin false 0 0, .fin false 0 0] := by
  decide_lits
example : parseTableLine "  AA 1     1 0.99013E+07 0.00000E+00-0.12409E+03\n".toList (some 12) [['P'], ['T'], ['X']]
    = .ok [some 12, some 24, some 36, some 49] := by
  decide_lits
example : readTableLineTOUGH2 "  BA 1     2 0.94153E+07 0.19209-103-0.66842E+01\n".toList 3 [some 12, some 24, some 36, some 49]
    = .ok [.fin false 94153 2, .fin false 19209 (-108), .fin true 66842 (-4)] := by
  decide_lits
-- the hypotheses are satisfiable: the line of the second example as prefix ++ fields ++ tail
example : let cells : List Cell := [⟨1, ['0'], "99013E+07".toList⟩, ⟨1, ['0'], "00000E+00".toList⟩, ⟨0, ['-', '0'], "12409E+03".toList⟩]
    "  AA 1     1".toList ++ (renderAll cells ++ ['\n']) = "  AA 1     1 0.99013E+07 0.00000E+00-0.12409E+03\n".toList ∧
    SepChain cells ∧ starts 12 cells = [12, 24, 36] := by
  repeat rewrite [String.toList_ofList]
  refine ⟨by decide +kernel, ⟨Or.inl ⟨by decide +kernel, by decide +kernel⟩,
    Or.inr ⟨rfl, "00000".toList, '+', '0', '0', by decide +kernel, by decide +kernel⟩, trivial⟩, by decide +kernel⟩

/-- The side conditions of `column_boundaries_correct` are decidable on a concrete line; `rowFormatB` decides them and
    this theorem says its answer can be trusted.  The driver evaluates it on the line every table's columns were
    inferred from (all TOUGH2-family tables of the 37 shipped files but the ECO2M table with the integer column
    satisfy it; the evidence file reports the count of every run). -/
theorem row_format_decidable (line : Str) (bounds : List Nat) (h : rowFormatB line bounds = true) :
    ∃ (P : Str) (cells : List Cell) (tail : Str),
      line = P ++ (renderAll cells ++ tail) ∧ '.' ∉ P ∧ '.' ∉ tail ∧ (∀ c ∈ cells, c.WF) ∧ SepChain cells ∧ cells ≠ [] ∧
      starts P.length cells = bounds :=
  rowFormat_sound line bounds h

example : rowFormatB "  AA 1     1 0.99013E+07 0.00000E+00-0.12409E+03\n".toList [12, 24, 36] = true := by
  decide_lits

/-! ### one row per printed row, keyed by the printed names, in the order of the printed index -/

/-- (with `rows_in_index_order` behind it) `setup_table_TOUGH2` keeps the rows in a dictionary keyed by the printed index (`dictSet`) and orders the table
    by `sorted(keys)` (`sortByIndex`): a row printed again under the same index (TOUGH2-MP prints a row once per
    processor holding it) replaces the earlier one, every other index keeps its row, no index is held twice, and the
    table lists exactly the rows kept, in ascending order of the printed index. -/
theorem rows_keyed_by_printed_index (d : List Proofs.File.RowEntry) (i : Int) (v : Nat × Key) :
    (dictSet d i v).lookup i = some v ∧
    (∀ j, j ≠ i → (dictSet d i v).lookup j = d.lookup j) ∧
    ((d.map (·.1)).Nodup → ((dictSet d i v).map (·.1)).Nodup) :=
  ⟨by rw [Proofs.File.lookup_dictSet, if_pos rfl], fun j hj => by rw [Proofs.File.lookup_dictSet, if_neg hj],
   Proofs.File.dictSet_keys_nodup d i v⟩

theorem rows_in_index_order (d : List Proofs.File.RowEntry) :
    (sortByIndex d).Perm d ∧ Proofs.File.Ascending (sortByIndex d) :=
  ⟨Proofs.File.sortByIndex_perm d, Proofs.File.sortByIndex_ascending d⟩

example : sortByIndex (dictSet (dictSet (dictSet [] 3 (0, [['c']])) 1 (1, [['a']])) 3 (2, [['c']])) = [(1, 1, [['a']]), (3, 2, [['c']])] := by decide +kernel

/-- `skip_table_TOUGH2` skips `header_skiplines + num_rows + sum(skiplines)` lines; `read_table_TOUGH2` skips
    `header_skiplines` lines and then reads one line per entry of `skiplines`, skipping `skip` lines after each.  When no
    row of the table is printed twice (`num_rows = len(skiplines)`; TOUGH2-MP tables can violate it) both leave the file
    at exactly the same line, whatever the table contains — so the tables that follow are found and read alike.
    (When rows are printed twice the skip lands inside the table; `next_table` then scans forward to the next table
    header, which the correspondence and the oracle cover, not this theorem.)  `rest` are the lines from the table
    header on. -/
theorem skip_lands_where_read_lands (t t' : Table) (rest rest' : List Str)
    (hrows : t.rows.size = t.skips.length)
    (h : readRowsL t.keyPos t.cols.length t.numpos t.skips (rest.drop t.headerSkip) t = .ok (t', rest')) :
    rest' = rest.drop (t.headerSkip + t.rows.size + t.skips.sum) := by
  rw [(Proofs.Whole.readRowsL_inv _ _ _ _ _ _ _ _ h).2.2, List.drop_drop, hrows]
  congr 1; omega

/-- An AUTOUGH2 row is `pre` (keys and index, as long as `start`) followed by whitespace and the printed numbers,
    each followed by whitespace (non-empty between two numbers).  `read_table_line_AUTOUGH2` returns exactly the
    values of the printed numbers, one per number. -/
theorem autough2_row_split_correct (pre lead : Str) (toks : List (Str × Str))
    (hlead : ∀ c ∈ lead, isStrWs c = true) (htoks : ToksOk toks) :
    readTableLineAUTOUGH2 (pre ++ (lead ++ joinToks toks)) (some (pre.length : Int))
      = .ok (toks.map (fun p => readField p.1)) := by
  unfold readTableLineAUTOUGH2
  rw [sliceO_from, splitWs_strip]
  have h2 : splitWs (lead ++ joinToks toks) = toks.map (·.1) := by
    unfold splitWs
    rw [splitWs_go_ws lead _ hlead, splitWs_go_toks toks htoks]
  rw [h2, mapM_readField, List.map_map]
  rfl

/-- and it characterises the other case: two numbers printed with no blank between them are one token for the
    split (so the count of values does not match the column count, which `setup_table_AUTOUGH2` refuses) -/
theorem autough2_adjacent_numbers_merge (a b : Str) (ha : ∀ c ∈ a, isStrWs c = false) (hb : ∀ c ∈ b, isStrWs c = false)
    (hne : a ≠ []) : splitWs (a ++ b) = [a ++ b] := by
  have h : ToksOk [(a ++ b, [])] := by
    refine ⟨?_, ?_, by simp⟩
    · cases a with
      | nil => exact absurd rfl hne
      | cons _ _ => simp
    · intro c hc; rcases List.mem_append.mp hc with h | h
      · exact ha c h
      · exact hb c h
  have := splitWs_go_toks _ h
  simpa [splitWs, joinToks] using this

example : readTableLineAUTOUGH2 "    AA  1         1      0.29971E+08      0.39992E+03 -0.10000E+01\r\n".toList (some 24)
    = .ok [.fin false 29971 3, .fin false 39992 (-2), .fin true 10000 (-4)] := by
  decide_lits
example : ToksOk [("0.29971E+08".toList, "   ".toList), ("-0.1E+01".toList, "\r\n".toList)] := by
  simp only [ToksOk]
  decide_lits

/-! ### simulator detection binds only methods that the model implements -/

/-- the per-simulator methods of t2listing that the whole-file model transcribes -/
def modelledMethods : List String :=
  ["setup_pos_AUTOUGH2", "setup_pos_TOUGH2", "table_type_AUTOUGH2", "table_type_TOUGH2", "table_type_TOUGHplus",
   "setup_table_AUTOUGH2", "setup_table_TOUGH2", "setup_tables_AUTOUGH2", "setup_tables_TOUGH2", "setup_tables_TOUGHplus",
   "read_header_AUTOUGH2", "read_header_TOUGH2", "read_table_AUTOUGH2", "read_table_TOUGH2",
   "next_table_AUTOUGH2", "next_table_TOUGH2", "next_table_TOUGHplus",
   "read_tables_AUTOUGH2", "read_tables_TOUGH2", "read_tables_TOUGHplus",
   "skip_to_table_AUTOUGH2", "skip_to_table_TOUGH2", "skip_to_table_TOUGHplus",
   "read_table_line_AUTOUGH2", "read_table_line_TOUGH2",
   "read_title_AUTOUGH2", "read_title_TOUGH2", "read_title_TOUGH2_MP", "skip_table_AUTOUGH2", "skip_table_TOUGH2"]

/-- Over the table regenerated from /repo's current `detect_simulator` on every run (Gen/ListingBind.lean): for each of the
    six simulators every internal function name is bound, and bound to a method the model implements — the model
    dispatches through this very table (`Model.Listing.bound`).  A method added, removed or renamed in the source
    changes the table and this theorem is checked again. -/
theorem binding_is_modelled :
    Gen.ListingBind.binding.length = 6 ∧
    Gen.ListingBind.binding.all (fun p => Gen.ListingBind.internalFns.all (fun f =>
      match p.2.lookup f with
      | some tgt => modelledMethods.contains tgt
      | none => false)) = true := by decide +kernel

/-! ### the row-index, row-name and column-name ways of addressing a cell agree -/

/-- For a table cell (row `i` with key `key`, column `c` at position `k`, value `v`; `i` is the row its name
    addresses, i.e. the name is not repeated later): `table[i][c]`, `table[key][c]` and `table[c][i]` all give `v`,
    and both row forms announce `key`. -/
theorem addressing_agrees (t : Table) (i k : Nat) (c : Str) (key : Key) (rowv : Array FVal) (v : FVal)
    (hrow : t.rows[i]? = some key) (hname : lastIdx t.rows key = some i)
    (hcol : colIdx t.cols c = some k)
    (hdata : t.data[i]? = some rowv) (hlen : rowv.size = t.cols.length) (hv : rowv[k]? = some v) :
    (∃ rv, t.getByIndex i = .ok rv ∧ rv.key = key ∧ rv.get c = some v) ∧
    (∃ rv, t.getByName key = some rv ∧ rv.key = key ∧ rv.get c = some v) ∧
    (∃ col, t.getCol c = some col ∧ col[i]? = some v) := by
  have hi : i < t.rows.size := (lastIdx_spec hname).1
  have hget : (t.rowView i false).get c = some v := by simpa using rowView_get t i k c rowv v false hcol hdata hlen hv
  refine ⟨⟨t.rowView i false, ?_, (rowView_key t i key hrow).1, hget⟩, ⟨t.rowView i false, ?_, (rowView_key t i key hrow).1, hget⟩,
    getCol_get t i k c rowv v hcol hdata hv⟩
  · unfold Table.getByIndex
    have h1 : ¬ ((i : Int) < 0) := by omega
    simp only [h1, if_false]
    simp [hi]
  · unfold Table.getByName; rw [hname]

/-- A connection named in reverse order (the name itself is not a row, its reverse is): the row comes back with the
    names reversed and every value negated. -/
theorem reversed_key_row (t : Table) (i k : Nat) (c : Str) (key rkey : Key) (rowv : Array FVal) (v : FVal)
    (hallow : t.allowRev = true) (hlen1 : pyLenKey key > 1)
    (hnot : lastIdx t.rows key = none) (hrev : lastIdx t.rows (pyRevKey key) = some i)
    (hrow : t.rows[i]? = some rkey)
    (hcol : colIdx t.cols c = some k)
    (hdata : t.data[i]? = some rowv) (hlen : rowv.size = t.cols.length) (hv : rowv[k]? = some v) :
    ∃ rv, t.getByName key = some rv ∧ rv.key = pyRevKey rkey ∧ rv.get c = some (negF v) := by
  refine ⟨t.rowView i true, ?_, (rowView_key t i rkey hrow).2, ?_⟩
  · unfold Table.getByName
    rw [hnot]
    have : (decide (pyLenKey key > 1) && t.allowRev) = true := by simp [hlen1, hallow]
    simp only [this, if_true, hrev]
  · simpa using rowView_get t i k c rowv v true hcol hdata hlen hv

-- a two-row connection table
private def exT : Table :=
  { mkTable [['F'], ['G']] #[[['a'], ['b']], [['b'], ['c']]] 2 true with
    data := #[#[.fin false 1 0, .fin false 2 0], #[.fin false 3 0, .fin true 4 0]] }
example : exT.getByIndex 1 = .ok ⟨[['b'], ['c']], [(['F'], .fin false 3 0), (['G'], .fin true 4 0)]⟩ := by decide +kernel
example : exT.getByName [['b'], ['c']] = some ⟨[['b'], ['c']], [(['F'], .fin false 3 0), (['G'], .fin true 4 0)]⟩ := by decide +kernel
example : exT.getByName [['c'], ['b']] = some ⟨[['c'], ['b']], [(['F'], .fin true 3 0), (['G'], .fin false 4 0)]⟩ := by decide +kernel
example : exT.getCol ['G'] = some [.fin false 2 0, .fin true 4 0] := by decide +kernel
example : lastIdx exT.rows [['b'], ['c']] = some 1 ∧ colIdx exT.cols ['G'] = some 1 := by decide +kernel

/-! ### a whole printed table: the reading loop of the whole-file reader over the lines of one table

  The region of a TOUGH2-family table, as the layout recorded at set-up time describes it: `header_skiplines` lines
  (column header, units, blank lines), then for every entry of `skiplines` one printed data line followed by that many
  lines to be skipped (blank lines, repeated headers), then whatever follows the table (`after`).  `read_table_TOUGH2`
  is the method bound for TOUGH2, TOUGH2_MP, TOUGH3, TOUGHREACT and TOUGH+ (`Gen.ListingBind.binding`). -/

open Proofs.Whole in
/-- the well-formedness of a table region for a table `t` that has been set up: decidable on concrete lines -/
def TableRegionT (t : Table) (header : List Str) (segs : List (Str × List Str)) : Prop :=
  header.length = t.headerSkip ∧ segs.map (·.2.length) = t.skips ∧ t.data.size = t.rows.size ∧
  ∀ sg ∈ segs, (rowOfLineT t.rows t.keyPos t.cols.length t.numpos sg.1).isSome = true

instance (t : Table) (header : List Str) (segs : List (Str × List Str)) : Decidable (TableRegionT t header segs) := by
  unfold TableRegionT; infer_instance

open Proofs.Whole in
/-- what `rowOfLineT … d = some (i, vals)` says about a printed data line `d`: its key (`key_from_line`) names row
    `i` of the table, the row reader does not raise on it and returns `vals`, one value per column -/
theorem data_line_meaning (t : Table) (d : Str) (i : Nat) (vals : List FVal) :
    rowOfLineT t.rows t.keyPos t.cols.length t.numpos d = some (i, vals) ↔
      ∃ key, keyFromLine d t.keyPos = .ok key ∧ lastIdx t.rows key = some i ∧
        readTableLineTOUGH2 d t.cols.length t.numpos = .ok vals ∧ vals.length = t.cols.length :=
  rowOfLineT_spec _ _ _ _ _ _ _

open Proofs.Whole in
/-- **One row per printed data line (TOUGH2 family).**  `read_table_TOUGH2`, run with the file at the first line of a
    well-formed table region, returns normally; the file is then exactly behind the region (line count included);
    for every printed data line `d` (the `j`-th), the row its key names holds exactly the values the row reader
    returns for `d` — unless a later data line of the same table names the same row, which then wins, as coded;
    rows named by no data line keep what they held; the table's row names, columns and layout are unchanged; no
    other table and no other attribute of the reader changes. -/
theorem table_read_TOUGH2 (tn : String) (t : Table) (s : Rd) (header : List Str) (segs : List (Str × List Str))
    (after : List Str)
    (ht : s.tables.lookup tn = some t)
    (hrest : s.pos.rest = header ++ (flat segs ++ after))
    (hwf : TableRegionT t header segs) :
    ∃ s' t', (readTableTOUGH2 tn).run s = .ok ((), s') ∧
      s'.pos = ⟨s.pos.no + (header.length + (flat segs).length), after⟩ ∧
      s'.tables.lookup tn = some t' ∧ t' = { t with data := t'.data } ∧ t'.data.size = t.data.size ∧
      (∀ (j : Nat) d i vals, (segs.map (·.1))[j]? = some d →
          rowOfLineT t.rows t.keyPos t.cols.length t.numpos d = some (i, vals) →
          (∀ (j' : Nat) d', j < j' → (segs.map (·.1))[j']? = some d' →
              ∀ v', rowOfLineT t.rows t.keyPos t.cols.length t.numpos d' ≠ some (i, v')) →
          t'.data[i]? = some vals.toArray) ∧
      (∀ i, (∀ d ∈ segs.map (·.1), ∀ v, rowOfLineT t.rows t.keyPos t.cols.length t.numpos d ≠ some (i, v)) →
          t'.data[i]? = t.data[i]?) ∧
      (∀ m, m ≠ tn → s'.tables.lookup m = s.tables.lookup m) ∧
      s'.tables.map (·.1) = s.tables.map (·.1) ∧
      s' = { s with pos := s'.pos, tables := s'.tables } := by
  obtain ⟨hh, hsk, hdata, hok⟩ := hwf
  have hrun := readTableTOUGH2_run tn t s header segs after ht hrest hh hsk hok
  refine ⟨_, { t with data := applyRows t.data (upsT t segs) }, hrun, rfl, ?_, rfl, ?_, ?_, ?_, ?_, ?_, rfl⟩
  · rw [Proofs.lookup_upsert, if_pos rfl]
  · exact applyRows_size _ _
  · exact upsT_row t segs hdata
  · intro i h
    exact applyRows_no_line _ _ t.data i h
  · intro m hm
    rw [Proofs.lookup_upsert, if_neg hm]
  · rw [Proofs.keys_upsert, if_pos (List.mem_map_of_mem (Proofs.mem_of_lookup ht))]

open Proofs.Whole in
/-- **Each cell equals the number printed in that row and column (whole table, TOUGH2 family).**  With the column
    boundaries `b₀ … bₙ` of the layout (those `column_boundaries_correct` infers), after `read_table_TOUGH2` on a
    well-formed region the cell in the row named by data line `d` and column `k` is `fortran_float` of columns
    `[b_k, b_{k+1})` of `d` (what `field_value_printed` / `blank_field_is_zero` evaluate), when no later line names
    the same row. -/
theorem cells_equal_printed_table_TOUGH2 (tn : String) (t : Table) (s : Rd) (header : List Str) (segs : List (Str × List Str))
    (after : List Str) (bounds : List Nat)
    (ht : s.tables.lookup tn = some t)
    (hrest : s.pos.rest = header ++ (flat segs ++ after))
    (hwf : TableRegionT t header segs) (hb : t.numpos = bounds.map natPos) :
    ∃ s' t', (readTableTOUGH2 tn).run s = .ok ((), s') ∧ s'.pos.rest = after ∧ s'.tables.lookup tn = some t' ∧
      ∀ (j : Nat) d i vals, (segs.map (·.1))[j]? = some d →
        rowOfLineT t.rows t.keyPos t.cols.length t.numpos d = some (i, vals) →
        (∀ (j' : Nat) d', j < j' → (segs.map (·.1))[j']? = some d' →
            ∀ v', rowOfLineT t.rows t.keyPos t.cols.length t.numpos d' ≠ some (i, v')) →
        ∃ row, t'.data[i]? = some row ∧ row.size = t.cols.length ∧
          ∀ (k a b : Nat), bounds[k]? = some a → bounds[k + 1]? = some b → row[k]? = some (readField (slice d a b)) := by
  obtain ⟨s', t', hrun, hpos, htab, _, _, hline, _⟩ := table_read_TOUGH2 tn t s header segs after ht hrest hwf
  refine ⟨s', t', hrun, by rw [hpos], htab, ?_⟩
  intro j d i vals hj hf hlater
  obtain ⟨_, _, _, hv, hl⟩ := (rowOfLineT_spec _ _ _ _ _ _ _).mp hf
  refine ⟨vals.toArray, hline j d i vals hj hf hlater, by simpa using hl, fun k a b ha hbb => ?_⟩
  obtain ⟨vals', hv', hcell, _⟩ := row_slicing_correct d t.cols.length bounds
  rw [hb, hv'] at hv
  injection hv with hv
  subst hv
  simpa using hcell k a b ha hbb

open Proofs.Whole in
/-- **Skipping a table leaves the file where reading it would (whole table, TOUGH2 family).**  On the same region,
    for a table with as many rows as printed data lines (no row printed twice), `skip_table_TOUGH2` and
    `read_table_TOUGH2` end at the same file position, and the skip changes nothing else. -/
theorem skip_table_lands_where_read_lands_TOUGH2 (tn : String) (t : Table) (s : Rd) (header : List Str)
    (segs : List (Str × List Str)) (after : List Str)
    (ht : s.tables.lookup tn = some t)
    (hrest : s.pos.rest = header ++ (flat segs ++ after))
    (hwf : TableRegionT t header segs) (hrows : t.rows.size = segs.length) :
    ∃ s₁ s₂, (readTableTOUGH2 tn).run s = .ok ((), s₁) ∧ (skipTableTOUGH2 tn).run s = .ok ((), s₂) ∧
      s₂.pos = s₁.pos ∧ s₂ = { s with pos := s₂.pos } := by
  obtain ⟨s₁, _, hrun, hpos, _⟩ := table_read_TOUGH2 tn t s header segs after ht hrest hwf
  refine ⟨s₁, _, hrun, skipTableTOUGH2_run tn t s header segs after ht hrest hwf.1 hwf.2.1 hrows, ?_, rfl⟩
  rw [hpos]

-- the hypotheses of the four theorems above are satisfiable: a two-row element table (header line, blank line, a data
-- line followed by a blank line, a data line, the `@@@@@` line behind the table)
private def exT2 : Table :=
  { mkTable [['P'], ['T'], ['X']] #[[" AA 1".toList], [" BA 1".toList]] 1 false with
    keyPos := [1], numpos := [12, 24, 36, 49].map natPos, headerSkip := 2, skips := [1, 0] }
private def exHdr : List Str := [" ELEM. INDEX P T X\n".toList, "\n".toList]
private def exSegs : List (Str × List Str) :=
  [("  AA 1     1 0.99013E+07 0.00000E+00-0.12409E+03\n".toList, ["\n".toList]),
   ("  BA 1     2 0.94153E+07 0.19209-103-0.66842E+01\n".toList, [])]
private def exAfter : List Str := [" @@@@@@@@@@\n".toList]
private def exRd : Rd :=
  { all := exHdr ++ (Proofs.Whole.flat exSegs ++ exAfter), isOutputData := false,
    pos := ⟨0, exHdr ++ (Proofs.Whole.flat exSegs ++ exAfter)⟩, tables := [("element", exT2)] }
example : exRd.tables.lookup "element" = some exT2 ∧ exRd.pos.rest = exHdr ++ (Proofs.Whole.flat exSegs ++ exAfter) ∧
    TableRegionT exT2 exHdr exSegs ∧ exT2.numpos = [12, 24, 36, 49].map natPos ∧ exT2.rows.size = exSegs.length := by
  refine ⟨rfl, rfl, ?_, rfl, by decide +kernel⟩
  simp only [exT2, exHdr, exSegs]
  decide_lits
example : Proofs.Whole.rowOfLineT exT2.rows exT2.keyPos exT2.cols.length exT2.numpos exSegs[1].1
    = some (1, [.fin false 94153 2, .fin false 19209 (-108), .fin true 66842 (-4)]) := by
  simp only [exT2, exSegs, List.getElem_cons_zero, List.getElem_cons_succ]
  decide_lits

/-! ### a whole printed table, AUTOUGH2: the loop runs to the terminator line

  The lines from behind the three result-header lines: the title block `A` (non-blank lines: the table's keyword line
  `EEEEE`, `CCCCC`, `GGGGG` in columns 1..5, printed once more behind the header lines, and the table's title), a blank
  line `b`, the column header block `B` (non-blank lines), blank lines `b2 :: Bl`, the printed data lines `D`, the
  terminator `term` (the keyword again), then `tail` (`Proofs.Whole.autRegion` is this concatenation). -/

open Proofs.Whole in
/-- well-formedness of an AUTOUGH2 table region for a table `t` that has been set up: decidable on concrete lines -/
def TableRegionA (tn : String) (t : Table) (A : List Str) (b : Str) (B : List Str) (b2 : Str) (Bl D : List Str) (term : Str) : Prop :=
  (∀ l ∈ A, isBlank l = false) ∧ isBlank b = true ∧ (∀ l ∈ B, isBlank l = false) ∧ isBlank b2 = true ∧
  (∀ l ∈ Bl, isBlank l = true) ∧ isBlank ((D ++ [term]).headD []) = false ∧
  (∀ d ∈ D, slice d 1 6 ≠ keyword5 tn) ∧ slice term 1 6 = keyword5 tn ∧
  (∀ d ∈ D, (rowOfLineA t.cols.length (t.numpos.headD none) d).isSome = true) ∧
  D.length ≤ t.rows.size ∧ t.data.size = t.rows.size

instance (tn : String) (t : Table) (A : List Str) (b : Str) (B : List Str) (b2 : Str) (Bl D : List Str) (term : Str) :
    Decidable (TableRegionA tn t A b B b2 Bl D term) := by
  unfold TableRegionA; infer_instance

open Proofs.Whole in
/-- **One row per printed data line, in order, up to the terminator (AUTOUGH2).**  `read_table_AUTOUGH2`, run with the
    file at the first line of a well-formed region, returns normally; the loop stops at the terminator line and one
    more line is read behind it (`tail.drop 1` is left, line count included); row `j` of the table holds exactly the
    values `read_table_line_AUTOUGH2` returns for the `j`-th printed data line, one per column; rows beyond the
    printed lines keep what they held; row names, columns and layout of the table are unchanged; no other table and
    no other attribute of the reader changes. -/
theorem table_read_AUTOUGH2 (tn : String) (t : Table) (s : Rd)
    (A : List Str) (b : Str) (B : List Str) (b2 : Str) (Bl D : List Str) (term : Str) (tail : List Str)
    (ht : s.tables.lookup tn = some t)
    (hrest : s.pos.rest = autRegion A b B b2 Bl D term tail)
    (hwf : TableRegionA tn t A b B b2 Bl D term) :
    ∃ s' t', (readTableAUTOUGH2 tn).run s = .ok ((), s') ∧
      s'.pos = ⟨s.pos.no + (A.length + 1 + B.length + 1 + Bl.length + D.length + 1 + min 1 tail.length), tail.drop 1⟩ ∧
      s'.tables.lookup tn = some t' ∧ t' = { t with data := t'.data } ∧ t'.data.size = t.data.size ∧
      (∀ (j : Nat) d, D[j]? = some d →
          ∃ vals, readTableLineAUTOUGH2 d (t.numpos.headD none) = .ok vals ∧ vals.length = t.cols.length ∧
            t'.data[j]? = some vals.toArray) ∧
      (∀ i, D.length ≤ i → t'.data[i]? = t.data[i]?) ∧
      (∀ m, m ≠ tn → s'.tables.lookup m = s.tables.lookup m) ∧
      s'.tables.map (·.1) = s.tables.map (·.1) ∧
      s' = { s with pos := s'.pos, tables := s'.tables } := by
  have hrun := readTableAUTOUGH2_run tn t s A b B b2 Bl D term tail ht hrest hwf
  obtain ⟨_, _, _, _, _, _, _, _, hok, hsz, hdata⟩ := hwf
  exact ⟨_, { t with data := applyRows t.data (upsA t D) }, hrun, rfl, by rw [Proofs.lookup_upsert, if_pos rfl], rfl,
    applyRows_size _ _, upsA_row t D hok hsz hdata, upsA_row_beyond t D, fun m hm => by rw [Proofs.lookup_upsert, if_neg hm],
    by rw [Proofs.keys_upsert, if_pos (List.mem_map_of_mem (Proofs.mem_of_lookup ht))], rfl⟩

open Proofs.Whole in
/-- **Skipping a table leaves the file where reading it would (AUTOUGH2).**  On the same region, when no line of the
    header block carries the table's keyword in columns 1..5, `skip_table_AUTOUGH2` and `read_table_AUTOUGH2` end at
    the same file position, and the skip changes nothing else. -/
theorem skip_table_lands_where_read_lands_AUTOUGH2 (tn : String) (t : Table) (s : Rd)
    (A : List Str) (b : Str) (B : List Str) (b2 : Str) (Bl D : List Str) (term : Str) (tail : List Str)
    (ht : s.tables.lookup tn = some t)
    (hrest : s.pos.rest = autRegion A b B b2 Bl D term tail)
    (hwf : TableRegionA tn t A b B b2 Bl D term)
    (hhead : ∀ l ∈ b :: (B ++ b2 :: Bl), slice l 1 6 ≠ keyword5 tn) :
    ∃ s₁ s₂, (readTableAUTOUGH2 tn).run s = .ok ((), s₁) ∧ (skipTableAUTOUGH2 tn).run s = .ok ((), s₂) ∧
      s₂.pos = s₁.pos ∧ s₂ = { s with pos := s₂.pos } := by
  obtain ⟨s₁, _, hrun, hpos, _⟩ := table_read_AUTOUGH2 tn t s A b B b2 Bl D term tail ht hrest hwf
  obtain ⟨hA, hb, _, _, _, _, hD, hterm, _⟩ := hwf
  refine ⟨s₁, _, hrun, skipTableAUTOUGH2_run tn s A b B b2 Bl D term tail hrest hA hb hhead hD hterm, ?_, rfl⟩
  rw [hpos]

-- the hypotheses are satisfiable: an AUTOUGH2 element table of two rows between its two `EEEEE` lines
private def exTA : Table :=
  { mkTable [['P'], ['T'], ['X']] #[["AA  1".toList], ["AA  2".toList]] 1 false with keyPos := [4], numpos := [some 24] }
private def exDA : List Str :=
  ["    AA  1         1      0.29971E+08      0.39992E+03 -0.10000E+01\r\n".toList,
   "    AA  2         2      0.29000E+08      0.10000E+03  0.00000E+00\r\n".toList]
private def exRdA : Rd :=
  let ls := Proofs.Whole.autRegion [" a title line\n".toList] "\n".toList [" ELEMENT INDEX P T X\n".toList, " (PA) (DEG-C)\n".toList]
    "\n".toList ["  \n".toList] exDA " EEEEEEEEEEEEEEE\n".toList ["\n".toList, " next\n".toList]
  { all := ls, isOutputData := false, pos := ⟨7, ls⟩, tables := [("element", exTA)] }
example : exRdA.tables.lookup "element" = some exTA ∧
    exRdA.pos.rest = Proofs.Whole.autRegion [" a title line\n".toList] "\n".toList [" ELEMENT INDEX P T X\n".toList, " (PA) (DEG-C)\n".toList]
      "\n".toList ["  \n".toList] exDA " EEEEEEEEEEEEEEE\n".toList ["\n".toList, " next\n".toList] ∧
    TableRegionA "element" exTA [" a title line\n".toList] "\n".toList [" ELEMENT INDEX P T X\n".toList, " (PA) (DEG-C)\n".toList]
      "\n".toList ["  \n".toList] exDA " EEEEEEEEEEEEEEE\n".toList ∧
    (∀ l ∈ "\n".toList :: ([" ELEMENT INDEX P T X\n".toList, " (PA) (DEG-C)\n".toList] ++ "\n".toList :: ["  \n".toList]),
      slice l 1 6 ≠ keyword5 "element") := by
  refine ⟨rfl, rfl, ?_, ?_⟩
  · simp only [exTA, exDA]
    decide_lits
  · decide_lits

/-! ### all tables of one result block (TOUGH2 family): read_tables_TOUGH2, with some tables skipped

  A block is a list of entries (`Proofs.Whole.TEntry`): a table name, its lines — either a table that is read
  (`TKind.read t header segs`: the region of `table_read_TOUGH2`) or one that is skipped because the reader holds no
  table of that name (it is in `skip_tables`, so was never set up, or was absent at the first result time:
  `TKind.skip R atl`, lines `R` without `@@@@@` in columns 1..5 followed by the `@@@@@` line) — and the lines up to
  the next table: lines `X` without a `KCYC … ITER` line, that line `kc`, blank lines `Bl`.  `EntryOk`, `LinksOk`,
  `EndOk` (Proofs/ListingWholeBlock.lean) are the decidable well-formedness conditions: every read region is well
  formed for its table, every walk finds the `KCYC` line before the next result block and the next header names the
  next table (not the diffusion block `MASS FLOW RATES …`), and behind the last table comes the end of the file or a
  `KCYC` line of the next block.  `read_tables_TOUGH2` is `read_header` followed by this loop with fuel
  `len(remaining lines) + 2` (`Proofs.Whole.readTables_T2`); the theorem holds for any fuel above the number of tables. -/

open Proofs.Whole in
/-- what a reader state `s'` holds after the tables `L` of a TOUGH2-family block have been gone through from state `s`
    (`tables_read_block_TOUGH2` below spells these clauses out; `set_index_reads_block_TOUGH2` uses the name) -/
def HoldsBlockT (s s' : Rd) (L : List TEntry) : Prop :=
  (∀ x ∈ L, ∀ t header segs, x.kind = .read t header segs → t.data.size = t.rows.size →
    ∃ t', s'.tables.lookup x.tn = some t' ∧ t' = { t with data := t'.data } ∧
      ∀ (j : Nat) d i vals, (segs.map (·.1))[j]? = some d →
        rowOfLineT t.rows t.keyPos t.cols.length t.numpos d = some (i, vals) →
        (∀ (j' : Nat) d', j < j' → (segs.map (·.1))[j']? = some d' →
          ∀ v', rowOfLineT t.rows t.keyPos t.cols.length t.numpos d' ≠ some (i, v')) →
        t'.data[i]? = some vals.toArray) ∧
  (∀ m, (∀ x ∈ L, x.tn = m → ∃ R atl, x.kind = .skip R atl) → s'.tables.lookup m = s.tables.lookup m)

open Proofs.Whole in
private theorem holdsBlockT_foldl (s : Rd) (L : List TEntry) (hnodup : (L.map (·.tn)).Nodup)
    (hok : ∀ x ∈ L, EntryOk s.skipTables s.tables x) (s' : Rd)
    (hs' : s'.tables = L.foldl (fun T x => stepTables x T) s.tables) : HoldsBlockT s s' L := by
  rw [HoldsBlockT, hs']
  refine ⟨?_, fun m hm => foldl_stepPut_not_read L s.tables m fun x hx hxm => ?_⟩
  · intro x hx t header segs hk hdata
    have hxok := hok x hx
    unfold EntryOk at hxok
    rw [hk] at hxok
    refine ⟨_, foldl_stepPut_read L s.tables x { t with data := applyRows t.data (upsT t segs) } hx
      (by unfold TEntry.upd; rw [hk]) hnodup, rfl, upsT_row t segs hdata⟩
  · obtain ⟨R, atl, hk⟩ := hm x hx hxm
    unfold TEntry.upd; rw [hk]

open Proofs.Whole in
/-- **Every table of the block holds the values of its own region; skipping some tables changes nothing else.**
    The loop of `read_tables_TOUGH2` over a well-formed block returns; the file is left behind the block; every table
    the block reads holds, under the row named by each of ITS OWN data lines, the row-reader values of that line
    (a later line of the same table naming the same row wins) — whatever tables before it were read or skipped;
    every table no entry reads (the skipped ones, and tables not printed in this block) keeps its contents; nothing
    else of the reader changes. -/
theorem tables_read_block_TOUGH2 (e : TEntry) (more : List TEntry) (Xe : List Str) (tailE : Option (Str × List Str)) (s : Rd)
    (hrd : bound s.fam "read_table" = "read_table_TOUGH2") (hsk : bound s.fam "skip_table" = "skip_table_TOUGH2")
    (hnt : bound s.fam "next_table" = "next_table_TOUGH2") (htt : bound s.fam "table_type" = "table_type_TOUGH2")
    (hplus : (s.fam == .toughplus) = false)
    (hnodup : ((e :: more).map (·.tn)).Nodup)
    (hok : ∀ x ∈ e :: more, EntryOk s.skipTables s.tables x)
    (hlinks : LinksOk s.fulltimes.size s.fullpos s.index s.pos.no (e :: more))
    (hend : EndOk s.fulltimes.size s.fullpos s.index (endNo s.pos.no (e :: more)) Xe tailE)
    (hrest : s.pos.rest = blockLines (e :: more) (endLines Xe tailE))
    (fuel : Nat) (hfuel : more.length < fuel) :
    ∃ s', (tablesLoop actT2 false false fuel e.tn 0).run s = .ok ((), s') ∧
      s'.pos = endPos (endNo s.pos.no (e :: more)) Xe tailE ∧
      (∀ x ∈ e :: more, ∀ t header segs, x.kind = .read t header segs → t.data.size = t.rows.size →
        ∃ t', s'.tables.lookup x.tn = some t' ∧ t' = { t with data := t'.data } ∧
          ∀ (j : Nat) d i vals, (segs.map (·.1))[j]? = some d →
            rowOfLineT t.rows t.keyPos t.cols.length t.numpos d = some (i, vals) →
            (∀ (j' : Nat) d', j < j' → (segs.map (·.1))[j']? = some d' →
              ∀ v', rowOfLineT t.rows t.keyPos t.cols.length t.numpos d' ≠ some (i, v')) →
            t'.data[i]? = some vals.toArray) ∧
      (∀ m, (∀ x ∈ e :: more, x.tn = m → ∃ R atl, x.kind = .skip R atl) → s'.tables.lookup m = s.tables.lookup m) ∧
      s' = { s with pos := s'.pos, tables := s'.tables } := by
  have hrun := tablesLoop_block e more Xe tailE s fuel 0 hfuel ⟨hrd, hsk, hnt, htt, hplus⟩ hnodup hok hlinks hend hrest
  have h := holdsBlockT_foldl s (e :: more) hnodup hok
  exact ⟨_, hrun, rfl, (h _ rfl).1, (h _ rfl).2, rfl⟩

-- the hypotheses are satisfiable: the element table of the example above is read, then a connection table the
-- reader holds no table for is skipped, then the file ends
private def exE1 : Proofs.Whole.TEntry :=
  { tn := "element", kind := .read exT2 exHdr exSegs, X := [" @@@@@@@@@@\n".toList, "\n".toList],
    kc := "   KCYC =   1  -  ITER =  1\n".toList, Bl := ["\n".toList] }
private def exE2 : Proofs.Whole.TEntry :=
  { tn := "connection",
    kind := .skip [" ELEM1 ELEM2 INDEX FLOH\n".toList, "\n".toList, "  AA 1  BA 1     1 0.10000E+01\n".toList] " @@@@@@@@@@\n".toList }
private def exRdB : Rd :=
  let ls := Proofs.Whole.blockLines [exE1, exE2] (Proofs.Whole.endLines ["\n".toList] none)
  { all := ls, isOutputData := false, pos := ⟨20, ls⟩, fam := .tough2, tables := [("element", exT2)], skipTables := ["connection"] }
example : bound exRdB.fam "read_table" = "read_table_TOUGH2" ∧ bound exRdB.fam "skip_table" = "skip_table_TOUGH2" ∧
    bound exRdB.fam "next_table" = "next_table_TOUGH2" ∧ bound exRdB.fam "table_type" = "table_type_TOUGH2" ∧
    (exRdB.fam == .toughplus) = false ∧ (([exE1, exE2]).map (·.tn)).Nodup := by decide +kernel
example : Proofs.Whole.EntryOk exRdB.skipTables exRdB.tables exE1 ∧ Proofs.Whole.EntryOk exRdB.skipTables exRdB.tables exE2 := by
  simp only [exRdB, exE1, exE2, exT2, exHdr, exSegs]
  repeat rewrite [String.toList_ofList]
  refine ⟨⟨by decide +kernel, rfl, by decide +kernel, by decide +kernel, by decide +kernel⟩, ⟨rfl, by decide +kernel, by decide +kernel⟩⟩
example : Proofs.Whole.LinksOk exRdB.fulltimes.size exRdB.fullpos exRdB.index exRdB.pos.no [exE1, exE2] ∧
    Proofs.Whole.EndOk exRdB.fulltimes.size exRdB.fullpos exRdB.index (Proofs.Whole.endNo exRdB.pos.no [exE1, exE2]) ["\n".toList] none := by
  simp only [Proofs.Whole.LinksOk, Proofs.Whole.LinkOk, Proofs.Whole.EndOk, exRdB, exE1, exE2, exT2, exHdr, exSegs]
  decide_lits

/-! ### all tables of one result block (AUTOUGH2): read_tables_AUTOUGH2, with some tables skipped

  A block is a list of entries (`Proofs.Whole.AEntry`), one per table: the three lines `read_header_AUTOUGH2` reads in
  front of every table (title line `tl`, the `… AFTER n TIME STEPS … t SECONDS` line `hl`, one more line `l3`), the
  table's lines — a table that is read (`AKind.read t A b B b2 Bl D term`: the region of `table_read_AUTOUGH2`) or one
  that is skipped because it is in `skip_tables` (`AKind.skip A b R term`: non-blank lines `A`, a blank line, lines `R`
  without the keyword in columns 1..5, the terminator line) — and, when another table follows, the line `x1` behind the
  terminator and the line `kwl` that `next_table_AUTOUGH2` reads (the keyword line of the next table).  `EntryOkA`,
  `LinksOkA`, `EndOkA` (Proofs/ListingWholeAutBlock.lean) are the decidable well-formedness conditions;
  `RegionAOk` there is the same text as `TableRegionA` here (the `example` below).  `read_tables_AUTOUGH2` is this loop with fuel `len(remaining lines) + 2`
  (`Proofs.Whole.readTables_A`); the theorem holds for any fuel above the number of tables. -/

example (tn : String) (t : Table) (A : List Str) (b : Str) (B : List Str) (b2 : Str) (Bl D : List Str) (term : Str) :
    Proofs.Whole.RegionAOk tn t A b B b2 Bl D term ↔ TableRegionA tn t A b B b2 Bl D term := Iff.rfl

open Proofs.Whole in
/-- what a reader state `s'` holds after the tables `L` of an AUTOUGH2 block have been gone through from state `s`:
    every table the block reads holds in row `j` exactly the values `read_table_line_AUTOUGH2` returns for ITS OWN
    `j`-th printed data line, one per column (rows beyond the printed lines keep what they held; names, columns and
    layout unchanged) — whatever tables before it were read or skipped; every table no entry reads keeps its contents -/
def HoldsBlockA (s s' : Rd) (L : List AEntry) : Prop :=
  (∀ x ∈ L, ∀ t A b B b2 Bl D term, x.kind = .read t A b B b2 Bl D term →
    ∃ t', s'.tables.lookup x.tn = some t' ∧ t' = { t with data := t'.data } ∧
      (∀ (j : Nat) d, D[j]? = some d →
        ∃ vals, readTableLineAUTOUGH2 d (t.numpos.headD none) = .ok vals ∧ vals.length = t.cols.length ∧
          t'.data[j]? = some vals.toArray) ∧
      (∀ i, D.length ≤ i → t'.data[i]? = t.data[i]?)) ∧
  (∀ m, (∀ x ∈ L, x.tn = m → ∃ A b R term, x.kind = .skip A b R term) → s'.tables.lookup m = s.tables.lookup m)

open Proofs.Whole in
private theorem holdsBlockA_foldl (s : Rd) (L : List AEntry) (hnodup : (L.map (·.tn)).Nodup)
    (hok : ∀ x ∈ L, EntryOkA s.skipTables s.tables x) (s' : Rd)
    (hs' : s'.tables = L.foldl (fun T x => stepTablesA x T) s.tables) : HoldsBlockA s s' L := by
  refine ⟨?_, ?_⟩
  · intro x hx t A b B b2 Bl D term hk
    have hxok := (hok x hx).2
    rw [hk] at hxok
    simp only at hxok
    rw [hs']
    refine ⟨_, foldl_stepPut_read L s.tables x { t with data := applyRows t.data (upsA t D) } hx
      (by unfold AEntry.upd; rw [hk]) hnodup, rfl, ?_, ?_⟩
    · obtain ⟨_, _, _, _, _, _, _, _, hrows, hsz, hdata⟩ := hxok.2.2
      exact upsA_row t D hrows hsz hdata
    · intro i hi
      exact upsA_row_beyond t D i hi
  · intro m hm
    rw [hs']
    refine foldl_stepPut_not_read L s.tables m fun x hx hxm => ?_
    obtain ⟨A, b, R, term, hk⟩ := hm x hx hxm
    unfold AEntry.upd; rw [hk]

open Proofs.Whole in
/-- **Every table of the block holds the values of its own region; skipping some tables changes nothing else
    (AUTOUGH2).**  The loop of `read_tables_AUTOUGH2` over a well-formed block returns; the file is left two lines
    behind the last terminator line (or at the end of the file); `HoldsBlockA`; title, step and time are those of the
    header lines in front of the last table; nothing else of the reader changes. -/
theorem tables_read_block_AUTOUGH2 (e : AEntry) (more : List AEntry) (E : List Str) (s : Rd)
    (hhd : bound s.fam "read_header" = "read_header_AUTOUGH2") (hti : bound s.fam "read_title" = "read_title_AUTOUGH2")
    (hrd : bound s.fam "read_table" = "read_table_AUTOUGH2") (hsk : bound s.fam "skip_table" = "skip_table_AUTOUGH2")
    (hnt : bound s.fam "next_table" = "next_table_AUTOUGH2") (htt : bound s.fam "table_type" = "table_type_AUTOUGH2")
    (hnodup : ((e :: more).map (·.tn)).Nodup)
    (hok : ∀ x ∈ e :: more, EntryOkA s.skipTables s.tables x)
    (hlinks : LinksOkA (e :: more)) (hend : EndOkA E)
    (hrest : s.pos.rest = blockLinesA (e :: more) E)
    (fuel : Nat) (hfuel : more.length < fuel) :
    ∃ s', (tablesLoop actA true false fuel e.tn 0).run s = .ok ((), s') ∧
      s'.pos = ⟨endNoA s.pos.no (e :: more) + min 2 E.length, E.drop 2⟩ ∧
      HoldsBlockA s s' (e :: more) ∧
      s'.title = strip (lastE e more).tl ∧ headerAVals (lastE e more).hl = some (s'.step, s'.time) ∧
      s' = { s with pos := s'.pos, tables := s'.tables, title := s'.title, step := s'.step, time := s'.time } := by
  have hrun := tablesLoopA_block e more E s fuel 0 hfuel ⟨hhd, hti, hrd, hsk, hnt, htt⟩ hnodup hok hlinks hend hrest
  refine ⟨_, hrun, rfl, holdsBlockA_foldl s (e :: more) hnodup hok _ rfl, rfl, ?_, rfl⟩
  exact headerAVals_hvA _ (hok _ (lastE_mem e more)).1

open Proofs.Whole in
/-- **Composition over the result blocks of a file (AUTOUGH2): `set_index(i)` shows block `i`'s own numbers.**
    When the position recorded for result `i` in `fullpos` is the start of a well-formed block (the explicit,
    decidable hypotheses `hprest`, `hok`, `hlinks`, `hend` — the block is the one printed at that place of the file,
    its first table is the element table), `set_index(i)` (negative `i` counted from the end, as coded) returns, the
    index is `i` normalised, and every table holds the numbers of that block's own region (`HoldsBlockA`), whatever
    the reader held before. -/
theorem set_index_reads_block_AUTOUGH2 (s : Rd) (i : Int) (jn : Nat) (p : Pos)
    (e : AEntry) (more : List AEntry) (E : List Str)
    (hj : (if i < 0 then i + (s.fullpos.size : Int) else i) = (jn : Int)) (hjn : jn < s.fullpos.size)
    (hp : s.fullpos[jn]! = p)
    (hel : e.tn = "element")
    (hrt : bound s.fam "read_tables" = "read_tables_AUTOUGH2")
    (hhd : bound s.fam "read_header" = "read_header_AUTOUGH2") (hti : bound s.fam "read_title" = "read_title_AUTOUGH2")
    (hrd : bound s.fam "read_table" = "read_table_AUTOUGH2") (hsk : bound s.fam "skip_table" = "skip_table_AUTOUGH2")
    (hnt : bound s.fam "next_table" = "next_table_AUTOUGH2") (htt : bound s.fam "table_type" = "table_type_AUTOUGH2")
    (hprest : p.rest = blockLinesA (e :: more) E)
    (hnodup : ((e :: more).map (·.tn)).Nodup)
    (hok : ∀ x ∈ e :: more, EntryOkA s.skipTables s.tables x)
    (hlinks : LinksOkA (e :: more)) (hend : EndOkA E) :
    ∃ s', (setIndex i).run s = .ok ((), s') ∧
      s'.index = (if i < 0 then i + (s.fulltimes.size : Int) else i) ∧
      s'.pos = ⟨endNoA p.no (e :: more) + min 2 E.length, E.drop 2⟩ ∧
      HoldsBlockA s s' (e :: more) ∧
      s'.title = strip (lastE e more).tl ∧ headerAVals (lastE e more).hl = some (s'.step, s'.time) ∧
      s' = { s with pos := s'.pos, index := s'.index, tables := s'.tables, title := s'.title, step := s'.step, time := s'.time } := by
  have hrun := setIndex_block_A s i jn p e more E hj hjn hp hel hrt ⟨hhd, hti, hrd, hsk, hnt, htt⟩ hprest hnodup hok hlinks hend
  refine ⟨_, hrun, rfl, rfl, holdsBlockA_foldl s (e :: more) hnodup hok _ rfl, rfl, ?_, rfl⟩
  exact headerAVals_hvA _ (hok _ (lastE_mem e more)).1

-- the hypotheses are satisfiable: an element table (the region of the example above, laid out as AUTOUGH2 prints it) is
-- read, a connection table in the skip list is skipped; the block is the one recorded in `fullpos`
private def exA1 : Proofs.Whole.AEntry :=
  { tn := "element", tl := " AUTOUGH2 case 1\n".toList,
    hl := " OUTPUT AFTER  27 TIME STEPS    0.1000000000000000E+16 SECONDS\n".toList,
    l3 := " THE TIME IS 0.3169E+08 YEARS\n".toList,
    kind := .read exTA [" EEEEEEEEEEEEEEE\n".toList, "        ELEMENT TABLE\n".toList] "\n".toList [" ELEMENT INDEX P T X\n".toList]
      "\n".toList [] exDA " EEEEEEEEEEEEEEE\n".toList,
    x1 := "\n".toList, kwl := " CCCCCCCCCCCCCCC\n".toList }
private def exA2 : Proofs.Whole.AEntry :=
  { tn := "connection", tl := " AUTOUGH2 case 1\n".toList,
    hl := " OUTPUT AFTER  27 TIME STEPS    0.1000000000000000E+16 SECONDS\n".toList,
    l3 := " THE TIME IS 0.3169E+08 YEARS\n".toList,
    kind := .skip [" CCCCCCCCCCCCCCC\n".toList, "        CONNECTION TABLE\n".toList] "\n".toList
      [" ELEM1 ELEM2 INDEX FLOH\n".toList, "\n".toList, "    AA  1 AA  2         1      0.10000E+01\n".toList] " CCCCCCCCCCCCCCC\n".toList }
private def exRdAB : Rd :=
  let ls := Proofs.Whole.blockLinesA [exA1, exA2] ["\n".toList]
  { all := " EEEEEEEEEEEEEEE\n".toList :: ls, isOutputData := false, pos := ⟨0, " EEEEEEEEEEEEEEE\n".toList :: ls⟩, fam := .autough2,
    tables := [("element", exTA)], skipTables := ["connection"], fullpos := #[⟨1, ls⟩], fulltimes := #[zero] }
example : bound exRdAB.fam "read_tables" = "read_tables_AUTOUGH2" ∧ bound exRdAB.fam "read_header" = "read_header_AUTOUGH2" ∧
    bound exRdAB.fam "read_title" = "read_title_AUTOUGH2" ∧ bound exRdAB.fam "read_table" = "read_table_AUTOUGH2" ∧
    bound exRdAB.fam "skip_table" = "skip_table_AUTOUGH2" ∧ bound exRdAB.fam "next_table" = "next_table_AUTOUGH2" ∧
    bound exRdAB.fam "table_type" = "table_type_AUTOUGH2" ∧ (([exA1, exA2]).map (·.tn)).Nodup ∧ exA1.tn = "element" := by decide +kernel
example : Proofs.Whole.headerAVals exA1.hl = some (some 27, .fin false 1000000000000000 0) := by
  simp only [exA1]
  decide_lits
example : Proofs.Whole.EntryOkA exRdAB.skipTables exRdAB.tables exA1 ∧ Proofs.Whole.EntryOkA exRdAB.skipTables exRdAB.tables exA2 := by
  simp only [exRdAB, exA1, exA2, exTA, exDA]
  repeat rewrite [String.toList_ofList]
  exact ⟨⟨by decide +kernel, by decide +kernel, rfl, by decide +kernel⟩,
    ⟨by decide +kernel, by decide +kernel, by decide +kernel, by decide +kernel, by decide +kernel, by decide +kernel⟩⟩
example : Proofs.Whole.LinksOkA [exA1, exA2] ∧ Proofs.Whole.EndOkA ["\n".toList] ∧
    (if (0 : Int) < 0 then (0 : Int) + (exRdAB.fullpos.size : Int) else 0) = ((0 : Nat) : Int) ∧ 0 < exRdAB.fullpos.size ∧
    (exRdAB.fullpos[0]!).rest = Proofs.Whole.blockLinesA [exA1, exA2] ["\n".toList] ∧
    exRdAB.pos.rest.drop 1 = Proofs.Whole.blockLinesA [exA1, exA2] ["\n".toList] := by
  refine ⟨⟨?_, trivial⟩, ?_, by decide +kernel, by decide +kernel, rfl, rfl⟩
  · simp only [exA1]
    decide_lits
  · decide_lits

open Proofs.Whole in
/-- **Composition over the result blocks of a file (TOUGH2, TOUGH2_MP, TOUGH3, TOUGHREACT): `set_index(i)` shows block
    `i`'s own numbers.**  `read_header_TOUGH2` is characterised on lines: the line at the recorded position gives time
    and step (its first two words), then lines `X` up to the `@@@@@` line `atl`, blank lines `Bl`, and the first
    non-blank line is the header of the first table (at least four words, so the reader seeks back to it;
    `HeaderT2Ok`, decidable).  When the position recorded for result `i` in `fullpos` is the start of such a header
    followed by a well-formed block whose first table is the element table (explicit decidable hypotheses `hprest`,
    `hhead`, `hok`, `hlinks`, `hend`, evaluated with the index `set_index` sets), `set_index(i)` returns, the index is
    `i` normalised, time and step are those printed, and every table holds the numbers of that block's own region
    (`HoldsBlockT`), whatever the reader held before and whatever tables are skipped. -/
theorem set_index_reads_block_TOUGH2 (s : Rd) (i : Int) (jn : Nat) (p : Pos)
    (l0 : Str) (X : List Str) (atl : Str) (Bl : List Str) (tm : FVal) (st : Step)
    (e : TEntry) (more : List TEntry) (Xe : List Str) (tailE : Option (Str × List Str))
    (hj : (if i < 0 then i + (s.fullpos.size : Int) else i) = (jn : Int)) (hjn : jn < s.fullpos.size)
    (hp : s.fullpos[jn]! = p)
    (hel : e.tn = "element")
    (hrt : bound s.fam "read_tables" = "read_tables_TOUGH2") (hrh : bound s.fam "read_header" = "read_header_TOUGH2")
    (hrd : bound s.fam "read_table" = "read_table_TOUGH2") (hsk : bound s.fam "skip_table" = "skip_table_TOUGH2")
    (hnt : bound s.fam "next_table" = "next_table_TOUGH2") (htt : bound s.fam "table_type" = "table_type_TOUGH2")
    (hplus : (s.fam == .toughplus) = false)
    (hv : headerT2Vals l0 = some (tm, st))
    (hne : e.kind.lines ≠ [])
    (hhead : HeaderT2Ok l0 X atl Bl (e.kind.lines.headD [])) (h4 : 4 ≤ (splitWs (e.kind.lines.headD [])).length)
    (hprest : p.rest = l0 :: (X ++ atl :: (Bl ++ blockLines (e :: more) (endLines Xe tailE))))
    (hnodup : ((e :: more).map (·.tn)).Nodup)
    (hok : ∀ x ∈ e :: more, EntryOk s.skipTables s.tables x)
    (hlinks : LinksOk s.fulltimes.size s.fullpos (if i < 0 then i + (s.fulltimes.size : Int) else i)
      (p.no + 1 + X.length + 1 + Bl.length) (e :: more))
    (hend : EndOk s.fulltimes.size s.fullpos (if i < 0 then i + (s.fulltimes.size : Int) else i)
      (endNo (p.no + 1 + X.length + 1 + Bl.length) (e :: more)) Xe tailE) :
    ∃ s', (setIndex i).run s = .ok ((), s') ∧
      s'.index = (if i < 0 then i + (s.fulltimes.size : Int) else i) ∧ s'.time = tm ∧ s'.step = st ∧
      s'.pos = endPos (endNo (p.no + 1 + X.length + 1 + Bl.length) (e :: more)) Xe tailE ∧
      HoldsBlockT s s' (e :: more) ∧
      s' = { s with pos := s'.pos, index := s'.index, tables := s'.tables, step := s'.step, time := s'.time } := by
  -- `hne` is not used: the last clause of `hhead` implies it
  have hrun := setIndex_block_T2 s i jn p l0 X atl Bl tm st e more Xe tailE hj hjn hp hel hrt hrh ⟨hrd, hsk, hnt, htt, hplus⟩ hv
    hhead h4 hprest hnodup hok hlinks hend
  exact ⟨_, hrun, rfl, rfl, rfl, rfl, holdsBlockT_foldl s (e :: more) hnodup hok _ rfl, rfl⟩

-- the hypotheses are satisfiable: the block of the example above behind a result header, recorded in `fullpos`
private def exHdrT : List Str := [" 0.10000E+01      1      2\n".toList, " @@@@@@@@@@\n".toList, "\n".toList]
private def exRdS : Rd :=
  let ls := exHdrT ++ Proofs.Whole.blockLines [exE1, exE2] (Proofs.Whole.endLines ["\n".toList] none)
  { all := ls, isOutputData := false, pos := ⟨0, ls⟩, fam := .tough2, tables := [("element", exT2)], skipTables := ["connection"],
    fullpos := #[⟨17, ls⟩], fulltimes := #[zero] }
example : (if (0 : Int) < 0 then (0 : Int) + (exRdS.fullpos.size : Int) else 0) = ((0 : Nat) : Int) ∧ 0 < exRdS.fullpos.size ∧
    exE1.tn = "element" ∧ bound exRdS.fam "read_tables" = "read_tables_TOUGH2" ∧ bound exRdS.fam "read_header" = "read_header_TOUGH2" ∧
    (exRdS.fam == .toughplus) = false ∧
    Proofs.Whole.headerT2Vals " 0.10000E+01      1      2\n".toList = some (.fin false 10000 (-4), some 1) ∧
    exE1.kind.lines ≠ [] ∧
    Proofs.Whole.HeaderT2Ok " 0.10000E+01      1      2\n".toList [] " @@@@@@@@@@\n".toList ["\n".toList] (exE1.kind.lines.headD []) ∧
    4 ≤ (splitWs (exE1.kind.lines.headD [])).length := by
  simp only [exE1, exHdr]
  decide_lits
example : (exRdS.fullpos[0]!).rest = " 0.10000E+01      1      2\n".toList :: ([] ++ " @@@@@@@@@@\n".toList :: (["\n".toList] ++
    Proofs.Whole.blockLines [exE1, exE2] (Proofs.Whole.endLines ["\n".toList] none))) := rfl
example : Proofs.Whole.LinksOk exRdS.fulltimes.size exRdS.fullpos 0 (17 + 1 + 0 + 1 + 1) [exE1, exE2] ∧
    Proofs.Whole.EndOk exRdS.fulltimes.size exRdS.fullpos 0 (Proofs.Whole.endNo (17 + 1 + 0 + 1 + 1) [exE1, exE2]) ["\n".toList] none := by
  simp only [Proofs.Whole.LinksOk, Proofs.Whole.LinkOk, Proofs.Whole.EndOk, exRdS, exHdrT, exE1, exE2, exT2, exHdr, exSegs]
  decide_lits

open Proofs.Whole in
/-- **The set-up of an AUTOUGH2 table records a layout for which the SAME printed region is a well-formed region of
    `read_table_AUTOUGH2`; one row per printed data line, keyed by the printed names.**  `setup_table_AUTOUGH2` is run
    with the file behind the three result-header lines, on: three lines `a1 a2 a3`, the column header line `hdr`, one
    line `u`, the data lines `d0 :: D'`, the terminator `term` (`SetupRegionA`, decidable: the header line gives
    `nkeys` key columns and the column names `cols`; the first data line gives the start of the values, one value per
    column and the key positions; no data line carries the keyword in columns 1..5, the terminator does; `ks` are the
    keys `key_from_line` cuts out of the data lines).  Print-level conditions that do not mention the table: the five
    lines in front of the data are a non-blank block `A`, a blank line, a non-blank block `B`, blank lines (`hlay`, as
    AUTOUGH2 prints them: keyword line, table title, blank, column header, blank), and every data line splits into one
    value per column (`hvals`).  Then the set-up returns, the table it stores has exactly the keys `ks` as rows (one
    per printed data line, in order) and the columns `cols`, the file is left where reading the table will leave it
    (`tail.drop 1`), and the region is `TableRegionA` for the stored table — so `table_read_AUTOUGH2` applies to it
    without assuming anything about the layout record. -/
theorem setup_table_records_region_AUTOUGH2 (tn : String) (s : Rd) (a1 a2 a3 hdr u d0 : Str) (D' : List Str) (term : Str)
    (tail : List Str) (nkeys : Nat) (cols : List Str) (start : Option Int) (keypos : List Int) (ks : List Key)
    (A : List Str) (b : Str) (B : List Str) (b2 : Str) (Bl : List Str)
    (hrest : s.pos.rest = a1 :: a2 :: a3 :: hdr :: u :: (((d0 :: D') ++ [term]) ++ tail))
    (hreg : SetupRegionA tn hdr d0 D' term nkeys cols start keypos ks)
    (hlay : a1 :: a2 :: a3 :: hdr :: [u] = A ++ b :: (B ++ b2 :: Bl))
    (hA : ∀ l ∈ A, isBlank l = false) (hb : isBlank b = true) (hB : ∀ l ∈ B, isBlank l = false) (hb2 : isBlank b2 = true)
    (hBl : ∀ l ∈ Bl, isBlank l = true) (hfirst : isBlank d0 = false)
    (hvals : ∀ d ∈ d0 :: D', (rowOfLineA cols.length start d).isSome = true) :
    ∃ s' t, (setupTableAUTOUGH2 tn).run s = .ok ((), s') ∧ s'.tables.lookup tn = some t ∧
      t.rows = ks.toArray ∧ t.rows.size = (d0 :: D').length ∧ t.cols = cols ∧
      (d0 :: D').map (fun d => keyFromLine d t.keyPos) = ks.map .ok ∧
      s.pos.rest = autRegion A b B b2 Bl (d0 :: D') term tail ∧
      TableRegionA tn t A b B b2 Bl (d0 :: D') term ∧
      s'.pos.rest = tail.drop 1 ∧
      (∀ m, m ≠ tn → s'.tables.lookup m = s.tables.lookup m) ∧
      s' = { s with pos := s'.pos, tables := s'.tables, tablenames := s.tablenames ++ [tn] } := by
  have hrun := setupTableAUTOUGH2_run tn s a1 a2 a3 hdr u d0 D' term tail nkeys cols start keypos ks hrest hreg
  have hreads := setupTableA_reads tn hdr d0 D' term nkeys cols start keypos ks hreg hvals
  have hsize : (setupTableA tn nkeys cols start keypos ks).rows.size = (d0 :: D').length := by
    simpa [setupTableA, mkTable] using hreg.rows_length
  obtain ⟨_, _, _, _, _, hdata, hterm, hkeys⟩ := hreg
  refine ⟨_, _, hrun, by rw [Proofs.lookup_upsert, if_pos rfl], rfl, hsize, rfl, hkeys, ?_,
    ⟨hA, hb, hB, hb2, hBl, hfirst, hdata, hterm, hreads⟩, rfl, fun m hm => by rw [Proofs.lookup_upsert, if_neg hm], rfl⟩
  rw [hrest]
  have : a1 :: a2 :: a3 :: hdr :: u :: (((d0 :: D') ++ [term]) ++ tail)
      = (a1 :: a2 :: a3 :: hdr :: [u]) ++ (((d0 :: D') ++ [term]) ++ tail) := rfl
  rw [this, hlay]
  simp [autRegion]

-- the hypotheses are satisfiable: the element table of the examples above, laid out as AUTOUGH2 prints it
example : Proofs.Whole.SetupRegionA "element" " ELEMENT INDEX P T X\n".toList exDA[0] [exDA[1]] " EEEEEEEEEEEEEEE\n".toList
    1 [['P'], ['T'], ['X']] (some 24) [4] [["AA  1".toList], ["AA  2".toList]] := by
  -- the long lines of `exDA` occur several times in the goal: their literals are rewritten once, in the defining equation
  have hD := exDA.eq_1
  repeat rewrite [String.toList_ofList] at hD
  simp only [hD, List.getElem_cons_zero, List.getElem_cons_succ]
  decide_lits
example : (" EEEEEEEEEEEEEEE\n".toList :: "        ELEMENT TABLE\n".toList :: "\n".toList :: " ELEMENT INDEX P T X\n".toList :: ["\n".toList]
      = [" EEEEEEEEEEEEEEE\n".toList, "        ELEMENT TABLE\n".toList] ++ "\n".toList :: ([" ELEMENT INDEX P T X\n".toList] ++ "\n".toList :: [])) ∧
    (∀ l ∈ [" EEEEEEEEEEEEEEE\n".toList, "        ELEMENT TABLE\n".toList], isBlank l = false) ∧ isBlank "\n".toList = true ∧
    (∀ l ∈ [" ELEMENT INDEX P T X\n".toList], isBlank l = false) ∧ isBlank exDA[0] = false ∧
    (∀ d ∈ exDA[0] :: [exDA[1]], (Proofs.Whole.rowOfLineA [['P'], ['T'], ['X']].length (some 24) d).isSome = true) := by
  have hD := exDA.eq_1
  repeat rewrite [String.toList_ofList] at hD
  simp only [hD, List.getElem_cons_zero, List.getElem_cons_succ]
  decide_lits

open Proofs.Whole in
/-- **The set-up of a TOUGH2-family table records `header_skiplines` and `skiplines` that describe the SAME printed
    region (regions without repeated headers).**  `setup_table_TOUGH2` is run with the file at the column-header line
    `hdr` of a region `(hdr :: H) ++ flat segs ++ after`: `hdr` parses into `nkeys` key columns and the column names
    (`headerColsT`); no line of `H` is a results line and the first data line `d0` is one (enough `.digit` groups:
    `isResultsLine`); `d0` gives the start of the values and the key positions; every data line has a key; the
    segments are as the set-up loop walks them (`SegsOkT`, decidable): behind a data line either the next data line or
    one blank line and then the next data line, none of them a header line, a separator, the title or empty; behind
    the last data line a separator line, or a blank line followed by a separator / the title / an empty line / the
    end of the file; `parse_table_line` on the longest line succeeds.  Then the set-up returns, the file is left
    exactly behind the region (where `read_table_TOUGH2` will leave it), and the stored table has
    `header_skiplines = len(header)`, `skiplines` = the numbers of lines behind each data line, one zero row per
    stored name, the columns, key positions and column boundaries inferred — so the region is `TableRegionT` for the
    stored table as soon as every data line's key names a stored row and reads one value per column.
    PARTIAL (`hrows`, explicit and decidable): that last condition is assumed, not derived — missing is the proof
    that with pairwise distinct printed indices `rowdict` keeps every data line's key, and that the inferred
    boundaries give `ncols` values; regions with repeated (internal) headers are not covered. -/
theorem setup_table_records_region_TOUGH2_partial (tn : String) (s : Rd) (hdr : Str) (H : List Str) (d0 : Str) (sk0 : List Str)
    (r : List (Str × List Str)) (after : List Str)
    (nkeys : Nat) (c : Str) (cs : List Str) (start : Option Int) (keypos : List Int) (numpos : List (Option Int))
    (hrest : s.pos.rest = (hdr :: H) ++ (flat ((d0, sk0) :: r) ++ after))
    (hhdr : headerColsT (s.fam == Fam.toughplus) hdr = some (nkeys, c :: cs))
    (hH : ∀ l ∈ H, isResultsLine (strip l) (expectedT tn (c :: cs)) = false)
    (hd0 : isResultsLine (strip d0) (expectedT tn (c :: cs)) = true)
    (hstart : startOfValues d0 (c :: cs) = .ok start)
    (hkp : keyPositions (sliceO d0 none start) nkeys = .ok (some keypos)) (hne : keypos ≠ [])
    (hkeys : ∀ sg ∈ (d0, sk0) :: r, (keyFromLine sg.1 keypos).isOk = true)
    (hok : SegsOkT (c :: cs) s.title ((d0, sk0) :: r) after)
    (hnp : parseTableLine (runSt start keypos.getLast! keypos { line := d0, longest := d0 } ((d0, sk0) :: r) after).longest
              start (c :: cs) = .ok numpos)
    (hrows : ∀ sg ∈ (d0, sk0) :: r, (rowOfLineT
        ((sortByIndex (runSt start keypos.getLast! keypos { line := d0, longest := d0 } ((d0, sk0) :: r) after).rowdict).map (·.2.2)).toArray
        keypos (c :: cs).length numpos sg.1).isSome = true) :
    ∃ t s', (setupTableTOUGH2 tn).run s = .ok ((), s') ∧ s'.tables.lookup tn = some t ∧
      (hdr :: H).length = t.headerSkip ∧ ((d0, sk0) :: r).map (·.2.length) = t.skips ∧ t.data.size = t.rows.size ∧
      t.cols = c :: cs ∧ t.keyPos = keypos ∧ t.numpos = numpos ∧
      TableRegionT t (hdr :: H) ((d0, sk0) :: r) ∧
      s'.pos = ⟨s.pos.no + (hdr :: H).length + (flat ((d0, sk0) :: r)).length, after⟩ ∧
      (∀ m, m ≠ tn → s'.tables.lookup m = s.tables.lookup m) ∧
      s' = { s with pos := s'.pos, tables := s'.tables, tablenames := s.tablenames ++ [tn] } := by
  have hsk := (setupTableOfT_skips tn nkeys (c :: cs) keypos numpos (hdr :: H).length start keypos.getLast!
    { line := d0, longest := d0 } ((d0, sk0) :: r) after).symm
  have hdata := setupTableOfT_data_size tn nkeys (c :: cs) keypos numpos (hdr :: H).length
    (runSt start keypos.getLast! keypos { line := d0, longest := d0 } ((d0, sk0) :: r) after)
  exact ⟨_, _, setupTableTOUGH2_run tn s hdr H d0 sk0 r after nkeys c cs start keypos numpos hrest hhdr hH hd0 hstart hkp hne hkeys hok.2 hnp,
    by rw [Proofs.lookup_upsert, if_pos rfl], rfl, hsk, hdata, rfl, rfl, rfl, ⟨rfl, hsk, hdata, hrows⟩, rfl,
    fun m hm => by rw [Proofs.lookup_upsert, if_neg hm], rfl⟩

-- the hypotheses are satisfiable: the element table of the examples above (header line, blank line, a data line followed
-- by a blank line, a data line) followed by a separator line of 70 `@`
private def exSep : Str := ' ' :: (List.replicate 70 '@' ++ ['\n'])
example : Proofs.Whole.headerColsT false exHdr[0] = some (1, [['P'], ['T'], ['X']]) ∧
    (∀ l ∈ ["\n".toList], isResultsLine (strip l) (Proofs.Whole.expectedT "element" [['P'], ['T'], ['X']]) = false) ∧
    isResultsLine (strip exSegs[0].1) (Proofs.Whole.expectedT "element" [['P'], ['T'], ['X']]) = true ∧
    startOfValues exSegs[0].1 [['P'], ['T'], ['X']] = .ok (some 12) ∧
    keyPositions (sliceO exSegs[0].1 none (some 12)) 1 = .ok (some [1]) ∧
    (∀ sg ∈ exSegs, (keyFromLine sg.1 [1]).isOk = true) ∧
    Proofs.Whole.SegsOkT [['P'], ['T'], ['X']] [] exSegs [exSep] := by
  simp only [exHdr, exSegs, List.getElem_cons_zero]
  decide_lits
example : parseTableLine (Proofs.Whole.runSt (some 12) ([1] : List Int).getLast! [1] { line := exSegs[0].1, longest := exSegs[0].1 } exSegs [exSep]).longest
      (some 12) [['P'], ['T'], ['X']] = .ok ([12, 24, 36, 49].map natPos) ∧
    (∀ sg ∈ exSegs, (Proofs.Whole.rowOfLineT
      ((sortByIndex (Proofs.Whole.runSt (some 12) ([1] : List Int).getLast! [1] { line := exSegs[0].1, longest := exSegs[0].1 } exSegs [exSep]).rowdict).map (·.2.2)).toArray
      [1] [['P'], ['T'], ['X']].length ([12, 24, 36, 49].map natPos) sg.1).isSome = true) := by
  have hS := exSegs.eq_1
  repeat rewrite [String.toList_ofList] at hS
  simp only [hS, List.getElem_cons_zero]
  decide +kernel

end Props.C05
