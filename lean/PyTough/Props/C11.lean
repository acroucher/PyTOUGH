/-
  C11 — Refining or decomposing columns conserves area and volume and tiles the domain.

  Property theorems about the subdivision code of `/repo/mulgrids.py`:
  the tables are `Gen/RefineTables.lean` (regenerated from the source on every run, so every
  `decide` below is re-run against what the code says now); the decision function, the vertex
  resolution and `subdivide/triangulate/decompose/split` are `Model/Refine.lean`; the
  whole-geometry operations are `Model/GeoOps.lean`.

  Reading guide.  A parent column has `nn` nodes, `corner 0 … corner (nn-1)`, counter-clockwise.
  `sides` is the ascending list of its refined sides (side `i` joins corner `i` and corner
  `(i+1) % nn`), exactly the list `refined_sides` that `refine` builds.  A valuation `ρ : Val`
  gives every corner an arbitrary position and the centre node an arbitrary position; mid-side
  nodes sit at `0.5 * (a + b)` as `create_mid_node` puts them.  `area2 ρ p` is twice the signed
  shoelace area of the sub-column `p`.
-/
import PyTough.Proofs.RefineTriangle
import PyTough.Proofs.RefineConform
namespace Props.C11
open Model.Geo Model.Refine Gen.RefineTables Proofs.Refine

/-! ### the model of `transition_type` IS the function in the source (whole finite domain) -/

/-- the hand-written `transitionType` returns, on every (nn, sides) of the domain, what the nested
    Python function `transition_type` of the current source returns (tabulated by the translator) -/
theorem transition_type_matches_source :
    ∀ e ∈ transitionTypeTable, transitionType e.1.1 e.1.2 = e.2 := by decide +kernel

/-- …and the tabulated domain is every ascending side list of 3- and 4-sided columns -/
theorem transition_table_covers_domain :
    ∀ nn ∈ [3, 4], ∀ s ∈ sublists (List.range nn), (nn, s) ∈ transitionTypeTable.map (·.1) := by decide +kernel

theorem centre_condition_matches_source :
    ∀ e ∈ centreNodeTable, needsCentre e.1.1 e.1.2.1 e.1.2.2 = e.2 := by decide +kernel

/-! ### every non-empty set of refined sides has a table entry -/

/-- `transition_type` yields a key that is present in `transition_column[nn]`: for a 3- or 4-sided
    column with at least one refined side, `refine` never hits the `print('Error …')` branch nor a
    `KeyError`. -/
theorem transition_type_total (nn : Nat) (hnn : nn = 3 ∨ nn = 4) (sides : List Nat)
    (hs : sides.Sublist (List.range nn)) (hne : sides ≠ []) :
    ∃ subs, subdivision nn sides = some subs :=
  Option.isSome_iff_exists.mp (transition_entry_ok nn hnn sides hs hne).1

/-- the empty set of refined sides is the one case without an entry (`refine` never asks for it: a column
    without refined sides is skipped): characterised, not hidden -/
theorem transition_type_empty (nn : Nat) (hnn : nn = 3 ∨ nn = 4) : subdivision nn [] = none := by
  rcases hnn with rfl | rfl <;> decide

/-- the returned triple means what its name says: the table entry, rotated by `istart`, refines
    exactly the sides in `sides` (a mid-side node is used only on a refined side, so the
    `sidenodes[...]` lookup cannot fail), uses only corners of the parent, and refers to the centre
    node only when `refine` creates one -/
theorem subdivision_uses_existing_nodes (nn : Nat) (hnn : nn = 3 ∨ nn = 4) (sides : List Nat)
    (hs : sides.Sublist (List.range nn)) (hne : sides ≠ []) (subs : List Poly)
    (h : subdivision nn sides = some subs) :
    vertsAvailable nn sides (subdivisionCentre nn sides) subs = true :=
  (subdivision_entry_ok nn hnn sides hs hne subs h).2.2

/-! ### the sub-columns tile the parent: boundary identity -/

/-- For every table entry reachable from `transition_type` and every rotation: the directed edges
    of the listed sub-columns, after cancelling each interior edge against its reverse, are
    exactly the parent's boundary in which precisely the refined sides are split at their
    mid-side node.  (A consequence of conformity, `subdivision_conforming` below: once no directed
    edge occurs twice, cancelling removes exactly the edges that have their reverse.) -/
theorem subdivision_boundary_identity (nn : Nat) (hnn : nn = 3 ∨ nn = 4) (sides : List Nat)
    (hs : sides.Sublist (List.range nn)) (hne : sides ≠ []) (subs : List Poly)
    (h : subdivision nn sides = some subs) :
    boundaryOK nn sides subs = true :=
  have ok := subdivision_entry_ok nn hnn sides hs hne subs h
  boundaryOK_of_conform ok.1 ok.2.1

/-! ### conformity: the sub-columns fit together edge to edge (no overlap along an edge, no gap, no hanging node)

  `polyEdges subs` is the list of all directed edges `(a, b)` of all sub-columns (each sub-column
  traversed in its stored, counter-clockwise node order); `refBoundary nn sides` the directed
  boundary of the parent with exactly the refined sides split at their mid-side node. -/

/-- For every set of refined sides of a 3- or 4-sided column (every `transition_column` entry, every
    rotation), the sub-columns `refine` builds are CONFORMING:
    1. no directed edge is used twice (two sub-columns never lie on the same side of an edge);
    2. no sub-column runs along an edge and back;
    3. every directed edge of a sub-column is EITHER an edge of the refined parent boundary, and then
       no sub-column has the opposite edge, OR an interior edge, and then the opposite edge belongs
       to a sub-column (pairwise cancellation in the interior);
    4. every edge of the refined parent boundary belongs to a sub-column (nothing of the boundary
       is left out, every refined side appears as its two halves);
    5. no refined side is used unsplit, in either direction, by a sub-column — the mid-side node
       (shared with the neighbouring column) never hangs inside a sub-column edge.
    (`decide +kernel` over the whole generated table.) -/
theorem subdivision_conforming (nn : Nat) (hnn : nn = 3 ∨ nn = 4) (sides : List Nat)
    (hs : sides.Sublist (List.range nn)) (hne : sides ≠ []) (subs : List Poly)
    (h : subdivision nn sides = some subs) :
    (polyEdges subs).Nodup ∧
    (∀ p ∈ subs, ∀ e ∈ cyc p, (e.2, e.1) ∉ cyc p) ∧
    (∀ e ∈ polyEdges subs,
        (e ∈ refBoundary nn sides ∧ (e.2, e.1) ∉ polyEdges subs) ∨
        (e ∉ refBoundary nn sides ∧ (e.2, e.1) ∈ polyEdges subs)) ∧
    (∀ e ∈ refBoundary nn sides, e ∈ polyEdges subs) ∧
    (∀ i ∈ sides, (Vert.corner i, Vert.corner ((i + 1) % nn)) ∉ polyEdges subs ∧
                  (Vert.corner ((i + 1) % nn), Vert.corner i) ∉ polyEdges subs) :=
  (subdivision_entry_ok nn hnn sides hs hne subs h).1

/-- the same as ONE multiset identity on directed edges: the edges of all sub-columns are a
    rearrangement of the refined parent boundary, a list `I` of interior edges, and the reverses of `I` -/
theorem subdivision_edge_multiset (nn : Nat) (hnn : nn = 3 ∨ nn = 4) (sides : List Nat)
    (hs : sides.Sublist (List.range nn)) (hne : sides ≠ []) (subs : List Poly)
    (h : subdivision nn sides = some subs) :
    ∃ I : List Edge, (polyEdges subs).Perm (refBoundary nn sides ++ I ++ I.map fun e => (e.2, e.1)) :=
  ⟨pairedHalf (polyEdges subs), List.isPerm_iff.mp (subdivision_entry_ok nn hnn sides hs hne subs h).2.1⟩

/-- sub-columns meet along FULL edges: an edge `(a, b)` of a sub-column `p` that is not part of the
    refined parent boundary is the edge `(b, a)` of exactly one sub-column `q`, and `q ≠ p`.  Both
    have the same two end nodes, so no node of one lies inside an edge of the other. -/
theorem subcolumns_share_full_edges (nn : Nat) (hnn : nn = 3 ∨ nn = 4) (sides : List Nat)
    (hs : sides.Sublist (List.range nn)) (hne : sides ≠ []) (subs : List Poly)
    (h : subdivision nn sides = some subs) (p : Poly) (hp : p ∈ subs) (e : Edge) (he : e ∈ cyc p)
    (hb : e ∉ refBoundary nn sides) :
    ∃ q ∈ subs, q ≠ p ∧ (e.2, e.1) ∈ cyc q ∧ ∀ q' ∈ subs, (e.2, e.1) ∈ cyc q' → q' = q :=
  conform_shared_edge (subdivision_conforming nn hnn sides hs hne subs h) p hp e he hb

/-- every edge of the refined parent boundary (each half of a refined side, each unrefined side)
    belongs to exactly one sub-column, and no sub-column has it reversed -/
theorem boundary_edge_in_exactly_one_subcolumn (nn : Nat) (hnn : nn = 3 ∨ nn = 4) (sides : List Nat)
    (hs : sides.Sublist (List.range nn)) (hne : sides ≠ []) (subs : List Poly)
    (h : subdivision nn sides = some subs) (e : Edge) (he : e ∈ refBoundary nn sides) :
    (∃ p ∈ subs, e ∈ cyc p ∧ ∀ p' ∈ subs, e ∈ cyc p' → p' = p) ∧ ∀ q ∈ subs, (e.2, e.1) ∉ cyc q :=
  conform_boundary_edge (subdivision_conforming nn hnn sides hs hne subs h) e he

-- non-vacuity: in the quadrilateral with sides 0 and 3 refined, the interior edge (mid 0 3 → centre) of
-- the first sub-column is the edge (centre → mid 0 3) of the second
example : ((Vert.mid 0 3, Vert.centre) : Edge) ∈ cyc [Vert.corner 3, .mid 0 3, .centre] ∧
    (Vert.mid 0 3, Vert.centre) ∉ refBoundary 4 [0, 3] ∧
    (Vert.centre, Vert.mid 0 3) ∈ cyc [Vert.mid 0 3, .corner 0, .mid 0 1, .centre] := by decide +kernel
example : ((Vert.corner 3, Vert.mid 0 3) : Edge) ∈ refBoundary 4 [0, 3] := by decide +kernel

/-! ### area is additive over any family satisfying the boundary identity -/

/-- For ALL corner positions and ANY position of the centre node (`ρ` is arbitrary): if the
    sub-columns' edges cancel to the refined boundary, their signed areas add up to the parent's. -/
theorem area_additive_over_chain (ρ : Val) (nn : Nat) (sides : List Nat) (subs : List Poly)
    (h : boundaryOK nn sides subs = true) :
    sumRat (subs.map (area2 ρ)) = area2 ρ (parentPoly nn) := by
  rw [sum_area2_of_boundary ρ subs _ h, esum_refBoundary_parent]

/-- `refine` conserves the area of every column it replaces, for all coordinates -/
theorem refine_column_conserves_area (ρ : Val) (nn : Nat) (hnn : nn = 3 ∨ nn = 4) (sides : List Nat)
    (hs : sides.Sublist (List.range nn)) (hne : sides ≠ []) (subs : List Poly)
    (h : subdivision nn sides = some subs) :
    sumRat (subs.map (area2 ρ)) = area2 ρ (parentPoly nn) :=
  area_additive_over_chain ρ nn sides subs (subdivision_boundary_identity nn hnn sides hs hne subs h)

-- non-vacuity: a quadrilateral with two adjacent refined sides (the case with a centre node)
example : subdivision 4 [0, 3] = some
    [[.corner 3, .mid 0 3, .centre], [.mid 0 3, .corner 0, .mid 0 1, .centre], [.mid 0 1, .corner 1, .centre],
     [.corner 1, .corner 2, .centre], [.corner 3, .centre, .corner 2]] := by decide +kernel
example : [0, 3].Sublist (List.range 4) := by decide +kernel

/-! ### `decompose_column`, `triangulate_column`, `split_column` -/

/-- each special case of `decompose_column`, for every starting node, tiles the parent (no side is
    split; the centre node may be anywhere) -/
theorem decompose_cases_boundary_identity :
    ∀ c ∈ decomposeCases, ∀ i0 ∈ List.range c.nn,
      boundaryOK c.nn [] (subdivide c.nn i0 c.polys) = true ∧
      vertsAvailable c.nn [] true (subdivide c.nn i0 c.polys) = true := by
  intro c hc i0 hi
  have ok := decompose_table_ok c hc i0 hi
  exact ⟨boundaryOK_of_conform ok.1 ok.2.1, ok.2.2⟩

theorem decompose_cases_conserve_area (ρ : Val) (c : DecompCase) (hc : c ∈ decomposeCases) (i0 : Nat)
    (hi : i0 < c.nn) :
    sumRat ((subdivide c.nn i0 c.polys).map (area2 ρ)) = area2 ρ (parentPoly c.nn) :=
  area_additive_over_chain ρ c.nn [] _
    (decompose_cases_boundary_identity c hc i0 (List.mem_range.mpr hi)).1

/-- `triangulate_column` about a centre node placed anywhere, for a column with ANY number of sides -/
theorem triangulate_conserves_area (ρ : Val) (n : Nat) :
    sumRat ((triangulate n).map (area2 ρ)) = area2 ρ (parentPoly n) := by
  rw [triangulate_eq, List.map_map]
  simp only [Function.comp_def, area2_triangle_centre]
  rw [sumRat_map_add]
  have t := telescope_cyc (fun k : Nat => Pt.cross (ρ.corner k) ρ.centre) (List.range n)
  rw [cyc_range, List.map_map] at t
  have t' : sumRat ((List.range n).map fun i =>
      Pt.cross (ρ.corner ((i + 1) % n)) ρ.centre - Pt.cross (ρ.corner i) ρ.centre) = 0 := t
  rw [t', ← esum_refBoundary_parent ρ n [], esum_refBoundary, Rat.add_zero]

/-- `decompose_column`, whichever branch fires (special case or triangulation), for any list of
    straight nodes: the new columns' signed areas add up to the old column's -/
theorem decompose_conserves_area (ρ : Val) (nn : Nat) (straight : List Nat)
    (hst : ∀ s ∈ straight, s < nn) (polys : List Poly)
    (h : decompose nn straight = some (.ok polys)) :
    sumRat (polys.map (area2 ρ)) = area2 ρ (parentPoly nn) := by
  obtain ⟨h4, rfl | ⟨c, hc, rfl, s, hs, rfl⟩⟩ := decompose_ok h
  · exact triangulate_conserves_area ρ nn
  · refine decompose_cases_conserve_area ρ c hc s ?_
    rcases hs with rfl | hs
    · cases straight with
      | nil => exact Nat.lt_of_le_of_lt (Nat.zero_le 4) h4
      | cons a t => exact hst a List.mem_cons_self
    · exact hst s hs

/-- `split_column` at any of the four nodes: the shortened old column and the new triangle tile the
    quadrilateral -/
theorem split_column_boundary_identity :
    ∀ i0 ∈ List.range 4, boundaryOK 4 [] [splitOld i0, splitNewPoly i0] = true := by
  intro i0 hi
  have ok := split_table_ok i0 hi
  exact boundaryOK_of_conform ok.1 ok.2.1

theorem split_column_conserves_area (ρ : Val) (i0 : Nat) (hi : i0 < 4) :
    area2 ρ (splitOld i0) + area2 ρ (splitNewPoly i0) = area2 ρ (parentPoly 4) := by
  have := area_additive_over_chain ρ 4 [] _ (split_column_boundary_identity i0 (List.mem_range.mpr hi))
  simp only [List.map_cons, List.map_nil, sumRat_cons, sumRat_nil] at this
  rw [← this]; grind

/-- the special cases of `decompose_column` (every start node) and `split_column` (every chosen
    node) are conforming in the same sense (clauses 1-4 of `subdivision_conforming`, for `split_column`
    clauses 1, 3 and 4; no side is refined), and their edges satisfy the multiset identity -/
theorem decompose_cases_conforming (c : DecompCase) (hc : c ∈ decomposeCases) (i0 : Nat) (hi : i0 < c.nn) :
    let subs := subdivide c.nn i0 c.polys
    (polyEdges subs).Nodup ∧
    (∀ p ∈ subs, ∀ e ∈ cyc p, (e.2, e.1) ∉ cyc p) ∧
    (∀ e ∈ polyEdges subs,
        (e ∈ refBoundary c.nn [] ∧ (e.2, e.1) ∉ polyEdges subs) ∨
        (e ∉ refBoundary c.nn [] ∧ (e.2, e.1) ∈ polyEdges subs)) ∧
    (∀ e ∈ refBoundary c.nn [], e ∈ polyEdges subs) ∧
    ∃ I : List Edge, (polyEdges subs).Perm (refBoundary c.nn [] ++ I ++ I.map fun e => (e.2, e.1)) := by
  obtain ⟨⟨h1, h2, h3, h4, _⟩, hm, _⟩ := decompose_table_ok c hc i0 (List.mem_range.mpr hi)
  exact ⟨h1, h2, h3, h4, _, List.isPerm_iff.mp hm⟩

/-- the pieces `decompose_column` cuts a 5…8-sided column into (special cases) meet along full edges -/
theorem decompose_subcolumns_share_full_edges (c : DecompCase) (hc : c ∈ decomposeCases) (i0 : Nat)
    (hi : i0 < c.nn) (p : Poly) (hp : p ∈ subdivide c.nn i0 c.polys) (e : Edge) (he : e ∈ cyc p)
    (hb : e ∉ refBoundary c.nn []) :
    ∃ q ∈ subdivide c.nn i0 c.polys, q ≠ p ∧ (e.2, e.1) ∈ cyc q ∧
      ∀ q' ∈ subdivide c.nn i0 c.polys, (e.2, e.1) ∈ cyc q' → q' = q :=
  conform_shared_edge (decompose_table_ok c hc i0 (List.mem_range.mpr hi)).1 p hp e he hb

theorem split_column_conforming (i0 : Nat) (hi : i0 < 4) :
    let subs := [splitOld i0, splitNewPoly i0]
    (polyEdges subs).Nodup ∧
    (∀ e ∈ polyEdges subs,
        (e ∈ refBoundary 4 [] ∧ (e.2, e.1) ∉ polyEdges subs) ∨
        (e ∉ refBoundary 4 [] ∧ (e.2, e.1) ∈ polyEdges subs)) ∧
    (∀ e ∈ refBoundary 4 [], e ∈ polyEdges subs) ∧
    ∃ I : List Edge, (polyEdges subs).Perm (refBoundary 4 [] ++ I ++ I.map fun e => (e.2, e.1)) := by
  obtain ⟨⟨h1, _, h3, h4, _⟩, hm, _⟩ := split_table_ok i0 (List.mem_range.mpr hi)
  exact ⟨h1, h3, h4, _, List.isPerm_iff.mp hm⟩

-- non-vacuity: there are special cases, e.g. two for hexagons; the hexagon cut into two quadrilaterals shares the diagonal 3-0
example : (decomposeCases.filter fun c => c.nn = 6).length = 2 := by decide +kernel
example : ((Vert.corner 3, Vert.corner 0) : Edge) ∈ cyc [Vert.corner 0, .corner 1, .corner 2, .corner 3] ∧
    (Vert.corner 3, Vert.corner 0) ∉ refBoundary 6 [] := by decide +kernel

/-! ### the sub-columns of a refined triangle are positive fractions of it -/

/-- For a TRIANGULAR parent and every non-empty set of refined sides: each sub-column `refine` creates is a fixed
    positive fraction `c` of the parent (in the generated table: 1/2, 1/4 or 3/4), for ALL corner coordinates — so every sub-column of a
    counter-clockwise triangle is counter-clockwise with positive area (and their areas add up to the parent's,
    `refine_column_conserves_area`).  Certificate: barycentric coordinates of the vertices, checked
    over the whole generated table by `decide`.  (For quadrilateral parents the fractions depend on the shape and on
    the centre node; positivity there needs convexity and is NOT proved — oracle only.) -/
theorem triangle_subcolumns_positive (sides : List Nat) (hs : sides.Sublist (List.range 3)) (hne : sides ≠ [])
    (subs : List Poly) (h : subdivision 3 sides = some subs) (p : Poly) (hp : p ∈ subs) :
    ∃ c : Rat, 0 < c ∧ ∀ ρ : Val, area2 ρ p = c * area2 ρ (parentPoly 3) := by
  have := triangle_table_fractions sides (mem_sublists.mpr hs) hne
  rw [h] at this
  simp only [List.all_eq_true] at this
  have hp' := this p hp
  cases hf : triFraction p with
  | none => rw [hf] at hp'; cases hp'
  | some c => exact ⟨c, (area2_of_triFraction ⟨fun _ => (0, 0), (0, 0)⟩ p c hf).1, fun ρ => (area2_of_triFraction ρ p c hf).2⟩

example : triFraction [.corner 0, .mid 0 1, .mid 1 2, .corner 2] = some (3/4) := by decide +kernel

/-! ### `refine_layers` -/

/-- each refined layer is replaced by `factor` layers whose thicknesses add up to its own -/
theorem refine_layers_piece_sum (t : Rat) (factor : Nat) (hf : factor ≠ 0) :
    sumRat (List.replicate factor (t / factor)) = t := by
  rw [sumRat_replicate]
  have : (factor : Rat) ≠ 0 := by exact_mod_cast hf
  grind

/-- the thickness list `refine_layers` hands to `add_layers` (selected layers split into `factor` equal parts,
    the others kept) has the same total as the old stack, for every selection and every factor ≥ 1 (so the
    bottom of the lowest layer that `add_layers` computes from it does not move) -/
theorem refine_layers_conserves_thickness (ts : List (Rat × Bool)) (factor : Nat) (hf : factor ≠ 0) :
    sumRat (Geo.refinedThicknesses ts factor) = sumRat (ts.map (·.1)) := by
  induction ts with
  | nil => rfl
  | cons p t ih =>
    simp only [Geo.refinedThicknesses, List.flatMap_cons, List.map_cons, sumRat_append, sumRat_cons] at ih ⊢
    rw [ih]
    split
    · rw [refine_layers_piece_sum _ _ hf]
    · simp only [sumRat_cons, sumRat_nil]; grind

example : Geo.refinedThicknesses [(2, true), (5, false), (3, true)] 3 = [2/3, 2/3, 2/3, 5, 1, 1, 1] := by
  decide +kernel

end Props.C11
