/-
  C18 — Reverse-engineering a rectangular geometry inverts grid generation.

  Property theorems about `Model.RectGeo` (model of `t2grid.rectgeo`) and `Model.FromGeo`
  (model of `fromgeo`, C04).  What is proved: the three core steps — surface recovery, the
  spacing of a single-block direction, and the direction walk along a line of blocks (unique
  candidate, twice the own distances, which for rectangular columns are the spacings) — and
  the rotation algebra; then their hypotheses derived for a lattice of blocks (`Row`, `Lattice`,
  `Layered`).  What is not proved (MANIFEST.json, `level_claimed`): the composition
  `fromgeo (rectgeo T) = T` and the recovery of a general rotation angle through `asin`; the
  driver evaluates the composition inside the model on every explored case instead.
-/
import Mathlib.Tactic.FieldSimp
import PyTough.Proofs.RectGeoComposeCheck
import PyTough.Proofs.RectGeoExample
import PyTough.Proofs.FromGeoExample

namespace Props.C18
open Py Model.FromGeo Model.RectGeo
open Proofs.RectGeo

/-! ### column surfaces -/

/-- `find_surface`'s formula returns the column surface that `block_centre` and `block_volume`
    were computed from, for a surface inside (or at the top of) any underground layer:
    with `zc` the top block's centre elevation, `v` its volume and `lt` any thickness not below
    the block height (the code passes twice the block's own vertical distance, which *is* the
    block height for a truncated block and the layer thickness for a complete one),
    `surfaceFormula zc (v / area) lt = surface`. -/
theorem surface_recovery (g : Geo) (lay : Layer) (col : Column) (hwf : LayersWF g) (hl : lay ∈ g.layers)
    (harea : 0 < col.area) (hb : lay.bottom < col.surface) (ht : col.surface ≤ lay.top)
    (lt : Rat) (hlt : col.surface - lay.bottom ≤ lt) :
    ∃ c v, blockCentre g lay col = some c ∧ blockVolume g lay col = some v ∧
      surfaceFormula c.z (v / col.area) lt = col.surface :=
  surface_inside g lay col hwf hl harea hb ht lt hlt

/-- `surface_recovery` for a surface above the top layer (the block of the first underground layer is
    extended up to the surface, its centre stays at the layer centre — the second case of the
    formula). `hmid`: the layer centre is its midpoint, as `add_layers` makes it. -/
theorem surface_recovery_above_top (g : Geo) (lay : Layer) (col : Column) (hwf : LayersWF g)
    (hl : g.layers.head? = some lay) (harea : 0 < col.area) (ht : lay.top < col.surface)
    (hmid : lay.centre = (1 / 2 : Rat) * (lay.bottom + lay.top)) :
    ∃ c v, blockCentre g lay col = some c ∧ blockVolume g lay col = some v ∧
      surfaceFormula c.z (v / col.area) (lay.top - lay.bottom) = col.surface :=
  surface_above g lay col hwf hl harea ht hmid

-- the example geometry of C04: column `a` has its surface (-1/2) inside the top layer,
-- column `b` has its surface (1) above it; the formula on the centre elevation, volume and area `fromgeo`
-- gives their top-layer blocks (typed in: -3/4, 2, 4 and -1/2, 12, 6)
example : surfaceFormula (-3/4) (2 / 4) (1/2) = -1/2 ∧ surfaceFormula (-1/2) (12 / 6) 1 = 1 := by decide +kernel
example : LayersWF Proofs.FromGeo.Ex.geo ∧ Proofs.FromGeo.Ex.l1 ∈ Proofs.FromGeo.Ex.geo.layers ∧
    0 < Proofs.FromGeo.Ex.colA.area := by decide +kernel

/-- `find_surface` composed with the direction walk: for a column whose blocks form a vertical
    line above the mapped bottom block, the new surface is the two-case formula applied to the
    line's top block (its centre elevation, its volume over the column area) and twice its own
    vertical distance — exactly the quantities `surface_recovery` is about.  (`removed = []`, i.e.
    `remove_inactive = False`, here and in the surface theorems resting on this.) -/
theorem find_surface_on_line (T : TGrid) (g : Geo) (mp : BlockMap) (maxVol : Rat) (col : Column)
    (bottomLayer : Layer) (gn : Str) (bb : GBlock) (steps : List (GConn × GBlock))
    (hbl : g.layerlist.getLast? = some bottomLayer)
    (hgn : blockName g.convention bottomLayer.name col.name = .ok gn)
    (hmp : mp.lookup gn = some bb.name) (hfb : findB T bb.name = .ok bb)
    (hlen : steps.length ≤ T.blocks.length) (hok : volOk (some maxVol) bb = true)
    (hline : isLine T 3 (some maxVol) none none bb steps = true)
    (top : GBlock) (htop : (lineBlocks bb steps).getLast? = some top) (c : P3) (hc : top.centre = some c)
    (hv : top.volume > 0) :
    columnSurface T g mp maxVol col =
      .ok (some (surfaceFormula c.z (top.volume / col.area)
        (lastOr (lineSizes none bb steps) (top.volume / col.area)))) :=
  columnSurface_line hbl hgn hmp hfb hlen hok hline htop hc hv

/-! ### spacings -/

/-- For a direction with a single block, the spacing recovered as the origin block's volume
    divided by its own sizes in the two present directions (the first spacing found along
    directions 1 and 2, the last — bottom layer — along direction 3) is the original one: with
    volume `a * b * c` and own sizes `a`, `b` the result is `c`. -/
theorem missing_direction_spacing (s1 s2 s3 : List Rat) (p1 p2 : Nat) (a b c vol : Rat)
    (h1 : ownSpacing s1 s2 s3 p1 = .ok a) (h2 : ownSpacing s1 s2 s3 p2 = .ok b)
    (ha : a ≠ 0) (hb : b ≠ 0) (hv : vol = a * b * c) :
    missingSpacing s1 s2 s3 [p1, p2] vol = .ok c := by
  simp only [missingSpacing, h1, h2, hv]
  congr 1
  field_simp

-- a 1 x 3 x 2 grid: direction 1 is missing; the origin block is 4 wide in direction 2 and 2 thick
example : missingSpacing [] [4, 5, 6] [1, 2] [2, 3] (3 * 4 * 2) = .ok 3 := by decide +kernel

/-- The candidate next block is unique: standing on a block of a line (`isLine`: its only
    direction-`k` connections are the one it was reached through, the one to the next block, and
    connections to boundary blocks), `next_block_in_direction` returns the next block of the
    line — whatever order the connection set is iterated in. -/
theorem next_block_unique (T : TGrid) (k : Nat) (mv : Option Rat) (last : Option Str) (prev : Option GConn)
    (b : GBlock) (c : GConn) (nb : GBlock) (rest : List (GConn × GBlock))
    (h : isLine T k mv last prev b ((c, nb) :: rest) = true) :
    nextBlock T b.name last k mv = .ok (some (nb, c)) :=
  nextBlock_step h

/-- Following direction `k` from the first block of a line visits exactly the blocks of the line,
    in order, and returns twice each block's own connection distance (towards the next block;
    for the last block, towards the previous one). -/
theorem direction_track_sizes (T : TGrid) (k : Nat) (mv : Option Rat) (b : GBlock)
    (steps : List (GConn × GBlock)) (hlen : steps.length ≤ T.blocks.length) (hok : volOk mv b = true)
    (hline : isLine T k mv none none b steps = true) :
    track T b k mv = .ok (lineBlocks b steps, lineSizes none b steps) :=
  track_line hlen hok hline

example : isLine Ex.grid 1 (some (10 ^ 25)) none none Ex.a Ex.steps = true := by decide +kernel
example : track Ex.grid Ex.a 1 (some (10 ^ 25)) = .ok ([Ex.a, Ex.b, Ex.c], [2, 4, 6]) := by decide +kernel
-- direction 3 from `a`: the only connection leads to the boundary block, which is passed over
example : isLine Ex.grid 3 (some (10 ^ 25)) none none Ex.a [] = true ∧
    track Ex.grid Ex.a 3 (some (10 ^ 25)) = .ok ([Ex.a], []) := by decide +kernel

/-- In a grid generated from rectangular columns, a block's own horizontal connection distance
    is half its width: for the column `[x0, x1] x [y0, y1]` (centre at the midpoint) and its edge
    `x = x1` (resp. `y = y1`) the squared distance C04 proves for the connection is `((x1-x0)/2)²`
    (resp. `((y1-y0)/2)²`) — so twice the own distance is the spacing. -/
theorem rectangle_half_width (x0 x1 y0 y1 : Rat) (hx : x0 ≠ x1) (hy : y0 ≠ y1) :
    P2.normSq (P2.sub (lineProjection ⟨(x0 + x1) / 2, (y0 + y1) / 2⟩ ⟨x1, y0⟩ ⟨x1, y1⟩) ⟨(x0 + x1) / 2, (y0 + y1) / 2⟩)
      = ((x1 - x0) / 2) ^ 2 ∧
    P2.normSq (P2.sub (lineProjection ⟨(x0 + x1) / 2, (y0 + y1) / 2⟩ ⟨x0, y1⟩ ⟨x1, y1⟩) ⟨(x0 + x1) / 2, (y0 + y1) / 2⟩)
      = ((y1 - y0) / 2) ^ 2 := by
  have hx' : (⟨x0, y1⟩ : P2) ≠ ⟨x1, y1⟩ := fun h => hx (by injection h)
  have hy' : (⟨x1, y0⟩ : P2) ≠ ⟨x1, y1⟩ := fun h => hy (by injection h)
  constructor
  · rw [Proofs.FromGeo.perp_dist_cross _ _ _ hy', div_eq_iff (Proofs.FromGeo.normSq_sub_ne_zero _ _ hy')]
    simp only [cross, P2.sub, P2.normSq, P2.dot]
    ring
  · rw [Proofs.FromGeo.perp_dist_cross _ _ _ hx', div_eq_iff (Proofs.FromGeo.normSq_sub_ne_zero _ _ hx')]
    simp only [cross, P2.sub, P2.normSq, P2.dot]
    ring

-- column a of the C04 example: [0,2] x [0,2], centre (1,1), edge x = 2: squared distance (2/2)²
example : P2.normSq (P2.sub (lineProjection ⟨1, 1⟩ ⟨2, 0⟩ ⟨2, 2⟩) ⟨1, 1⟩) = ((2 - 0) / 2 : Rat) ^ 2 := by decide +kernel

/-! ### the composition `rectgeo ∘ fromgeo` on grids whose walks are lines

  The property's main clause is `rectgeo (fromgeo G)` = `G` for a rectangular `G`.  The theorems
  below prove it step by step **for every grid on which the walks of `rectgeo` are lines**
  (`AxisLines`, `ColumnRecovers`: the decidable `isLine` on the walks, with equalities between
  block data of the grid and `block_centre`/`block_volume` of the generating geometry — C04's
  `grid_block_data`).  What is missing for the unconditional statement:
  (a) that `fromgeo` of a rectangular geometry *has* these lines for all sizes `nx, ny, nz`
      (an induction over the three nested loops of `fromgeo`; instead the driver evaluates
      `isLine` on the three axis walks of every explored grid and the harness checks the
      model's spacings and surfaces against the generating ones exactly on every unrotated case);
  (b) `block_mapping`: the hypothesis `mp.lookup (bottom block name) = origin-column block` of
      `ColumnRecovers`, and that `fromgeo (geo, blockmap)` regenerates the grid (evaluated inside
      the model by the driver on every case: field `F`);
  (c) the rotation angle (`asin`);
  (d) the steps of `rectgeo` no theorem here speaks of: `findOriginBlock` (that it returns `blk 0 0 nz`),
      `rectangularGeo`, `orientationVector`, `rotateGeo`, `snapCols` over the column list, and their
      assembly in `stage1`/`stage2`. -/

/-- Spacings, three-dimensional grid: if the walks from the origin block along directions 1 and 2
    and from the topmost block along direction 3 are lines (going down), `block_spacings` returns
    the doubled own distances along them. -/
theorem rectgeo_spacings_partial (T : TGrid) (ob tb : GBlock) (mv : Rat) (sx sy sz : List (GConn × GBlock))
    (h : AxisLines T ob mv sx sy sz tb) (hx : sx ≠ []) (hy : sy ≠ []) (hz : sz ≠ []) :
    blockSpacings T ob mv = .ok (lineSizes none ob sx, lineSizes none ob sy, lineSizes none tb sz) := by
  obtain ⟨t1, t2, t3⟩ := h.tracks
  simp only [blockSpacings, t1, t2, h.top, t3, h.down, Bool.false_eq_true, if_false, lineSizes_isEmpty]
  simp [List.isEmpty_eq_false_iff.2 hx, List.isEmpty_eq_false_iff.2 hy, List.isEmpty_eq_false_iff.2 hz]

/-- Spacings, two-dimensional grids: a single block along direction 1 (resp. 2); the missing
    spacing is the one `missing_direction_spacing` characterises. -/
theorem rectgeo_spacings_2d_partial (T : TGrid) (ob tb : GBlock) (mv : Rat) (s sz : List (GConn × GBlock))
    (hs : s ≠ []) (hz : sz ≠ []) (d : Rat) :
    (AxisLines T ob mv [] s sz tb →
      missingSpacing [] (lineSizes none ob s) (lineSizes none tb sz) [2, 3] ob.volume = .ok d →
      blockSpacings T ob mv = .ok ([d], lineSizes none ob s, lineSizes none tb sz)) ∧
    (AxisLines T ob mv s [] sz tb →
      missingSpacing (lineSizes none ob s) [] (lineSizes none tb sz) [1, 3] ob.volume = .ok d →
      blockSpacings T ob mv = .ok (lineSizes none ob s, [d], lineSizes none tb sz)) := by
  have es := List.isEmpty_eq_false_iff.2 hs
  have ez := List.isEmpty_eq_false_iff.2 hz
  constructor
  · intro h hd
    obtain ⟨t1, t2, t3⟩ := h.tracks
    simp only [blockSpacings, t1, t2, h.top, t3, h.down, Bool.false_eq_true, if_false, lineSizes_isEmpty]
    simp [es, ez, lineSizes, hd]
  · intro h hd
    obtain ⟨t1, t2, t3⟩ := h.tracks
    simp only [blockSpacings, t1, t2, h.top, t3, h.down, Bool.false_eq_true, if_false, lineSizes_isEmpty]
    simp [es, ez, lineSizes, hd]

/-- The doubled distances along a line are the generating spacings `ws` whenever every block's own
    distance along the line is half its width — which `rectangle_half_width` above shows for
    rectangular columns; for layers `vertConn` gives the lower block the distance `lay.top - lay.centre`
    (`Proofs.FromGeo.VertFields.interior`), half the thickness when the centre is the midpoint. -/
theorem line_sizes_are_widths (steps : List (GConn × GBlock)) (prev : Option GConn) (b : GBlock) (ws : List Rat)
    (h : HalfWidths prev b steps ws) : lineSizes prev b steps = ws := by
  induction steps generalizing prev b ws with
  | nil =>
    cases prev with
    | none => simp only [HalfWidths] at h; subst h; rfl
    | some lc =>
      simp only [HalfWidths] at h
      obtain ⟨w, rfl, hd⟩ := h
      simp only [lineSizes, hd]; congr 1; ring
  | cons s rest ih =>
    obtain ⟨c, nb⟩ := s
    have h' : ∃ w ws', ws = w :: ws' ∧ distAt c b.name = w / 2 ∧ HalfWidths (some c) nb rest ws' := by
      cases prev <;> simpa [HalfWidths] using h
    obtain ⟨w, ws', rfl, hd, hr⟩ := h'
    rw [lineSizes_cons, ih (some c) nb ws' hr, hd]
    congr 1; ring

/-- Surfaces: if every reconstructed column corresponds to a generating column whose blocks form
    a vertical line in the grid, with the top block carrying C04's centre and volume
    (`ColumnRecovers`), `find_surface` gives every reconstructed column the generating surface —
    inside a layer, at a layer top, or above the top layer. -/
theorem surfaces_recovered_partial (T : TGrid) (G g1 : Geo) (mp : BlockMap) (mv : Rat) (hwf : LayersWF G)
    (cols1 colsG : List Column) (h : List.Forall₂ (ColumnRecovers T G g1 mp mv) cols1 colsG) :
    findSurfaceCols T g1 mp mv [] cols1 =
      .ok (List.zipWith (fun c1 cG => { c1 with surface := cG.surface }) cols1 colsG) := by
  induction h with
  | nil => rfl
  | @cons c1 cG r1 rG hd _ ih =>
    simp only [findSurfaceCols, column_surface_recovered hwf hd, ih, List.zipWith_cons_cons]

/-- `snap_columns_to_layers` leaves a column's surface alone when the surface block is at
    least `layer_snap` thick. -/
theorem snap_keeps_surface (g : Geo) (minThick : Rat) (nl : Nat) (col : Column) (top : Layer)
    (htop : g.layerlist[g.layerlist.length - nl]? = some top) (hthick : minThick ≤ col.surface - top.bottom) :
    snapColumn g minThick nl col = .ok col := by
  unfold snapColumn
  simp only [htop]
  have : ¬ (col.surface - top.bottom < minThick) := not_lt.2 hthick
  simp [this]

/-- Position: after `match_position` the reconstruction's origin block (bottom layer, first
    column) has the centre of the grid's origin block. -/
theorem origin_recovered (g : Geo) (ob : GBlock) (cs : P2) (g2 : Geo) (oc : P3)
    (hoc : ob.centre = some oc) (h : matchPosition g ob cs = .ok g2) :
    ∃ col lay, g2.columns.head? = some col ∧ g2.layerlist.getLast? = some lay ∧
      blockCentre g2 lay col = some oc := by
  unfold matchPosition at h
  simp only [hoc] at h
  split at h
  · rename_i col lay oc' hcol hlay hoc'
    cases hoc'
    split at h
    · rename_i origin horigin
      cases h
      generalize ht : (⟨oc.x - origin.x, oc.y - origin.y, oc.z - origin.z⟩ : P3) = t
      refine ⟨translateCol t col, translateLayer t lay, ?_, ?_, ?_⟩
      · rw [translateGeo_columns, List.head?_map, hcol]; rfl
      · rw [translateGeo_layerlist, List.getLast?_map, hlay]; rfl
      · rw [blockCentre_translate, horigin, ← ht]
        cases oc; cases origin
        simp only [Option.map_some, Option.some.injEq, P3.mk.injEq]
        exact ⟨by ring, by ring, by ring⟩
    · cases h
  · cases h
  · cases h
  · cases h

-- the row of the example grid: the axis walk in direction 1 is a line with half widths 1, 2, 3
example : HalfWidths none Ex.a Ex.steps [2, 4, 6] := by
  refine ⟨2, [4, 6], rfl, by decide +kernel, 4, [6], rfl, by decide +kernel, 6, rfl, by decide +kernel⟩

/-! ### the walk hypotheses derived from the structure of a rectangular lattice

  `rectgeo_spacings_partial` assumes that the three axis walks *are* lines (`AxisLines`, through
  `isLine`: a recursive predicate about the walk's own state).  The theorems below derive that from a
  description of the grid as a set: `Row` (distinct registered admissible blocks `b 0 … b n`,
  direction-`k` connections `cn i` joining `b i` and `b (i+1)` in either orientation, no other
  direction-`k` connection touching a block of the row except towards boundary blocks) and `Lattice`
  (the full `(nx+1) x (ny+1) x (nz+1)` box of blocks with its x-, y-, z-connections; every other
  connection at a block of the box leads to a zero/huge-volume block — atmosphere type 0, 1 or 2,
  inactive boundary blocks).  `HalfWidths` is not derived: the widths enter as hypotheses.
  Item (a) of the list above becomes: that `fromgeo` of a rectangular geometry *is* such a lattice
  (C04's `grid_block_data` / `grid_connection_origin` give the membership facts; the injectivity of
  the generated names and the converse "every announced connection is in the grid" are not
  assembled), and the spacings under stepped surfaces (the box is then not full;
  `column_surface_on_row_partial` takes each column as a row of its own height).
  Which top-layer block `nanargmax` picks (hypothesis `htop` of
  `rectgeo_spacings_lattice_partial`) is settled by `lattice_topmost_block` when the box is the
  whole admissible part of the grid (`Layered`). -/

/-- Following direction `k` from the first block of a row of a grid returns the row's blocks in
    order and their widths, when each connection's own distances are half the widths of the two
    blocks it joins — with no assumption on the order of any connection set. -/
theorem row_track_widths (T : TGrid) (k : Nat) (mv : Option Rat) (n : Nat) (b : Nat → GBlock) (cn : Nat → GConn)
    (R : Row T k mv n b cn) (hn : 0 < n) (w : Nat → Rat)
    (hw : ∀ i, i < n → distAt (cn i) (b i).name = w i / 2 ∧ distAt (cn i) (b (i + 1)).name = w (i + 1) / 2) :
    track T (b 0) k mv = .ok ((List.range' 0 (n + 1)).map b, (List.range' 0 (n + 1)).map w) := by
  rw [track_line (by rw [rowSteps_length]; have := R.length_le; omega)
    (R.adm 0 (by omega)) R.isLine_row, lineBlocks_row]
  rw [lineSizes_row_all hn hw]

/-- Spacings of a three-dimensional rectangular lattice (at least two blocks in every direction):
    from the origin block `blk 0 0 nz` (first row, first column, bottom layer) `block_spacings`
    returns the widths `wx 0 … wx nx`, `wy 0 … wy ny`, `wz 0 … wz nz` (top layer first), whichever
    top-layer block is the topmost one.  Assumed: `htop` (the topmost admissible block found by
    `nanargmax` is a top-layer block of the box) and a full box (flat surfaces); that `fromgeo G`
    is a `Lattice` is not proved. -/
theorem rectgeo_spacings_lattice_partial (T : TGrid) (mv : Rat) (nx ny nz : Nat) (blk : Nat → Nat → Nat → GBlock)
    (cx cy cz : Nat → Nat → Nat → GConn) (L : Lattice T mv nx ny nz blk cx cy cz)
    (hx : 0 < nx) (hy : 0 < ny) (hz : 0 < nz)
    (it jt : Nat) (hit : it ≤ nx) (hjt : jt ≤ ny) (htop : topmostBlock T (some mv) = .ok (blk it jt 0))
    (c0 c1 : P3) (hc0 : (blk it jt 0).centre = some c0) (hc1 : (blk it jt nz).centre = some c1) (hdown : c1.z ≤ c0.z)
    (wx wy wz : Nat → Rat)
    (hwx : ∀ i, i < nx → distAt (cx i 0 nz) (blk i 0 nz).name = wx i / 2 ∧
      distAt (cx i 0 nz) (blk (i + 1) 0 nz).name = wx (i + 1) / 2)
    (hwy : ∀ j, j < ny → distAt (cy 0 j nz) (blk 0 j nz).name = wy j / 2 ∧
      distAt (cy 0 j nz) (blk 0 (j + 1) nz).name = wy (j + 1) / 2)
    (hwz : ∀ l, l < nz → distAt (cz it jt l) (blk it jt l).name = wz l / 2 ∧
      distAt (cz it jt l) (blk it jt (l + 1)).name = wz (l + 1) / 2) :
    blockSpacings T (blk 0 0 nz) mv =
      .ok ((List.range' 0 (nx + 1)).map wx, (List.range' 0 (ny + 1)).map wy, (List.range' 0 (nz + 1)).map wz) := by
  rw [rectgeo_spacings_partial T _ _ mv _ _ _ (L.axisLines it jt hit hjt htop c0 c1 hc0 hc1 hdown)
    (rowSteps_ne_nil hx) (rowSteps_ne_nil hy) (rowSteps_ne_nil hz),
    lineSizes_row_all hx hwx, lineSizes_row_all hy hwy, lineSizes_row_all hz hwz]

/-- Every column of a lattice is a vertical line of the grid, and every grid line along
    directions 1 and 2 is a line: the hypothesis `isLine` of `find_surface_on_line`,
    `direction_track_sizes` and `next_block_unique` holds on all of them. -/
theorem lattice_lines (T : TGrid) (mv : Rat) (nx ny nz : Nat) (blk : Nat → Nat → Nat → GBlock)
    (cx cy cz : Nat → Nat → Nat → GConn) (L : Lattice T mv nx ny nz blk cx cy cz) (i j l : Nat)
    (hi : i ≤ nx) (hj : j ≤ ny) (hl : l ≤ nz) :
    isLine T 1 (some mv) none none (blk 0 j l) (rowSteps (fun i => blk i j l) (fun i => cx i j l) 0 nx) = true ∧
    isLine T 2 (some mv) none none (blk i 0 l) (rowSteps (fun j => blk i j l) (fun j => cy i j l) 0 ny) = true ∧
    isLine T 3 (some mv) none none (blk i j 0) (rowSteps (fun l => blk i j l) (fun l => cz i j l) 0 nz) = true :=
  ⟨(L.rowX j l hj hl).isLine_row, (L.rowY i l hi hl).isLine_row, (L.rowZ i j hi hj).isLine_row⟩

-- a 2 x 2 x 2 lattice (widths 2,4 / 3,5 / 1,2) under an atmosphere block connected to the four
-- top blocks; vertical connections stored lower block first, as `fromgeo` stores them
example : Lattice Ex2.grid (10 ^ 20) 1 1 1 Ex2.blk Ex2.cx Ex2.cy Ex2.cz := Ex2.lattice
example : topmostBlock Ex2.grid (some (10 ^ 20)) = .ok (Ex2.blk 0 0 0) := by decide +kernel
example : blockSpacings Ex2.grid (Ex2.blk 0 0 1) (10 ^ 20) = .ok ([2, 4], [3, 5], [1, 2]) := by
  have h := rectgeo_spacings_lattice_partial Ex2.grid (10 ^ 20) 1 1 1 Ex2.blk Ex2.cx Ex2.cy Ex2.cz Ex2.lattice
    (by omega) (by omega) (by omega) 0 0 (by omega) (by omega) (by decide +kernel)
    ⟨1, 3 / 2, -1 / 2⟩ ⟨1, 3 / 2, -2⟩ (by decide +kernel) (by decide +kernel) (by decide +kernel)
    Ex2.wx Ex2.wy Ex2.wz
    (by decide +kernel)
    (by decide +kernel)
    (by decide +kernel)
  rw [h]; decide +kernel
example : Row Ex2.grid 1 (some (10 ^ 20)) 1 (fun i => Ex2.blk i 0 1) (fun i => Ex2.cx i 0 1) :=
  Ex2.lattice.rowX 0 1 (by omega) (by omega)

/-- `topmost_block` on a lattice that is the whole admissible part of the grid (`Layered`: every
    admissible block is a block of the box, centre elevations strictly decrease with the layer
    index): the block found by `nanargmax` is a top-layer block, whatever the block order. -/
theorem lattice_topmost_block (T : TGrid) (mv : Rat) (nx ny nz : Nat) (blk : Nat → Nat → Nat → GBlock)
    (cx cy cz : Nat → Nat → Nat → GConn) (L : Lattice T mv nx ny nz blk cx cy cz) (zc : Nat → Rat)
    (Y : Layered T mv nx ny nz blk zc) :
    ∃ it jt, it ≤ nx ∧ jt ≤ ny ∧ topmostBlock T (some mv) = .ok (blk it jt 0) :=
  L.topmost Y

/-- Spacings of a three-dimensional rectangular lattice, no hypothesis on the walks or on the
    topmost block: if the admissible blocks of `T` are exactly the box `blk i j l`, joined by
    `cx, cy, cz` with own distances half the widths `wx i`, `wy j`, `wz l`, then `block_spacings`
    from the origin block returns `(wx, wy, wz)`.  (Every hypothesis is part of the description of a
    rectangular grid; that `fromgeo G` satisfies them is not proved.) -/
theorem rectgeo_spacings_lattice (T : TGrid) (mv : Rat) (nx ny nz : Nat) (blk : Nat → Nat → Nat → GBlock)
    (cx cy cz : Nat → Nat → Nat → GConn) (L : Lattice T mv nx ny nz blk cx cy cz) (zc : Nat → Rat)
    (Y : Layered T mv nx ny nz blk zc) (hx : 0 < nx) (hy : 0 < ny) (hz : 0 < nz) (wx wy wz : Nat → Rat)
    (hwx : ∀ i, i < nx → distAt (cx i 0 nz) (blk i 0 nz).name = wx i / 2 ∧
      distAt (cx i 0 nz) (blk (i + 1) 0 nz).name = wx (i + 1) / 2)
    (hwy : ∀ j, j < ny → distAt (cy 0 j nz) (blk 0 j nz).name = wy j / 2 ∧
      distAt (cy 0 j nz) (blk 0 (j + 1) nz).name = wy (j + 1) / 2)
    (hwz : ∀ i j l, i ≤ nx → j ≤ ny → l < nz → distAt (cz i j l) (blk i j l).name = wz l / 2 ∧
      distAt (cz i j l) (blk i j (l + 1)).name = wz (l + 1) / 2) :
    blockSpacings T (blk 0 0 nz) mv =
      .ok ((List.range' 0 (nx + 1)).map wx, (List.range' 0 (ny + 1)).map wy, (List.range' 0 (nz + 1)).map wz) := by
  obtain ⟨it, jt, hit, hjt, htop⟩ := L.topmost Y
  obtain ⟨c0, c1, hc0, hc1, hd⟩ := Y.down it jt hit hjt
  exact rectgeo_spacings_lattice_partial T mv nx ny nz blk cx cy cz L hx hy hz it jt hit hjt htop c0 c1 hc0 hc1 hd
    wx wy wz hwx hwy (fun l hl => hwz it jt l hit hjt hl)

/-- Two-dimensional lattices (a single block along direction 1, resp. 2): the missing spacing
    `w0` is recovered from the origin block's volume `w0 * (own sizes in the other two directions)`. -/
theorem rectgeo_spacings_lattice_2d (T : TGrid) (mv : Rat) (n nz : Nat) (blk : Nat → Nat → Nat → GBlock)
    (cx cy cz : Nat → Nat → Nat → GConn) (zc : Nat → Rat) (hn : 0 < n) (hz : 0 < nz) (w0 : Rat) (w wz : Nat → Rat)
    (h0 : w 0 ≠ 0) (hz0 : wz nz ≠ 0) :
    (Lattice T mv 0 n nz blk cx cy cz → Layered T mv 0 n nz blk zc →
      (blk 0 0 nz).volume = w0 * w 0 * wz nz →
      (∀ j, j < n → distAt (cy 0 j nz) (blk 0 j nz).name = w j / 2 ∧
        distAt (cy 0 j nz) (blk 0 (j + 1) nz).name = w (j + 1) / 2) →
      (∀ j l, j ≤ n → l < nz → distAt (cz 0 j l) (blk 0 j l).name = wz l / 2 ∧
        distAt (cz 0 j l) (blk 0 j (l + 1)).name = wz (l + 1) / 2) →
      blockSpacings T (blk 0 0 nz) mv = .ok ([w0], (List.range' 0 (n + 1)).map w, (List.range' 0 (nz + 1)).map wz)) ∧
    (Lattice T mv n 0 nz blk cx cy cz → Layered T mv n 0 nz blk zc →
      (blk 0 0 nz).volume = w 0 * w0 * wz nz →
      (∀ i, i < n → distAt (cx i 0 nz) (blk i 0 nz).name = w i / 2 ∧
        distAt (cx i 0 nz) (blk (i + 1) 0 nz).name = w (i + 1) / 2) →
      (∀ i l, i ≤ n → l < nz → distAt (cz i 0 l) (blk i 0 l).name = wz l / 2 ∧
        distAt (cz i 0 l) (blk i 0 (l + 1)).name = wz (l + 1) / 2) →
      blockSpacings T (blk 0 0 nz) mv = .ok ((List.range' 0 (n + 1)).map w, [w0], (List.range' 0 (nz + 1)).map wz)) := by
  constructor
  · intro L Y hv hwy hwz
    obtain ⟨it, jt, hit, hjt, htop⟩ := L.topmost Y
    have : it = 0 := by omega
    subst this
    obtain ⟨c0, c1, hc0, hc1, hd⟩ := Y.down 0 jt hit hjt
    have A : AxisLines T (blk 0 0 nz) mv [] _ _ (blk 0 jt 0) := L.axisLines 0 jt hit hjt htop c0 c1 hc0 hc1 hd
    have h := (rectgeo_spacings_2d_partial T _ _ mv _ _ (rowSteps_ne_nil hn) (rowSteps_ne_nil hz) w0).1 A
    rw [lineSizes_row_all hn hwy, lineSizes_row_all hz fun l hl => hwz jt l hjt hl] at h
    refine h (missing_direction_spacing _ _ _ 2 3 (w 0) (wz nz) w0 _ ?_ ?_ h0 hz0 (by rw [hv]; ring))
    · simp only [ownSpacing, List.head?_map, List.head?_range', Nat.add_one_ne_zero, if_false, Option.map_some]; rfl
    · simp only [ownSpacing, List.getLast?_map, List.getLast?_range', Nat.add_one_ne_zero, if_false, Option.map_some,
        Nat.zero_add, Nat.add_sub_cancel]; rfl
  · intro L Y hv hwx hwz
    obtain ⟨it, jt, hit, hjt, htop⟩ := L.topmost Y
    have : jt = 0 := by omega
    subst this
    obtain ⟨c0, c1, hc0, hc1, hd⟩ := Y.down it 0 hit hjt
    have A : AxisLines T (blk 0 0 nz) mv _ [] _ (blk it 0 0) := L.axisLines it 0 hit hjt htop c0 c1 hc0 hc1 hd
    have h := (rectgeo_spacings_2d_partial T _ _ mv _ _ (rowSteps_ne_nil hn) (rowSteps_ne_nil hz) w0).2 A
    rw [lineSizes_row_all hn hwx, lineSizes_row_all hz fun l hl => hwz it l hit hl] at h
    refine h (missing_direction_spacing _ _ _ 1 3 (w 0) (wz nz) w0 _ ?_ ?_ h0 hz0 (by rw [hv]; ring))
    · simp only [ownSpacing, List.head?_map, List.head?_range', Nat.add_one_ne_zero, if_false, Option.map_some]; rfl
    · simp only [ownSpacing, List.getLast?_map, List.getLast?_range', Nat.add_one_ne_zero, if_false, Option.map_some,
        Nat.zero_add, Nat.add_sub_cancel]; rfl

/-- Surfaces, flat or stepped: a column given as a `Row` in direction 3 (top block `b 0` … bottom
    block `b n`, any height `n ≥ 1` — each column has its own), whose bottom block is the one the
    block map gives for the reconstructed column and whose top block carries C04's centre and
    volume for layer `lay` of the generating geometry: `find_surface` returns the generating
    column's surface (inside `lay`, at its top, or above the top layer).  The walk hypotheses of
    `surfaces_recovered_partial` (`isLine`, the length bound, the last size) are derived here;
    what stays assumed is the block-map lookup `hmp` (`block_mapping` is not proved). -/
theorem column_surface_on_row_partial (T : TGrid) (mv : Rat) (n : Nat) (b : Nat → GBlock) (cn : Nat → GConn)
    (R : Row T 3 (some mv) n b cn) (hn : 0 < n) (w : Nat → Rat)
    (hw : ∀ l, l < n → distAt (cn l) (b l).name = w l / 2 ∧ distAt (cn l) (b (l + 1)).name = w (l + 1) / 2)
    (g : Geo) (mp : BlockMap) (col : Column) (bottomLayer : Layer) (gn : Str)
    (hbl : g.layerlist.getLast? = some bottomLayer)
    (hgn : blockName g.convention bottomLayer.name col.name = .ok gn)
    (hmp : mp.lookup gn = some (b n).name)
    (G : Geo) (lay : Layer) (colG : Column) (hwf : LayersWF G) (hl : lay ∈ G.layers) (harea : 0 < colG.area)
    (hsame : col.area = colG.area)
    (hcentre : (b 0).centre = blockCentre G lay colG) (hvol : some (b 0).volume = blockVolume G lay colG)
    (hvpos : (b 0).volume > 0)
    (hcase :
      (lay.bottom < colG.surface ∧ colG.surface ≤ lay.top ∧ colG.surface - lay.bottom ≤ w 0) ∨
      (G.layers.head? = some lay ∧ lay.top < colG.surface ∧
        lay.centre = (1 / 2 : Rat) * (lay.bottom + lay.top) ∧ w 0 = lay.top - lay.bottom)) :
    columnSurface T g mp mv col = .ok (some colG.surface) := by
  obtain ⟨c, hc, hs⟩ := surfaceFormula_recovers G lay colG hwf hl harea (b 0) hcentre hvol (w 0) hcase
  rw [← hsame] at hs
  rw [columnSurface_row R hn (w 0) (hw 0 hn).1 g mp col bottomLayer gn hbl hgn hmp c hc hvpos, hs]

example : Layered Ex2.grid (10 ^ 20) 1 1 1 Ex2.blk Ex2.pz := Ex2.layered
example : blockSpacings Ex2.grid (Ex2.blk 0 0 1) (10 ^ 20) = .ok ([2, 4], [3, 5], [1, 2]) := by
  have h := rectgeo_spacings_lattice Ex2.grid (10 ^ 20) 1 1 1 Ex2.blk Ex2.cx Ex2.cy Ex2.cz Ex2.lattice Ex2.pz Ex2.layered
    (by omega) (by omega) (by omega) Ex2.wx Ex2.wy Ex2.wz
    (by decide +kernel)
    (by decide +kernel)
    (by intro i j l hi hj hl
        have : l = 0 := by omega
        subst this
        have : (i = 0 ∨ i = 1) ∧ (j = 0 ∨ j = 1) := by omega
        rcases this with ⟨rfl | rfl, rfl | rfl⟩ <;> decide +kernel)
  rw [h]; decide +kernel
-- the walk-side hypotheses of `column_surface_on_row_partial` on column (0,0) of the lattice, with the
-- C04 example geometry supplying layer and column names for the block-map key only: the lattice is not
-- its grid, so `hcentre`, `hvol` do not hold of this pair
example : Row Ex2.grid 3 (some (10 ^ 20)) 1 (fun l => Ex2.blk 0 0 l) (fun l => Ex2.cz 0 0 l) :=
  Ex2.lattice.rowZ 0 0 (by omega) (by omega)
example : Proofs.FromGeo.Ex.geo.layerlist.getLast? = some Proofs.FromGeo.Ex.l2 ∧
    blockName Proofs.FromGeo.Ex.geo.convention Proofs.FromGeo.Ex.l2.name Proofs.FromGeo.Ex.colA.name =
      .ok [' ', ' ', 'a', ' ', '2'] ∧
    Ex2.mp.lookup [' ', ' ', 'a', ' ', '2'] = some (Ex2.blk 0 0 1).name ∧
    distAt (Ex2.cz 0 0 0) (Ex2.blk 0 0 0).name = Ex2.wz 0 / 2 ∧ (Ex2.blk 0 0 0).volume > 0 := by decide +kernel
-- a 2-D lattice (1 x 2 x 2: the slice i = 0 of the example): the single block's width 2 along
-- direction 1 is recovered from the origin block's volume 2 * 3 * 2
example : blockSpacings Ex2.grid2 (Ex2.blk 0 0 1) (10 ^ 20) = .ok ([2], [3, 5], [1, 2]) := by
  have h := (rectgeo_spacings_lattice_2d Ex2.grid2 (10 ^ 20) 1 1 Ex2.blk Ex2.cx Ex2.cy Ex2.cz Ex2.pz
    (by omega) (by omega) 2 Ex2.wy Ex2.wz (by decide +kernel) (by decide +kernel)).1 Ex2.lattice2 Ex2.layered2
    (by decide +kernel)
    (by decide +kernel)
    (by intro j l hj hl
        have : l = 0 := by omega
        subst this
        have : j = 0 ∨ j = 1 := by omega
        rcases this with rfl | rfl <;> decide +kernel)
  rw [h]; decide +kernel

/-! ### orientation -/

/-- The rotation `match_position` applies is a rotation (`cos² + sin² = 1` for the normalised
    direction vector, from either horizontal direction), and rotating back undoes it:
    `rotate(-θ) ∘ rotate(θ) = id`.  (That the angle found through `asin` *is* the original
    rotation angle is not proved.) -/
theorem rotation_inverse (d : P2) (second : Bool) (nrm : Rat)
    (hn : nrm * nrm = d.x * d.x + d.y * d.y) (h0 : nrm ≠ 0) (p : P2) :
    let cs := cosSin d second nrm
    cs.x * cs.x + cs.y * cs.y = 1 ∧ rotP cs.x (-cs.y) (rotP cs.x cs.y p) = p := by
  intro cs
  have hnn : nrm * nrm ≠ 0 := mul_ne_zero h0 h0
  have h : cs.x * cs.x + cs.y * cs.y = 1 := by
    simp only [cs, cosSin]
    cases second
    · simp only [Bool.false_eq_true, if_false]
      rw [div_mul_div_comm, div_mul_div_comm, ← add_div, ← hn, div_self hnn]
    · simp only [if_true]
      rw [div_mul_div_comm, div_mul_div_comm, ← add_div, neg_mul_neg, add_comm, ← hn, div_self hnn]
  refine ⟨h, ?_⟩
  cases p with
  | mk x y =>
    simp only [rotP, P2.mk.injEq]
    constructor
    · linear_combination x * h
    · linear_combination y * h

example : cosSin ⟨3, 4⟩ false 5 = ⟨3/5, 4/5⟩ ∧ cosSin ⟨0, 7⟩ true 7 = ⟨1, 0⟩ := by decide +kernel

end Props.C18
