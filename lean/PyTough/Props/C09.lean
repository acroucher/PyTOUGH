/-
  C09 — Reordering, renaming and MINC do not change the physics the grid describes.

  Model: `Model/Grid.lean`; the physical reading `blkPhys`, `conPhys`, `PhysEq`: `Model/GridPhys.lean`.
  Blocks and connections are identified by object id, so "the same network" does not depend on
  names, list order or the order in which a connection lists its two blocks.
  MINC changes volumes by design: for it there is no `PhysEq` statement, see `minc_spec`,
  `minc_counts`, `minc_leaves_other_connections`.
-/
import PyTough.Proofs.GridFileNames
import PyTough.Props.C08
namespace Props.C09
open Py Model Model.Grid Model.Grid.World

/-- what `reorder` does to a connection it finds under the reversed pair of names
    (`block`, `distance` reversed, `dircos` negated, `nad1/nad2` swapped) leaves its physical
    signature unchanged: each block keeps its own distance, the area and permeability direction
    stay, and the gravity cosine still designates the same block as the upper one -/
theorem reversed_connection_same_phys (con : Con) (h : con.b0 ≠ con.b1) :
    conSig (flipCon con) = conSig con :=
  Proofs.Grid.conSig_flipCon con h

-- the signature really looks at the distances per block and at the sign of the cosine:
-- reversing the blocks only, with distances and cosine left as they are, changes it
example : conSig { b0 := 1, b1 := 0, direction := 3, d0 := 5, d1 := 2, area := 10, dircos := some (-1), nad1 := none, nad2 := none }
        ≠ conSig { b0 := 0, b1 := 1, direction := 3, d0 := 5, d1 := 2, area := 10, dircos := some (-1), nad1 := none, nad2 := none } := by
  decide +kernel

/-- **reorder_preserves_phys.**  For every list of block names that is a permutation of the grid's
    blocks (or empty) and every list of connection names that is a permutation of the grid's
    connections with any subset written reversed (`pre`), `reorder` leaves the physical network
    unchanged and the grid consistent. -/
theorem reorder_preserves_phys {w : World} (hI : Grid.Inv w) (bs : List Name) (cs : List CName)
    (hpre : pre w (.reorder bs cs) = true) :
    PhysEq w (step w (.reorder bs cs)).w ∧ Grid.Inv (step w (.reorder bs cs)).w := by
  refine ⟨?_, Props.C08.inv_step hI _ hpre⟩
  simp only [step, Proofs.Grid.ofR_w]
  exact (Proofs.Grid.reorder_spec hI bs cs (Proofs.Grid.pre_reorder_eq_true hpre).1 (Proofs.Grid.pre_reorder_eq_true hpre).2).2.1

/-- **rename_preserves_phys.**  For every name map that keeps the block names distinct. -/
theorem rename_preserves_phys {w : World} (hI : Grid.Inv w) (m : Dict Name Name) (fix : Bool)
    (hpre : pre w (.renameBlocks m fix) = true) :
    PhysEq w (step w (.renameBlocks m fix)).w ∧ Grid.Inv (step w (.renameBlocks m fix)).w := by
  refine ⟨?_, Props.C08.inv_step hI _ hpre⟩
  simp only [step, Proofs.Grid.ofR_w]
  exact (Proofs.Grid.renameBlocks_spec hI m fix hpre).2

def isReorderOrRename : Op → Bool
  | .reorder _ _ => true
  | .renameBlocks _ _ => true
  | _ => false

/-- a history of reorder / rename steps, each within its precondition -/
def PreAllRR : World → List Op → Prop
  | _, [] => True
  | w, op :: r => isReorderOrRename op = true ∧ pre w op = true ∧ PreAllRR (step w op).w r

instance instDecPreAllRR : (w : World) → (ops : List Op) → Decidable (PreAllRR w ops)
  | _, [] => isTrue trivial
  | w, op :: r =>
    have := instDecPreAllRR (step w op).w r
    show Decidable (isReorderOrRename op = true ∧ pre w op = true ∧ PreAllRR (step w op).w r) from inferInstance

/-- **compose_preserves_phys.**  Any sequence of reorder and rename steps. -/
theorem compose_preserves_phys {w : World} (hI : Grid.Inv w) (ops : List Op) (h : PreAllRR w ops) :
    PhysEq w (run w ops) ∧ Grid.Inv (run w ops) := by
  induction ops generalizing w with
  | nil => exact ⟨PhysEq.refl w, hI⟩
  | cons op r ih =>
    obtain ⟨hk, hp, hr⟩ := h
    have h1 : PhysEq w (step w op).w ∧ Grid.Inv (step w op).w := by
      cases op with
      | reorder bs cs => exact reorder_preserves_phys hI bs cs hp
      | renameBlocks m fix => exact rename_preserves_phys hI m fix hp
      | _ => simp [isReorderOrRename] at hk
    obtain ⟨h2, h3⟩ := ih h1.2 hr
    exact ⟨h1.1.trans h2, h3⟩

/-- **minc_volume_split** (arithmetic): with the fractions normalised by their (non-zero) sum as
    `minc` does, the fracture share `V·f₀` plus the matrix shares `V·f_k` add up to the original `V`. -/
theorem minc_volume_split (V : Rat) (fracs : List Rat) (hne : fracs ≠ []) (hs : sumRat fracs ≠ 0) :
    V * (normFracs fracs).headD 0 + sumRat (((normFracs fracs).drop 1).map (V * ·)) = V := by
  rw [Proofs.Grid.sumRat_map_mul]
  exact Proofs.Grid.normFracs_split V fracs hne hs

/-- **minc_levels_spec.**  The loop of `minc` over the matrix levels of one selected block
    (called with `origVol` = the block's volume before, `vfs` = the normalised fractions of levels
    1, 2, …, `lastblk` = the block itself), when it completes: it appends one new block per level
    to the block list, level `i` with volume `origVol·vfs[i]` and the level's name; existing blocks
    keep volume and name; it appends one connection per level, forming the chain
    block → matrix 1 → matrix 2 → … with area `origVol·a[m-1]` and distances `(d[m-1], d[m])`
    (`mincChain` / `mincCon`); the returned indices are the new blocks' positions; and the grid is
    consistent. -/
theorem minc_levels_spec (args : MincArgs) (blkname : Name) (origVol : Rat) (origRock : Nat) (centre : Option (List Rat))
    (vfs : List Rat) {w : World} (m0 : Nat) {lastblk : Nat} (iblk : Nat) (idx : List Nat) {w' : World} {iblk' : Nat} {idx' : List Nat}
    (hI : Grid.Inv w) (hlast : lastblk ∈ w.blocklist)
    (hok : mincLevels args blkname origVol origRock centre w vfs m0 lastblk iblk idx = .ok (w', iblk', idx')) :
    Grid.Inv w' ∧
    w'.blocklist = w.blocklist ++ List.range' w.blks.length vfs.length ∧
    w'.blks.length = w.blks.length + vfs.length ∧
    (∀ x, x < w.blks.length → (w'.bk x).volume = (w.bk x).volume ∧ (w'.bk x).name = (w.bk x).name) ∧
    (∀ i (hi : i < vfs.length), (w'.bk (w.blks.length + i)).volume = origVol * vfs[i] ∧
        (w'.bk (w.blks.length + i)).name = matrixBlockname blkname (m0 + i + 1)) ∧
    w'.connectionlist = w.connectionlist ++ List.range' w.cons.length vfs.length ∧
    w'.cons = w.cons ++ mincChain args origVol m0 lastblk w.blks.length vfs ∧
    iblk' = iblk + vfs.length ∧ idx' = idx ++ List.range' (iblk + 1) vfs.length := by
  have := Proofs.Grid.mincLevels_spec args blkname origVol origRock centre vfs m0 iblk idx hI hlast
  rw [hok] at this
  obtain ⟨t1, ⟨g1, g2, g3, g4, g5⟩, t5, t8, t9⟩ := this
  rw [Proofs.Grid.length_mincChain] at g1 g2 g3
  exact ⟨t1, g1, g2, fun x hx => ⟨(g5 x hx).2 id, (g5 x hx).1⟩, t5, g3, g4, t8, t9⟩

/-- **minc_spec.**  The operation itself: when `minc(volume_fractions, …, blocks)` returns (the
    selected names being distinct names of blocks of the grid — automatically so for the default
    selection "all blocks"), then with `f` = the fractions normalised by their sum:
    the grid is consistent; one index row per selected name is returned; no block is renamed;
    every unselected block and every boundary block (volume ≤ 0 or ≥ `atmos_volume`) keeps its volume;
    and for every selected block `b` with `0 < V < atmos_volume` the row holds the positions of `b` and
    of its new matrix blocks, `b` has volume `V·f₀`, matrix level `k` has `V·f_k`, and the new
    connections form the chain `b → matrix 1 → … → innermost` with area `V·a[k]` and distances
    `(d[k], d[k+1])` (`MincGroup` in Model/GridPhys.lean; `a`, `d` are the scipy numbers, parameters). -/
theorem minc_spec {w : World} (hI : Grid.Inv w) (args : MincArgs) {w' : World} {cols : List (List Nat)}
    (hok : minc w args = .ok (w', cols))
    (hnd : (if args.blocks.isEmpty then w.blocklist.map w.bname else args.blocks).Nodup)
    (hall : ∀ n ∈ (if args.blocks.isEmpty then w.blocklist.map w.bname else args.blocks), (dget w.block n).isSome) :
    let vf := normFracs args.fracs
    let sel := if args.blocks.isEmpty then w.blocklist.map w.bname else args.blocks
    Grid.Inv w' ∧ cols.length = sel.length ∧
    (∀ x, x < w.blks.length → (w'.bk x).name = (w.bk x).name) ∧
    (∀ b ∈ w.blocklist, (w.bname b ∉ sel ∨ ¬ (0 < (w.bk b).volume ∧ (w.bk b).volume < args.atmosVolume)) →
        (w'.bk b).volume = (w.bk b).volume) ∧
    (∀ i (hi : i < sel.length) b, dget w.block sel[i] = some b →
        0 < (w.bk b).volume → (w.bk b).volume < args.atmosVolume →
        ∃ row, cols[i]? = some row ∧ MincGroup args vf w.blks.length w' (w.bk b).volume b row) :=
  Proofs.Grid.minc_spec hI args hok hnd hall

/-- the hypotheses of `minc_spec` hold for the default selection (all blocks) of a consistent grid -/
theorem minc_spec_default_selection {w : World} (hI : Grid.Inv w) :
    (w.blocklist.map w.bname).Nodup ∧ ∀ n ∈ w.blocklist.map w.bname, (dget w.block n).isSome := by
  refine ⟨?_, ?_⟩
  · exact Proofs.Grid.nodup_block_names hI
  · intro n hn
    obtain ⟨b, hb, rfl⟩ := List.mem_map.mp hn
    rw [hI.bd_complete b hb]; rfl

/-- **MINC keeps each original block's total volume**: the fracture block and its matrix blocks add
    up to the volume the block had (fractions normalised by a non-zero sum) -/
theorem minc_keeps_total_volume {args : MincArgs} {fracs : List Rat} {N0 : Nat} {w' : World} {V : Rat} {b : Nat} {row : List Nat}
    (h : MincGroup args (normFracs fracs) N0 w' V b row) (hne : fracs ≠ []) (hs : sumRat fracs ≠ 0) :
    ∃ base, (w'.bk b).volume +
      sumRat ((List.range ((normFracs fracs).drop 1).length).map fun k => (w'.bk (base + k)).volume) = V := by
  obtain ⟨base, _, _, _, _, _, _, hfracture, hmatrix, _⟩ := h
  refine ⟨base, ?_⟩
  have hl : (List.range ((normFracs fracs).drop 1).length).map (fun k => (w'.bk (base + k)).volume) =
      ((normFracs fracs).drop 1).map (V * ·) := by
    apply List.ext_getElem
    · simp
    · intro k hk1 hk2
      simp only [List.getElem_map, List.getElem_range]
      simp only [List.length_map, List.length_range] at hk1
      exact hmatrix k hk1
  rw [hl, hfracture]
  exact minc_volume_split V fracs hne hs

/-- `minc` as a whole keeps the grid consistent, whatever its arguments (it raises on a duplicate
    matrix block name, leaving a consistent grid behind) -/
theorem minc_keeps_inv {w : World} (hI : Grid.Inv w) (args : MincArgs) : Grid.Inv (step w (.minc args)).w :=
  Props.C08.inv_step hI _ rfl

/-- **Block and connection counts.**  Under the hypotheses of `minc_spec`, with `P` the number of
    selected names whose block is processed (`0 < V < atmos_volume`, `Proofs.Grid.mincProcessed`) and
    `L = len(volume_fractions)`: the original blocks and connections keep their places at the front of
    `blocklist` / `connectionlist`, and exactly `P·(L−1)` new block objects and `P·(L−1)` new connection
    objects are appended (one matrix block and one connection per processed block and matrix level);
    unselected and boundary blocks contribute nothing. -/
theorem minc_counts {w : World} (hI : Grid.Inv w) (args : MincArgs) {w' : World} {cols : List (List Nat)}
    (hok : minc w args = .ok (w', cols))
    (hnd : (if args.blocks.isEmpty then w.blocklist.map w.bname else args.blocks).Nodup)
    (hall : ∀ n ∈ (if args.blocks.isEmpty then w.blocklist.map w.bname else args.blocks), (dget w.block n).isSome) :
    let sel := if args.blocks.isEmpty then w.blocklist.map w.bname else args.blocks
    let K := (sel.filter (Proofs.Grid.mincProcessed w args)).length * (args.fracs.length - 1)
    w'.blocklist = w.blocklist ++ List.range' w.blks.length K ∧
    w'.connectionlist = w.connectionlist ++ List.range' w.cons.length K ∧
    w'.blocklist.length = w.blocklist.length + K ∧ w'.connectionlist.length = w.connectionlist.length + K := by
  intro sel K
  obtain ⟨h1, _, h3, _⟩ := Proofs.Grid.minc_frame hI args hok hnd hall
  refine ⟨h1, h3, ?_, ?_⟩
  · rw [h1]; simp only [List.length_append, List.length_range']; rfl
  · rw [h3]; simp only [List.length_append, List.length_range']; rfl

/-- **Inter-block connections and unselected blocks are untouched.**  Under the hypotheses of `minc_spec`:
    (a) every connection object that existed keeps its two blocks, both distances, area, direction and
        gravity cosine (`minc` in /repo does not rescale the fracture–fracture interface areas);
    (b) every connection of the new grid whose second block is an original block — in particular every
        connection between two original (now fracture) blocks — is one of the old connections, unchanged:
        the new connections all end in a newly created matrix block;
    (c) every connection of the new grid that touches an original block which was not processed
        (unselected, or a boundary block) is one of the old connections, unchanged. -/
theorem minc_leaves_other_connections {w : World} (hI : Grid.Inv w) (args : MincArgs) {w' : World} {cols : List (List Nat)}
    (hok : minc w args = .ok (w', cols))
    (hnd : (if args.blocks.isEmpty then w.blocklist.map w.bname else args.blocks).Nodup)
    (hall : ∀ n ∈ (if args.blocks.isEmpty then w.blocklist.map w.bname else args.blocks), (dget w.block n).isSome) :
    let sel := if args.blocks.isEmpty then w.blocklist.map w.bname else args.blocks
    (∀ c, c < w.cons.length → w'.cn c = w.cn c) ∧
    (∀ c ∈ w'.connectionlist, (w'.cn c).b1 < w.blks.length → c ∈ w.connectionlist ∧ w'.cn c = w.cn c) ∧
    (∀ c ∈ w'.connectionlist, ∀ b ∈ w.blocklist, ((w'.cn c).b0 = b ∨ (w'.cn c).b1 = b) →
        (∀ n ∈ sel, Proofs.Grid.mincProcessed w args n = true → dget w.block n ≠ some b) →
        c ∈ w.connectionlist ∧ w'.cn c = w.cn c) := by
  intro sel
  obtain ⟨_, _, h3, ext, he, hlen, hext⟩ := Proofs.Grid.minc_frame hI args hok hnd hall
  have hold : ∀ c, c < w.cons.length → w'.cn c = w.cn c := by
    intro c hc
    simp only [World.cn, he, List.getD_eq_getElem?_getD, List.getElem?_append_left hc]
  have hnew : ∀ c ∈ w'.connectionlist, c ∉ w.connectionlist → w'.cn c ∈ ext := by
    intro c hc hn
    rw [h3] at hc
    rcases List.mem_append.mp hc with h | h
    · exact absurd h hn
    · obtain ⟨hle, hlt⟩ := List.mem_range'_1.mp h
      have hlt' : c - w.cons.length < ext.length := by omega
      have e : w'.cn c = ext[c - w.cons.length] := by
        simp only [World.cn, he, List.getD_eq_getElem?_getD, List.getElem?_append_right hle,
          List.getElem?_eq_getElem hlt', Option.getD_some]
      rw [e]; exact List.getElem_mem hlt'
  refine ⟨hold, ?_, ?_⟩
  · intro c hc hb1
    by_cases hin : c ∈ w.connectionlist
    · exact ⟨hin, hold c (hI.cl_lt c hin)⟩
    · have := (hext _ (hnew c hc hin)).1
      omega
  · intro c hc b hb hends hnp
    by_cases hin : c ∈ w.connectionlist
    · exact ⟨hin, hold c (hI.cl_lt c hin)⟩
    · obtain ⟨m1, m2⟩ := hext _ (hnew c hc hin)
      have hblt := hI.bl_lt b hb
      rcases hends with h | h
      · rcases m2 with m2 | ⟨n, hn, hp, hd⟩
        · omega
        · exact absurd (h ▸ hd) (hnp n hn hp)
      · omega

/-- **The requested fractions, normalised.**  For one processed block (`MincGroup`, as delivered by
    `minc_spec`) and *any* requested fractions `f₀, f₁, …` (they need not sum to 1): the fracture block
    has volume `V·f₀/Σf` and matrix level `k+1` has `V·f_{k+1}/Σf`. -/
theorem minc_group_volumes_normalised {args : MincArgs} {fracs : List Rat} {N0 : Nat} {w' : World} {V : Rat} {b : Nat} {row : List Nat}
    (h : MincGroup args (normFracs fracs) N0 w' V b row) (hne : fracs ≠ []) :
    ∃ base, (w'.bk b).volume = V * (fracs.headD 0 / sumRat fracs) ∧
      ∀ k (hk : k + 1 < fracs.length), (w'.bk (base + k)).volume = V * (fracs[k + 1] / sumRat fracs) := by
  obtain ⟨base, _, _, _, _, _, _, hfracture, hmatrix, _⟩ := h
  refine ⟨base, ?_, ?_⟩
  · rw [hfracture]
    cases fracs with
    | nil => exact absurd rfl hne
    | cons x r => rfl
  · intro k hk
    have hk' : k < ((normFracs fracs).drop 1).length := by simp [normFracs]; omega
    rw [hmatrix k hk']
    simp [normFracs]

/-- **embed_conserves_volume.**  Under the hypotheses of `Props.C08.embed_consistent`: when `embed`
    returns a grid, its total volume equals the host grid's total volume before (the sub-grid's
    volume is taken out of the grid's block that carries the name of the connection's first block —
    also when that first block is a standalone object of the same name). -/
theorem embed_conserves_volume {w : World} {sub : Grid} {c x0 x1 : Nat}
    (h1 : Grid.Inv w) (h2 : Grid.Inv (w.withGrid sub))
    (oR : ∀ x ∈ w.rocktypelist, x ∉ sub.rocktypelist) (oB : ∀ x ∈ w.blocklist, x ∉ sub.blocklist)
    (oC : ∀ x ∈ w.connectionlist, x ∉ sub.connectionlist)
    (nR : ∀ x ∈ w.rocktypelist, ∀ y ∈ sub.rocktypelist, w.rname x = w.rname y → ∀ b ∈ w.blocklist, (w.bk b).rock ≠ x)
    (hc : c < w.cons.length) (hc1 : c ∉ w.connectionlist) (hc2 : c ∉ sub.connectionlist)
    (hhost : dget w.block (w.bname (w.cn c).b0) = some x0) (hsb : dget sub.block (w.bname (w.cn c).b1) = some x1)
    {w' : World} (hok : embed w sub c = .ok (w', true)) : totalVolume w' = totalVolume w := by
  obtain ⟨w'', fl, e, _, hv, _⟩ := Proofs.Grid.embed_spec h1 h2 oR oB oC nR hc hc1 hc2 hhost hsb
  rw [hok] at e
  simp only [Except.ok.injEq, Prod.mk.injEq] at e
  obtain ⟨rfl, rfl⟩ := e
  exact hv rfl

/-- **Every permutation, every reversal subset.**  `bl` any permutation of the grid's block objects,
    `cl` any permutation of its connection objects, `rev` any subset of them: calling `reorder` with
    the block names in the order `bl` and the connection names in the order `cl`, those in `rev`
    written with their two block names swapped (`Proofs.Grid.reversalNames`), is within `pre`, leaves
    the physical network unchanged and the grid consistent.
    `hanti` (decidable) says that a connection written reversed is not *also* present in the grid as a
    second object under the swapped pair of names.  It cannot be dropped: with
    both `(A,B)` and `(B,A)` registered, "`(A,B)` written reversed" *is* the name of the other connection,
    `reorder` lists that one twice and loses the first (such a name list is outside `pre`; grids built
    from a geometry never hold a pair of blocks connected in both orientations). -/
theorem reorder_any_permutation_any_reversal_partial {w : World} (hI : Grid.Inv w) (bl cl : List Nat) (rev : Nat → Bool)
    (hb : bl.Perm w.blocklist) (hc : cl.Perm w.connectionlist)
    (hanti : ∀ c ∈ cl, rev c = true → dget w.connection ((w.ckey c).2, (w.ckey c).1) = none) :
    let op := Op.reorder (bl.map w.bname) (Proofs.Grid.reversalNames w cl rev)
    pre w op = true ∧ PhysEq w (step w op).w ∧ Grid.Inv (step w op).w := by
  intro op
  have hpre := Proofs.Grid.pre_reorder_of_perm hI bl cl rev hb hc hanti
  exact ⟨hpre, reorder_preserves_phys hI _ _ hpre⟩

/-- **One more such call after a history.**  A history within `PreAllRR` stays within it when a
    `reorder` given by an explicit permutation and reversal subset of the *current* state (as above)
    is appended, so by `compose_preserves_phys` the final state describes the same network as the
    first; histories of such steps are built up one step at a time with this. -/
theorem history_of_explicit_steps_preserves_phys {w : World} (hI : Grid.Inv w) (ops : List Op)
    (h : PreAllRR w ops) (bl cl : List Nat) (rev : Nat → Bool)
    (hb : bl.Perm (run w ops).blocklist) (hc : cl.Perm (run w ops).connectionlist)
    (hanti : ∀ c ∈ cl, rev c = true →
      dget (run w ops).connection (((run w ops).ckey c).2, ((run w ops).ckey c).1) = none) :
    let last := Op.reorder (bl.map (run w ops).bname) (Proofs.Grid.reversalNames (run w ops) cl rev)
    PreAllRR w (ops ++ [last]) ∧ PhysEq w (run w (ops ++ [last])) ∧ Grid.Inv (run w (ops ++ [last])) := by
  intro last
  have h0 := compose_preserves_phys hI ops h
  have hpre := Proofs.Grid.pre_reorder_of_perm h0.2 bl cl rev hb hc hanti
  have happ : ∀ (w1 : World) (l : List Op), PreAllRR w1 l → pre (run w1 l) last = true → PreAllRR w1 (l ++ [last]) := by
    intro w1 l
    induction l generalizing w1 with
    | nil => intro _ hp; exact ⟨rfl, hp, trivial⟩
    | cons op r ih => intro hl hp; exact ⟨hl.1, hl.2.1, ih _ hl.2.2 hp⟩
  have hall := happ w ops h hpre
  exact ⟨hall, compose_preserves_phys hI _ hall⟩

/-- **The file leg for block names.**  Writing the grid to a data file and reading it back gives every
    block the name `fileName n = fix_blockname (unfix_blockname n)` (C01 `block_name_cycle`), i.e. acts
    on the names as `rename_blocks (fileNameMap w)`.  After any `rename_blocks` step within its
    precondition, whenever the names that come back are still distinct, that trip leaves the physical
    network unchanged and the grid consistent.  (Names only: the rounding of volumes, distances and
    areas to the widths of the ELEME/CONNE fields is C01's subject and is checked here by the oracle.) -/
theorem rename_then_file_names_preserves_phys {w : World} (hI : Grid.Inv w) (m : Dict Name Name) (fix : Bool)
    (hpre : pre w (.renameBlocks m fix) = true) :
    let w1 := (step w (.renameBlocks m fix)).w
    (w1.blocklist.map fun b => Proofs.Grid.fileName (w1.bname b)).Nodup →
    PhysEq w (step w1 (.renameBlocks (Proofs.Grid.fileNameMap w1) false)).w ∧
    Grid.Inv (step w1 (.renameBlocks (Proofs.Grid.fileNameMap w1) false)).w := by
  intro w1 hnd
  obtain ⟨p1, i1⟩ := rename_preserves_phys hI m fix hpre
  obtain ⟨p2, i2⟩ := rename_preserves_phys i1 (Proofs.Grid.fileNameMap w1) false (Proofs.Grid.pre_fileNameMap hnd)
  exact ⟨p1.trans p2, i2⟩

/-- **Names the file format can carry survive the trip.**  If every block name of a consistent grid is
    `Canonical` (five characters, not of the two shapes `d·' '·d` / `non-digit·'0'·d` that `unfix`/`fix`
    rewrite — C13 `name_written_then_read`), then the trip through the file is within the precondition
    of `rename_blocks`, keeps the block list, and every block comes back under the *same* name. -/
theorem canonical_names_survive_file {w : World} (hI : Grid.Inv w)
    (hcan : ∀ b ∈ w.blocklist, Proofs.Incon.Canonical (w.bname b)) :
    let op := Op.renameBlocks (Proofs.Grid.fileNameMap w) false
    pre w op = true ∧ (step w op).w.blocklist = w.blocklist ∧
    (∀ b ∈ w.blocklist, (step w op).w.bname b = w.bname b) ∧ PhysEq w (step w op).w := by
  intro op
  have hnd : (w.blocklist.map fun b => Proofs.Grid.fileName (w.bname b)).Nodup := by
    rw [List.map_congr_left fun b hb => Proofs.Grid.fileName_canonical (hcan b hb)]
    exact Proofs.Grid.nodup_block_names hI
  have hpre := Proofs.Grid.pre_fileNameMap hnd
  have hmap : (w.blocklist.map fun b => mapName (Proofs.Grid.fileNameMap w) (w.bname b)).Nodup := by
    rw [List.map_congr_left fun b hb => Proofs.Grid.mapName_fileNameMap w hb]; exact hnd
  have R := Proofs.Grid.renameWorld_spec hI _ hmap
  have hstep : (step w op).w = Proofs.Grid.renameWorld (Proofs.Grid.fileNameMap w) w :=
    congrArg Out.w (Proofs.Grid.step_renameBlocks (fix := false) rfl)
  refine ⟨hpre, ?_, ?_, (rename_preserves_phys hI _ false hpre).1⟩
  · rw [hstep]; exact R.blocklist
  · intro b hb
    rw [hstep, R.bname b hb, Proofs.Grid.mapName_fileNameMap w hb, Proofs.Grid.fileName_canonical (hcan b hb)]

namespace Examples
open Props.C08.Examples

-- the blocks reversed, the second connection listed with its blocks swapped
def ro : Op := .reorder [C, B, A] [(C, B), (A, B)]
def rn : Op := .renameBlocks [(A, B), (B, A)] true

def ro2 : Op := .reorder [A, B, C] [(A, B), (A, C)]
example : PreAllRR w0 [ro, rn, ro2] := by decide +kernel
-- after the step the connection object 1 (B-C) is stored as C-B, with distances swapped and cosine negated …
example : ((step w0 ro).w.cn 1).b0 = 2 ∧ ((step w0 ro).w.cn 1).d0 = 3 ∧ ((step w0 ro).w.cn 1).dircos = some 1 ∧
    (w0.cn 1).b0 = 1 ∧ (w0.cn 1).d0 = 2 ∧ (w0.cn 1).dircos = some (-1) := by decide +kernel
-- … and its physical signature is the same
example : conPhys (step w0 ro).w 1 = conPhys w0 1 := by decide +kernel

-- explicit permutation [C, A, B] of the blocks, connections in the order [1, 0] with connection 1 reversed
example : [2, 0, 1].Perm w0.blocklist ∧ [1, 0].Perm w0.connectionlist ∧
    (∀ c ∈ [1, 0], (fun c => c == 1) c = true → dget w0.connection ((w0.ckey c).2, (w0.ckey c).1) = none) ∧
    Proofs.Grid.reversalNames w0 [1, 0] (fun c => c == 1) = [(C, B), (A, B)] := by decide +kernel
-- … and after the history [ro, rn] a further explicit step (hypotheses of `history_of_explicit_steps_preserves_phys`)
example : PreAllRR w0 [ro, rn] ∧ [0, 1, 2].Perm (run w0 [ro, rn]).blocklist ∧ [0, 1].Perm (run w0 [ro, rn]).connectionlist ∧
    (∀ c ∈ [0, 1], (fun c => c == 0) c = true →
      dget (run w0 [ro, rn]).connection (((run w0 [ro, rn]).ckey c).2, ((run w0 [ro, rn]).ckey c).1) = none) := by decide +kernel
-- the file leg: the names of w0 are canonical; `abc07` and `ab1 7` are not (the file holds `abc 7` and `ab107`)
example : ∀ b ∈ w0.blocklist, Proofs.Incon.Canonical (w0.bname b) := by decide +kernel
example : pre w0 rn = true ∧
    ((step w0 rn).w.blocklist.map fun b => Proofs.Grid.fileName ((step w0 rn).w.bname b)).Nodup := by decide +kernel
example : Proofs.Grid.fileName ['a','b','c','0','7'] = ['a','b','c',' ','7'] ∧
    Proofs.Grid.fileName ['a','b','1',' ','7'] = ['a','b','1','0','7'] := by decide +kernel

-- MINC on block B (volume 2) with fractions 1 : 1 : 2 : fracture 1/2, matrix 1/2 and 1, chained B → 1B → 2B
def mi : Op := .minc ⟨[1, 1, 2], [3, 5], [0, 7, 11], [B], 1000⟩
example : let o := step w0 mi
    o.exc = none ∧ o.ret = [[1, 3, 4]] ∧
    (o.w.bk 1).volume = 1/2 ∧ (o.w.bk 3).volume = 1/2 ∧ (o.w.bk 4).volume = 1 ∧
    ((o.w.cn 2).b0, (o.w.cn 2).b1, (o.w.cn 2).area, (o.w.cn 2).d0, (o.w.cn 2).d1) = (1, 3, 6, 0, 7) ∧
    ((o.w.cn 3).b0, (o.w.cn 3).b1, (o.w.cn 3).area, (o.w.cn 3).d0, (o.w.cn 3).d1) = (3, 4, 10, 7, 11) ∧
    checkInv o.w = true := by decide +kernel
example : sumRat [1, 1, 2] ≠ 0 := by decide +kernel

-- hypotheses of `minc_counts` / `minc_leaves_other_connections`: all blocks selected (default), fractions 1 : 1 : 2
-- (sum 4, not 1), atmos_volume 3 so that block C (volume 4) is a boundary block: P = 2 processed blocks, K = 2·2 new
-- blocks and connections; the two old connections A-B, B-C are still objects 0 and 1 with the same data
def miAll : MincArgs := ⟨[1, 1, 2], [3, 5], [0, 7, 11], [], 3⟩
example : (match minc w0 miAll with | .ok _ => true | .error _ => false) = true ∧
    (w0.blocklist.map w0.bname).Nodup ∧ (∀ n ∈ w0.blocklist.map w0.bname, (dget w0.block n).isSome) ∧
    ((w0.blocklist.map w0.bname).filter (Proofs.Grid.mincProcessed w0 miAll)).length = 2 := by decide +kernel
example : let o := step w0 (.minc miAll)
    o.w.blocklist = [0, 1, 2, 3, 4, 5, 6] ∧ o.w.connectionlist = [0, 1, 2, 3, 4, 5] ∧
    o.w.cn 0 = w0.cn 0 ∧ o.w.cn 1 = w0.cn 1 ∧ (o.w.bk 2).volume = 4 ∧
    (o.w.bk 0).volume = 1/4 ∧ (o.w.bk 3).volume = 1/4 ∧ (o.w.bk 4).volume = 1/2 := by decide +kernel

end Examples
end Props.C09
