/-
  C20 — Flavour conversion and Waiwera export keep the model, drop only what they say.

  Property theorems about `Model/Convert.lean` (model of t2data.convert_to_TOUGH2 / convert_to_AUTOUGH2 /
  the `type` setter / section bookkeeping / add_,delete_generator) and `Model/Waiwera.lean` (model of the
  EOS, rock-cell, boundary-set and source parts of t2data.json).  The lemmas they rest on are in Proofs/Convert*.lean, and so
  are the predicates of the statements: `SameObj`, `GDict` (Convert), `specA2T`, `specT2A`, `allGridBlocks`, `allGridCons` (ConvertSpec),
  `Ordered` (ConvertOrder), `goodFreq`, `canonFreq`, `goodBlocks`, `goodCons`, `goodGens` (ConvertShort), `nbCells`, `bdyEntry` (ConvertWaiwera).

  Clause of the property                                   theorem(s)
  ------------------------------------------------------   ---------------------------------------------
  declares itself TOUGH2, nothing AUTOUGH2-specific         to_tough2_declares_tough2, to_tough2_no_autough2_sections,
    (simulator, LINEQ, SHORT sections, EOS name)              to_tough2_other_sections, to_tough2_succeeds
  no generator of a type TOUGH2 lacks; convertible          to_tough2_generators, to_tough2_lookup,
    converted, the rest deleted from list and lookup          to_tough2_list_lookup_consistent, distinct_objects_same_obj
  grid, rock types (apart from the conductivity             to_tough2_keeps_grid_and_history, to_tough2_rocks,
    rescaling), remaining generators, history unchanged       params_a2t_rocks
  (MOP option digits 0..9 in every position, MP on/off)     to_tough2_mop + mop_a2t_matches_code, to_autough2_mop + mop_t2a_matches_code
  the reverse conversion is the mirror image                to_autough2_declares_autough2, to_autough2_sections, to_autough2_keeps_model,
                                                              to_autough2_short, to_autough2_succeeds, to_autough2_requests_kept_partial (*)
  type property triggers conversion                         type_setter_dispatch
  the converted model survives a file round trip            converted_sections_ordered, section_ops_keep_order,
                                                              to_tough2_history_roundtrip_partial (*), short_section_roundtrip,
                                                              to_autough2_short_roundtrip; bytes: oracle on the real write()/read()
  add_generator / delete_generator and insert_section /     add_generator_spec, delete_generator_spec, lookup_last_one_wins,
    delete_section on their own                               insert_delete_section_spec
  every non-boundary block in exactly one rock cell list    rock_cells_partition, rock_cells_own_type_exists, boundary_blocks_complement,
                                                              boundary_faces_partition
  every source has the cell index of its block;             sources_spec, source_cell_is_block_index
    one source per non-group generator
  EOS from the EOS entry or the simulator string            eos_explicit, eos_from_multi, eos_from_simulator, eos_detected_from_simulator

  (*) partial: the two GOFT clauses are false on the real code (known findings
  `goft-generator-request-lost-on-roundtrip`, `goft-block-request-dropped-to-autough2`); the proved
  statements carry the excluded class as a decidable hypothesis and `goft_generator_request_lost`,
  `goft_block_request_dropped` prove the failure on a concrete witness.
-/
import PyTough.Proofs.ConvertSpec
import PyTough.Proofs.ConvertWaiwera
import PyTough.Proofs.ConvertOrder
import PyTough.Proofs.ConvertShort
import PyTough.Proofs.Literals
namespace Props.C20
open Py Model.Convert Gen.ConvertTables Proofs.Convert

/-! ## AUTOUGH2 → TOUGH2

  `convertToTough2 mp d = (d', none)` says: `convert_to_TOUGH2(MP = mp)` ran on the object `d`
  without raising and left `d'`.  (It can only raise on a LINEQ dict without a usable `type`.) -/

/-- The converted model declares itself TOUGH2 and holds no simulator name, no linear-solver
    data, no short-output data and no EOS name. -/
theorem to_tough2_declares_tough2 (mp : Bool) (d d' : T2) (h : convertToTough2 mp d = (d', none)) :
    d'.type = TOUGH2 ∧ d'.simulator = [] ∧ d'.lineq = [] ∧ d'.short = {} ∧ d'.multi.has kEos = false := by
  obtain ⟨st, _, rfl⟩ := convertToTough2_inv h
  exact ⟨rfl, rfl, rfl, rfl, multiA2T_no_eos _⟩

/-- It never raises when LINEQ is absent or has an integer type. -/
theorem to_tough2_succeeds (mp : Bool) (d : T2)
    (h : d.lineq = [] ∨ ∃ i, Dict.get? d.lineq kType = some (.int i)) :
    ∃ d', convertToTough2 mp d = (d', none) := by
  rw [convertToTough2_eq]
  have : ∃ st, solverTypeOfLineq d.lineq = .ok st := by
    unfold solverTypeOfLineq
    rcases h with h | ⟨i, h⟩
    · simp [h]
    · split
      · exact ⟨_, rfl⟩
      · rw [h]; exact ⟨_, rfl⟩
  obtain ⟨st, hst⟩ := this
  rw [hst]
  exact ⟨_, rfl⟩

/-- No simulator, linear-solver or short-output section: none of the three keywords is among the
    sections whose data is present, nor in the section list once `update_sections` has run (that
    list is what `write` then prints); SIMUL and LINEQ are gone from `_sections` at once when no
    keyword was listed twice. -/
theorem to_tough2_no_autough2_sections (mp : Bool) (d d' : T2) (h : convertToTough2 mp d = (d', none)) :
    (∀ k ∈ [SIMUL, LINEQ, SHORT], k ∉ presentSections d' ∧ k ∉ (updateSections d').sections) ∧
    (d.sections.Nodup → SIMUL ∉ d'.sections ∧ LINEQ ∉ d'.sections) := by
  obtain ⟨st, _, rfl⟩ := convertToTough2_inv h
  refine ⟨?_, ?_⟩
  · intro k hk
    rw [mem_updateSections, mem_presentSections]
    have : dataPresent (tough2Of mp st d) k = false := by
      simp only [List.mem_cons, List.mem_nil_iff, or_false] at hk
      rcases hk with rfl | rfl | rfl
      · rw [dataPresent_SIMUL]; rfl
      · rw [dataPresent_LINEQ]; rfl
      · rw [dataPresent_SHORT]; rfl
    simp [this]
  · intro hn
    show SIMUL ∉ (d.sections.erase SIMUL).erase LINEQ ∧ LINEQ ∉ (d.sections.erase SIMUL).erase LINEQ
    have h1 : (d.sections.erase SIMUL).Nodup := hn.erase _
    refine ⟨?_, ?_⟩
    · intro hm
      have := List.mem_of_mem_erase hm
      exact (List.Nodup.mem_erase_iff hn).mp this |>.1 rfl
    · intro hm
      exact (List.Nodup.mem_erase_iff h1).mp hm |>.1 rfl

/-- `_sections` afterwards is `_sections` before without SIMUL and LINEQ, the others in their order. -/
theorem to_tough2_other_sections (mp : Bool) (d d' : T2) (h : convertToTough2 mp d = (d', none)) :
    d'.sections = (d.sections.erase SIMUL).erase LINEQ := by
  obtain ⟨st, _, rfl⟩ := convertToTough2_inv h
  rfl

/-- Generators, for *any* generator list (an object may be listed more than once; `SameObj` only says that
    entries with one identity are one record): the list afterwards consists of exactly the generators that are
    not to be deleted, in their order, each unchanged except that a convertible type is replaced as tabled;
    every type left is one TOUGH2 has. -/
theorem to_tough2_generators (mp : Bool) (d d' : T2) (h : convertToTough2 mp d = (d', none))
    (hid : SameObj d.gens) :
    d'.gens = (d.gens.filter (fun g => !toDelete g)).map convGen ∧
    (∀ g ∈ d'.gens, isTough2Type g.type = true) ∧
    (∀ g, (convGen g).id = g.id ∧ (convGen g).block = g.block ∧ (convGen g).name = g.name ∧
          (convGen g).payload = g.payload ∧
          (convGen g).type = ((convert.lookup g.type).getD g.type)) := by
  obtain ⟨st, _, rfl⟩ := convertToTough2_inv h
  have hg : (tough2Of mp st d).gens = (d.gens.filter (fun g => !toDelete g)).map convGen := convGensList_eq d.gens hid
  refine ⟨hg, ?_, ?_⟩
  · intro g hm
    rw [hg] at hm
    obtain ⟨g0, hg0, rfl⟩ := List.mem_map.mp hm
    have hk := (List.mem_filter.mp hg0).2
    unfold convGen
    cases hl : convert.lookup g0.type with
    | none =>
      simp only [toDelete, hl, Option.isNone_none, Bool.true_and, Bool.not_not] at hk
      exact hk
    | some t =>
      simp only
      apply convert_targets_tough2 (g0.type, t)
      exact Proofs.mem_of_lookup hl
  · intro g
    refine ⟨convGen_id g, convGen_block g, convGen_name g, convGen_payload g, ?_⟩
    unfold convGen
    cases convert.lookup g.type <;> rfl

/-- distinct objects are a special case -/
theorem distinct_objects_same_obj (gens : List Gener) (h : (gens.map (·.id)).Nodup) : SameObj gens :=
  Proofs.inj_of_nodup_map Gener.id gens h

/-- The lookup after conversion, with nothing assumed about what its entries point to (its keys are
    distinct because it is a dict): an entry disappears exactly when it is the entry *of* a deleted
    generator — stored under that generator's (block, name) and pointing to that very object.  So an
    unsupported generator leaves the lookup as well as the list; when two generators share a (block, name)
    the entry belongs to the one added last (`lookup_last_one_wins`), and deleting the other leaves it alone. -/
theorem to_tough2_lookup (mp : Bool) (d d' : T2) (h : convertToTough2 mp d = (d', none))
    (hk : (d.gendict.map (·.1)).Nodup) (e : (Str × Str) × Nat) :
    (e ∈ d'.gendict ↔
      e ∈ d.gendict ∧ ∀ g ∈ d.gens, toDelete g = true → ¬ (e.1 = (g.block, g.name) ∧ e.2 = g.id)) ∧
    (d'.gendict.map (·.1)).Nodup := by
  obtain ⟨st, _, rfl⟩ := convertToTough2_inv h
  exact ⟨convDict_mem d.gens d.gendict hk e, convDict_nodup_keys d.gens d.gendict hk⟩

/-- `self.generator[(block, name)] = gen` in `add_generator`: keys stay distinct, and after adding
    generators one by one the entry of a (block, name) points to the last one added under it. -/
theorem lookup_last_one_wins (gs : List Gener) (d : T2) (k : Str × Str) (hk : (d.gendict.map (·.1)).Nodup) :
    ((gs.foldl addGenerator d).gendict.lookup k =
      match gs.reverse.find? (fun g => (g.block, g.name) == k) with
      | some g => some g.id
      | none => d.gendict.lookup k) ∧
    ((gs.foldl addGenerator d).gendict.map (·.1)).Nodup := by
  induction gs generalizing d with
  | nil => exact ⟨rfl, hk⟩
  | cons g r ih =>
    obtain ⟨hl, hn⟩ := ih (addGenerator d g) (gdSet_nodup_keys _ _ _ hk)
    refine ⟨?_, hn⟩
    rw [List.foldl_cons, hl, List.reverse_cons, List.find?_append]
    cases hr : r.reverse.find? (fun g => (g.block, g.name) == k) with
    | some g' => rfl
    | none =>
      simp only [Option.none_or]
      show (gdSet d.gendict (g.block, g.name) g.id).lookup k = _
      rw [lookup_gdSet]
      by_cases h : (g.block, g.name) = k
      · simp [h]
      · have : ((g.block, g.name) == k) = false := by simpa using h
        simp [Ne.symm h, this]

/-- List and lookup stay consistent: if every lookup entry pointed to a listed generator with that block
    and name, it still does, in the list afterwards (from which the deleted generators are gone: `to_tough2_generators`). -/
theorem to_tough2_list_lookup_consistent (mp : Bool) (d d' : T2) (h : convertToTough2 mp d = (d', none))
    (hid : SameObj d.gens) (hk : (d.gendict.map (·.1)).Nodup)
    (hin : ∀ e ∈ d.gendict, ∃ g ∈ d.gens, g.id = e.2 ∧ (g.block, g.name) = e.1) :
    ∀ e ∈ d'.gendict, ∃ g ∈ d'.gens, g.id = e.2 ∧ (g.block, g.name) = e.1 := by
  intro e he
  have hgens := (to_tough2_generators mp d d' h hid).1
  have hl := ((to_tough2_lookup mp d d' h hk e).1).mp he
  obtain ⟨g, hg, hge, hgk⟩ := hin e hl.1
  have hnd : toDelete g = false := by
    cases hd : toDelete g with
    | false => rfl
    | true => exact absurd ⟨hgk.symm, hge.symm⟩ (hl.2 g hg hd)
  refine ⟨convGen g, ?_, ?_, ?_⟩
  · rw [hgens]
    exact List.mem_map.mpr ⟨g, List.mem_filter.mpr ⟨hg, by simp [hnd]⟩, rfl⟩
  · rw [convGen_id]; exact hge
  · rw [convGen_block, convGen_name]; exact hgk

/-- Grid, the other sections' data and SOLVR data are untouched; the history lists are the former
    short-output lists (where SHORT had such a list; otherwise they stay as they were). -/
theorem to_tough2_keeps_grid_and_history (mp : Bool) (d d' : T2) (h : convertToTough2 mp d = (d', none)) :
    d'.blocks = d.blocks ∧ d'.other = d.other ∧ d'.solver = d.solver ∧
    d'.histBlock = d.short.block.getD d.histBlock ∧
    d'.histCon = d.short.con.getD d.histCon ∧
    d'.histGen = d.short.gen.getD d.histGen := by
  obtain ⟨st, _, rfl⟩ := convertToTough2_inv h
  exact ⟨rfl, rfl, rfl, rfl, rfl, rfl⟩

/-- Rock types: names, porosities and everything else stay; conductivities are multiplied by
    (1 − porosity) exactly when MOP(10) = 2, and are otherwise unchanged.  (Called through
    `convert_to_TOUGH2` the MOP(23) rule can never fire, because the simulator string has
    already been cleared; `params_a2t_rocks` below covers the parameter converter on its own.) -/
theorem to_tough2_rocks (mp : Bool) (d d' : T2) (h : convertToTough2 mp d = (d', none)) :
    d'.rocks = (if optAt d.option 10 = 2 then scaleRocks d.rocks else d.rocks) ∧
    d'.rocks.map (·.name) = d.rocks.map (·.name) ∧
    d'.rocks.map (·.porosity) = d.rocks.map (·.porosity) ∧
    d'.rocks.map (·.payload) = d.rocks.map (·.payload) ∧
    (scaleRocks d.rocks).map (·.conductivity) = d.rocks.map (fun r => r.conductivity * (1 - r.porosity)) := by
  obtain ⟨st, _, rfl⟩ := convertToTough2_inv h
  obtain ⟨hname, hporo, hpay, hcond⟩ := scaleRocks_fields d.rocks
  by_cases h10 : optAt d.option 10 = 2
  · rw [show (tough2Of mp st d).rocks = scaleRocks d.rocks from if_pos h10, if_pos h10]
    exact ⟨rfl, hname, hporo, hpay, hcond⟩
  · rw [show (tough2Of mp st d).rocks = d.rocks from if_neg h10, if_neg h10]
    exact ⟨rfl, rfl, rfl, rfl, hcond⟩

/-- The parameter converter called on its own (the simulator string still set): the number of
    rescalings is `condCount` — MOP(10)=2, plus MOP(23)=1 for AUTOUGH2 (not AUTOUGH2.2) / MULKOM. -/
theorem params_a2t_rocks (mp : Bool) (d d' : T2) (h : convParamsA2T mp d = (d', none)) :
    d'.rocks = Nat.repeat scaleRocks (condCount d.simulator (optAt d.option 10) (optAt d.option 23)) d.rocks := by
  unfold convParamsA2T at h
  simp only at h
  split at h
  · cases h
  · cases h; rfl

/-- MOP digits: position by position, as `specA2T` says, for every option vector.  MOP(21)
    becomes the solver type `st` that `solverTypeOfLineq` gives for the LINEQ dict (0 under MP). -/
theorem to_tough2_mop (mp : Bool) (d d' : T2) (h : convertToTough2 mp d = (d', none)) :
    ∃ st, solverTypeOfLineq d.lineq = .ok st ∧
      ∀ i, d'.option[i]? = (d.option[i]?).map (specA2T mp st i) := by
  obtain ⟨st, hst, rfl⟩ := convertToTough2_inv h
  exact ⟨st, hst, fun i => mopA2T_pointwise mp st d.option i⟩

/-- ... and `specA2T` is what the real converter does to every digit 0..9 at every position, MP off
    and on (`tblMopA2T*` are evaluated on /repo's current code by the translator on every run, with LINEQ
    empty: hence the solver type 4; 99 is no digit). -/
theorem mop_a2t_matches_code :
    (List.range 25).all (fun i => (List.range 10).all fun x =>
      specA2T false 4 i x == (((tblMopA2T.getD i []).getD x 99 : Nat) : Int) &&
      specA2T true 4 i x == (((tblMopA2TMP.getD i []).getD x 99 : Nat) : Int)) = true := by decide +kernel

/-! ### the file round trip of the history requests

  Full statement (not provable, and false on the real code — known finding
  `goft-generator-request-lost-on-roundtrip`): *every* history list of the converted model is read
  back unchanged from the lines written for it.  Proved: this holds for a FOFT list of blocks of the
  grid and a COFT list of connections of the grid (`allGridBlocks`, `allGridCons`; the grid is not empty),
  and for GOFT when its list too holds blocks of the grid only (so `history_generator` holds no `t2generator`). -/
theorem to_tough2_history_roundtrip_partial (mp : Bool) (d d' : T2) (cons : List (Str × Str))
    (h : convertToTough2 mp d = (d', none))
    (hb : allGridBlocks d.blocks (d.short.block.getD d.histBlock) = true)
    (hc : allGridCons cons (d.short.con.getD d.histCon) = true)
    (hg : allGridBlocks d.blocks (d.short.gen.getD d.histGen) = true)   -- excludes t2generator items
    (hne : d.blocks ≠ []) :
    (∃ ls, writeNames d'.histBlock = some ls ∧ readNames d'.blocks ls = d'.histBlock) ∧
    (∃ ls, writeCons d'.histCon = some ls ∧ readCons d'.blocks cons ls = d'.histCon) ∧
    (∃ ls, writeNames d'.histGen = some ls ∧ readNames d'.blocks ls = d'.histGen) := by
  obtain ⟨e1, _, _, e2, e3, e4⟩ := to_tough2_keeps_grid_and_history mp d d' h
  rw [e1, e2, e3, e4]
  exact ⟨readNames_writeNames_blocks (allGridBlocks_spec hb), readCons_writeCons hne (allGridCons_spec hc),
         readNames_writeNames_blocks (allGridBlocks_spec hg)⟩

/-- the excluded class is where the real code fails: a model whose short output lists a generator -/
def witnessA : T2 :=
  { simulator := "AUTOUGH2.2EW".toList, sections := [SIMUL, ROCKS, PARAM, ELEME, CONNE, GENER, SHORT],
    blocks := ["  a 1".toList, "  b 1".toList],
    gens := [{ id := 1, block := "  a 1".toList, name := "wel 1".toList, type := "MASS".toList, payload := 0 }],
    gendict := [(("  a 1".toList, "wel 1".toList), 1)],
    short := { gen := some [.gen 1 "  a 1".toList "wel 1".toList] } }

theorem goft_generator_request_lost :
    let d' := (convertToTough2 false witnessA).1
    d'.histGen = [.gen 1 "  a 1".toList "wel 1".toList] ∧
    writeNames d'.histGen = some ["wel 1".toList] ∧          -- the generator's name is written under GOFT
    readNames d'.blocks ["wel 1".toList] = [] := by decide +kernel   -- and is not a block: the request is gone

/-! ## TOUGH2 → AUTOUGH2 (`convertToAutough2 mp sim eos d = (d', none)`: `convert_to_AUTOUGH2` ran on `d` without raising and left `d'`) -/

/-- The converted model declares itself AUTOUGH2: the simulator string is the given name padded
    to 10 columns followed by the EOS, there is a LINEQ type from the table, MULTI (if present)
    names the EOS, and no SOLVR data or history list is left. -/
theorem to_autough2_declares_autough2 (mp : Bool) (sim eos : Str) (d d' : T2)
    (h : convertToAutough2 mp sim eos d = (d', none)) :
    d'.type = AUTOUGH2 ∧ d'.simulator = ljust sim 10 ++ eos ∧ d'.solver = [] ∧
    d'.histBlock = [] ∧ d'.histCon = [] ∧ d'.histGen = [] ∧
    (∃ ty, Dict.get? d'.lineq kType = some (.int ty) ∧ ty ∈ lineqTypes) ∧
    (d.multi ≠ [] → Dict.get? d'.multi kEos = some (.str eos)) ∧ (d.multi = [] → d'.multi = []) := by
  obtain ⟨ty, hty, rfl⟩ := convertToAutough2_inv h
  refine ⟨?_, rfl, rfl, rfl, rfl, rfl, ⟨ty, newLineq_type ty, lineqTypeOf_mem hty⟩, multiT2A_eos eos d.multi, ?_⟩
  · show (if (ljust sim 10 ++ eos).isEmpty then TOUGH2 else AUTOUGH2) = AUTOUGH2
    rw [ljust_append_ne_nil]; rfl
  · intro hm
    show multiNumInc (multiSetEos eos d.multi) = []
    rw [hm]; rfl

/-- It raises only when the SOLVR type is not an integer. -/
theorem to_autough2_succeeds (mp : Bool) (sim eos : Str) (d : T2)
    (h : mp = true ∨ Dict.get? d.solver kType = none ∨ ∃ i, Dict.get? d.solver kType = some (.int i)) :
    ∃ d', convertToAutough2 mp sim eos d = (d', none) := by
  rw [convertToAutough2_eq]
  have : ∃ ty, lineqTypeOf (solverTypeT2A mp d.solver d.option) = .ok ty := by
    unfold solverTypeT2A
    cases mp
    · rcases h with h | h | ⟨i, h⟩
      · cases h
      · rw [h]; exact ⟨_, rfl⟩
      · rw [h]; exact ⟨_, rfl⟩
    · exact ⟨_, rfl⟩
  obtain ⟨ty, hty⟩ := this
  rw [hty]
  exact ⟨_, rfl⟩

/-- Sections: SIMUL and LINEQ are listed (when SIMUL was not listed before: `SIMUL :: _sections` with LINEQ inserted); no SOLVR,
    FOFT, COFT or GOFT data is present, so `write` prints none of them. -/
theorem to_autough2_sections (mp : Bool) (sim eos : Str) (d d' : T2)
    (h : convertToAutough2 mp sim eos d = (d', none)) :
    SIMUL ∈ d'.sections ∧ LINEQ ∈ d'.sections ∧
    (SIMUL ∉ d.sections → d'.sections = insertSectionL (SIMUL :: d.sections) LINEQ) ∧
    (∀ k ∈ [SOLVR, FOFT, COFT, GOFT], k ∉ presentSections d' ∧ k ∉ (updateSections d').sections) ∧
    (∀ k ∈ [SIMUL, LINEQ], k ∈ presentSections d' ∧ k ∈ (updateSections d').sections) := by
  obtain ⟨ty, hty, rfl⟩ := convertToAutough2_inv h
  refine ⟨?_, ?_, ?_, ?_, ?_⟩
  · show SIMUL ∈ insertSectionL (insertSectionL d.sections SIMUL) LINEQ
    rw [mem_insertSectionL, mem_insertSectionL]; exact Or.inr (Or.inl rfl)
  · show LINEQ ∈ insertSectionL (insertSectionL d.sections SIMUL) LINEQ
    rw [mem_insertSectionL]; exact Or.inl rfl
  · intro hs
    show insertSectionL (insertSectionL d.sections SIMUL) LINEQ = _
    rw [insert_SIMUL hs]
  · intro k hk
    rw [mem_updateSections, mem_presentSections]
    have : dataPresent (autough2Of mp sim eos ty d) k = false := by
      simp only [List.mem_cons, List.mem_nil_iff, or_false] at hk
      rcases hk with rfl | rfl | rfl | rfl
      · rw [dataPresent_SOLVR]; rfl
      · rw [dataPresent_FOFT]; rfl
      · rw [dataPresent_COFT]; rfl
      · rw [dataPresent_GOFT]; rfl
    simp [this]
  · intro k hk
    rw [mem_updateSections, mem_presentSections]
    have : k ∈ sections ∧ dataPresent (autough2Of mp sim eos ty d) k = true := by
      simp only [List.mem_cons, List.mem_nil_iff, or_false] at hk
      rcases hk with rfl | rfl
      · refine ⟨by decide, ?_⟩
        rw [dataPresent_SIMUL]
        show (!(ljust sim 10 ++ eos).isEmpty) = true
        rw [ljust_append_ne_nil]; rfl
      · refine ⟨by decide, ?_⟩
        rw [dataPresent_LINEQ]
        show (!(newLineq ty).isEmpty) = true
        simp [newLineq, lineqKeys]
    exact ⟨this, this⟩

/-- Grid, rock types, generators and their lookup are untouched. -/
theorem to_autough2_keeps_model (mp : Bool) (sim eos : Str) (d d' : T2)
    (h : convertToAutough2 mp sim eos d = (d', none)) :
    d'.blocks = d.blocks ∧ d'.rocks = d.rocks ∧ d'.gens = d.gens ∧ d'.gendict = d.gendict ∧ d'.other = d.other := by
  obtain ⟨ty, _, rfl⟩ := convertToAutough2_inv h
  exact ⟨rfl, rfl, rfl, rfl, rfl⟩

/-- MOP digits, position by position, as `specT2A` says. -/
theorem to_autough2_mop (mp : Bool) (sim eos : Str) (d d' : T2)
    (h : convertToAutough2 mp sim eos d = (d', none)) :
    ∀ i, d'.option[i]? = (d.option[i]?).map (specT2A mp i) := by
  obtain ⟨ty, _, rfl⟩ := convertToAutough2_inv h
  exact fun i => mopT2A_pointwise mp d.option i

/-- ... and `specT2A` is what the real converter does to every digit at every position (`tblMopT2A*`, evaluated on
    /repo's current code like `tblMopA2T*`). -/
theorem mop_t2a_matches_code :
    (List.range 25).all (fun i => (List.range 10).all fun x =>
      specT2A false i x == (((tblMopT2A.getD i []).getD x 99 : Nat) : Int) &&
      specT2A true i x == (((tblMopT2AMP.getD i []).getD x 99 : Nat) : Int)) = true := by decide +kernel

/-- The history requests become the short output: block objects of FOFT, connection objects of
    COFT and generator objects of GOFT are kept in their order (a list with no such item gives no
    key); bare names are dropped, as documented. -/
theorem to_autough2_short (mp : Bool) (sim eos : Str) (d d' : T2)
    (h : convertToAutough2 mp sim eos d = (d', none)) :
    d'.short.freq = none ∧
    d'.short.block = keepNonEmpty (d.histBlock.filter Item.isBlk) ∧
    d'.short.con = keepNonEmpty (d.histCon.filter Item.isCon) ∧
    d'.short.gen = keepNonEmpty (d.histGen.filter Item.isGen) := by
  obtain ⟨ty, _, rfl⟩ := convertToAutough2_inv h
  exact ⟨rfl, rfl, rfl, rfl⟩

/-- Full statement (not provable; false on the real code — known finding
    `goft-block-request-dropped-to-autough2`): every history request that refers to an object is
    still requested in the short output.  Proved: for FOFT and COFT always; for GOFT only vacuously,
    i.e. when `history_generator` is empty. -/
theorem to_autough2_requests_kept_partial (mp : Bool) (sim eos : Str) (d d' : T2)
    (h : convertToAutough2 mp sim eos d = (d', none)) (hg : d.histGen = []) :
    (∀ it ∈ d.histBlock, it.isBlk = true → ∃ l, d'.short.block = some l ∧ it ∈ l) ∧
    (∀ it ∈ d.histCon, it.isCon = true → ∃ l, d'.short.con = some l ∧ it ∈ l) ∧
    (∀ it ∈ d.histGen, ∃ l, d'.short.gen = some l ∧ it ∈ l) := by
  obtain ⟨hf, hb, hc, _⟩ := to_autough2_short mp sim eos d d' h
  refine ⟨?_, ?_, ?_⟩
  · intro it hi hk
    have hm : it ∈ d.histBlock.filter Item.isBlk := List.mem_filter.mpr ⟨hi, hk⟩
    exact ⟨_, hb.trans (keepNonEmpty_eq_some.mpr ⟨List.ne_nil_of_mem hm, rfl⟩), hm⟩
  · intro it hi hk
    have hm : it ∈ d.histCon.filter Item.isCon := List.mem_filter.mpr ⟨hi, hk⟩
    exact ⟨_, hc.trans (keepNonEmpty_eq_some.mpr ⟨List.ne_nil_of_mem hm, rfl⟩), hm⟩
  · intro it hi
    rw [hg] at hi; cases hi

/-- **A SHORT section survives being written and read back** when its frequency fits the two columns of the heading line
    (0..99) and its items are such as the reader resolves against the grid and the generator lookup (`goodBlocks`,
    `goodCons`, `goodGens`; in words at `to_autough2_short_roundtrip`): heading line and the ELEME / CONNE / GENER
    sub-sections that are present. -/
theorem short_section_roundtrip (blocks : List Str) (cons : List (Str × Str)) (dict : GDict) (so : Short)
    (hf : goodFreq so.freq = true)
    (hb : ∀ l, so.block = some l → goodBlocks blocks l = true)
    (hc : ∀ l, so.con = some l → goodCons cons l = true)
    (hg : ∀ l, so.gen = some l → goodGens dict l = true) :
    ∃ hd body, writeShort so = some (hd, body) ∧
      readShort blocks cons dict hd body = .ok { so with freq := some (canonFreq so.freq) } := by
  obtain ⟨h, hh, hfr⟩ := header_roundtrip hf
  have hA := subLines_eq blocks cons dict .blocks so.block hb
  have hB := subLines_eq blocks cons dict .cons so.con hc
  have hC := subLines_eq blocks cons dict .gens so.gen hg
  refine ⟨h, subsLines (presentSubs so) ++ [[]], ?_, ?_⟩
  · simp only [writeShort, hh, Sub.kw, Sub.wline] at hA hB hC ⊢
    simp [hA, hB, hC, presentSubs, subsLines]
  · rw [readShort_eq, hfr, readShortLoop_run ?_ (by rw [List.length_append]; omega)]
    · obtain ⟨fr, b, c, g⟩ := so
      cases b <;> cases c <;> cases g <;> rfl
    · simp only [presentSubs, List.mem_append, List.mem_map, Option.mem_toList]
      rintro p ((⟨l, hl, rfl⟩ | ⟨l, hl, rfl⟩) | ⟨l, hl, rfl⟩)
      · exact hb l hl
      · exact hc l hl
      · exact hg l hl

/-- **The SHORT section of the converted model survives being written and read back** (the mirror of
    `to_tough2_history_roundtrip_partial`).  Hypotheses (all decidable): the block objects of FOFT are blocks of
    the grid, the connection objects of COFT connections of the grid, and the generator objects of GOFT are what
    the lookup holds under their (block, name); the name that starts a line (a block, the first block of a connection, a
    generator's block) is five characters, not blank and not `ELEME` / `CONNE` / `GENER`, the second name of a line is
    five characters.  What comes back is the short output itself, with the `frequency` key present and `None` (the reader
    always sets it). -/
theorem to_autough2_short_roundtrip (mp : Bool) (sim eos : Str) (d d' : T2) (cons : List (Str × Str))
    (h : convertToAutough2 mp sim eos d = (d', none))
    (hb : goodBlocks d.blocks (d.histBlock.filter Item.isBlk) = true)
    (hc : goodCons cons (d.histCon.filter Item.isCon) = true)
    (hg : goodGens d.gendict (d.histGen.filter Item.isGen) = true) :
    ∃ hd body, writeShort d'.short = some (hd, body) ∧
      readShort d'.blocks cons d'.gendict hd body = .ok { d'.short with freq := some .none } := by
  obtain ⟨hf, hsb, hsc, hsg⟩ := to_autough2_short mp sim eos d d' h
  obtain ⟨e1, _, _, e2, _⟩ := to_autough2_keeps_model mp sim eos d d' h
  -- a key of the short output that is present holds the whole list of requests of its kind
  have key : ∀ {l l' : List Item}, keepNonEmpty l = some l' → l' = l := fun hk => (keepNonEmpty_eq_some.mp hk).2
  have := short_section_roundtrip d'.blocks cons d'.gendict d'.short (by rw [hf]; rfl)
    (fun l hl => by rw [e1, key (hsb.symm.trans hl)]; exact hb)
    (fun l hl => by rw [key (hsc.symm.trans hl)]; exact hc)
    (fun l hl => by rw [e2, key (hsg.symm.trans hl)]; exact hg)
  rw [hf] at this
  exact this

/-- the excluded class is where the real code fails: a GOFT request as `read` stores it -/
def witnessT : T2 :=
  { sections := [ROCKS, PARAM, ELEME, CONNE, GENER, GOFT], blocks := ["  a 1".toList],
    gens := [{ id := 1, block := "  a 1".toList, name := "wel 1".toList, type := "MASS".toList, payload := 0 }],
    gendict := [(("  a 1".toList, "wel 1".toList), 1)],
    histGen := [.blk "  a 1".toList] }

theorem goft_block_request_dropped :
    (convertToAutough2 false defaultSimulator defaultEos witnessT).1.short.gen = none ∧
    (convertToAutough2 false defaultSimulator defaultEos witnessT).1.histGen = [] := by decide +kernel

/-- Setting `type` converts exactly when the flavour differs (with the default arguments), leaves
    the object alone when it does not, and rejects any other string. -/
theorem type_setter_dispatch (v : Str) (d : T2) :
    setType v d =
      if v = AUTOUGH2 ∨ v = TOUGH2 then
        (if d.type = v then (d, none)
         else if v = TOUGH2 then convertToTough2 false d
         else convertToAutough2 false defaultSimulator defaultEos d)
      else (d, some .generic) := by
  unfold setType
  rw [type_names_table]
  have hne : AUTOUGH2 ≠ TOUGH2 := by decide
  have ht : d.type = TOUGH2 ∨ d.type = AUTOUGH2 := by
    unfold T2.type
    split <;> simp
  by_cases h1 : v = AUTOUGH2
  · subst h1
    rcases ht with ht | ht <;> simp [ht, hne, Ne.symm hne]
  · by_cases h2 : v = TOUGH2
    · subst h2
      rcases ht with ht | ht <;> simp [ht, hne, Ne.symm hne]
    · simp [h1, h2]

/-! ## the section list stays readable

  `Ordered secs`: the keywords of `secs` are keywords of `t2data_sections`, in its relative order,
  none twice.  Why it matters is outside the model, which has no `read`: t2data.py's `read` resolves names against
  sections it has met before (ROCKS before ELEME before CONNE before GENER, SHORT, FOFT, COFT, GOFT). -/

/-- `insert_section`, `delete_section` and `update_sections` keep a section list in standard order. -/
theorem section_ops_keep_order (d : T2) (s : Str) (ho : Ordered d.sections) :
    (s ∈ sections → Ordered (insertSection d s).sections) ∧ Ordered (deleteSection d s).sections ∧
    Ordered (updateSections d).sections :=
  ⟨fun hs => ordered_insert ho hs, ordered_erase ho,
   ordered_updateSectionsL (fun k hk => (mem_presentSections d k).mp hk |>.1) ho⟩

/-- After either conversion the section list is still in standard order, and so is the list `write`
    prints (after `update_sections`), which holds each present section exactly once. -/
theorem converted_sections_ordered (d d' : T2) (ho : Ordered d.sections)
    (h : (∃ mp, convertToTough2 mp d = (d', none)) ∨ (∃ mp sim eos, convertToAutough2 mp sim eos d = (d', none))) :
    Ordered d'.sections ∧ Ordered (updateSections d').sections ∧ (updateSections d').sections.Nodup ∧
    ∀ k, k ∈ (updateSections d').sections ↔ k ∈ sections ∧ dataPresent d' k = true := by
  have hd' : Ordered d'.sections := by
    rcases h with ⟨mp, h⟩ | ⟨mp, sim, eos, h⟩
    · obtain ⟨st, _, rfl⟩ := convertToTough2_inv h
      exact ordered_erase (ordered_erase ho)
    · obtain ⟨ty, _, rfl⟩ := convertToAutough2_inv h
      exact ordered_insert (ordered_insert ho (by decide)) (by decide)
  have hu := ordered_updateSectionsL (fun k hk => (mem_presentSections d' k).mp hk |>.1) hd'
  exact ⟨hd', hu, ordered_nodup hu, mem_updateSections d'⟩

/-- `add_generator` appends the generator and makes the lookup entry of its (block, name) point to it. -/
theorem add_generator_spec (d : T2) (g : Gener) :
    (addGenerator d g).gens = d.gens ++ [g] ∧
    (addGenerator d g).gendict.lookup (g.block, g.name) = some g.id ∧
    (∀ k, k ≠ (g.block, g.name) → (addGenerator d g).gendict.lookup k = d.gendict.lookup k) := by
  refine ⟨rfl, ?_, fun k hk => ?_⟩
  · show (gdSet d.gendict (g.block, g.name) g.id).lookup (g.block, g.name) = some g.id
    rw [lookup_gdSet, if_pos rfl]
  · show (gdSet d.gendict (g.block, g.name) g.id).lookup k = d.gendict.lookup k
    rw [lookup_gdSet, if_neg hk]

/-- `delete_generator` removes the lookup entry and the generator it points to — or raises and
    changes nothing (KeyError for an unknown key, ValueError when the object is not listed). -/
theorem delete_generator_spec (d : T2) (key : Str × Str) :
    (∀ d', deleteGenerator d key = (d', none) →
        ∃ gid i, d.gendict.lookup key = some gid ∧ d.gens.findIdx? (·.id == gid) = some i ∧
          d'.gens = d.gens.eraseIdx i ∧ d'.gendict = d.gendict.filter (·.1 != key) ∧ d'.gendict.lookup key = none) ∧
    (∀ d' e, deleteGenerator d key = (d', some e) → d' = d) := by
  unfold deleteGenerator
  cases hl : d.gendict.lookup key with
  | none => exact ⟨fun d' h => (by cases h), fun d' e h => (by cases h; rfl)⟩
  | some gid =>
    simp only
    cases hi : d.gens.findIdx? (·.id == gid) with
    | none => exact ⟨fun d' h => (by cases h), fun d' e h => (by cases h; rfl)⟩
    | some i =>
      refine ⟨fun d' h => ?_, fun d' e h => (by cases h)⟩
      cases h
      refine ⟨gid, i, rfl, hi, rfl, rfl, List.lookup_eq_none_iff.mpr fun p hp => ?_⟩
      rw [bne_comm]
      exact (List.mem_filter.mp hp).2

/-- `insert_section` lists the keyword (once: nothing happens when it is listed already) and keeps
    every other keyword; `delete_section` removes one occurrence and nothing else. -/
theorem insert_delete_section_spec (d : T2) (s k : Str) :
    (k ∈ (insertSection d s).sections ↔ k = s ∨ k ∈ d.sections) ∧
    (s ∈ d.sections → (insertSection d s).sections = d.sections) ∧
    ((insertSection d s).sections.count s = max 1 (d.sections.count s)) ∧
    ((deleteSection d s).sections.count k = d.sections.count k - if s = k then 1 else 0) := by
  refine ⟨mem_insertSectionL _ _ _, ?_, ?_, ?_⟩
  · exact fun h => insertSectionL_of_mem h
  · show (insertSectionL d.sections s).count s = _
    by_cases h : s ∈ d.sections
    · rw [insertSectionL_of_mem h]
      have := List.count_pos_iff.mpr h
      omega
    · rw [insertSectionL_of_not_mem h, count_listInsert, List.count_eq_zero.mpr h, if_pos rfl]
      rfl
  · show (d.sections.erase s).count k = _
    rw [List.count_erase]
    by_cases h : s = k <;> simp [h]

section Waiwera
open Model.Waiwera Proofs.Waiwera

/-- Rock cells: when `rocks_json` returns, block number `i` of the geometry (cell `i − nAtm`)
    occurs exactly once in the cell list of its own rock type if `0 < volume < atmos_volume`, and in
    no other list; a boundary block (zero or huge volume) occurs in none.  There is one list per
    rock type. -/
theorem rock_cells_partition (rockNames geoNames : List Str) (nAtm : Nat) (blocks : List WBlock) (atmos : Rat)
    (cells : List (List Int)) (h : rockCells rockNames geoNames nAtm blocks atmos = .ok cells)
    (hn : geoNames.Nodup) (i : Nat) (hi : i < geoNames.length) (b : WBlock)
    (hb : findBlock blocks geoNames[i] = some b) (r : Nat) :
    cells.length = rockNames.length ∧
    (cells.getD r []).count ((i : Int) - nAtm) =
      if interior atmos b = true ∧ lastIdx rockNames b.rock = some r then 1 else 0 := by
  obtain ⟨hl, hc, _⟩ := rockCells_inv h
  refine ⟨hl, ?_⟩
  have hbn : b.name = geoNames[i] := findBlock_name hb
  rw [hc r, List.count_filterMap, List.countP_eq_length_filter, Proofs.filter_unique hn (List.getElem_mem hi),
    apply_ite List.length]
  · unfold rockCell
    rw [hb]
    simp only [hbn, lastIdx_getElem hn hi]
    by_cases h1 : interior atmos b = true <;> by_cases h2 : lastIdx rockNames b.rock = some r <;> simp [h1, h2]
  · -- only block `i` itself has cell `i − nAtm`
    intro y hy hp
    unfold rockCell at hp
    split at hp
    · rename_i b' hby
      split at hp
      · cases hiy : lastIdx geoNames b'.name with
        | none => rw [hiy] at hp; cases hp
        | some j =>
          rw [hiy] at hp
          have hj : (j : Int) - nAtm = (i : Int) - nAtm := by simpa using hp
          have : j = i := by omega
          subst this
          obtain ⟨_, hk⟩ := lastIdx_spec hiy
          rw [← findBlock_name hby, ← hk]
      · cases hp
    · cases hp

/-- ... and a non-boundary block always has such a list: `rocks_json` cannot return without having
    found the block's rock type among the rock types. -/
theorem rock_cells_own_type_exists (rockNames geoNames : List Str) (nAtm : Nat) (blocks : List WBlock) (atmos : Rat)
    (cells : List (List Int)) (h : rockCells rockNames geoNames nAtm blocks atmos = .ok cells)
    (n : Str) (hm : n ∈ geoNames) :
    ∃ b, findBlock blocks n = some b ∧ (interior atmos b = true → ∃ r, lastIdx rockNames b.rock = some r) := by
  exact (rockCells_inv h).2.2 n hm

/-- every block is a boundary block `boundaries_json` looks at or a non-boundary block; `boundaryBlocks` is by definition the filter
    on `!interior`, so this says no more than that the two classes leave no block out -/
theorem boundary_blocks_complement (blocks : List WBlock) (atmos : Rat) (b : WBlock) (hb : b ∈ blocks) :
    b.name ∈ boundaryBlocks blocks atmos ∨ interior atmos b = true := by
  by_cases h : interior atmos b = true
  · exact Or.inr h
  · left
    unfold boundaryBlocks
    exact List.mem_map.mpr ⟨b, List.mem_filter.mpr ⟨hb, by simpa using h⟩, rfl⟩

/-- Boundary faces: when the faces loops of `boundaries_json` return, the boundary entries are — in the order
    of `grid.blocklist` — exactly the boundary blocks (volume ≤ 0 or ≥ `atmos_volume`) that have at least
    one non-boundary neighbour, each with the cell indices of its non-boundary neighbours, one per connection
    (`nbCells`, characterised by the last clause); a boundary block without such a neighbour yields no entry
    (`if bc['faces']:`, t2data.py:2710), and a non-boundary block never does. -/
theorem boundary_faces_partition (geoNames : List Str) (nAtm : Nat) (blocks : List WBlock) (atmos : Rat)
    (conns : List (Str × Str)) (faces : List (Str × List Int))
    (h : boundaryFaces geoNames nAtm blocks atmos conns = .ok faces) :
    faces = blocks.filterMap (bdyEntry geoNames nAtm blocks atmos conns) ∧
    (∀ b ∈ blocks, interior atmos b = false → nbCells geoNames nAtm blocks atmos conns b.name ≠ [] →
        (b.name, nbCells geoNames nAtm blocks atmos conns b.name) ∈ faces) ∧
    (∀ e ∈ faces, ∃ b ∈ blocks, interior atmos b = false ∧ e = (b.name, nbCells geoNames nAtm blocks atmos conns b.name) ∧
        e.2 ≠ []) ∧
    (∀ b x, x ∈ nbCells geoNames nAtm blocks atmos conns b ↔
      ∃ c ∈ conns, (c.1 = b ∨ c.2 = b) ∧ ∃ w i, findBlock blocks (otherEnd c b) = some w ∧ interior atmos w = true ∧
        lastIdx geoNames (otherEnd c b) = some i ∧ x = (i : Int) - nAtm) := by
  have hf : faces = blocks.filterMap (bdyEntry geoNames nAtm blocks atmos conns) := boundaryFacesLoop_inv h
  refine ⟨hf, ?_, ?_, fun b x => mem_nbCells geoNames nAtm blocks atmos conns b x⟩
  · intro b hb hi hne
    rw [hf, List.mem_filterMap]
    exact ⟨b, hb, (bdyEntry_eq_some ..).mpr ⟨hi, hne, rfl⟩⟩
  · intro e he
    rw [hf, List.mem_filterMap] at he
    obtain ⟨b, hb, hbe⟩ := he
    obtain ⟨hi, hne, rfl⟩ := (bdyEntry_eq_some ..).mp hbe
    exact ⟨b, hb, hi, rfl, hne⟩

/-- Sources: when `generators_json` returns, `source` has exactly one entry per generator whose
    type is not the group type (TMAK), in order, and the entry's `cell` is `cellOf` of the
    generator's block; no generator has an unsupported type. -/
theorem sources_spec (geoNames : List Str) (nAtm : Nat) (gens : List Gener) (dictSize : Nat) (ss : List Source)
    (h : sources geoNames nAtm gens dictSize = .ok ss) :
    ss.map (·.cell) = (gens.filter (fun g => g.type != groupType)).map (fun g => cellOf geoNames nAtm g.block) ∧
    ss.length = (gens.filter (fun g => g.type != groupType)).length ∧
    ∀ g ∈ gens, unsupportedGenTypes.contains g.type = false := by
  unfold sources at h
  obtain ⟨h1, h2⟩ := sourcesLoop_inv h
  simp only [List.map_nil, List.nil_append] at h1
  refine ⟨h1, ?_, h2⟩
  have := congrArg List.length h1
  simpa using this

/-- `cellOf` is the cell index of the block: position in the geometry's block list minus the
    number of atmosphere blocks; `None` for an atmosphere block or a block the geometry lacks. -/
theorem source_cell_is_block_index (geoNames : List Str) (nAtm : Nat) (hn : geoNames.Nodup) :
    (∀ i (hi : i < geoNames.length), cellOf geoNames nAtm geoNames[i] = if i < nAtm then none else some ((i : Int) - nAtm)) ∧
    (∀ b, b ∉ geoNames → cellOf geoNames nAtm b = none) := by
  refine ⟨?_, ?_⟩
  · intro i hi
    unfold cellOf
    rw [lastIdx_getElem hn hi]
    simp only
    by_cases h : i < nAtm
    · have : (i : Int) - nAtm < 0 := by omega
      simp [h, this]
    · have : ¬ (i : Int) - nAtm < 0 := by omega
      simp [h, this]
  · intro b hb
    unfold cellOf
    rw [(lastIdx_none geoNames b).mpr hb]

/-- EOS given explicitly by a supported name. -/
theorem eos_explicit (s w : Str) (multi : Dict) (sim : Str) (n : Nat) (hs : s ≠ [])
    (h : supportedEos.lookup s = some w) (hw : w = ['w'] → 2 ≤ n) :
    eosJson (.name s) multi sim n = .ok { name := w, tracer := tracerEos.contains s } :=
  eosJson_of_name rfl hs h hw

/-- EOS given by the MULTI entry: it wins over whatever the simulator string says. -/
theorem eos_from_multi (s w : Str) (multi : Dict) (sim : Str) (n : Nat)
    (hm : Dict.get? multi kEos = some (.str s)) (hs : strip s ≠ [])
    (h : supportedEos.lookup (strip s) = some w) (hw : w = ['w'] → 2 ≤ n) :
    eosJson .none multi sim n = .ok { name := w, tracer := tracerEos.contains (strip s) } := by
  have hne : multi.isEmpty = false := List.isEmpty_eq_false_iff.mpr fun h0 => by rw [h0] at hm; cases hm
  have hsne : s.isEmpty = false := List.isEmpty_eq_false_iff.mpr fun h0 => hs (by rw [h0]; rfl)
  have hfm : eosFromMulti multi = strip s := by
    unfold eosFromMulti
    simp [hne, hm, hsne]
  have hst : (strip s).isEmpty = false := List.isEmpty_eq_false_iff.mpr hs
  refine eosJson_of_name ?_ hs h hw
  unfold aut2EosName
  simp only [hfm, hst, Bool.false_and, Bool.false_eq_true, if_false]

/-- EOS given only by the simulator string (no usable MULTI entry): the name picked is a supported
    key that ends the simulator string, and every supported key that ends the simulator string is
    a suffix of it — i.e. it is the longest supported suffix (`AUTOUGH2.2EW` gives EW, not W). -/
theorem eos_from_simulator (multi : Dict) (sim : Str) (hm : eosFromMulti multi = []) (hs : sim ≠ []) :
    aut2EosName .none multi sim = eosFromSimulator sim ∧
    (∀ k ∈ supportedEos, k.1 <:+ sim → k.1 <:+ eosFromSimulator sim) ∧
    (eosFromSimulator sim = [] ∨ ∃ e ∈ supportedEos, eosFromSimulator sim = e.1 ∧ e.1 <:+ sim) := by
  have hsim : sim.isEmpty = false := List.isEmpty_eq_false_iff.mpr hs
  refine ⟨?_, ?_, ?_⟩
  · unfold aut2EosName
    simp [hm, hsim]
  · -- `eosFromSimulator sim` is by definition `supportedEos.foldl (eosStep sim) []`, the form the two lemmas speak of
    intro k hk hks
    exact key_suffix_foldl [] supportedEos_laterLonger hk hks
  · rcases foldl_step_last sim supportedEos [] with ⟨h, _⟩ | ⟨l₁, e, l₂, hl, he, _, h⟩
    · exact Or.inl h
    · exact Or.inr ⟨e, hl ▸ List.mem_append_right _ List.mem_cons_self, h, he⟩

/-- hence a simulator string that ends in a supported EOS name is recognised -/
theorem eos_detected_from_simulator (multi : Dict) (sim : Str) (n : Nat) (hm : eosFromMulti multi = [])
    (k : Str × Str) (hk : k ∈ supportedEos) (hks : k.1 <:+ sim) (hn : 2 ≤ n) :
    ∃ o, eosJson .none multi sim n = .ok o ∧ ∃ e ∈ supportedEos, o.name = e.2 ∧ k.1 <:+ e.1 ∧ e.1 <:+ sim := by
  have hne : ∀ e ∈ supportedEos, e.1 ≠ [] := by decide
  have hkne := hne k hk
  have hs : sim ≠ [] := by
    intro h0
    rw [h0] at hks
    exact hkne (List.suffix_nil.mp hks)
  obtain ⟨h1, h2, h3⟩ := eos_from_simulator multi sim hm hs
  have hsuf := h2 k hk hks
  rcases h3 with h0 | ⟨e, he, hee, hes⟩
  · rw [h0] at hsuf
    exact absurd (List.suffix_nil.mp hsuf) hkne
  · have hl : supportedEos.lookup e.1 = some e.2 := by
      have : ∀ e ∈ supportedEos, supportedEos.lookup e.1 = some e.2 := by decide
      exact this e he
    exact ⟨_, eosJson_of_name (h1.trans hee) (hne e he) hl (fun _ => hn),
      e, he, rfl, by rw [← hee]; exact hsuf, hes⟩

end Waiwera

/-! ## the hypotheses are satisfiable: concrete models (these are tests of non-vacuity, not proofs of the property) -/

section Examples
open Model.Waiwera Proofs.Waiwera

/-- an AUTOUGH2 model: supported, convertible and unsupported generators, a duplicated (block, name),
    MOP(10) = 2, LINEQ type 3, short output with blocks and connections -/
def sampleA : T2 :=
  { filename := "model.dat".toList, simulator := "AUTOUGH2.2EW".toList,
    sections := [SIMUL, ROCKS, PARAM, LINEQ, MULTI, ELEME, CONNE, GENER, SHORT],
    multi := [("num_components".toList, .int 1), (kEos, .str "EW".toList)],
    lineq := [(kType, .int 3)],
    option := [0,0,0,0,0,0,0,0,0,0,2,0,2,0,3,0,0,0,0,0,0,0,7,1,1],
    rocks := [{ name := "rock0".toList, porosity := 1/4, conductivity := 5/2, payload := 900 }],
    blocks := ["  a 1".toList, "  b 1".toList],
    gens := [{ id := 1, block := "  a 1".toList, name := "wel 1".toList, type := "MASS".toList, payload := 11 },
             { id := 2, block := "  b 1".toList, name := "wel 2".toList, type := "DELG".toList, payload := 12 },
             { id := 3, block := "  b 1".toList, name := "inj 1".toList, type := "CO2 ".toList, payload := 13 },
             { id := 4, block := "  a 1".toList, name := "wel 1".toList, type := "RECH".toList, payload := 14 }],
    gendict := [(("  a 1".toList, "wel 1".toList), 4), (("  b 1".toList, "wel 2".toList), 2), (("  b 1".toList, "inj 1".toList), 3)],
    short := { freq := some (.int 2), block := some [.blk "  a 1".toList], con := some [.con "  a 1".toList "  b 1".toList] } }

def sampleA' : T2 := (convertToTough2 false sampleA).1

-- `sampleA'` is the object left; what is evaluated is that nothing was raised
example : convertToTough2 false sampleA = (sampleA', none) := Prod.ext rfl (by decide +kernel)
example : sampleA.lineq = [] ∨ ∃ i, Dict.get? sampleA.lineq kType = some (.int i) := Or.inr ⟨3, by decide +kernel⟩
example : sampleA.sections.Nodup := by decide +kernel
example : (sampleA.gens.map (·.id)).Nodup := by decide +kernel
-- the same object listed twice satisfies SameObj too
example : SameObj (sampleA.gens ++ sampleA.gens.take 2) := by unfold SameObj; decide +kernel
example : (sampleA.gendict.map (·.1)).Nodup := by decide +kernel
example : ∀ e ∈ sampleA.gendict, ∃ g ∈ sampleA.gens, g.id = e.2 ∧ (g.block, g.name) = e.1 := by decide +kernel
-- what comes out: MASS kept, CO2 converted, DELG and RECH gone from list and lookup, conductivity 5/2 · 3/4
example : sampleA'.gens.map (·.type) = ["MASS".toList, "COM2".toList] ∧ sampleA'.gendict.map (·.2) = [3] ∧
    sampleA'.rocks.map (·.conductivity) = [15/8] ∧ sampleA'.sections = [ROCKS, PARAM, MULTI, ELEME, CONNE, GENER, SHORT] ∧
    sampleA'.option = [0,0,0,0,0,0,0,0,0,0,0,0,0,0,3,0,0,0,0,0,0,5,0,0,0] ∧
    (updateSections sampleA').sections = [ROCKS, PARAM, MULTI, ELEME, CONNE, GENER, FOFT, COFT] := by
  decide +kernel
-- hypotheses of the round-trip theorem
example : allGridBlocks sampleA.blocks (sampleA.short.block.getD sampleA.histBlock) = true ∧
    allGridCons [("  a 1".toList, "  b 1".toList)] (sampleA.short.con.getD sampleA.histCon) = true ∧
    allGridBlocks sampleA.blocks (sampleA.short.gen.getD sampleA.histGen) = true ∧ sampleA.blocks ≠ [] := by decide +kernel
/-- a TOUGH2 model as read from a file: SOLVR type 3, history lists with objects and a bare name -/
def sampleT : T2 :=
  { filename := "model".toList, sections := [ROCKS, PARAM, SOLVR, ELEME, CONNE, GENER, FOFT, COFT],
    solver := [(kType, .int 3), ("z_precond".toList, .str "Z1".toList)],
    multi := [("num_components".toList, .int 1)],
    option := [0,0,0,0,0,0,0,0,0,0,0,0,2,0,0,0,0,0,0,0,0,5,3,0,1],
    rocks := [{ name := "rock0".toList, porosity := 1/4, conductivity := 5/2, payload := 900 }],
    blocks := ["  a 1".toList, "  b 1".toList],
    gens := [{ id := 1, block := "  a 1".toList, name := "wel 1".toList, type := "COM2".toList, payload := 11 }],
    gendict := [(("  a 1".toList, "wel 1".toList), 1)],
    histBlock := [.blk "  a 1".toList, .str "zzz 9".toList], histCon := [.con "  a 1".toList "  b 1".toList] }

def sampleT' : T2 := (convertToAutough2 false defaultSimulator defaultEos sampleT).1

example : convertToAutough2 false defaultSimulator defaultEos sampleT = (sampleT', none) :=
  Prod.ext rfl (by decide +kernel)
example : Dict.get? sampleT.solver kType = some (.int 3) := by decide +kernel
example : sampleT.histGen = [] ∧ SIMUL ∉ sampleT.sections ∧ sampleT.multi ≠ [] := by decide +kernel
example : sampleT'.simulator = "AUTOUGH2.2EW".toList ∧ sampleT'.filename = "model.dat".toList ∧
    sampleT'.sections = [SIMUL, ROCKS, PARAM, LINEQ, SOLVR, ELEME, CONNE, GENER, FOFT, COFT] ∧
    (updateSections sampleT').sections = [SIMUL, ROCKS, PARAM, LINEQ, MULTI, ELEME, CONNE, GENER, SHORT] ∧
    sampleT'.short.block = some [.blk "  a 1".toList] ∧ Dict.get? sampleT'.lineq kType = some (.int 2) ∧
    sampleT'.option = [0,0,0,0,0,0,0,0,0,0,0,0,0,0,0,0,0,0,0,0,0,0,0,0,0] := by
  decide +kernel
example : Ordered sampleA.sections ∧ Ordered sampleT.sections ∧ SHORT ∈ sections := by
  unfold Ordered; decide +kernel
example : (deleteGenerator sampleA ("  b 1".toList, "wel 2".toList)).2 = none ∧
    (deleteGenerator sampleA ("  b 1".toList, "nope ".toList)).2 = some .keyError ∧
    ((addGenerator sampleA { id := 9, block := "  a 1".toList, name := "wel 1".toList, type := "HEAT".toList, payload := 1 }).gendict.map (·.2))
      = [9, 2, 3] := by decide +kernel
-- hypotheses of the SHORT round trip on the converted TOUGH2 sample, and a full short output with frequency 7
example : goodBlocks sampleT.blocks (sampleT.histBlock.filter Item.isBlk) = true ∧
    goodCons [("  a 1".toList, "  b 1".toList)] (sampleT.histCon.filter Item.isCon) = true ∧
    goodGens sampleT.gendict (sampleT.histGen.filter Item.isGen) = true := by decide +kernel
example : writeShort { freq := some (.int 7), block := some [.blk "  a 1".toList], gen := some [.gen 1 "  a 1".toList "wel 1".toList] }
      = some ("SHORT 7".toList, ["ELEME".toList, "  a 1".toList, "GENER".toList, "  a 1wel 1".toList, []]) ∧
    readShort ["  a 1".toList] [] [(("  a 1".toList, "wel 1".toList), 1)] "SHORT 7".toList
        ["ELEME".toList, "  a 1".toList, "zzz 9".toList, "GENER".toList, "  a 1wel 1".toList, []]
      = .ok { freq := some (.int 7), block := some [.blk "  a 1".toList], gen := some [.gen 1 "  a 1".toList "wel 1".toList] } := by
  decide_lits
example : (setType TOUGH2 sampleA).1 = sampleA' ∧ (setType AUTOUGH2 sampleT).1 = sampleT' ∧
    setType TOUGH2 sampleT = (sampleT, none) ∧ (setType "TOUGH3".toList sampleA).2 = some .generic := by
  -- which branch of `type_setter_dispatch` each call takes is evaluated; `sampleA'`, `sampleT'` are those conversions
  refine ⟨?_, ?_, ?_, ?_⟩
  · rw [type_setter_dispatch, if_pos (Or.inr rfl), if_neg (by decide +kernel), if_pos rfl]
    rfl
  · rw [type_setter_dispatch, if_pos (Or.inl rfl), if_neg (by decide +kernel), if_neg (by decide +kernel)]
    rfl
  · rw [type_setter_dispatch, if_pos (Or.inr rfl), if_pos (by decide +kernel)]
  · rw [type_setter_dispatch, if_neg (by decide_lits)]

/-- a 2 × 1 × 2 geometry with one atmosphere block: block 3 has zero volume, block 4 a huge one -/
def sampleGeo : List Str := ["ATM 0".toList, "  a 1".toList, "  b 1".toList, "  a 2".toList, "  b 2".toList]
def sampleBlocks : List WBlock :=
  [{ name := "ATM 0".toList, rock := "rock0".toList, volume := 10000000000000000000000000 },
   { name := "  a 1".toList, rock := "rock0".toList, volume := 250 },
   { name := "  b 1".toList, rock := "rock1".toList, volume := 250 },
   { name := "  a 2".toList, rock := "rock1".toList, volume := 0 },
   { name := "  b 2".toList, rock := "rock0".toList, volume := 1000000000000000000000000000000 }]

example : rockCells ["rock0".toList, "rock1".toList] sampleGeo 1 sampleBlocks 10000000000000000000000000
    = .ok [[0], [1]] := by
  unfold sampleGeo sampleBlocks; decide_lits
example : sampleGeo.Nodup ∧ findBlock sampleBlocks sampleGeo[2] = some sampleBlocks[2] := by decide +kernel
example : boundaryBlocks sampleBlocks 10000000000000000000000000 = ["ATM 0".toList, "  a 2".toList, "  b 2".toList] := by
  decide +kernel
-- boundary faces of the sample: the atmosphere block faces cells 0 and 1; '  a 2' (volume 0) faces cell 0;
-- '  b 2' (huge volume) faces cell 1; a boundary block that only touches boundary blocks would yield nothing
example : boundaryFaces sampleGeo 1 sampleBlocks 10000000000000000000000000
    [("ATM 0".toList, "  a 1".toList), ("ATM 0".toList, "  b 1".toList), ("  a 1".toList, "  b 1".toList),
     ("  a 1".toList, "  a 2".toList), ("  b 1".toList, "  b 2".toList), ("  a 2".toList, "  b 2".toList)]
    = .ok [("ATM 0".toList, [0, 1]), ("  a 2".toList, [0]), ("  b 2".toList, [1])] := by
  unfold sampleGeo sampleBlocks; decide_lits
example : sources sampleGeo 1
    [{ id := 1, block := "  b 1".toList, name := "wel 1".toList, type := "MASS".toList, payload := 0 },
     { id := 2, block := "ATM 0".toList, name := "wel 1".toList, type := "DELG".toList, payload := 0 },
     { id := 3, block := "  b 1".toList, name := "".toList, type := "TMAK".toList, payload := 0 },
     { id := 4, block := "zzz 9".toList, name := "wel 1".toList, type := "RECH".toList, payload := 0 }] 4
    = .ok [{ name := "wel 1".toList, cell := some 1 }, { name := "wel 1_1".toList, cell := none },
           { name := "wel 1_2".toList, cell := none }] := by
  unfold sampleGeo; decide_lits
example : eosJson .none [] "AUTOUGH2.2EW".toList 2 = .ok { name := "we".toList, tracer := false } ∧
    eosJson .none [("num_components".toList, .int 1)] "MULKOMEWAV".toList 2 = .ok { name := "wae".toList, tracer := false } ∧
    eosJson .none [(kEos, .str " EWC".toList)] "AUTOUGH2.2EW".toList 3 = .ok { name := "wce".toList, tracer := false } ∧
    eosJson (.idx 4) [] [] 0 = .ok { name := "wae".toList, tracer := false } ∧
    eosJson (.name "EWT".toList) [] [] 0 = .ok { name := "we".toList, tracer := true } ∧
    eosJson .none [] "AUTOUGH2.2".toList 2 = .error .generic ∧
    eosJson (.name "W".toList) [] [] 1 = .error .indexError := by
  decide_lits
example : eosFromMulti [("num_components".toList, .int 1)] = [] ∧ ("EW".toList, "we".toList) ∈ supportedEos ∧
    "EW".toList <:+ "AUTOUGH2.2EW".toList := ⟨by decide +kernel, by decide +kernel, ⟨"AUTOUGH2.2".toList, by decide +kernel⟩⟩

end Examples

end Props.C20
