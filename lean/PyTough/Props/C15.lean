/-
  C15 — IFC-67 routines agree with IAPWS-97 and with themselves on their common range.

  Theorems about the definitions of `PyTough/Gen/Ifc67.lean` (regenerated from /repo/t2thermo.py on
  every run) read over the real numbers.  What is proved here is the *decision logic*: range
  checking, the two region classifiers, and the separated steam fraction.  The numeric clauses
  (agreement of the two formulations within their known difference, the single-potential identity
  of the hand-expanded IFC-67 formulas, `tsat` inverting `sat` through scipy's `fsolve`) are evaluated
  by the oracle on the real code only — see DESIGN.md §5.
-/
import PyTough.Proofs.ThermoIfc67
import PyTough.Proofs.ThermoIapws

namespace Props.C15
open Model.Thermo Proofs.Thermo Proofs.Ifc67 Gen.Ifc67

/-! ### range checking returns no value exactly outside the stated range
  `tmin` = the double nearest 0.01, `tc1C` = the module's `Tc1 - 273.15`, `sat67 t`, `b23p67 t` = the
  values of `sat(t)`, `b23p(t)`. -/

/-- liquid water: with checking on, `(None, None)` **iff** the state is outside
    `0.01 ≤ t ≤ 350`, `p_sat(t) ≤ p ≤ 100 MPa`, or the routine's internal test `ZP < 0` fires
    (kept visible: `cowatZP` is the quantity under the square root) -/
theorem bounds_cowat (t p : ℝ) : cowat t p true = Ret.nonePair ↔
    ¬(tmin ≤ t ∧ t ≤ 350 ∧ p ≤ 100000000 ∧ sat67 t ≤ p) ∨ cowatZP t p < 0 := by
  rw [cowat_guard, guarded_none_iff, cowat_unchecked]

/-- inside the range checking changes nothing; with checking off only `ZP < 0` gives no value -/
theorem bounds_cowat_off (t p : ℝ) :
    (tmin ≤ t ∧ t ≤ 350 ∧ p ≤ 100000000 ∧ sat67 t ≤ p → cowat t p true = cowat t p false) ∧
    (cowat t p false = Ret.nonePair ↔ cowatZP t p < 0) ∧
    (cowat t p false = Ret.nonePair ∨ ∃ d u, cowat t p false = Ret.pair d u) := by
  refine ⟨fun h => ?_, cowat_unchecked t p, cowat_unchecked_shape t p⟩
  rw [cowat_guard, if_pos h]

example : tmin ≤ 300 ∧ (300 : ℝ) ≤ 350 := by unfold tmin; norm_num

/-- steam: with checking on, `(None, None)` **iff** outside the three-piece range
    (`p ≤ p_sat(t)` up to the critical temperature, `p ≤ b23p(t)` up to 590 degC, `p ≤ 100 MPa` above,
    all within `0.01 ≤ t ≤ 800`, `0 ≤ p`); with checking off a value is always returned -/
theorem bounds_supst (t p : ℝ) :
    (supst t p true = Ret.nonePair ↔
      ¬(tmin ≤ t ∧ t ≤ 800 ∧ 0 ≤ p ∧
        ((t ≤ tc1C ∧ p ≤ sat67 t) ∨ (¬ t ≤ tc1C ∧ t ≤ 590 ∧ p ≤ b23p67 t) ∨ (¬ t ≤ tc1C ∧ ¬ t ≤ 590 ∧ p ≤ 100000000)))) ∧
    (∃ d u, supst t p false = Ret.pair d u) := by
  obtain ⟨d, u, hdu⟩ := supst_unchecked t p
  refine ⟨?_, d, u, hdu⟩
  rw [supst_guard, guarded_none_iff, hdu]
  exact or_iff_left (fun e => nomatch e)

/-- saturation pressure: with checking on `None` **iff** outside `0.01 ≤ t ≤ T_c1`; with checking off
    `None` iff outside the routine's own `0.01 ≤ t ≤ 500` -/
theorem bounds_sat (t : ℝ) :
    (sat t true = Ret.none ↔ ¬(tmin ≤ t ∧ t ≤ tc1C)) ∧
    (sat t false = Ret.none ↔ ¬(tmin ≤ t ∧ t ≤ 500)) ∧
    (tmin ≤ t ∧ t ≤ tc1C → ∃ s, sat t true = Ret.num s) := by
  refine ⟨Proofs.Ifc67.bounds_sat t, (sat_unchecked t).1, fun h => ?_⟩
  rw [sat_guard, if_pos h]
  exact (sat_unchecked t).2 ⟨h.1, le_trans h.2 tc1C_le_500⟩

/-- saturation temperature: the guard of `tsat` (the root itself is found by scipy's `fsolve`, which is
    not modelled): with checking on the solver is entered **iff** `sat(0.01) ≤ p ≤ P_c1`; with checking
    off always -/
theorem bounds_tsat (p : ℝ) :
    (tsat_ok p true = true ↔ sat67 tmin ≤ p ∧ p ≤ (Pc1 : ℝ)) ∧ tsat_ok p false = true :=
  Proofs.Ifc67.bounds_tsat p

/-- the call `sat(t)` that the range tests of `cowat`/`supst`/`region` make returns a number for `0.01 ≤ t ≤ T_c1` (Python would raise
    `TypeError` on `None`); that they call it only for such `t` is not part of the statement -/
theorem guards_calls_defined (t : ℝ) (h : tmin ≤ t ∧ t ≤ tc1C) : ∃ s, sat t false = Ret.num s :=
  (sat_unchecked t).2 ⟨h.1, le_trans h.2 tc1C_le_500⟩

/-- for all enthalpies, all four saturation enthalpies (whatever the solver returned) and both
    one- and two-stage separation, the fraction lies in `[0, 1]` -/
theorem steam_fraction_in_unit (h hl1 hs1 hl2 hs2 : ℝ) (one : Bool) :
    0 ≤ ssf h one hl1 hs1 hl2 hs2 ∧ ssf h one hl1 hs1 hl2 hs2 ≤ 1 := by
  rw [ssf_eq]
  exact ⟨le_max_right _ _, max_le (min_le_right _ _) zero_le_one⟩

/-- it never decreases with enthalpy, provided steam is richer in enthalpy than water at the separator
    pressure(s) (`hl1 < hs1`, and for two stages `hl2 < hs2`, `hl1 ≤ hs2`) — the enthalpy ordering itself
    is a numeric fact about the formulation, sampled by the oracle -/
theorem steam_fraction_monotone (h h' hl1 hs1 hl2 hs2 : ℝ) (one : Bool) (hh : h ≤ h')
    (h1 : hl1 < hs1) (h2 : one = false → hl2 < hs2 ∧ hl1 ≤ hs2) :
    ssf h one hl1 hs1 hl2 hs2 ≤ ssf h' one hl1 hs1 hl2 hs2 :=
  ssf_mono h h' hl1 hs1 hl2 hs2 one hh (ssf_coeff_nonneg hl1 hs1 hl2 hs2 one h1 h2)

example : (419000 : ℝ) < 2675000 ∧ ((false = false) → (251000 : ℝ) < 2609000 ∧ (419000 : ℝ) ≤ 2609000) := by norm_num

/-- the same in terms of what the routines return: if at the separator pressure(s) the enthalpy
    `u + p/d` (`enth`) of the steam value exceeds that of the liquid value (and, for two stages, the second-stage
    steam enthalpy is not below the first-stage water enthalpy), the fraction never decreases with `h` -/
theorem steam_fraction_monotone_of_values (h h' p1 p2 dl1 ul1 ds1 us1 dl2 ul2 ds2 us2 : ℝ) (one : Bool) (hh : h ≤ h')
    (o1 : enth dl1 ul1 p1 < enth ds1 us1 p1)
    (o2 : one = false → enth dl2 ul2 p2 < enth ds2 us2 p2 ∧ enth dl1 ul1 p1 ≤ enth ds2 us2 p2) :
    ssf h one (enth dl1 ul1 p1) (enth ds1 us1 p1) (enth dl2 ul2 p2) (enth ds2 us2 p2) ≤
      ssf h' one (enth dl1 ul1 p1) (enth ds1 us1 p1) (enth dl2 ul2 p2) (enth ds2 us2 p2) :=
  steam_fraction_monotone h h' _ _ _ _ one hh o1 o2

/-- `tsat`'s guard is consistent with `sat`'s: its lower limit is the value `sat` returns, with range checking
    on, at `sat`'s own lower temperature limit; so with checking on `tsat` is entered only for
    `sat(0.01) ≤ p ≤ P_c1`, and `sat(0.01)` is never `None` -/
theorem bounds_tsat_sat (p : ℝ) :
    sat tmin true = Ret.num (sat67 tmin) ∧ (tsat_ok p true = true → sat67 tmin ≤ p ∧ p ≤ (Pc1 : ℝ)) := by
  constructor
  · have h1 : tmin ≤ tmin ∧ tmin ≤ tc1C := ⟨le_refl _, le_trans (by unfold tmin; norm_num) tc1C_gt_350.le⟩
    obtain ⟨s, hs⟩ := guards_calls_defined tmin h1
    rw [sat_guard, if_pos h1, hs]
    unfold sat67; rw [hs]; rfl
  · exact (Proofs.Ifc67.bounds_tsat p).1.mp

/-- IFC-67 `region` and IAPWS-97 `region` agree: below 350 degC whenever `p` is not between (or on)
    the two saturation pressures; between the critical temperature and 590 degC whenever `p` is not
    between (or on) the two B23 pressures; always above 590 degC; and both are `None` outside the same
    box `[0.01, 800] × [0, 100 MPa]`. -/
theorem regions_agree_logic (t p : ℝ) :
    (t ≤ 350 → ((p < Proofs.Iapws.satP t ∧ p < sat67 t) ∨ (Proofs.Iapws.satP t < p ∧ sat67 t < p)) →
      Gen.Ifc67.region t p = Gen.Iapws.region t p) ∧
    (tc1C < t → t ≤ 590 → ((p < Proofs.Iapws.b23P t ∧ p < b23p67 t) ∨ (Proofs.Iapws.b23P t < p ∧ b23p67 t < p)) →
      Gen.Ifc67.region t p = Gen.Iapws.region t p) ∧
    (590 < t → Gen.Ifc67.region t p = Gen.Iapws.region t p) ∧
    (¬(tmin ≤ t ∧ t ≤ 800 ∧ 0 ≤ p ∧ p ≤ 100000000) →
      Gen.Ifc67.region t p = Ret.none ∧ Gen.Iapws.region t p = Ret.none) := by
  rw [region67_unfold, Proofs.Iapws.region_unfold, show Proofs.Iapws.tmin = tmin from rfl]
  by_cases hb : tmin ≤ t ∧ t ≤ 800 ∧ 0 ≤ p ∧ p ≤ 100000000
  · rw [if_pos hb, if_pos hb]
    refine ⟨fun ht hp => ?_, fun ht1 ht2 hp => ?_, fun ht => ?_, fun h => absurd hb h⟩
    · rw [if_pos ht, if_pos ht]
      exact band_agree hp
    · rw [if_neg (not_le.mpr (tc1C_gt_350.trans ht1)), if_neg (not_le.mpr (tc1C_gt_350.trans ht1)), if_neg (not_le.mpr ht1),
        if_pos ht2, if_pos ht2]
      exact band_agree hp
    · have ht3 : ¬ t ≤ 350 := not_le.mpr (lt_trans (by norm_num) ht)
      rw [if_neg ht3, if_neg ht3, if_neg (fun h => absurd (h.trans tc1C_le_500) (not_le.mpr (lt_trans (by norm_num) ht))),
        if_neg (not_le.mpr ht), if_neg (not_le.mpr ht)]
  · rw [if_neg hb, if_neg hb]
    exact ⟨fun _ _ => rfl, fun _ _ _ => rfl, fun _ => rfl, fun _ => ⟨rfl, rfl⟩⟩

/-- and in these two temperature ranges exactly the states of the box where they differ: below 350 degC `p` between the two saturation
    pressures, between the critical temperature and 590 degC `p` between the two B23 pressures (half-open
    bands as the comparisons are written).  Nothing is said about `350 < t ≤ tc1C`, where IFC-67 alone has a region 4. -/
theorem regions_differ_exactly (t p : ℝ) (hb : tmin ≤ t ∧ t ≤ 800 ∧ 0 ≤ p ∧ p ≤ 100000000) :
    (t ≤ 350 → (Gen.Ifc67.region t p ≠ Gen.Iapws.region t p ↔
      (Proofs.Iapws.satP t < p ∧ p < sat67 t) ∨ (sat67 t ≤ p ∧ p ≤ Proofs.Iapws.satP t))) ∧
    (tc1C < t → t ≤ 590 → (Gen.Ifc67.region t p ≠ Gen.Iapws.region t p ↔
      (Proofs.Iapws.b23P t < p ∧ p < b23p67 t) ∨ (b23p67 t ≤ p ∧ p ≤ Proofs.Iapws.b23P t))) := by
  rw [region67_unfold, Proofs.Iapws.region_unfold, show Proofs.Iapws.tmin = tmin from rfl, if_pos hb, if_pos hb]
  constructor
  · intro ht
    rw [if_pos ht, if_pos ht]
    exact band_differ (by simp)
  · intro ht1 ht2
    rw [if_neg (not_le.mpr (tc1C_gt_350.trans ht1)), if_neg (not_le.mpr (tc1C_gt_350.trans ht1)), if_neg (not_le.mpr ht1),
      if_pos ht2, if_pos ht2]
    exact band_differ (by simp)

end Props.C15
