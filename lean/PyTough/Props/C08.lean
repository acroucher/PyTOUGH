/-
  C08 — TOUGH2 grid stays internally consistent under any sequence of edits.

  Model: `Model/Grid.lean` (`World`, `Op`, `step`, `run`); invariant and preconditions:
  `Model/GridInv.lean` (`Inv`, `pre`, `finding`).  Proofs: `Proofs/Grid*.lean`.
-/
import PyTough.Proofs.GridInvStep
namespace Props.C08
open Py Model Model.Grid Model.Grid.World

/-- "the grid's by-name lookups and ordered lists describe the same set of objects with unique
    names, every connection joins two blocks that are in the grid and is found under the pair of
    their current names, each block's record of its connections is exactly the set of connections
    that mention it, and every block's rock type is one registered in the grid" -/
structure Consistent (w : World) : Prop where
  rock_same_objects : ∀ r, r ∈ w.rocktypelist ↔ ∃ n, dget w.rocktype n = some r
  rock_key_is_name : ∀ n r, dget w.rocktype n = some r → w.rname r = n
  rock_names_unique : ∀ r ∈ w.rocktypelist, ∀ r' ∈ w.rocktypelist, w.rname r = w.rname r' → r = r'
  rock_listed_once : w.rocktypelist.Nodup
  block_same_objects : ∀ b, b ∈ w.blocklist ↔ ∃ n, dget w.block n = some b
  block_key_is_name : ∀ n b, dget w.block n = some b → w.bname b = n
  block_names_unique : ∀ b ∈ w.blocklist, ∀ b' ∈ w.blocklist, w.bname b = w.bname b' → b = b'
  block_listed_once : w.blocklist.Nodup
  con_same_objects : ∀ c, c ∈ w.connectionlist ↔ ∃ k, dget w.connection k = some c
  con_listed_once : w.connectionlist.Nodup
  con_joins_grid_blocks : ∀ c ∈ w.connectionlist, (w.cn c).b0 ∈ w.blocklist ∧ (w.cn c).b1 ∈ w.blocklist
  con_under_current_names : ∀ c ∈ w.connectionlist,
    dget w.connection (w.bname (w.cn c).b0, w.bname (w.cn c).b1) = some c
  con_key_is_current_names : ∀ k c, dget w.connection k = some c →
    k = (w.bname (w.cn c).b0, w.bname (w.cn c).b1)
  block_connection_record : ∀ b ∈ w.blocklist, ∀ k, k ∈ (w.bk b).conn ↔
    ∃ c ∈ w.connectionlist, (w.bname (w.cn c).b0, w.bname (w.cn c).b1) = k ∧ ((w.cn c).b0 = b ∨ (w.cn c).b1 = b)
  rock_registered : ∀ b ∈ w.blocklist, (w.bk b).rock ∈ w.rocktypelist

theorem consistent_of_inv {w : World} (h : Grid.Inv w) : Consistent w where
  rock_same_objects r := ⟨fun hr => ⟨_, h.rd_complete r hr⟩, fun ⟨n, hn⟩ => (h.rd_sound n r hn).1⟩
  rock_key_is_name n r hn := (h.rd_sound n r hn).2
  rock_names_unique _ hr _ hr' e := h.rockReg.key_inj hr hr' e
  rock_listed_once := h.rl_nodup
  block_same_objects b := ⟨fun hb => ⟨_, h.bd_complete b hb⟩, fun ⟨n, hn⟩ => (h.bd_sound n b hn).1⟩
  block_key_is_name n b hn := (h.bd_sound n b hn).2
  block_names_unique _ hb _ hb' e := h.blockReg.key_inj hb hb' e
  block_listed_once := h.bl_nodup
  con_same_objects c := ⟨fun hc => ⟨_, h.cd_complete c hc⟩, fun ⟨k, hk⟩ => (h.cd_sound k c hk).1⟩
  con_listed_once := h.cl_nodup
  con_joins_grid_blocks c hc := ⟨(h.c_ends c hc).1, (h.c_ends c hc).2.1⟩
  con_under_current_names c hc := h.cd_complete c hc
  con_key_is_current_names k c hk := ((h.cd_sound k c hk).2).symm
  block_connection_record := h.conn_iff
  rock_registered := h.b_rock

/-- the executable check that the driver evaluates on every explored state (reply field `I=`,
    compared by the harness with the identity reading of the property on the real grid) is
    exactly the invariant -/
theorem checkInv_iff (w : World) : checkInv w = true ↔ Grid.Inv w := by
  -- a dictionary clause of the check runs over the stored pairs, the invariant's over the lookups
  have sound : ∀ {κ : Type} [DecidableEq κ] (d : Dict κ Nat) (P : κ → Nat → Prop),
      (∀ p ∈ d, ¬ dget d p.1 = some p.2 ∨ P p.1 p.2) ↔ ∀ k x, dget d k = some x → P k x := fun d P =>
    ⟨fun h k x hd => (h (k, x) (Proofs.Grid.mem_of_dget hd)).resolve_left (fun h => h hd),
     fun h p _ => (Decidable.em (dget d p.1 = some p.2)).elim (fun e => Or.inr (h _ _ e)) Or.inl⟩
  simp only [checkInv, Bool.and_eq_true, List.all_eq_true, decide_eq_true_eq, Bool.or_eq_true, bne_iff_ne, ne_eq,
    beq_iff_eq, List.mem_map, List.mem_filter, and_assoc]
  -- the components below come in the order of the `&&` in `checkInv`
  constructor
  · rintro ⟨rl_lt, bl_lt, cl_lt, rl_nodup, bl_nodup, cl_nodup, rd_sound, rd_complete, bd_sound, bd_complete, b_rock,
      cd_sound, cd_complete, c_ends, conn_nodup, conn⟩
    exact { rl_lt, bl_lt, cl_lt, rl_nodup, bl_nodup, cl_nodup, rd_complete, bd_complete, b_rock, cd_complete, c_ends, conn_nodup
            rd_sound := (sound _ _).mp rd_sound, bd_sound := (sound _ _).mp bd_sound, cd_sound := (sound _ _).mp cd_sound
            conn_iff := fun b hb k =>
              ⟨fun hk => (((conn b hb).1 k hk).imp fun c h => ⟨h.1, h.2.2, h.2.1⟩),
               fun ⟨c, hc, e, hm⟩ => (conn b hb).2 k ⟨c, hc, hm, e⟩⟩ }
  · intro h
    exact ⟨h.rl_lt, h.bl_lt, h.cl_lt, h.rl_nodup, h.bl_nodup, h.cl_nodup, (sound _ _).mpr h.rd_sound, h.rd_complete,
      (sound _ _).mpr h.bd_sound, h.bd_complete, h.b_rock, (sound _ _).mpr h.cd_sound, h.cd_complete, h.c_ends, h.conn_nodup, fun b hb =>
      ⟨fun k hk => ((h.conn_iff b hb k).mp hk).imp fun c h => ⟨h.1, h.2.2, h.2.1⟩,
       fun k ⟨c, hc, hm, e⟩ => (h.conn_iff b hb k).mpr ⟨c, hc, e, hm⟩⟩⟩

theorem inv_empty : Grid.Inv World.empty := Proofs.Grid.inv_empty

/-- **inv_step.**  Every operation of the edit alphabet (`Model.Grid.Op`: add/delete block,
    connection, rock type; rename_rocktype; clean/sort_rocktypes; demote_block; reorder;
    rename_blocks; minc; grid addition; embed; re-adding objects) applied within its precondition
    `pre` (Model/GridInv.lean: no argument misuse, none of the known findings F1–F3) leaves the
    invariant true — whether the call returns or raises. -/
theorem inv_step {w : World} (hI : Grid.Inv w) (op : Op) (hpre : pre w op = true) : Grid.Inv (step w op).w :=
  Proofs.Grid.inv_step hI op hpre

/-- every operation of a history is applied within its precondition -/
def PreAll : World → List Op → Prop
  | _, [] => True
  | w, op :: r => pre w op = true ∧ PreAll (step w op).w r

instance instDecPreAll : (w : World) → (ops : List Op) → Decidable (PreAll w ops)
  | _, [] => isTrue trivial
  | w, op :: r =>
    have := instDecPreAll (step w op).w r
    show Decidable (pre w op = true ∧ PreAll (step w op).w r) from inferInstance

/-- **inv_run**: by induction over any operation list — every reachable state is consistent. -/
theorem inv_run {w : World} (hI : Grid.Inv w) (ops : List Op) (h : PreAll w ops) : Grid.Inv (run w ops) := by
  induction ops generalizing w with
  | nil => exact hI
  | cons op r ih => exact ih (inv_step hI op h.1) h.2

/-- **inv_fromgeo.**  A grid built from scratch by constructor-and-add calls within `pre` — one
    `add_rocktype`, `add_block`, `add_connection` per object of a `GridSpec` — is consistent
    (`consistent_after_any_history` at `specOps s`).  This is how `fromgeo` fills a grid and how the
    harness brings the model to the state the real `fromgeo` produced, checking on every run that each
    call is within `pre`. -/
theorem inv_fromgeo (s : GridSpec) (h : PreAll World.empty (specOps s)) : Consistent (run World.empty (specOps s)) :=
  consistent_of_inv (inv_run inv_empty _ h)

example : PreAll World.empty (specOps ⟨[(['d'], 1)], [(['A'], ['d'], 1, none), (['B'], ['d'], 2, none)],
    [(0, 1, ⟨3, 1, 1, 1, some (-1), none, none⟩)]⟩) := by decide +kernel

/-- the property: after any sequence of (valid) edits from the empty grid, the grid is consistent -/
theorem consistent_after_any_history (ops : List Op) (h : PreAll World.empty ops) :
    Consistent (run World.empty ops) :=
  consistent_of_inv (inv_run inv_empty ops h)

example : PreAll World.empty [.addRocktype ['r'] 1, .addBlock ['A'] ['r'] 1 none, .addBlock ['B'] ['r'] 1 none,
    .addConnection ['A'] ['B'] ⟨1, 1, 1, 1, none, none, none⟩, .deleteBlock ['A'], .readdBlock ['A'], .cleanRocktypes] := by decide +kernel
-- a history with a grid addition and an embedding (second grids built from recipes)
example : PreAll World.empty [.addRocktype ['r'] 1, .addBlock ['A'] ['r'] 8 none,
    .addGrid ⟨[(['s'], 2)], [(['B'], ['s'], 1, none), (['C'], ['s'], 1, none)], [(0, 1, ⟨1, 1, 1, 1, none, none, none⟩)]⟩ true,
    .embed ⟨[(['t'], 3)], [(['D'], ['t'], 1, none)], []⟩ ['A'] ['D'] ⟨1, 1, 1, 1, none, none, none⟩] := by decide +kernel

/-- **rename_loses_no_block.**  Let `m1` be the map `rename_blocks` really applies (the argument,
    after `fix_block_mapping` when requested).  If the renamed names of the grid's blocks are still
    distinct — `m1` is one-to-one on the current names and hits no unrenamed block; swaps and
    cycles included — then the call returns normally, the block list is the same objects in the
    same order, their names are the images, the lookup has exactly the new names, each reaching
    its block, and every connection is found under the pair of new names. -/
theorem rename_loses_no_block {w : World} (hI : Grid.Inv w) (m m1 : Dict Name Name) (fix : Bool)
    (hm : effectiveMap m fix = some m1)
    (hnd : (w.blocklist.map fun b => mapName m1 (w.bname b)).Nodup) :
    let o := step w (.renameBlocks m fix)
    o.exc = none ∧ o.w.blocklist = w.blocklist ∧
    o.w.blocklist.map o.w.bname = w.blocklist.map (fun b => mapName m1 (w.bname b)) ∧
    (∀ n b, dget o.w.block n = some b ↔ b ∈ w.blocklist ∧ mapName m1 (w.bname b) = n) ∧
    (∀ k c, dget o.w.connection k = some c ↔ c ∈ w.connectionlist ∧ Proofs.Grid.mapKey m1 (w.ckey c) = k) := by
  intro o
  have ho : o = { w := Proofs.Grid.renameWorld m1 w } := Proofs.Grid.step_renameBlocks hm
  have R := Proofs.Grid.renameWorld_spec hI m1 hnd
  rw [ho]
  refine ⟨rfl, R.blocklist, ?_, R.block, R.connection⟩
  show (Proofs.Grid.renameWorld m1 w).blocklist.map _ = _
  rw [R.blocklist]
  exact List.map_congr_left R.bname

/-- `rename_blocks` within its precondition keeps the invariant (instance of `inv_step`) -/
theorem rename_keeps_inv {w : World} (hI : Grid.Inv w) (m : Dict Name Name) (fix : Bool)
    (hpre : pre w (.renameBlocks m fix) = true) : Grid.Inv (step w (.renameBlocks m fix)).w :=
  inv_step hI _ hpre

namespace Examples
def A : Name := ['A','A',' ',' ','1']
def B : Name := ['B','B',' ',' ','1']
def C : Name := ['C','C',' ',' ','1']
def r1 : Name := ['r','1',' ',' ',' ']
def r2 : Name := ['r','2',' ',' ',' ']
def pay : ConPay := ⟨1, 2, 3, 4, some (-1), none, none⟩
/-- rock type `r1`, blocks `A B C`, connections `A-B`, `B-C` -/
def base : List Op :=
  [.addRocktype r1 1, .addBlock A r1 1 none, .addBlock B r1 2 none, .addBlock C r1 4 none,
   .addConnection A B pay, .addConnection B C pay]
def w0 : World := run World.empty base

example : PreAll World.empty base := by decide +kernel
example : checkInv w0 = true := by decide +kernel

-- a swap and a 3-cycle satisfy the hypotheses of `rename_loses_no_block` and `pre`
example : pre w0 (.renameBlocks [(A, B), (B, A)] true) = true := by decide +kernel
example : pre w0 (.renameBlocks [(A, B), (B, C), (C, A)] false) = true := by decide +kernel
example : let o := step w0 (.renameBlocks [(A, B), (B, A)] true)
    o.w.blocklist.map o.w.bname = [B, A, C] ∧ dget o.w.block A = some 1 ∧ dget o.w.block B = some 0 ∧
    dget o.w.connection (B, A) = some 0 ∧ dget o.w.connection (A, C) = some 1 := by decide +kernel
example : let o := step w0 (.renameBlocks [(A, B), (B, C), (C, A)] false)
    o.w.blocklist.map o.w.bname = [B, C, A] ∧ dget o.w.block A = some 2 ∧ dget o.w.block B = some 0 ∧
    dget o.w.block C = some 1 := by decide +kernel
-- a map that collides with an unrenamed block is outside `pre` (and really loses a block)
example : pre w0 (.renameBlocks [(A, B)] true) = false := by decide +kernel
example : dget (step w0 (.renameBlocks [(A, B)] true)).w.block A = none ∧
    (step w0 (.renameBlocks [(A, B)] true)).w.blocklist.map (step w0 (.renameBlocks [(A, B)] true)).w.bname = [B, B, C] := by decide +kernel

/-! ### the three known findings: the code really leaves the invariant false
    (replayed on the real code by the harness corpus: F1-…, F2-…, F3-…) -/

/-- F1: `add_block` over a name that has connections -/
theorem F1_add_block_replaces_connected_block :
    finding w0 (.addBlock A r1 8 none) = some .f1 ∧ pre w0 (.addBlock A r1 8 none) = false ∧
    ¬ Grid.Inv (step w0 (.addBlock A r1 8 none)).w := by
  refine ⟨by decide +kernel, by decide +kernel, ?_⟩
  intro h
  have := (h.c_ends 0 (by decide +kernel)).1
  revert this; decide +kernel

/-- F2: `add_rocktype` over a name that blocks use -/
theorem F2_rocktype_replaced_while_in_use :
    finding w0 (.addRocktype r1 2) = some .f2 ∧ pre w0 (.addRocktype r1 2) = false ∧
    ¬ Grid.Inv (step w0 (.addRocktype r1 2)).w := by
  refine ⟨by decide +kernel, by decide +kernel, ?_⟩
  intro h
  have := h.b_rock 0 (by decide +kernel)
  revert this; decide +kernel

/-- … which becomes visible by name at the next `rename_rocktype`: the block's rock type name is
    then not a key of `grid.rocktype` -/
example : let w := run w0 [.addRocktype r1 2, .renameRocktype r1 r2]
    w.rname (w.bk 0).rock = r1 ∧ dget w.rocktype r1 = none := by decide +kernel

/-- F3: `delete_rocktype` of a rock type that blocks use -/
theorem F3_delete_rocktype_in_use :
    finding w0 (.deleteRocktype r1) = some .f3 ∧ pre w0 (.deleteRocktype r1) = false ∧
    ¬ Grid.Inv (step w0 (.deleteRocktype r1)).w := by
  refine ⟨by decide +kernel, by decide +kernel, ?_⟩
  intro h
  have := h.b_rock 0 (by decide +kernel)
  revert this; decide +kernel

end Examples

/-! ### adding and embedding grids

`grid + other` and `grid.embed(sub, connection)` take a second grid object.  `inv_step` covers the
operations `.addGrid` / `.embed`, whose second grid is built from a recipe with the public API in the
same heap.  The two theorems below are about the methods themselves (`World.addGrids`,
`World.embed`) for *any* two grids that live in one heap. -/

/-- **Grid addition.**  If both operands are consistent, share no object and no block name (a common
    block name is known finding F1 / argument misuse), and every rock type of the first operand whose
    name also occurs in the second is used by no block of the first (else: known finding F2), then
    `g1 + g2` returns a consistent grid whose blocks and connections are exactly those of the operands;
    no object is modified. -/
theorem grid_addition_consistent {w : World} {g1 g2 : Grid}
    (h1 : Grid.Inv (w.withGrid g1)) (h2 : Grid.Inv (w.withGrid g2))
    (oR : ∀ x ∈ g1.rocktypelist, x ∉ g2.rocktypelist) (oB : ∀ x ∈ g1.blocklist, x ∉ g2.blocklist)
    (oC : ∀ x ∈ g1.connectionlist, x ∉ g2.connectionlist)
    (nB : ∀ x ∈ g1.blocklist, ∀ y ∈ g2.blocklist, w.bname x ≠ w.bname y)
    (nR : ∀ x ∈ g1.rocktypelist, ∀ y ∈ g2.rocktypelist, w.rname x = w.rname y → ∀ b ∈ g1.blocklist, (w.bk b).rock ≠ x) :
    ∃ w', addGrids w g1 g2 = .ok w' ∧ Consistent w' ∧ w'.rocks = w.rocks ∧ w'.blks = w.blks ∧ w'.cons = w.cons ∧
      (∀ y, y ∈ w'.blocklist ↔ y ∈ g1.blocklist ∨ y ∈ g2.blocklist) ∧
      (∀ y, y ∈ w'.connectionlist ↔ y ∈ g1.connectionlist ∨ y ∈ g2.connectionlist) := by
  obtain ⟨g, e, hI, d, _, f⟩ := Proofs.Grid.addGrids_inv h1 h2 oR oB oC nB nR
  exact ⟨w.withGrid g, e, consistent_of_inv hI, rfl, rfl, rfl, d, f⟩

/-- **Embedding.**  Host = the current grid, `sub` a second consistent grid in the same heap (no
    common object; a host rock type whose name occurs in `sub` is unused, else F2), `c` a new
    connection object whose two blocks carry the names of a host block and of a block of `sub`
    (the grids' own objects, or equal-named standalone ones: `embed` re-points the connection by
    name).  `embed` does not raise; whether it returns a grid or `None` (sub-grid too big or a common
    block name: nothing changes), the grid is consistent. -/
theorem embed_consistent {w : World} {sub : Grid} {c x0 x1 : Nat}
    (h1 : Grid.Inv w) (h2 : Grid.Inv (w.withGrid sub))
    (oR : ∀ x ∈ w.rocktypelist, x ∉ sub.rocktypelist) (oB : ∀ x ∈ w.blocklist, x ∉ sub.blocklist)
    (oC : ∀ x ∈ w.connectionlist, x ∉ sub.connectionlist)
    (nR : ∀ x ∈ w.rocktypelist, ∀ y ∈ sub.rocktypelist, w.rname x = w.rname y → ∀ b ∈ w.blocklist, (w.bk b).rock ≠ x)
    (hc : c < w.cons.length) (hc1 : c ∉ w.connectionlist) (hc2 : c ∉ sub.connectionlist)
    (hhost : dget w.block (w.bname (w.cn c).b0) = some x0) (hsb : dget sub.block (w.bname (w.cn c).b1) = some x1) :
    ∃ w' fl, embed w sub c = .ok (w', fl) ∧ Consistent w' ∧ (fl = false → w' = w) := by
  obtain ⟨w', fl, e, hI, _, hf⟩ := Proofs.Grid.embed_spec h1 h2 oR oB oC nR hc hc1 hc2 hhost hsb
  exact ⟨w', fl, e, consistent_of_inv hI, hf⟩

/-! ### the grid refines "finite map name ↦ block, with an order" -/

/-- `block[n]` is the unique listed block named `n`, and `block_index(n)` is its position
    (`None` exactly when no listed block has that name; it never raises) -/
theorem block_index_correct {w : World} (hI : Grid.Inv w) (nm : Name) :
    match blockIndex w nm with
    | .ok (some i) => ∃ b, w.blocklist[i]? = some b ∧ w.bname b = nm ∧ dget w.block nm = some b
    | .ok none => ∀ b ∈ w.blocklist, w.bname b ≠ nm
    | .error _ => False := by
  unfold blockIndex
  rcases hI.blockReg.index_spec nm with ⟨hd, hno⟩ | ⟨b, i, hd, hi, hb, hn⟩
  · simp only [hd]; exact hno
  · simp only [hd, hi]
    exact ⟨b, hb, hn, rfl⟩

theorem connection_index_correct {w : World} (hI : Grid.Inv w) (k : CName) :
    match connectionIndex w k with
    | .ok (some i) => ∃ c, w.connectionlist[i]? = some c ∧ w.ckey c = k
    | .ok none => ∀ c ∈ w.connectionlist, w.ckey c ≠ k
    | .error _ => False := by
  unfold connectionIndex
  rcases hI.conReg.index_spec k with ⟨hd, hno⟩ | ⟨c, i, hd, hi, hc, hk⟩
  · simp only [hd]; exact hno
  · simp only [hd, hi]
    exact ⟨c, hc, hk⟩

/-! ### which operations need a precondition at all

`pre` (Model/GridInv.lean) is `true` for eight operations; for the others it excludes argument
misuse and the known findings F1–F3.  Below: the eight are total; `reorder`'s precondition is
weakened to what the code does not guard itself (`preTotal`); what is left is listed in `needsPre`. -/

/-- the operations that keep the grid consistent for ANY argument: `rename_rocktype` (raises on an
    unknown or clashing name, nothing changed), `clean_rocktypes`, `sort_rocktypes`, `delete_block`
    and `delete_connection` (unknown name: no-op), `demote_block` (unknown name: TypeError after
    the earlier names were moved), `minc` (any parameters, any block selection; raises part-way on
    a name clash), `add_block` of a block that is already the grid's -/
def unconditional : Op → Bool
  | .renameRocktype _ _ | .cleanRocktypes | .sortRocktypes | .deleteBlock _ | .demoteBlock _
  | .deleteConnection _ _ | .minc _ | .againBlock _ => true
  | _ => false

/-- **Total step** for the eight unconditional operations: no hypothesis on the arguments. -/
theorem inv_step_unconditional {w : World} (hI : Grid.Inv w) (op : Op) (h : unconditional op = true) :
    Grid.Inv (step w op).w := by
  apply inv_step hI op
  cases op <;> first | rfl | cases h

example : unconditional (.deleteBlock ['Z']) = true ∧ unconditional (.minc ⟨[1, 3], [1], [1, 1], [], 100⟩) = true := by decide +kernel

/-- any history made of those operations only, from any consistent grid, needs no precondition -/
theorem consistent_after_unconditional_edits {w : World} (hI : Grid.Inv w) (ops : List Op)
    (h : ∀ op ∈ ops, unconditional op = true) : Consistent (run w ops) := by
  suffices Grid.Inv (run w ops) from consistent_of_inv this
  induction ops generalizing w with
  | nil => exact hI
  | cons op r ih =>
    exact ih (inv_step_unconditional hI op (h op (List.mem_cons_self ..))) (fun o ho => h o (List.mem_cons_of_mem _ ho))

example : (∀ op ∈ [Op.deleteBlock Examples.B, .deleteConnection Examples.A Examples.C, .demoteBlock [Examples.A, ['?']],
      .renameRocktype Examples.r1 Examples.r1, .cleanRocktypes], unconditional op = true) ∧
    Grid.Inv Examples.w0 := ⟨by decide +kernel, (checkInv_iff _).mp (by decide +kernel)⟩

/-- `pre`, with the clause for `reorder` reduced to what the code does not guard itself: a block
    name that is not in the grid raises KeyError before anything is touched, a connection pair that
    is in the grid in neither orientation raises (connections reversed so far stay reversed,
    consistently; the lists are not reassigned).  What remains excluded for `reorder` is a list of
    *known* names that is not a permutation (a repeated or omitted name: the code silently
    reassigns the list). -/
def preTotal (w : World) : Op → Bool
  | .reorder bs cs =>
    (bs.isEmpty || (lookupAll w.block bs).isNone || (bs.map (dget w.block)).isPerm (w.blocklist.map some)) &&
    (cs.isEmpty || cs.any (fun k => (resolveCon w k).isNone) || (cs.map (resolveCon w)).isPerm (w.connectionlist.map some))
  | op => pre w op

/-- the operations whose `preTotal` is not constantly true, i.e. that still need a precondition:
    * `addRocktype`, `readdRocktype` — F2 (name registered and in use);
    * `deleteRocktype` — F3 (in use);
    * `addBlock`, `readdBlock` — F1 (name has connections), and the block's rock type must be a
      registered object (the code does not check: the block is added with a foreign rock type,
      clause `rock_registered` false); `addBlockFresh` hands over just such a block, and `pre` is
      constantly false for it;
    * `addConnection`, `readdConnection` — both blocks must be the grid's objects and different (the
      code does not check: `con_joins_grid_blocks` false);
    * `reorder` — all names known but not a permutation;
    * `renameBlocks` — the map is not one-to-one on the current names (excluded by the property text);
    * `addGrid`, `embed`, `embedStandalone` — second grid well formed, no common block name (F1),
      no common rock-type name in use (F2), host/sub blocks exist. -/
def needsPre (op : Op) : Bool := !unconditional op

theorem preTotal_of_unconditional (w : World) (op : Op) (h : needsPre op = false) : preTotal w op = true := by
  cases op <;> first | rfl | cases h

theorem preTotal_of_pre {w : World} {op : Op} (h : pre w op = true) : preTotal w op = true := by
  cases op with
  | reorder bs cs =>
    simp only [pre, Bool.and_eq_true, Bool.or_eq_true] at h
    simp only [preTotal, Bool.and_eq_true, Bool.or_eq_true]
    exact ⟨h.1.elim (fun a => Or.inl (Or.inl a)) Or.inr, h.2.elim (fun a => Or.inl (Or.inl a)) Or.inr⟩
  | _ => exact h

/-- **inv_step, total in the guarded arguments.** -/
theorem inv_step_total {w : World} (hI : Grid.Inv w) (op : Op) (hpre : preTotal w op = true) :
    Grid.Inv (step w op).w := by
  cases op with
  | reorder bs cs =>
    simp only [preTotal, Bool.and_eq_true, Bool.or_eq_true, List.isPerm_iff, Option.isNone_iff_eq_none,
      List.any_eq_true] at hpre
    simp only [step, Proofs.Grid.ofR_w]
    exact (Proofs.Grid.reorder_spec hI bs cs (or_assoc.mp hpre.1) (or_assoc.mp hpre.2)).1
  | _ => exact inv_step hI _ hpre

-- `reorder` with an unknown block name, and with an unknown connection pair after a reversal:
-- outside `pre`, inside `preTotal`
example : pre Examples.w0 (.reorder [Examples.A, ['?']] []) = false ∧
    preTotal Examples.w0 (.reorder [Examples.A, ['?']] []) = true := by decide +kernel
example : pre Examples.w0 (.reorder [] [(Examples.B, Examples.A), (Examples.A, Examples.C)]) = false ∧
    preTotal Examples.w0 (.reorder [] [(Examples.B, Examples.A), (Examples.A, Examples.C)]) = true := by decide +kernel

/-- the error branches of `reorder`, explicitly: (a) an unknown block name raises KeyError and the
    grid is untouched; (b) block names fine, an unknown connection pair: raises, the connection list
    is the old one, the state is consistent -/
theorem reorder_unknown_name_raises {w : World} (bs : List Name) (cs : List CName) :
    (bs.isEmpty = false → lookupAll w.block bs = none →
      step w (.reorder bs cs) = { w := w, exc := some .keyError }) ∧
    (Grid.Inv w → (bs.isEmpty = true ∨ (bs.map (dget w.block)).Perm (w.blocklist.map some)) →
      (∃ k ∈ cs, resolveCon w k = none) →
      (step w (.reorder bs cs)).exc = some .generic ∧ Grid.Inv (step w (.reorder bs cs)).w ∧
      (step w (.reorder bs cs)).w.connectionlist = w.connectionlist) := by
  constructor
  · intro he hl
    simp only [step, Proofs.Grid.reorder_eq, he, hl]
    rfl
  · intro hI hb hc
    -- a permutation of the blocks contains no unknown name
    have hl : bs.isEmpty = true ∨ lookupAll w.block bs ≠ none := hb.imp_right fun hp hn => by
      have := (hp.mem_iff (a := none)).mp (Proofs.Grid.lookupAll_none hn)
      simp at this
    obtain ⟨h1, _, h3⟩ := Proofs.Grid.reorder_spec hI bs cs (hb.imp_right Or.inr) (Or.inr (Or.inl hc))
    obtain ⟨w', e, hcl⟩ := h3 hl hc
    rw [e] at h1
    simp only [step, e]
    exact ⟨rfl, h1, hcl⟩

example : Examples.A :: [['?']] ≠ [] ∧ lookupAll Examples.w0.block [Examples.A, ['?']] = none ∧
    resolveCon Examples.w0 (Examples.A, Examples.C) = none := by decide +kernel

/-- every operation of a history that needs a precondition is applied within `preTotal` -/
def PreAllTotal : World → List Op → Prop
  | _, [] => True
  | w, op :: r => (needsPre op = true → preTotal w op = true) ∧ PreAllTotal (step w op).w r

instance instDecPreAllTotal : (w : World) → (ops : List Op) → Decidable (PreAllTotal w ops)
  | _, [] => isTrue trivial
  | w, op :: r =>
    have := instDecPreAllTotal (step w op).w r
    show Decidable ((needsPre op = true → preTotal w op = true) ∧ PreAllTotal (step w op).w r) from inferInstance

/-- **inv_run, total**: every state reachable that way satisfies the invariant -/
theorem inv_run_total {w : World} (hI : Grid.Inv w) (ops : List Op) (h : PreAllTotal w ops) : Grid.Inv (run w ops) := by
  induction ops generalizing w with
  | nil => exact hI
  | cons op r ih =>
    refine ih (inv_step_total hI op ?_) h.2
    cases hn : needsPre op with
    | true => exact h.1 hn
    | false => exact preTotal_of_unconditional w op hn

/-- **the property, with a precondition only where one is needed**: after any history from the
    empty grid in which the operations of `needsPre` are applied within `preTotal` — every other
    operation with arbitrary arguments — the grid is consistent. -/
theorem consistent_after_any_history_total (ops : List Op) (h : PreAllTotal World.empty ops) :
    Consistent (run World.empty ops) :=
  consistent_of_inv (inv_run_total inv_empty ops h)

/-- it covers every history `consistent_after_any_history` covers -/
theorem preAllTotal_of_preAll {w : World} {ops : List Op} (h : PreAll w ops) : PreAllTotal w ops := by
  induction ops generalizing w with
  | nil => trivial
  | cons op r ih => exact ⟨fun _ => preTotal_of_pre h.1, ih h.2⟩

-- a history with calls on unknown names (delete, demote, reorder, rename_rocktype) that raise or do nothing
example : PreAllTotal World.empty (Examples.base ++ [.deleteBlock ['?'], .demoteBlock [Examples.A, ['?']],
    .reorder [['?']] [], .reorder [] [(Examples.B, Examples.A), (['?'], Examples.A)], .renameRocktype ['?'] Examples.r1,
    .deleteConnection Examples.C Examples.A]) ∧
    ¬ PreAll World.empty (Examples.base ++ [.reorder [['?']] []]) := by decide +kernel

/-- **"each block's record of its connections is exactly the set of connections that mention
    it"**, in the form a user can evaluate on the public attributes: in every reachable state, for
    every block `b` of the grid, `k ∈ b.connection_name` iff `k` is a key of `grid.connection` and
    `b.name` is one of the two names in `k`. -/
theorem connection_record_by_name (ops : List Op) (h : PreAllTotal World.empty ops) :
    let w := run World.empty ops
    ∀ b ∈ w.blocklist, ∀ k : CName,
      k ∈ (w.bk b).conn ↔ (∃ c, dget w.connection k = some c) ∧ (k.1 = w.bname b ∨ k.2 = w.bname b) := by
  intro w b hb k
  have hI : Grid.Inv w := inv_run_total inv_empty ops h
  exact Proofs.Grid.conn_iff_by_name hI hb k

example : (Examples.w0.bk 1).conn = [(Examples.A, Examples.B), (Examples.B, Examples.C)] := by decide +kernel

/-- **Deleting a block deletes exactly its connections.**  On a consistent grid,
    `delete_block(nm)` of a block `b` in the grid returns normally and
    * the block list is the old one without `b`, the lookup loses exactly the key `nm`;
    * the connection list is the old one, in order, without the connections that have `b` as an
      end; the connection lookup loses exactly the keys in `b`'s record;
    * every block's record loses exactly those keys; names, rock types, volumes, centres of all
      block objects, all connection objects and the rock types are untouched;
    * the grid is consistent.
    (`nm` not in the grid: nothing happens.) -/
theorem delete_block_deletes_exactly_its_connections {w : World} (hI : Grid.Inv w) (nm : Name) :
    let o := step w (.deleteBlock nm)
    o.exc = none ∧ Consistent o.w ∧
    match dget w.block nm with
    | none => o.w = w
    | some b =>
      o.w.blocklist = w.blocklist.erase b ∧
      (∀ n, dget o.w.block n = if nm = n then none else dget w.block n) ∧
      o.w.connectionlist = w.connectionlist.filter (fun c => (w.cn c).b0 != b && (w.cn c).b1 != b) ∧
      (∀ k, dget o.w.connection k = if k ∈ (w.bk b).conn then none else dget w.connection k) ∧
      (∀ x ∈ w.blocklist, ∀ k, k ∈ (o.w.bk x).conn ↔ k ∈ (w.bk x).conn ∧ k ∉ (w.bk b).conn) ∧
      (∀ x, (o.w.bk x).name = (w.bk x).name ∧ (o.w.bk x).rock = (w.bk x).rock ∧
            (o.w.bk x).volume = (w.bk x).volume ∧ (o.w.bk x).centre = (w.bk x).centre) ∧
      o.w.cons = w.cons ∧ o.w.rocks = w.rocks ∧ o.w.rocktypelist = w.rocktypelist ∧ o.w.rocktype = w.rocktype := by
  intro o
  cases hd : dget w.block nm with
  | none =>
    have ho : o = { w := w } := by
      show step w (.deleteBlock nm) = _
      simp only [step, World.deleteBlock, hd]; rfl
    rw [ho]
    exact ⟨rfl, consistent_of_inv hI, rfl⟩
  | some b =>
    obtain ⟨w1, h, hI', d⟩ := Proofs.Grid.deleteBlock_exact hI hd
    have ho : o = { w := { w1 with block := ddel w.block nm, blocklist := w.blocklist.erase b } } := by
      show step w (.deleteBlock nm) = _
      simp only [step, h]; rfl
    rw [ho]
    refine ⟨rfl, consistent_of_inv hI', rfl, fun n => Proofs.Grid.dget_ddel _ _ _,
      d.connectionlist.trans (Proofs.Grid.filter_ckey_not_mem_conn hI (hI.bd_sound _ _ hd).1), d.connection, d.conn, fun x => ?_,
      d.frame.cons, d.frame.rocks, d.frame.rocktypelist, d.frame.rocktype⟩
    have e := d.frame.bk x
    exact ⟨(congrArg Blk.name e :), (congrArg Blk.rock e :), (congrArg Blk.volume e :), (congrArg Blk.centre e :)⟩

example : let o := step Examples.w0 (.deleteBlock Examples.B)
    o.w.blocklist = [0, 2] ∧ o.w.connectionlist = [] ∧ (o.w.bk 0).conn = [] ∧ (o.w.bk 2).conn = [] := by decide +kernel

end Props.C08
