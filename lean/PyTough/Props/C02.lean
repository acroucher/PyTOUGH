/-
  C02 — fixed-column records never spill: each field parses back to what was written.

  Property theorems about `Model/Fixed.lean` (model of fixed_format_file.preprocess_specification /
  parse_string / write_values_to_string / fit_value and of Python's `%` formatting on exact values),
  instantiated on the four format tables regenerated from /repo into `Gen/Specs.lean`.
  Proofs: `Proofs/FixedDigits, FixedRound, FixedFmt` (over `FortranReals`, `StrLemmas`), `FixedRecord, FixedTables`.
-/
import PyTough.Model.Fixed
import PyTough.Gen.Specs
import PyTough.Proofs.FixedRecord
import PyTough.Proofs.FixedTables
import PyTough.Proofs.Literals

namespace Props.C02
open Py Model Proofs

/-- number of decimal digits of `n` (`decLen 0 = 1`) -/
def decLen (n : Nat) : Nat := (natDigits n).length

theorem decLen_le_iff {n k : Nat} (hk : 0 < k) : decLen n ≤ k ↔ n < 10 ^ k :=
  natDigits_length_le_iff hk

/-- `'%w.pe' % x` for a real `x = ±n/d`: never shorter than `w`, and exactly
    sign + mantissa (`p+1` digits and the point) + `e±` + an exponent of at least two digits,
    where the exponent is the decimal exponent *after* rounding (`fmtEParts`, carry included). -/
theorem fmtE_length (f : FieldSpec) (ht : f.typ = 'e') (r : Rat) :
    ∃ s, fmtVal f (.real r) = .ok s ∧
      s.length = max f.width
        ((if r < 0 then 1 else 0) + (if f.prec.getD 6 = 0 then 1 else f.prec.getD 6 + 2) + 2 +
          max 2 (decLen (fmtEParts (f.prec.getD 6) r.num.natAbs r.den).2.natAbs)) := by
  refine ⟨_, fmtVal_e_real ht r, ?_⟩
  rw [pad_length, eText_length _ _ _ _ r.den_pos]
  rfl

/-- the printed mantissa of a non-zero value has exactly `p+1` significant digits:
    `10^p ≤ m < 10^(p+1)`, also after the carry `9.9996 → 1.000e+01` -/
theorem fmtE_mantissa_normalised (p n d : Nat) (hn : 0 < n) (hd : 0 < d) :
    10 ^ p ≤ (fmtEParts p n d).1 ∧ (fmtEParts p n d).1 < 10 ^ (p + 1) :=
  fmtEParts_normalised p n d hn hd

/-- `'%w.pf' % x`: sign + integer digits of the rounded value + point and `p` decimals -/
theorem fmtF_length (f : FieldSpec) (ht : f.typ = 'f') (r : Rat) :
    ∃ s, fmtVal f (.real r) = .ok s ∧
      s.length = max f.width
        ((if r < 0 then 1 else 0) +
          decLen (fM (f.prec.getD 6) r.num.natAbs r.den / 10 ^ (f.prec.getD 6)) +
          (if f.prec.getD 6 = 0 then 0 else f.prec.getD 6 + 1)) := by
  refine ⟨_, fmtVal_f_real ht r, ?_⟩
  rw [pad_length, List.length_append, fmtFBody_length, signChars_length, Nat.add_assoc]
  rfl

/-- `'%wd' % i`: sign + decimal digits; so it fits iff `|i| < 10^(w - sign)` (see `decLen_le_iff`) -/
theorem fmtD_length (f : FieldSpec) (ht : f.typ = 'd') (i : Int) :
    ∃ s, fmtVal f (.int i) = .ok s ∧
      s.length = max f.width ((if i < 0 then 1 else 0) + decLen i.natAbs) := by
  refine ⟨_, fmtVal_d_int ht i, ?_⟩
  rw [pad_length, List.length_append, signChars_length]
  rfl

/-- `'%ws' % name` (`'%-ws'`, `'%w.ks'`): the name is never cut to the width -/
theorem fmtS_length (f : FieldSpec) (ht : f.typ = 's') (nm : Str) :
    ∃ s, fmtVal f (.str nm) = .ok s ∧ s.length = max f.width (strTrunc f.prec nm).length :=
  ⟨_, fmtVal_s_str ht nm, pad_length _ _ _⟩

-- non-vacuity / the cases the property text names
def e10_4 : FieldSpec := { raw := "10.4".toList, width := 10, left := false, prec := some 4, typ := 'e' }
def d5 : FieldSpec := { raw := "5".toList, width := 5, left := false, prec := none, typ := 'd' }
def s5 : FieldSpec := { raw := "5".toList, width := 5, left := false, prec := none, typ := 's' }
example : parseSpec "10.4e".toList = .ok e10_4 := by unfold e10_4; decide_lits
example : fmtVal e10_4 (.real (-2600)) = .ok "-2.6000e+03".toList := by unfold e10_4; decide_lits   -- 11 columns
example : fmtVal e10_4 (.real 2600) = .ok "2.6000e+03".toList := by unfold e10_4; decide_lits
example : (fmtEParts 4 999996 100000) = (10000, 1) := by decide +kernel                  -- 9.99996 → 1.0000e+01

/-- **No field is ever wider or narrower than its columns**: whatever `write_values_to_string`
    puts in a field has exactly the field's width, and it is one of: blanks (absent value / `x`
    field), the correctly formatted value, or — for a real that does not fit — the same value
    formatted with fewer decimals (`Written.reduced`).  Otherwise the write raises. -/
theorem written_field_exact_width {f : FieldSpec} {v : Val} {s : Str} (h : writeField f v = .ok s) :
    s.length = f.width ∧ Written f v s :=
  writeField_ok h

/-- the reduced precision chosen by the guard is the largest one that fits -/
theorem reduced_precision_is_maximal {f : FieldSpec} {v : Val} {s : Str} (h : fitValue f v = .ok s) :
    (f.typ = 'e' ∨ f.typ = 'f' ∨ f.typ = 'g') ∧ s.length ≤ f.width ∧
    ∃ p q, f.prec = some p ∧ q < p ∧ fmtVal (atPrec f q) v = .ok s ∧
      ∀ q', q < q' → q' < p → ∀ t, fmtVal (atPrec f q') v = .ok t → f.width < t.length :=
  fitValue_ok h

/-- a write raises only if `%` itself rejects the value (wrong type) or the formatted value is
    wider than the field -/
theorem fails_only_when_too_wide {f : FieldSpec} {v : Val} {e : Exc} (h : writeField f v = .error e) :
    fmtVal f v = .error e ∨ ∃ t, fmtVal f v = .ok t ∧ f.width < t.length := by
  rcases writeField_error h with hf | ⟨t, hf, hw, _⟩
  · exact Or.inl hf
  · exact Or.inr ⟨t, hf, hw⟩

/-- … and in a well-formed `%e` field (all of the tables', see `all_tables_wf`) a real is rejected
    only with `ValueError` and only when it is too wide at every precision down to 0 -/
theorem fails_only_when_unrepresentable {f : FieldSpec} (hwf : FieldWF f) (ht : f.typ = 'e') (r : Rat)
    {e : Exc} (h : writeField f (.real r) = .error e) :
    e = .valueError ∧ ∀ q, q ≤ f.prec.getD 6 → f.width <
      (pad false f.width (signChars (decide (r < 0)) ++ fmtEBody q r.num.natAbs r.den)).length := by
  obtain ⟨p, hp, _, hdot⟩ := hwf.real_prec (Or.inl ht)
  have hall : ∀ q, fmtVal (atPrec f q) (.real r) =
      .ok (pad false f.width (signChars (decide (r < 0)) ++ fmtEBody q r.num.natAbs r.den)) := fun q =>
    fmtVal_e_real (f := atPrec f q) ht r
  -- `%` accepts the real at every precision, so the full text is too wide and `fit_value` found no smaller precision that fits
  rw [hp, Option.getD_some]
  rcases writeField_error h with hf | ⟨t, hf, hwide, hfit⟩
  · rw [fmtVal_e_real ht r] at hf; cases hf
  · rw [fmtVal_e_real ht r, hp] at hf
    cases hf
    rcases fitValue_error (Or.inl ht) hdot hp hfit with ⟨q, _, hq⟩ | ⟨h1, h2⟩
    · rw [hall q] at hq; cases hq
    · refine ⟨h1, fun q hq => ?_⟩
      by_cases e : q = p
      · rw [e, pad_length]; rwa [pad_length] at hwide
      · exact h2 q (by omega) _ (hall q)

example : writeField e10_4 (.real (-2600)) = .ok "-2.600e+03".toList := by unfold e10_4; decide_lits    -- one decimal fewer
example : writeField e10_4 (.real (mkRat 1 (10 ^ 100))) = .ok "1.000e-100".toList := by unfold e10_4; decide_lits
example : writeField d5 (.int 100000) = .error .valueError := by unfold d5; decide_lits               -- fails loudly
example : writeField s5 (.str "abcdef".toList) = .error .valueError := by unfold s5; decide_lits

/-- **No silent spill.**  For every list of field specifications and every list of values,
    `write_values_to_string` either raises or returns a line that is the concatenation of one
    text per (value, field) pair, each exactly as wide as its field and each `Written` (blank,
    full precision, or reduced precision of that one value).  In particular the line has exactly
    Σ widths characters. -/
theorem no_silent_spill (fs : List FieldSpec) (vals : List Val) :
    (∃ e, writeValues fs vals = .error e) ∨
    (∃ line strs, writeValues fs vals = .ok line ∧ line = strs.flatten ∧
      line.length = widthSum (fs.take vals.length) ∧
      All2 (fun (vf : Val × FieldSpec) s => s.length = vf.2.width ∧ Written vf.2 vf.1 s) (vals.zip fs) strs) := by
  cases h : writeValues fs vals with
  | error e => exact Or.inl ⟨e, rfl⟩
  | ok line =>
    right
    obtain ⟨strs, h1, h2⟩ := writeValues_ok_iff.mp h
    exact ⟨line, strs, rfl, h2, writeValues_length h, h1.imp fun _ _ _ hab => writeField_ok hab⟩

/-- a record with one value per field fills exactly the record's columns -/
theorem full_record_length {fs : List FieldSpec} {vals : List Val} {line : Str}
    (h : writeValues fs vals = .ok line) (hl : vals.length = fs.length) : line.length = widthSum fs := by
  rw [writeValues_length h, hl, List.take_length]

/-- the model's `line_spec` gives the field after `fs₁` the columns `[Σ widths fs₁, + width)` -/
theorem columns_of_field (fs₁ : List FieldSpec) (f : FieldSpec) (fs₂ : List FieldSpec) :
    (lineSpec (fs₁ ++ f :: fs₂))[fs₁.length]? = some ((widthSum fs₁, widthSum fs₁ + f.width), f.typ) := by
  rw [lineSpec_split]
  have : (lineSpec fs₁).length = fs₁.length := lineSpec_go_length _ _
  rw [← this]; simp

/-- the columns of each field of a written line hold exactly that field's text -/
theorem written_field_in_own_columns {fs₁ : List FieldSpec} {f : FieldSpec} {fs₂ : List FieldSpec}
    {vs₁ : List Val} {v : Val} {vs₂ : List Val} {line : Str}
    (h : writeValues (fs₁ ++ f :: fs₂) (vs₁ ++ v :: vs₂) = .ok line) (hl : vs₁.length = fs₁.length) :
    ∃ s, writeField f v = .ok s ∧ s.length = f.width ∧
      slice line (widthSum fs₁) (widthSum fs₁ + f.width) = s := by
  obtain ⟨strs, h1, rfl⟩ := writeValues_ok_iff.mp h
  rw [List.zip_append hl] at h1
  obtain ⟨m₁, m₂, rfl, ha, hb⟩ := h1.append_inv
  simp only [List.zip_cons_cons] at hb
  cases hb with
  | cons hs t =>
    rename_i s ss
    have hw := written_widths ha
    rw [hl, List.take_length] at hw
    have hlen := flatten_length_of_widths hw
    have hsl := (writeField_ok hs).1
    refine ⟨s, hs, hsl, ?_⟩
    rw [List.flatten_append, List.flatten_cons, ← List.append_assoc, ← hlen, ← hsl]
    exact slice_mid _ _ _

/-- the value `parse_string` returns for a field depends only on that field's own columns -/
theorem parse_depends_only_on_own_columns {rf : ReadFn} {fs₁ : List FieldSpec} {f : FieldSpec}
    {fs₂ : List FieldSpec} {line : Str} {out : List PVal}
    (h : parseString rf (fs₁ ++ f :: fs₂) line = .ok out) :
    ∃ x, out[fs₁.length]? = some x ∧
      readField rf f.typ (slice line (widthSum fs₁) (widthSum fs₁ + f.width)) = .ok x := by
  rw [parseString_eq, lineSpec_split] at h
  obtain ⟨o₁, o₂, rfl, ha, hb⟩ := ((mapM_ok_iff _ _ _).mp h).append_inv
  cases hb with
  | cons hx t =>
    rename_i x os
    refine ⟨x, ?_, hx⟩
    have : o₁.length = fs₁.length := by
      rw [← ha.length_eq]; exact lineSpec_go_length _ _
    rw [← this]
    simp

/-- **Write then parse, field by field**: for any record, any position in it and either
    conversion dictionary, the value `parse_string` returns at that position is the reading of
    the text that `write_values_to_string` produced for *that* value — never of a neighbour's. -/
theorem write_then_parse_field {rf : ReadFn} {fs₁ : List FieldSpec} {f : FieldSpec} {fs₂ : List FieldSpec}
    {vs₁ : List Val} {v : Val} {vs₂ : List Val} {line : Str} {out : List PVal}
    (hw : writeValues (fs₁ ++ f :: fs₂) (vs₁ ++ v :: vs₂) = .ok line) (hl : vs₁.length = fs₁.length)
    (hp : parseString rf (fs₁ ++ f :: fs₂) line = .ok out) :
    ∃ s x, writeField f v = .ok s ∧ out[fs₁.length]? = some x ∧ readField rf f.typ s = .ok x := by
  obtain ⟨s, h1, _, h3⟩ := written_field_in_own_columns hw hl
  obtain ⟨x, h4, h5⟩ := parse_depends_only_on_own_columns hp
  rw [h3] at h5
  exact ⟨s, x, h1, h4, h5⟩

/-- the whole written record parses as the field-wise reading of each field's own text
    (a trailing newline or anything else after the record does not matter) -/
theorem parse_written_record {rf : ReadFn} {fs : List FieldSpec} {vals : List Val} {line : Str}
    (h : writeValues fs vals = .ok line) (hl : vals.length = fs.length) (tail : Str) :
    ∃ strs, line = strs.flatten ∧ All2 (fun (f : FieldSpec) (s : Str) => s.length = f.width) fs strs ∧
      parseString rf fs (line ++ tail) =
        (fs.zip strs).mapM (fun (p : FieldSpec × Str) => readField rf p.1.typ p.2) := by
  obtain ⟨strs, h1, rfl⟩ := writeValues_ok_iff.mp h
  have hw := written_widths h1
  rw [hl, List.take_length] at hw
  exact ⟨strs, rfl, hw, parse_complete hw tail⟩

/-- reals in `%e` fields: "to the printed digits" — the value rounded (half-even, see
    `fmtE_nearest`) to `q+1` significant digits, `q` = the field's precision, or a smaller one when
    the guard had to reduce it -/
theorem roundtrip_real_e (rf : ReadFn) {f : FieldSpec} (ht : f.typ = 'e') (r : Rat) {s : Str}
    (h : writeField f (.real r) = .ok s) :
    ∃ q, q ≤ f.prec.getD 6 ∧ readField rf 'e' s =
      .ok (.flt (.fin (decide (r < 0)) (fmtEParts q r.num.natAbs r.den).1
        ((fmtEParts q r.num.natAbs r.den).2 - q))) :=
  roundtrip_e_real rf ht r h

theorem roundtrip_int_in_real_field (rf : ReadFn) {f : FieldSpec} (ht : f.typ = 'e') (i : Int) {s : Str}
    (h : writeField f (.int i) = .ok s) :
    ∃ q, q ≤ f.prec.getD 6 ∧ readField rf 'e' s =
      .ok (.flt (.fin (decide (i < 0)) (fmtEParts q i.natAbs 1).1 ((fmtEParts q i.natAbs 1).2 - q))) :=
  roundtrip_e_int rf ht i h

/-- reals in `%f` fields: the value rounded to `q` decimals -/
theorem roundtrip_real_f (rf : ReadFn) {f : FieldSpec} (ht : f.typ = 'f') (r : Rat) {s : Str}
    (h : writeField f (.real r) = .ok s) :
    ∃ q, q ≤ f.prec.getD 6 ∧ readField rf 'f' s =
      .ok (.flt (.fin (decide (r < 0)) (fM q r.num.natAbs r.den) (-(q : Int)))) :=
  roundtrip_f_real rf ht r h

/-- the mantissa/exponent pair printed by `%e` is a nearest `p+1`-digit decimal:
    `|n/d − m·10^(e−p)| ≤ ½·10^(e−p)`.  `NearAt n d m t` states this without division:
    `|n − m·d·10^t| ≤ d·10^t/2` for `t ≥ 0` and `|n·10^(−t) − m·d| ≤ d/2` for `t < 0`. -/
theorem fmtE_nearest (p n d : Nat) (hn : 0 < n) (hd : 0 < d) :
    NearAt n d (fmtEParts p n d).1 ((fmtEParts p n d).2 - p) := by
  have h0 := eM0_near p n d hd
  rcases fmtEParts_cases p n d hn hd with ⟨e, _⟩ | ⟨e, hc⟩ <;> rw [e]
  · exact h0
  · -- the carry: `10·10^p` at the last place `t` is `10^p` at the place `t + 1`
    rw [hc] at h0
    have := nearAt_carry h0
    rwa [show log10Floor n d - (p : Int) + 1 = log10Floor n d + 1 - p by omega] at this

example : NearAt 5 2 3 (-1) ↔ (2 * (5 * 10) ≤ 2 * (3 * 2) + 2 ∧ 2 * (3 * 2) ≤ 2 * (5 * 10) + 2) := by
  simp [NearAt, Near]

theorem roundtrip_int (rf : ReadFn) {f : FieldSpec} (ht : f.typ = 'd') (i : Int) {s : Str}
    (h : writeField f (.int i) = .ok s) : readField rf 'd' s = .ok (.int i) :=
  roundtrip_d_int rf ht i h

/-- names: exactly the written text, i.e. the name padded to the field width (right-justified,
    or left-justified for a `-` format) -/
theorem roundtrip_name (rf : ReadFn) {f : FieldSpec} (ht : f.typ = 's') (nm : Str) {s : Str}
    (h : writeField f (.str nm) = .ok s) (hnl : '\n' ∉ nm) :
    (strTrunc f.prec nm).length ≤ f.width ∧
      readField rf 's' s = .ok (.str (pad f.left f.width (strTrunc f.prec nm))) := by
  obtain ⟨h1, h2, h3⟩ := roundtrip_s_str rf ht nm h
  refine ⟨h2, ?_⟩
  rw [h3, h1, rstripNewline_of_last]
  intro c hc e
  rcases mem_pad (List.mem_of_getLast? hc) with h | h
  · rw [h] at e; exact absurd e (by decide)
  · rw [e] at h; exact hnl (mem_strTrunc h)

/-- a name of exactly the field width comes back unchanged -/
theorem roundtrip_name_full_width (rf : ReadFn) {f : FieldSpec} (ht : f.typ = 's') (hp : f.prec = none)
    (nm : Str) (hw : nm.length = f.width) (hnl : '\n' ∉ nm) :
    writeField f (.str nm) = .ok nm ∧ readField rf 's' nm = .ok (.str nm) :=
  roundtrip_s_full rf ht hp hw hnl

/-- an absent value (`None`) in any position, and every `x` field, is written as blanks and
    reads back as `None` in every numeric field -/
theorem roundtrip_absent (rf : ReadFn) {f : FieldSpec} {v : Val} (hv : v = .none ∨ f.typ = 'x') :
    writeField f v = .ok (List.replicate f.width ' ') ∧
      (f.typ = 'd' ∨ f.typ = 'e' ∨ f.typ = 'f' ∨ f.typ = 'g' ∨ f.typ = 'x' →
        readField rf f.typ (List.replicate f.width ' ') = .ok .none) :=
  Proofs.roundtrip_absent rf hv

/-- Parsing a line that stops inside (or at the start of) some field: the complete fields give
    their own values, the cut field is read from what is left of it, and every later field is read
    from the empty string — `None` for numbers and `x`, `""` for names (`read_missing`). -/
theorem parse_short_line {rf : ReadFn} {fs₁ : List FieldSpec} {strs : List Str}
    (hw : All2 (fun (f : FieldSpec) (s : Str) => s.length = f.width) fs₁ strs)
    (f : FieldSpec) (fs₂ : List FieldSpec) (part : Str) (hp : part.length ≤ f.width) :
    parseString rf (fs₁ ++ f :: fs₂) (strs.flatten ++ part) = (do
      let a ← (fs₁.zip strs).mapM (fun (p : FieldSpec × Str) => readField rf p.1.typ p.2)
      let x ← readField rf f.typ part
      let b ← fs₂.mapM (fun g => readField rf g.typ [])
      pure (a ++ x :: b)) := by
  rw [parseString_texts rf hw, parseString_cons, List.take_of_length_le hp, List.drop_of_length_le hp,
    parseString_empty]
  simp

theorem read_missing (rf : ReadFn) (typ : Char) :
    (typ = 'd' ∨ typ = 'e' ∨ typ = 'f' ∨ typ = 'g' ∨ typ = 'x' → readField rf typ [] = .ok .none) ∧
    (typ = 's' → readField rf typ [] = .ok (.str [])) := by
  constructor
  · intro h; exact read_blank rf h 0
  · intro h; subst h; rfl

/-- For every record kind of the t2data, extra-precision, t2incon and mulgrid tables as they are
    in /repo (`Gen/Specs.lean`, regenerated on every run): the specifications parse, the model's
    `preprocess_specification` yields exactly the `line_spec` and `spec_width` the real one
    computed, there is one name per spec, and every field is well formed (positive width; type in
    `s d x e f`; reals carry a precision smaller than the width; only names are left-justified).
    Evaluated as the Boolean `sectionOK` of `Proofs/FixedTables.lean` (`all_tables_ok`). -/
theorem all_tables_wf : ∀ t ∈ Gen.Specs.tables, ∀ sec ∈ t.sections,
    ∃ fs, parseSpecs (sec.specs.map String.toList) = .ok fs ∧
      (lineSpec fs).map (fun sp => ((sp.1.1 : Int), (sp.1.2 : Int), sp.2)) = sec.lineSpec ∧
      sec.names.length = sec.specs.length ∧
      ∀ f ∈ fs, FieldWF f ∧
        (t.specWidth.map (fun kw => (kw.1.toList, kw.2))).lookup f.raw = some (f.width : Int) := by
  intro t ht sec hsec
  have h1 := List.all_eq_true.mp all_tables_ok t ht
  have h2 := List.all_eq_true.mp h1 sec hsec
  unfold sectionOK at h2
  cases hp : parseSpecs (sec.specs.map String.toList) with
  | error e => rw [hp] at h2; cases h2
  | ok fs =>
    rw [hp] at h2
    simp only [Bool.and_eq_true, decide_eq_true_eq, List.all_eq_true] at h2
    obtain ⟨⟨⟨ha, hb⟩, hc⟩, hd⟩ := h2
    exact ⟨fs, rfl, hb, ha, fun f hf => ⟨hc f hf, by simpa using hd f hf⟩⟩

example : (Gen.Specs.tables.map (fun t => (t.sections.map (fun s => s.specs.length)).sum)).sum > 300 := by decide +kernel

end Props.C02
