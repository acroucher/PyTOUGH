/-
  C16 — Fortran-written numbers are read with Fortran's meaning, and never raise.
  Property theorems about `Model.fortranFloat` / `Model.fortranInt`
  (model of fixed_format_file.fortran_float / fortran_int).
-/
import PyTough.Model.Fortran
import PyTough.Proofs.FortranReals
import PyTough.Proofs.Literals

namespace Props.C16
open Py Model

/-- For **every** string, `fortran_float` returns normally (a value, nan, or the
    blank value): no `ValueError`, and in particular no `IndexError` from `s[0]`. -/
theorem fortran_float_total (s : Str) : ∃ o, fortranFloat s = .ok o :=
  Proofs.fortranFloat_total s

theorem fortran_int_total (s : Str) : ∃ o, fortranInt s = .ok o :=
  Proofs.fortranInt_total s

/-! ### anything Python's own conversion accepts gives the same result -/

theorem float_agrees_with_python (s : Str) (v : FVal) (h : pyFloat s = .ok v) :
    fortranFloat s = .ok (.val v) :=
  Proofs.fortranFloat_ok h

theorem int_agrees_with_python (s : Str) (v : Int) (h : pyInt s = .ok v) :
    fortranInt s = .ok (.val (some v)) :=
  Proofs.fortranInt_ok h

/-! ### a blank field yields the caller's blank value -/

theorem blank_gives_blank_value_float (s : Str) (h : ∀ c ∈ s, isStrWs c = true) :
    fortranFloat s = .ok .blank :=
  Proofs.fortranFloat_blank s h

theorem blank_gives_blank_value_int (s : Str) (h : ∀ c ∈ s, isStrWs c = true) :
    fortranInt s = .ok .blank :=
  Proofs.fortranInt_blank s h

example : fortranFloat [] = .ok .blank := by decide +kernel
example : fortranFloat "   \n".toList = .ok .blank := by decide_lits
example : fortranInt " \t ".toList = .ok .blank := by decide_lits

/-- If `s` contains any character that is neither whitespace nor in the number
    alphabet (`0-9 + - . _`, `e d` and the letters of `inf`/`infinity`/`nan`, any
    case), `fortran_float` returns not-a-number. -/
theorem bad_character_gives_nan (s : Str) (c : Char) (hc : c ∈ s)
    (hws : isStrWs c = false) (hbad : Proofs.floatAlpha c = false) :
    fortranFloat s = .ok (.val .nan) := by
  open Proofs in
  have hnw := isNumWs_of_isStrWs_false hws
  have hbad' : floatAlpha (lowerChar c) = false := by rw [floatAlpha_lowerChar]; exact hbad
  have hws' : isNumWs (lowerChar c) = false := by rw [isNumWs_lowerChar]; exact hnw
  have hd : lowerChar c ≠ 'd' := ne_of_apply_ne floatAlpha (by rw [hbad']; decide +kernel)
  have hm : lowerChar c ∈ ffS2 s := mem_ffS2 hc hws hd
  rcases fortranFloat_cases s with ⟨v, hp, _⟩ | ⟨_, ⟨h0, _⟩ | ⟨a, tl, h2, h⟩⟩
  · rw [pyFloat_bad hc hnw hbad] at hp; cases hp
  · have := strip_ne_nil hc hws; rw [h0] at this; cases this
  · rw [h, firstFloat_bad hws' hbad']
    rw [h2] at hm
    -- the bad character is neither of the two that the later texts replace
    have key : ∀ (x : Char) (r : Str), lowerChar c ≠ x → lowerChar c ∈ a :: replaceChar x r tl := by
      intro x r hx
      rcases List.mem_cons.mp hm with e | h'
      · rw [e]; exact List.mem_cons_self
      · exact List.mem_cons_of_mem _ (mem_replaceChar_of_ne h' hx)
    intro t ht
    simp only [ffTexts, List.mem_cons, List.not_mem_nil, or_false] at ht
    rcases ht with rfl | rfl | rfl
    · exact hm
    · exact key '-' _ (ne_of_apply_ne floatAlpha (by rw [hbad']; decide +kernel))
    · exact key '+' _ (ne_of_apply_ne floatAlpha (by rw [hbad']; decide +kernel))

/-- For integers the alphabet is `0-9 + - _`; anything else gives `None`. -/
theorem bad_character_gives_none (s : Str) (c : Char) (hc : c ∈ s)
    (hws : isStrWs c = false) (hbad : Proofs.intAlpha c = false) :
    fortranInt s = .ok (.val none) := by
  open Proofs in
  have hnw := isNumWs_of_isStrWs_false hws
  rw [fortranInt_err (pyInt_bad hc hnw hbad), strip_ne_nil hc hws]
  simp only [Bool.false_eq_true, if_false]
  have hm : c ∈ replaceChar ' ' [] (strip s) :=
    mem_replaceChar_of_ne (mem_stripBy_of_not hc hws) (ne_of_apply_ne isStrWs (by rw [hws]; decide))
  rw [pyInt_bad hm hnw hbad]

-- the asterisks Fortran prints on overflow
example : isStrWs '*' = false ∧ Proofs.floatAlpha '*' = false ∧ Proofs.intAlpha '*' = false := by decide +kernel
example : fortranFloat "**********".toList = .ok (.val .nan) := by decide_lits
example : fortranInt "*****".toList = .ok (.val none) := by decide_lits

/-- `FReal` (in `Proofs/FortranReals.lean`) describes a printed real: sign (none, `+`
    or `-`), integer digits, optional point and fraction digits (not both digit
    runs empty), and an exponent that is absent, or has a letter `E e D d` with
    sign `+`/`-`/none and ≥ 1 digits, or has **no letter** but an explicit sign.
    `s` is any text whose non-blank characters are that rendering: arbitrary
    leading, trailing and embedded blanks (so a blank instead of `+` in the
    exponent is included).  The reader returns exactly the decimal printed. -/
theorem reads_fortran_reals (r : Proofs.FReal) (hr : r.WF) (s : Str)
    (hs : s.filter (· != ' ') = r.render) :
    fortranFloat s = .ok (.val r.value) :=
  Proofs.fortranFloat_reads r hr s hs

-- the cascade levels singled out in the property text
example : fortranFloat "1.0+100".toList = .ok (.val (.fin false 10 99)) := by decide_lits
example : fortranFloat "-1.0-100".toList = .ok (.val (.fin true 10 (-101))) := by decide_lits
example : fortranFloat "-1.0+100".toList = .ok (.val (.fin true 10 99)) := by decide_lits
example : fortranFloat " 0.1234D-05".toList = .ok (.val (.fin false 1234 (-9))) := by decide_lits
example : fortranFloat "  .5E 02 ".toList = .ok (.val (.fin false 5 1)) := by decide_lits

/-- integers: optional sign, digits, arbitrary blank padding and embedded blanks -/
theorem reads_fortran_ints (neg plus : Bool) (ds : Str) (hd : ds ≠ []) (hdig : ∀ c ∈ ds, isDigit c = true)
    (s : Str) (hs : s.filter (· != ' ') = Proofs.renderInt neg plus ds) :
    fortranInt s = .ok (.val (some (if neg then -(digitsVal ds : Int) else digitsVal ds))) :=
  Proofs.fortranInt_reads neg plus ds hd hdig s hs

example : fortranInt "  - 1 2 ".toList = .ok (.val (some (-12))) := by decide_lits

end Props.C16
