/-
  C07 — what a listing shows at a given time does not depend on how you navigated there.

  The theorems are about the navigation machine of Model/ListingNav.lean (first / last / next / prev, the
  index, time and step setters, history), for *every* reader `N : Nav V E` — in particular for the
  whole-file model `Model.Listing.fileNav` that the harness drives against the real t2listing on every run.
  `view` is any observation of the reader state (index, time, step, all tables).
-/
import PyTough.Model.ListingNav
import PyTough.Proofs.ListingNav
import PyTough.Proofs.ListingSeriesNavFrame
import PyTough.Proofs.ListingSeriesCovers
import PyTough.Proofs.ListingSeries2Nav

namespace Props.C07
open Py Model.Nav Proofs.Nav

variable {V E W T : Type}

/-! ### after any sequence of actions the reader shows what a fresh reader at that index shows -/

/-- Hypotheses: `LoadSetsIndex` (re-reading result `j` leaves the index at `j`) and `Covers` (what re-reading
    result `j` shows does not depend on what was shown before: every cell is overwritten).  Conclusion: for
    every finite sequence of successful actions, started from an opened reader `v0` (`__init__` ends with
    `first()`, so `v0` is itself the result of a load), the final state `s` shows exactly what `v0` shows when it
    is positioned directly at `s`'s index — and that positioning succeeds. -/
theorem nav_view_eq_fresh (N : Nav V E) (view : V → W) (hcov : Covers N view) (hl : LoadSetsIndex N)
    (lt : T → T → Bool) (dist : T → T → T) (times : List T) (steps : List Int)
    (u v0 s : V) (hopen : first N u = .ok v0)
    (ops : List (Op T)) (hrun : run N lt dist times steps ops v0 = .ok s) :
    ∃ f, setIndex N (N.idx s) v0 = .ok f ∧ view f = view s ∧ N.idx f = N.idx s :=
  Proofs.NavOn.nav_view_eq_fresh_on (fun _ => True) N view (fun _ _ _ _ _ _ => trivial) (fun j v v' _ _ _ => hcov j v v') hl
    lt dist times steps u v0 s trivial hopen ops hrun

theorem index_in_range (N : Nav V E) (hl : LoadSetsIndex N)
    (lt : T → T → Bool) (dist : T → T → T) (times : List T) (steps : List Int)
    (u v0 s : V) (hopen : first N u = .ok v0)
    (ops : List (Op T)) (hrun : run N lt dist times steps ops v0 = .ok s) :
    0 ≤ N.idx s ∧ N.idx s < N.n := by
  have hp : Proofs.NavOn.PreservedBy (fun _ => True) N := fun _ _ _ _ _ _ => trivial
  obtain ⟨_, j, w, hj, _, hw⟩ := Proofs.NavOn.run_loadedOn N hp lt dist times steps ops v0 s
    (Proofs.NavOn.setIndex_loadedOn hp trivial hopen) hrun
  rw [hl _ _ _ hw]; omega

-- a reader for the examples: the state is (index, a cell); re-reading result j shows the cell 10·j
def exNav : Nav (Int × Nat) Unit := { n := 3, idx := (·.1), load := fun j _ => .ok (j, 10 * j), indexError := () }
example : LoadSetsIndex exNav := by intro j v v' h; cases h; rfl
example : Covers exNav (fun v => v) := by intro j v v'; rfl
example : run exNav (fun (a b : Int) => decide (a < b)) distInt [0, 5, 9] [1, 2, 3]
    [.last, .prev, .time 6, .next, .next, .index (-3), .step 2] (0, 0) = .ok (1, 10) := by decide +kernel

def staleNav : Nav (Int × Nat) Unit :=
  { n := 3, idx := (·.1), load := fun j v => .ok (j, if j = 1 then v.2 else 100 * (j + 1)), indexError := () }
/-- without `Covers` `nav_view_eq_fresh` is false: result 1 of `staleNav` leaves the cell untouched (rows missing at a result
    time do this to the real reader) -/
theorem stale_cells_witness :
    let lt := fun (a b : Int) => decide (a < b)
    ∃ v0 s f, first staleNav (0, 0) = .ok v0 ∧
      run staleNav lt distInt [] [] [.index 2, .index 1] v0 = .ok s ∧
      setIndex staleNav (staleNav.idx s) v0 = .ok f ∧ f ≠ s :=
  ⟨(0, 100), (1, 300), (1, 100), by decide +kernel, by decide +kernel, by decide +kernel, by decide +kernel⟩

/-! ### the whole-file reader: `LoadSetsIndex` is a theorem, and `load` looks at the previous state only through the tables

  `Model.Listing.fileNav rd` is the navigation instance of the whole-file model (set_index = seek to `_fullpos[j]`, set
  `_index`, read_tables — every simulator family); it takes from `rd` only the number of results `n`, the states it acts on are
  readers of their own (`u v0 s : Rd` below).  For it the hypothesis `LoadSetsIndex` of the theorems above is proved, so
  the bounds theorems hold for every listing file without any per-file check; of `Covers` what remains per file is only
  whether re-reading overwrites every CELL of every table. -/

open Model.Listing in
/-- For every file and every simulator: first/last/next/prev/index=i all go through `set_index`, and `set_index j` leaves
    `_index = j` — read_tables and every method below it (read_header, read_table_*, skip_table_*, next_table_*, …) never
    assign `_index`. -/
theorem file_load_sets_index (rd : Rd) : LoadSetsIndex (fileNav rd) := by
  intro j v v' h
  simp only [fileNav, StateT.run, Proofs.SeriesNav.loadResult_unfold] at h ⊢
  cases hp : v.fullpos[j]? with
  | none => rw [hp] at h; cases h
  | some p =>
    rw [hp] at h
    split at h
    · rename_i a s' hr
      cases h
      exact (Proofs.SeriesNav.m_readTables j).h _ a _ rfl hr
    · cases h

open Model.Listing in
/-- For every file: what `set_index j` leaves does not depend on the file position, the index, the time or the step the
    reader showed before (it seeks and sets the index first; read_header overwrites time and step before anything reads
    them).  So `Covers` can only fail through table cells that are not overwritten (`stale_cells_witness`) — that part
    genuinely depends on the file (rows missing at a result time) and stays a per-file check. -/
theorem file_load_ignores_cursor_time_step (rd : Rd) (j : Nat) (s : Rd) (p : Pos) (i : Int) (t : FVal) (st : Step) :
    (fileNav rd).load j { s with pos := p, index := i, time := t, step := st } = (fileNav rd).load j s := by
  have h : loadResult j { s with pos := p, index := i, time := t, step := st } = loadResult j s := by
    rw [Proofs.SeriesNav.loadResult_unfold, Proofs.SeriesNav.loadResult_unfold]
    dsimp only
    cases s.fullpos[j]? with
    | none => rfl
    | some q => exact Proofs.SeriesNav.abs_readTables.h { s with pos := q, index := (j : Int) } t st
  dsimp only [fileNav, StateT.run]
  rw [h]

open Model.Listing in
/-- For every file, with NO per-file hypothesis: after any sequence of successful actions on an opened reader the reported
    index lies in `0 ≤ index < n`. -/
theorem file_index_in_range (rd : Rd)
    (lt : T → T → Bool) (dist : T → T → T) (times : List T) (steps : List Int)
    (u v0 s : Rd) (hopen : first (fileNav rd) u = .ok v0)
    (ops : List (Op T)) (hrun : run (fileNav rd) lt dist times steps ops v0 = .ok s) :
    0 ≤ s.index ∧ s.index < rd.fulltimes.size :=
  index_in_range (fileNav rd) (file_load_sets_index rd) lt dist times steps u v0 s hopen ops hrun

/-! `Covers` quantifies over ALL states, which no real file satisfies (two arbitrary states need not belong
    to the same file); the theorems below ask it only of states satisfying an invariant `P` that re-reading preserves.
    `CoversOn P N view`: for `j < n` and `P`-states `v v'`, `(load j v).map view = (load j v').map view`;
    `PreservedBy P N`: a successful `load j` (`j < n`) from a `P`-state gives a `P`-state. -/

open Proofs.NavOn in
/-- `nav_view_eq_fresh` for every reader, under hypotheses a real file can satisfy: `P` holds before `first()`, is preserved by
    every successful re-read, and on `P`-states re-reading shows the same whatever was shown before. -/
theorem nav_view_eq_fresh_on (P : V → Prop) (N : Nav V E) (view : V → W) (hp : PreservedBy P N)
    (hcov : CoversOn P N view) (hl : LoadSetsIndex N)
    (lt : T → T → Bool) (dist : T → T → T) (times : List T) (steps : List Int)
    (u v0 s : V) (hu : P u) (hopen : first N u = .ok v0)
    (ops : List (Op T)) (hrun : run N lt dist times steps ops v0 = .ok s) :
    ∃ f, setIndex N (N.idx s) v0 = .ok f ∧ view f = view s ∧ N.idx f = N.idx s :=
  Proofs.NavOn.nav_view_eq_fresh_on P N view hp hcov hl lt dist times steps u v0 s hu hopen ops hrun

open Model.Listing Proofs.NavOn in
/-- The whole-file reader (every simulator family; `LoadSetsIndex` is proved, not assumed): for any invariant `P` of reader
    states preserved by re-reading and on which re-reading covers, after any sequence of successful actions the reader shows —
    index, time, step, every table cell (`fileView`) — what the opened reader shows positioned directly at that index. -/
theorem file_nav_view_eq_fresh_on (rd : Rd) (P : Rd → Prop) (hp : PreservedBy P (fileNav rd))
    (hcov : CoversOn P (fileNav rd) fileView)
    (lt : T → T → Bool) (dist : T → T → T) (times : List T) (steps : List Int)
    (u v0 s : Rd) (hu : P u) (hopen : first (fileNav rd) u = .ok v0)
    (ops : List (Op T)) (hrun : run (fileNav rd) lt dist times steps ops v0 = .ok s) :
    ∃ f, setIndex (fileNav rd) s.index v0 = .ok f ∧ fileView f = fileView s ∧ f.index = s.index :=
  Proofs.NavOn.nav_view_eq_fresh_on P (fileNav rd) fileView hp hcov (file_load_sets_index rd) lt dist times steps u v0 s hu hopen ops hrun

open Model.Listing Proofs.NavOn in
/-- … with `P` = membership in a finite set `S` of reader states (the orbit of the reader under re-reading): both hypotheses
    are then ONE decidable per-file check `orbitOk` — re-reading any result from a state of `S` lands in `S` and shows the same
    from every state of `S`.  What stays per file is exactly this check (it fails when rows are missing at a result time:
    `stale_cells_witness`). -/
theorem file_nav_view_eq_fresh_orbit (rd : Rd) (S : List Rd) (hS : orbitOk (fileNav rd) fileView S = true)
    (lt : T → T → Bool) (dist : T → T → T) (times : List T) (steps : List Int)
    (u v0 s : Rd) (hu : u ∈ S) (hopen : first (fileNav rd) u = .ok v0)
    (ops : List (Op T)) (hrun : run (fileNav rd) lt dist times steps ops v0 = .ok s) :
    ∃ f, setIndex (fileNav rd) s.index v0 = .ok f ∧ fileView f = fileView s ∧ f.index = s.index :=
  file_nav_view_eq_fresh_on rd (· ∈ S) (orbitOk_spec _ _ S hS).1 (orbitOk_spec _ _ S hS).2 lt dist times steps u v0 s hu hopen ops hrun

-- a two-result AUTOUGH2-style file (title, header line, column header, two rows, closing keyword) and its element table
section fileExample
open Model.Listing
private def exRes (a b c d : String) : List Str := ["title\n".toList, " OUTPUT AFTER 1 TIME STEPS 0.5 SECONDS\n".toList, "x\n".toList,
  "hdr\n".toList, "\n".toList, " ELEM INDEX P T\n".toList, "\n".toList, (" A 1  1  " ++ a ++ " " ++ b ++ "\n").toList,
  (" B 1  2  " ++ c ++ " " ++ d ++ "\n").toList, " EEEEE\n".toList, "\n".toList, "zzz\n".toList]
private def exR1 := exRes "1.5" "2.5" "3.5" "4.5"
private def exR2 := exRes "5.5" "6.5" "7.5" "8.5"
private def exTab : Table := { mkTable [['P'], ['T']] #[["A 1".toList], ["B 1".toList]] 1 false with keyPos := [1], numpos := [some 8] }
private def exRd : Rd := {
  all := exR1 ++ exR2
  isOutputData := false
  pos := ⟨0, exR1 ++ exR2⟩
  fam := Fam.autough2
  allpos := #[⟨0, exR1 ++ exR2⟩, ⟨12, exR2⟩]
  fullpos := #[⟨0, exR1 ++ exR2⟩, ⟨12, exR2⟩]
  short := #[false, false]
  fulltimes := #[zero, zero]
  times := #[zero, zero]
  tables := [("element", exTab)] }
-- (evaluated by the kernel) the reader opens, a sequence of actions runs, and ends at index 1 showing the second result's cells
example : (match first (fileNav exRd) exRd with
  | .ok v0 => (match run (fileNav exRd) (fun (a b : Int) => decide (a < b)) distInt [0, 5] [1, 2] [.last, .prev, .next, .next, .index (-1)] v0 with
     | .ok s => s.index == 1 && (s.tables.map (fun nt => nt.2.data)) == [#[#[.fin false 55 (-1), .fin false 65 (-1)], #[.fin false 75 (-1), .fin false 85 (-1)]]]
     | .error _ => false)
  | .error _ => false) = true := by decide +kernel
-- the hypotheses of file_nav_view_eq_fresh_orbit / _on discharged on this file: S = the reader as given and as left by
-- re-reading result 0 and result 1; `orbitOk` evaluated by the kernel gives PreservedBy and CoversOn for P = (· ∈ S)
private def exAt (j : Nat) : Rd := match (fileNav exRd).load j exRd with | .ok v => v | .error _ => exRd
private theorem exOrbit : Proofs.NavOn.orbitOk (fileNav exRd) Proofs.NavOn.fileView [exRd, exAt 0, exAt 1] = true := by decide +kernel
example : Proofs.NavOn.PreservedBy (· ∈ [exRd, exAt 0, exAt 1]) (fileNav exRd) ∧
    Proofs.NavOn.CoversOn (· ∈ [exRd, exAt 0, exAt 1]) (fileNav exRd) Proofs.NavOn.fileView ∧ exRd ∈ [exRd, exAt 0, exAt 1] :=
  ⟨(Proofs.NavOn.orbitOk_spec _ _ _ exOrbit).1, (Proofs.NavOn.orbitOk_spec _ _ _ exOrbit).2, List.mem_cons_self⟩
end fileExample

/-! ### next and prev report whether they moved and never move past either end -/

theorem next_bounds (N : Nav V E) (hl : LoadSetsIndex N) (v s : V) (b : Bool)
    (hv : 0 ≤ N.idx v ∧ N.idx v < N.n) (h : next N v = .ok (b, s)) :
    (b = true ↔ N.idx v < (N.n : Int) - 1) ∧
    (b = true → N.idx s = N.idx v + 1) ∧ (b = false → s = v) ∧ N.idx s < N.n := by
  unfold next at h
  split at h
  · rename_i hlt
    obtain ⟨rfl, hx⟩ := map_true_ok h
    have e : N.idx s = N.idx v + 1 := by rw [setIndex_idx hl hx]; split <;> omega
    exact ⟨by simp [hlt], fun _ => e, by simp, by omega⟩
  · rename_i hge
    cases h
    exact ⟨by simp [hge], by simp, fun _ => rfl, hv.2⟩

theorem prev_bounds (N : Nav V E) (hl : LoadSetsIndex N) (v s : V) (b : Bool)
    (hv : 0 ≤ N.idx v ∧ N.idx v < N.n) (h : prev N v = .ok (b, s)) :
    (b = true ↔ N.idx v > 0) ∧
    (b = true → N.idx s = N.idx v - 1) ∧ (b = false → s = v) ∧ 0 ≤ N.idx s := by
  unfold prev at h
  split at h
  · rename_i hgt
    obtain ⟨rfl, hx⟩ := map_true_ok h
    have e : N.idx s = N.idx v - 1 := by rw [setIndex_idx hl hx]; split <;> omega
    exact ⟨by simp [hgt], fun _ => e, by simp, by omega⟩
  · rename_i hle
    cases h
    exact ⟨by simp [hle], by simp, fun _ => rfl, hv.1⟩

example : next exNav (2, 20) = .ok (false, (2, 20)) ∧ next exNav (1, 10) = .ok (true, (2, 20)) ∧
    prev exNav (0, 0) = .ok (false, (0, 0)) := by decide +kernel

/-! ### a negative index counts from the end; an index outside `-n ≤ i < n` is an IndexError and changes nothing -/

theorem negative_index_normalised (N : Nav V E) (hl : LoadSetsIndex N) (k : Nat) (v s : V)
    (hk : 1 ≤ k ∧ k ≤ N.n) (h : setIndex N (-(k : Int)) v = .ok s) : N.idx s = (N.n : Int) - k := by
  rw [setIndex_idx hl h]; split <;> omega

theorem index_out_of_range (N : Nav V E) (i : Int) (v : V) (h : i < -(N.n : Int) ∨ i ≥ N.n) :
    setIndex N i v = .error N.indexError := by
  unfold setIndex; simp only; rw [if_pos h]

example : setIndex exNav (-1) (0, 0) = .ok (2, 20) ∧ setIndex exNav 3 (0, 0) = .error () ∧ setIndex exNav (-4) (0, 0) = .error () := by decide +kernel

/-! ### setting a time or a step selects a result nearest to it -/

/-- `listing.time = t` over exact numbers: for result times in non-decreasing order the index reached holds a time
    at minimal distance from `t` (the clamps below the first and above the last time are nearest too; that it is the
    FIRST such index is said by `file_action_is_set_index`). -/
theorem set_time_nearest (N : Nav V E) (hl : LoadSetsIndex N) (times : List Rat) (t : Rat) (v s : V)
    (hn : times.length = N.n)
    (hsorted : times.Pairwise (fun a b => decide (b < a) = false))
    (h : setNearest N (fun a b => decide (a < b)) distRat times t v = .ok s) :
    ∃ tj, times[(N.idx s).toNat]? = some tj ∧ 0 ≤ N.idx s ∧
      ∀ (k : Nat) (tk : Rat), times[k]? = some tk → ¬ (distRat tk t < distRat tj t) := by
  obtain ⟨tj, h1, h2, h3⟩ := setNearest_nearest _ _ nearestOrder_rat N hl times t v s hn hsorted h
  exact ⟨tj, h1, h2, fun k tk hk => by simpa using h3 k tk hk⟩

theorem set_step_nearest (N : Nav V E) (hl : LoadSetsIndex N) (steps : List Int) (x : Int) (v s : V)
    (hn : steps.length = N.n)
    (hsorted : steps.Pairwise (fun a b => decide (b < a) = false))
    (h : setNearest N (fun a b => decide (a < b)) distInt steps x v = .ok s) :
    ∃ sj, steps[(N.idx s).toNat]? = some sj ∧ 0 ≤ N.idx s ∧
      ∀ (k : Nat) (sk : Int), steps[k]? = some sk → ¬ (distInt sk x < distInt sj x) := by
  obtain ⟨sj, h1, h2, h3⟩ := setNearest_nearest _ _ nearestOrder_int N hl steps x v s hn hsorted h
  exact ⟨sj, h1, h2, fun k sk hk => by simpa using h3 k sk hk⟩

example : setNearest exNav (fun (a b : Int) => decide (a < b)) distInt [10, 20, 40] 29 (0, 0) = .ok (1, 10) ∧
    setNearest exNav (fun (a b : Int) => decide (a < b)) distInt [10, 20, 40] 30 (0, 0) = .ok (1, 10) ∧   -- a tie: the first
    setNearest exNav (fun (a b : Int) => decide (a < b)) distInt [10, 20, 40] 31 (0, 0) = .ok (2, 20) ∧
    setNearest exNav (fun (a b : Int) => decide (a < b)) distInt [10, 20, 40] 5 (0, 0) = .ok (0, 0) ∧
    setNearest exNav (fun (a b : Int) => decide (a < b)) distInt [10, 20, 40] 99 (0, 0) = .ok (2, 20) := by decide +kernel

/-! ### every action is `index = k` for the index `k` the action computes

  `Proofs.Series2Nav.ActionIndex lt dist times steps n i op k` — "from current index `i`, with `n` results, action `op` computes
  index `k`" — is, action by action:  first: `k = 0`;  last: `k + 1 = n`;  next: `i + 1 < n ∧ k = i + 1`;  prev: `0 < i ∧ k = i - 1`;
  index = j: `0 ≤ j ∧ k = j` or `j < 0 ∧ k = j + n`;  time = t / step = x: `NearestSel … times t k` / `NearestSel … steps x k`,
  where `NearestSel lt dist vals t k` says: `t < vals[0] ∧ k = 0`, or else `vals[len-1] < t ∧ k = len - 1`, or else `k` is the FIRST
  index at minimal distance (`∀ j, ¬ dist vals[j] t < dist vals[k] t` and `∀ j < k, dist vals[k] t < dist vals[j] t`). -/

open Model.Listing Proofs.Series2Nav Proofs.NavOn in
/-- The whole-file reader, every simulator family, exact times (ℚ) and steps (ℤ), from any state showing an index in range: a
    successful first / last / next / prev / index = j / time = t / step = x either
    * is `next` at the last index or `prev` at the first: it reports False and the reader is unchanged, or
    * is `history`, the identity in the navigation machine (the call itself: `Props.C06.history_leaves_reader_unchanged`), or
    * reports True and leaves EXACTLY the reader state that `index = k` leaves from the same state (so in particular the same
      view: index, time, step, every table cell), with `s.index = k`, for the `k < n` the action computes (`ActionIndex`, spelled
      out above): k = 0, n-1, i+1, i-1, j (or j+n), the nearest-selection index. -/
theorem file_action_is_set_index (rd : Rd) (times : List Rat) (steps : List Int)
    (hnt : times.length = rd.fulltimes.size) (hns : steps.length = rd.fulltimes.size)
    (op : Op Rat) (v s : Rd) (b : Bool) (hv : 0 ≤ v.index ∧ v.index < rd.fulltimes.size)
    (h : apply (fileNav rd) (fun a b => decide (a < b)) distRat times steps op v = .ok (b, s)) :
    (b = false ∧ s = v ∧ ((op = .next ∧ v.index = (rd.fulltimes.size : Int) - 1) ∨ (op = .prev ∧ v.index = 0))) ∨
    (b = true ∧ s = v ∧ op = .history) ∨
    (b = true ∧ ∃ k : Nat, k < rd.fulltimes.size ∧
      ActionIndex (fun a b => decide (a < b)) distRat times steps rd.fulltimes.size v.index op k ∧
      setIndex (fileNav rd) (k : Int) v = .ok s ∧ s.index = k ∧
      (setIndex (fileNav rd) (k : Int) v).map fileView = .ok (fileView s)) := by
  rcases action_is_set_index (fileNav rd) _ distRat nearestOrder_rat.sw times steps hnt hns op v s b hv h with h1 | h1 | ⟨hb, k, hk, hc, hs, hl⟩
  · exact .inl h1
  · exact .inr (.inl h1)
  · exact .inr (.inr ⟨hb, k, hk, hc, hs, file_load_sets_index rd _ _ _ hl, by rw [hs]; rfl⟩)

open Model.Listing Proofs.Series2Nav in
/-- `next()` at the last index and `prev()` at the first return False and change nothing — for every file, from every state
    (no hypothesis on the file; nothing is read). -/
theorem file_next_prev_at_ends (rd : Rd) (v : Rd) :
    (v.index ≥ (rd.fulltimes.size : Int) - 1 → next (fileNav rd) v = .ok (false, v)) ∧
    (v.index ≤ 0 → prev (fileNav rd) v = .ok (false, v)) :=
  ⟨next_at_last (fileNav rd) v, prev_at_first (fileNav rd) v⟩

section actionExample
open Model.Listing
-- on the two-result file above, from the reader positioned at index 1: `time = 2` (nearer to 0 than to 5) succeeds, reports True and
-- shows index 0; `next` reports False and leaves the state; the hypotheses of file_action_is_set_index hold
-- (evaluated by the kernel, once) the index the reader shows after re-reading result 0 and result 1
private theorem exAt_index : (exAt 0).index = 0 ∧ (exAt 1).index = 1 := by decide +kernel
example : ([0, 5] : List Rat).length = exRd.fulltimes.size ∧ ([1, 2] : List Int).length = exRd.fulltimes.size ∧
    0 ≤ (exAt 1).index ∧ (exAt 1).index < exRd.fulltimes.size := by
  rw [exAt_index.2]
  decide +kernel
example : (match apply (fileNav exRd) (fun (a b : Rat) => decide (a < b)) distRat [0, 5] [1, 2] (.time 2) (exAt 1) with
    | .ok (b, s) => b && s.index == 0
    | .error _ => false) = true := by decide +kernel
example : apply (fileNav exRd) (fun (a b : Rat) => decide (a < b)) distRat [0, 5] [1, 2] .next (exAt 1) = .ok (false, exAt 1) :=
  (file_next_prev_at_ends exRd (exAt 1)).1 (by rw [exAt_index.2]; decide +kernel)
example : (exAt 1).index ≥ (exRd.fulltimes.size : Int) - 1 ∧ (exAt 0).index ≤ 0 := by
  rw [exAt_index.1, exAt_index.2]
  decide +kernel
end actionExample

/-! ### `history` in the navigation machine is the identity by definition (the call itself: `Props.C06.history_leaves_reader_unchanged`) -/

theorem history_preserves_view (N : Nav V E) (lt : T → T → Bool) (dist : T → T → T) (times : List T) (steps : List Int) (v : V) :
    apply N lt dist times steps .history v = .ok (true, v) := rfl

end Props.C07
