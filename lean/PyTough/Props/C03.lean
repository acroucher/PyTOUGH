/-
  C03 — MULgraph geometry file write/read round trip preserves the geometry.

  Property theorems about `Model/GeoFile.lean` (model of mulgrid.write / mulgrid.read and all their
  section routines, over the record layer `Model/Fixed.lean` and the format table regenerated from
  /repo into `Gen/Specs.lean`).  Proofs: `Proofs/GeoFile*.lean`.

  Reading guide (clause of the property → theorem):
    "writing any geometry and reading it back gives …"            geo_roundtrip  (read (write g) = canonGeo g)
    "the same header options (naming convention, atmosphere type
      and sizes, units, permeability angle, block ordering)"      header_preserved
    "the same nodes … in the same order, coordinates equal to the
      two decimals the format carries"                            nodes_preserved
    "columns (node order, optional specified centre)"             columns_preserved
    "connections"                                                 connections_preserved
    "layers"                                                      layers_preserved  (needs LayerCentresKept: KNOWN FINDING,
                                                                  see layer_centre_zero_lost / second_file_differs)
    "non-default surface elevations"                              surfaces_preserved
    "well tracks"                                                 wells_preserved
    "the derived block and connection name lists are identical"   names_lists_preserved (when rounding moves no surface across a
                                                                  layer boundary), surface_crossing_characterised (exactly when
                                                                  it can), names_lists_preserved_clear,
                                                                  surface_on_boundary_changes_names (witness)
    "writing the re-read geometry reproduces the first file
      byte for byte"                                              geo_write_fixpoint_partial
    "for a geometry in feet the file holds feet and the re-read
      geometry is again in metres"                                feet_roundtrip (unit_roundtrip: any unit scale)
    "right-justified … names (… only right-justified names are
      safe in files)"                                             rjust_names_safe, left_justified_name_changes
    every table taken from the /repo tree                         tables_are_current  (evaluated on every build)

  `WF g` (decidable, `Model/GeoFile.lean`) is the property's own quantifier — header options in range,
  right-justified names of the convention's length without line breaks, distinct names, column nodes and
  connection columns that exist, every number within its field at full precision (ten columns for a real;
  atmosphere type and `cntype` one digit, at most 99 nodes in a column: their `1d` / `2d` fields), no
  connection listed twice — plus the clauses the proof forces and the real code confirms: at least one
  layer (`mulgrid().write(f); mulgrid(f)` raises IndexError in identify_layer_tops), every well has a track
  point (a well without one is not written at all) and a name of at most five characters, distinct once
  right-justified in five columns, and no column whose *rounded* polygon is clockwise (a sliver thinner
  than the file's resolution; the reader would reverse its nodes).
-/
import PyTough.Proofs.GeoFileFixpoint
import PyTough.Proofs.GeoFileClear

namespace Props.C03
open Py Model Model.GeoFile

/-- `g'` is what writing `g` to a file and reading that file gives -/
def Reread (g g' : Geo) : Prop := ∃ t, write g = .ok t ∧ GeoFile.read t = .ok g'

/-- exact rationals for the examples -/
def r (n : Int) (d : Nat := 1) : Flt := .q (mkRat n d)
/-- a one-letter name, right-justified in three columns -/
def n3 (a : Char) : Str := [' ', ' ', a]

/-- **Tie to the /repo tree.**  Every table the model takes from the source is regenerated on
    each run (`Gen/Specs.lean`: `mulgrid_format_specification`, i.e. the field names — hence the
    instance-dictionary keys the header is read into and written from — and field specs;
    `Gen/Conventions.lean`: name lengths, atmosphere column names, `block_name` parts;
    `Gen/GeoTables.lean`: unit scales, block orders, the keyword dispatch of `read`, the order and
    keyword lines of the section writers, and `blockOrderInts`, which no model function reads) and is,
    by evaluation, the table the theorems below are proved for.  A change of any of them in /repo makes
    this theorem (and the proofs that compute through the tables) fail to check. -/
theorem tables_are_current :
    specs = .ok SP ∧
    Gen.Conventions.colnameLength = [3, 2, 3, 3] ∧ Gen.Conventions.layernameLength = [2, 3, 2, 2] ∧
    Gen.Conventions.atmosphereColumnName = [['A', 'T', 'M'], [' ', '0'], [' ', ' ', '0'], ['A', 'T', 'M']] ∧
    ([0, 1, 2, 3].map blockParts = Gen.Conventions.blockParts) ∧
    Gen.GeoTables.unitScale = [([], 1, 1), (feet, 381, 1250)] ∧
    Gen.GeoTables.blockOrders = [(0, layerColumnName), (1, dmplexName)] ∧
    Gen.GeoTables.blockOrderInts = [(layerColumnName, 0), (dmplexName, 1)] ∧
    Gen.GeoTables.readKeywords.map (fun p => (String.ofList p.1, p.2)) =
      [("VERTI", "read_nodes"), ("GRID", "read_columns"), ("CONNE", "read_connections"), ("LAYER", "read_layers"),
       ("SURFA", "read_surface"), ("SURF", "read_surface"), ("WELLS", "read_wells")] ∧
    Gen.GeoTables.writeKeywords.map (fun p => (p.1, String.ofList p.2)) =
      [("write_header", ""), ("write_nodes", "VERTICES"), ("write_columns", "GRID"), ("write_connections", "CONNECTIONS"),
       ("write_layers", "LAYERS"), ("write_surface", "SURFA"), ("write_wells", "WELLS")] := by
  refine ⟨Proofs.GeoFile.specs_eq, ?_⟩
  decide +kernel

/-! ### the round trip -/

/-- **Write then read.**  Every well-formed geometry can be written, and reading the text gives
    exactly `canonGeo g`: every number replaced by the decimal its field carries (in file units,
    multiplied back by the unit scale), unspecified centres recomputed from the rounded nodes, a
    layer centre written as `0.00` replaced by the reader's default, layer tops, default surfaces and
    `num_layers` set anew from the rounded values, well names right-justified in five columns; node,
    column and layer names, orders and flags unchanged. -/
theorem geo_roundtrip (g : Geo) (hwf : WF g = true) : Reread g (canonGeo g) := by
  obtain ⟨L, LL, s, w⟩ := Proofs.GeoFile.wfp_of hwf
  obtain ⟨t, ht, -, hr⟩ := Proofs.GeoFile.write_read w
  exact ⟨t, ht, hr⟩

theorem reread_unique {g g₁ g₂ : Geo} (h₁ : Reread g g₁) (h₂ : Reread g g₂) : g₁ = g₂ := by
  obtain ⟨t₁, hw₁, hr₁⟩ := h₁
  obtain ⟨t₂, hw₂, hr₂⟩ := h₂
  rw [hw₁] at hw₂
  cases hw₂
  rw [hr₁] at hr₂
  cases hr₂
  rfl

theorem reread_eq {g g' : Geo} (hwf : WF g = true) (h : Reread g g') : g' = canonGeo g :=
  reread_unique h (geo_roundtrip g hwf)

/-- header options: naming convention, atmosphere type, unit type, block ordering are unchanged;
    atmosphere volume and connection distance are the three significant digits of their `10.2e`
    fields, the permeability angle the two decimals of its `10.2f` field -/
theorem header_preserved (g g' : Geo) (hwf : WF g = true) (h : Reread g g') :
    g'.hdr.type = g.hdr.type ∧ g'.hdr.convention = g.hdr.convention ∧ g'.hdr.atmosType = g.hdr.atmosType ∧
    g'.hdr.unitType = g.hdr.unitType ∧ g'.hdr.blockOrder = g.hdr.blockOrder ∧
    g'.hdr.atmosVolume = roundE 2 g.hdr.atmosVolume ∧ g'.hdr.atmosConnection = roundE 2 g.hdr.atmosConnection ∧
    g'.hdr.permAngle = roundF 2 g.hdr.permAngle ∧ g'.hdr.cntype = g.hdr.cntype := by
  rw [reread_eq hwf h]
  obtain ⟨L, LL, s, w⟩ := Proofs.GeoFile.wfp_of hwf
  refine ⟨rfl, rfl, rfl, rfl, ?_, rfl, rfl, rfl, rfl⟩
  exact w.hdr.bo.symm

/-- the same nodes in the same order; each coordinate is `x / scale` rounded half-even to two
    decimals, times the scale -/
theorem nodes_preserved (g g' : Geo) (hwf : WF g = true) (h : Reread g g') :
    g'.nodes = g.nodes.map fun n =>
      { n with x := canonC 2 (scaleOf g) n.x, y := canonC 2 (scaleOf g) n.y } := by
  rw [reread_eq hwf h]; rfl

/-- the same columns in the same order, each with the same nodes in the same order and the same
    `centre_specified` flag; a specified centre comes back as its two decimals -/
theorem columns_preserved (g g' : Geo) (hwf : WF g = true) (h : Reread g g') :
    g'.columns.map (fun c => (c.name, c.nodes, c.centreSpecified)) =
      g.columns.map (fun c => (c.name, c.nodes, c.centreSpecified)) ∧
    g'.columns.map (fun c => if c.centreSpecified != 0 then some c.centre else none) =
      g.columns.map (fun c => if c.centreSpecified != 0 then
        some (match c.centre with
          | .at x y => Centre.at (canonC 2 (scaleOf g) x) (canonC 2 (scaleOf g) y)
          | o => o) else none) := by
  rw [reread_eq hwf h]
  unfold canonGeo
  simp only [List.map_map]
  constructor
  · apply List.map_congr_left; intro c _; rfl
  · apply List.map_congr_left
    intro c _
    simp only [Function.comp, canonColumn]
    by_cases hc : (c.centreSpecified != 0) = true
    · simp only [hc, if_true]
      rfl
    · simp only [hc, Bool.false_eq_true, if_false]

/-- the same connections in the same order -/
theorem connections_preserved (g g' : Geo) (hwf : WF g = true) (h : Reread g g') :
    g'.connections = g.connections := by
  rw [reread_eq hwf h]; rfl

/-- the same layers in the same order, bottoms at two decimals (always); centres at two decimals
    when `LayerCentresKept g` -/
theorem layers_preserved (g g' : Geo) (hwf : WF g = true) (h : Reread g g') :
    g'.layers.map (fun l => (l.name, l.bottom)) =
      g.layers.map (fun l => (l.name, canonC 2 (scaleOf g) l.bottom)) ∧
    (LayerCentresKept g = true →
      g'.layers.map (·.centre) = g.layers.map (fun l => canonC 2 (scaleOf g) l.centre)) := by
  rw [reread_eq hwf h]
  exact ⟨Proofs.GeoFile.canonLayers_name_bottom _ _, Proofs.GeoFile.canonLayers_centre_kept _ _⟩

/-- exactly the columns that had a non-default surface have one after the trip, and it is the
    elevation at two decimals -/
theorem surfaces_preserved (g g' : Geo) (hwf : WF g = true) (h : Reread g g') :
    g'.columns.map (fun c => (c.name, c.defaultSurface, if c.defaultSurface then none else c.surface)) =
      g.columns.map (fun c => (c.name, c.defaultSurface,
        if c.defaultSurface then none else c.surface.map (canonC 2 (scaleOf g)))) := by
  rw [reread_eq hwf h]
  unfold canonGeo
  simp only [List.map_map]
  apply List.map_congr_left
  intro c _
  simp only [Function.comp, canonColumn]
  by_cases hd : c.defaultSurface = true
  · simp only [hd, if_true]
  · simp only [hd, Bool.false_eq_true, if_false]

/-- the same wells in the same order; each name comes back right-justified in its five columns
    (so a 5-character name — the format's own — is unchanged, a shorter one gains leading blanks:
    `'W1'` ↦ `'   W1'`), each track point in order with every coordinate `x / scale` rounded half-even
    to **one** decimal (`10.1f`), times the scale -/
theorem wells_preserved (g g' : Geo) (hwf : WF g = true) (h : Reread g g') :
    g'.wells = g.wells.map fun w => { name := rjust w.name 5, pos := w.pos.map fun p =>
      (canonC 1 (scaleOf g) p.1, canonC 1 (scaleOf g) p.2.1, canonC 1 (scaleOf g) p.2.2) } := by
  rw [reread_eq hwf h]; rfl

/-- in particular wells with 5-character names keep their names -/
theorem well_names_preserved (g g' : Geo) (hwf : WF g = true) (h : Reread g g')
    (h5 : ∀ w ∈ g.wells, w.name.length = 5) : g'.wells.map (·.name) = g.wells.map (·.name) := by
  rw [wells_preserved g g' hwf h, List.map_map]
  apply List.map_congr_left
  intro w hw
  simp only [Function.comp, rjust, h5 w hw, Nat.sub_self, List.replicate_zero, List.nil_append]

/-! ### derived name lists -/

/-- **Name lists.**  `block_name_list` and `block_connection_name_list` of the re-read geometry are
    those of the original (same names, same order, same orientation of each pair), provided
    rounding to two decimals moves no column surface across a layer bottom or top
    (`StableSurfaces g`: every comparison `surface > bottom`, `surface <= top` that
    `setup_block_name_index` / `setup_block_connection_name_index` make has the same outcome before
    and after; it is false when a column has no surface). -/
theorem names_lists_preserved (g g' : Geo) (hwf : WF g = true) (hst : StableSurfaces g = true) (h : Reread g g') :
    blockNameList g' = blockNameList g ∧ blockConnectionNameList g' = blockConnectionNameList g := by
  rw [reread_eq hwf h]
  obtain ⟨L, LL, s, w⟩ := Proofs.GeoFile.wfp_of hwf
  have A := Proofs.GeoFile.aligned_canon w.hdr.bo hst
  exact ⟨Proofs.GeoFile.blockNameList_eq A, Proofs.GeoFile.blockConnectionNameList_eq A⟩

/-- **When can rounding move a surface across a layer boundary?**  For a geometry whose stored layer
    tops and default surfaces are what `identify_layer_tops` / `set_default_surface` make them
    (`Consistent g`), `StableSurfaces g` holds **exactly** when no column surface lies strictly
    above a layer bottom and is yet written as the same two decimals (`SurfaceClear g`) — because
    the trip through the file is monotone (`Proofs.GeoFile.canonC_mono`), order can only be lost by
    two different values becoming equal. -/
theorem surface_crossing_characterised (g : Geo) (hwf : WF g = true) (hc : Consistent g = true) :
    StableSurfaces g = SurfaceClear g :=
  Proofs.GeoFile.stableSurfaces_iff hwf hc

/-- the name lists are identical whenever no surface rounds onto a layer bottom it lies above -/
theorem names_lists_preserved_clear (g g' : Geo) (hwf : WF g = true) (hc : Consistent g = true)
    (hcl : SurfaceClear g = true) (h : Reread g g') :
    blockNameList g' = blockNameList g ∧ blockConnectionNameList g' = blockConnectionNameList g :=
  names_lists_preserved g g' hwf (by rw [surface_crossing_characterised g hwf hc]; exact hcl) h

/-- one column whose surface, 0.004, lies just above the bottom 0.0 of layer `' 1'`: a block
    4 mm thick.  The file carries 0.00 for both, so the re-read geometry has no such block. -/
def gCross : Geo :=
  { nodes := [⟨n3 'a', r 0, r 0⟩, ⟨n3 'b', r 10, r 0⟩, ⟨n3 'c', r 0, r 15⟩, ⟨n3 'd', r 10, r 15⟩],
    columns := [⟨n3 'a', [n3 'a', n3 'b', n3 'd', n3 'c'], 0, .at (r 5) (r 75 10), some (r 4 1000), false, 2⟩],
    layers := [⟨[' ', '0'], r 10, r 10, r 10⟩, ⟨[' ', '1'], r 0, r 5, r 10⟩, ⟨[' ', '2'], r (-10), r (-5), r 0⟩] }

/-- **…and otherwise they are not** (witness; the same geometry is in the harness corpus and run on
    the real code): `gCross` is well-formed and consistent, its surface rounds onto the layer bottom
    it lies above, and the block name list loses the block `'  a 1'` in the round trip. -/
theorem surface_on_boundary_changes_names :
    WF gCross = true ∧ Consistent gCross = true ∧ SurfaceClear gCross = false ∧
    blockNameList gCross = .ok [['A','T','M',' ','0'], [' ',' ','a',' ','1'], [' ',' ','a',' ','2']] ∧
    blockNameList (canonGeo gCross) = .ok [['A','T','M',' ','0'], [' ',' ','a',' ','2']] := by
  decide +kernel

/-! ### second generation -/

/-- **Write, read, write.**  Writing the re-read geometry reproduces the first file byte for byte.
    `_partial`: the hypothesis `LayerCentresKept g` is necessary — without it the statement is false,
    see `second_file_differs` (KNOWN FINDING layer-centre-zero-recomputed).  Nothing else is assumed:
    every `10.2f` / `10.1f` / `10.2e` field reprints identically because rounding is idempotent. -/
theorem geo_write_fixpoint_partial (g : Geo) (hwf : WF g = true) (hk : LayerCentresKept g = true) :
    ∃ t g', write g = .ok t ∧ GeoFile.read t = .ok g' ∧ write g' = .ok t := by
  obtain ⟨t, hw, hr⟩ := geo_roundtrip g hwf
  obtain ⟨L, LL, s, w⟩ := Proofs.GeoFile.wfp_of hwf
  exact ⟨t, canonGeo g, hw, hr, by rw [Proofs.GeoFile.write_canon w hk, hw]⟩

/-- further generations change nothing: the re-read geometry is written to the same text and read
    back as itself -/
theorem later_generations (g g' : Geo) (hwf : WF g = true) (hk : LayerCentresKept g = true) (h : Reread g g') :
    Reread g' g' := by
  obtain ⟨t, g'', hw, hr, hw2⟩ := geo_write_fixpoint_partial g hwf hk
  have e : g'' = g' := reread_unique ⟨t, hw, hr⟩ h
  subst e
  exact ⟨t, hw2, hr⟩

/-- a number that already has `p` decimals (resp. `p+1` significant digits) is printed as itself:
    sign and digits of the rounded value are those of the value -/
theorem rounding_idempotent (p : Nat) (hp : 0 < p) (x : Flt) :
    roundF p (roundF p x) = roundF p x ∧
    (roundE p x).isNeg = x.isNeg ∧ fmtEParts p (roundE p x).absNum (roundE p x).den = fmtEParts p x.absNum x.den :=
  ⟨Proofs.GeoFile.roundF_idem p x, Proofs.GeoFile.roundE_parts p x⟩

/-! ### feet -/

/-- For a geometry whose unit type has scale `s` every node line of the file holds
    `'%10.2f' % (x / s)` and the re-read position is that decimal times `s`. -/
theorem unit_roundtrip (g : Geo) (hwf : WF g = true) (s : Rat) (hs : unitScale g.hdr.unitType = .ok s) :
    ∃ t g', write g = .ok t ∧ GeoFile.read t = .ok g' ∧ g'.hdr.unitType = g.hdr.unitType ∧
      (∀ n ∈ g.nodes, ∃ fx fy,
        fmtVal (fF 2) (n.x.div s).toVal = .ok fx ∧
        fmtVal (fF 2) (n.y.div s).toVal = .ok fy ∧
        (ljust n.name 3 ++ fx ++ fy ++ ['\n']) ∈ pyLines t) ∧
      g'.nodes = g.nodes.map fun n =>
        { n with x := (roundF 2 (n.x.div s)).mul s, y := (roundF 2 (n.y.div s)).mul s } := by
  obtain ⟨L, LL, s', w⟩ := Proofs.GeoFile.wfp_of hwf
  obtain rfl : s' = s := Except.ok.inj (w.sc.symm.trans hs)
  obtain ⟨t, hw, hl, hr⟩ := Proofs.GeoFile.write_read w
  refine ⟨t, canonGeo g, hw, hr, rfl, ?_, ?_⟩
  · intro n hn
    refine ⟨Proofs.GeoFile.textF 10 2 (n.x.div s'), Proofs.GeoFile.textF 10 2 (n.y.div s'),
      Proofs.GeoFile.fmtVal_f_flt (f := fF 2) rfl _, Proofs.GeoFile.fmtVal_f_flt (f := fF 2) rfl _, ?_⟩
    rw [hl]
    -- the node lines are the body of the first section after the header line
    refine List.mem_cons_of_mem _ (List.mem_append_left _ (List.mem_flatMap.mpr ⟨⟨kwVertices, .verti, _⟩,
      List.mem_append_left _ List.mem_cons_self,
      List.mem_cons_of_mem _ (List.mem_append_left _ (List.mem_map.mpr ⟨n, hn, ?_⟩))⟩))
    simp [Proofs.GeoFile.recText, Proofs.GeoFile.nodeItems, Proofs.GeoFile.nameItem, Proofs.GeoFile.strItem, Proofs.GeoFile.coordItem, Proofs.GeoFile.fItem]
  · rw [w.canonGeo_eq]
    rfl

/-- **FEET.**  For a geometry with unit type `'FEET '` the header says so, every node line of the
    file holds `'%10.2f' % (x / 0.3048)` — feet — and the re-read position is that decimal times
    0.3048 — metres again. -/
theorem feet_roundtrip (g : Geo) (hwf : WF g = true) (hu : g.hdr.unitType = feet) :
    ∃ t g', write g = .ok t ∧ GeoFile.read t = .ok g' ∧ g'.hdr.unitType = feet ∧
      (∀ n ∈ g.nodes, ∃ fx fy,
        fmtVal (fF 2) (n.x.div (mkRat 381 1250)).toVal = .ok fx ∧
        fmtVal (fF 2) (n.y.div (mkRat 381 1250)).toVal = .ok fy ∧
        (ljust n.name 3 ++ fx ++ fy ++ ['\n']) ∈ pyLines t) ∧
      g'.nodes = g.nodes.map fun n =>
        { n with x := (roundF 2 (n.x.div (mkRat 381 1250))).mul (mkRat 381 1250),
                 y := (roundF 2 (n.y.div (mkRat 381 1250))).mul (mkRat 381 1250) } := by
  obtain ⟨t, g', hw, hr, hu', h⟩ := unit_roundtrip g hwf (mkRat 381 1250) (by rw [hu]; rfl)
  exact ⟨t, g', hw, hr, hu' ▸ hu, h⟩

/-! ### names -/

/-- **Right-justified names are safe.**  A name of the convention's length `L ≤ 3` that is blanks
    followed by a core neither starting nor ending in whitespace is written (`ljust(3)`, `'%3s'`)
    into exactly its three columns and comes back (`strip().rjust(L)`) as itself. -/
theorem rjust_names_safe (L : Nat) (hL : L ≤ 3) (n : Str) (h : nameOK L n = true) :
    ∃ t, writeField (fS 3) (.str (ljust n 3)) = .ok t ∧ t.length = 3 ∧
      readField .default 's' t = .ok (.str t) ∧ fixName t L = n := by
  have hs := Proofs.GeoFile.nameShape_of_ok h
  have hf : Proofs.GeoFile.FieldRT (fS 3) (.str (ljust n 3)) (ljust n 3) _ := Proofs.GeoFile.nameItem_ok hL hs
  exact ⟨ljust n 3, hf.w, hf.len, hf.r, Proofs.GeoFile.fixName_ljust hs⟩

/-- the documentation's warning: a left-justified name does not survive (here `'a  '` in
    convention 0 comes back as `'  a'`) -/
theorem left_justified_name_changes :
    nameOK 3 ['a', ' ', ' '] = false ∧ fixName (ljust ['a', ' ', ' '] 3) 3 = [' ', ' ', 'a'] := by decide

/-! ### the known finding: a layer centre written as 0.00 -/

/-- one column, top at 1.006 (written 1.01), first layer down to −1.0 with centre 0.003 (written 0.00) -/
def gCentre : Geo :=
  { nodes := [⟨n3 'a', r 0, r 0⟩, ⟨n3 'b', r 10, r 0⟩, ⟨n3 'c', r 0, r 15⟩, ⟨n3 'd', r 10, r 15⟩],
    columns := [⟨n3 'a', [n3 'a', n3 'b', n3 'd', n3 'c'], 0, .at (r 5) (r 75 10), some (r 1006 1000), true, 2⟩],
    layers := [⟨[' ', '0'], r 1006 1000, r 1006 1000, r 1006 1000⟩, ⟨[' ', '1'], r (-1), r 3 1000, r 1006 1000⟩,
               ⟨[' ', '2'], r (-4), r (-25) 10, r (-1)⟩] }

/-- **The layers clause fails without `LayerCentresKept`** (model witness of KNOWN FINDING
    layer-centre-zero-recomputed; the same geometry is in the harness corpus and is replayed on the
    real code): `gCentre` is well-formed, its first layer's centre 0.003 is written as `0.00`, and
    the re-read centre is the default 0.005 — not the 0.00 the file carries. -/
theorem layer_centre_zero_lost :
    WF gCentre = true ∧ LayerCentresKept gCentre = false ∧
    (canonGeo gCentre).layers.map (·.centre) ≠ gCentre.layers.map (fun l => canonC 2 1 l.centre) := by
  decide +kernel

/-- the same with a centre of −0.002 (written `-0.00`): here also the second-generation file
    differs from the first (`0.00` instead of `-0.00`), so `geo_write_fixpoint_partial` needs its hypothesis -/
def gCentre2 : Geo :=
  { gCentre with
    columns := [⟨n3 'a', [n3 'a', n3 'b', n3 'd', n3 'c'], 0, .at (r 5) (r 75 10), some (r 1), true, 2⟩],
    layers := [⟨[' ', '0'], r 1, r 1, r 1⟩, ⟨[' ', '1'], r (-1004) 1000, r (-2) 1000, r 1⟩,
               ⟨[' ', '2'], r (-4), r (-25) 10, r (-1004) 1000⟩] }

theorem second_file_differs :
    WF gCentre2 = true ∧ LayerCentresKept gCentre2 = false ∧
    ((write gCentre2).bind GeoFile.read).bind write ≠ write gCentre2 := by
  decide +kernel

/-! ### the hypotheses are satisfiable (non-vacuity) -/

/-- 2 × 1 columns in feet, atmosphere type 1, block order given, one specified centre, one
    non-default surface, one well with two track points -/
def gExample : Geo :=
  { hdr := { unitType := feet, atmosType := 1, permAngle := r 30, blockOrderInt := some 0, blockOrder := some 0 },
    nodes := [⟨n3 'a', r 0, r 0⟩, ⟨n3 'b', r 100, r 0⟩, ⟨n3 'c', r 2005 10, r 0⟩,
              ⟨n3 'd', r 0, r 150⟩, ⟨n3 'e', r 100, r 150⟩, ⟨n3 'f', r 2005 10, r 150⟩],
    columns := [⟨n3 'a', [n3 'a', n3 'b', n3 'e', n3 'd'], 0, .at (r 50) (r 75), some (r 0), true, 2⟩,
                ⟨n3 'b', [n3 'b', n3 'c', n3 'f', n3 'e'], 1, .at (r 150) (r 7512 100), some (r (-31) 10), false, 1⟩],
    connections := [(n3 'a', n3 'b')],
    layers := [⟨[' ', '0'], r 0, r 0, r 0⟩, ⟨[' ', '1'], r (-10), r (-5), r 0⟩, ⟨[' ', '2'], r (-30), r (-20), r (-10)⟩],
    wells := [⟨['W', '1'], [(r 10, r 20, r 0), (r 10, r 21, r (-255) 10)]⟩] }

example : WF gExample = true ∧ LayerCentresKept gExample = true ∧ SizesStable gExample = true ∧
    StableSurfaces gExample = true ∧ Consistent gExample = true ∧ SurfaceClear gExample = true ∧
    gExample.hdr.unitType = feet := by decide +kernel
-- (test) the name lists of the example are not trivial: 2 atmosphere + 4 underground blocks, 6 connections
example : (blockNameList gExample).map List.length = .ok 6 ∧ (blockConnectionNameList gExample).map List.length = .ok 6 := by
  decide +kernel
-- (test, not proof) the theorems' conclusion evaluated on the example
example : (write gExample).bind GeoFile.read = .ok (canonGeo gExample) := by decide +kernel
example : nameOK 3 [' ', 'a', 'b'] = true ∧ nameOK 2 [' ', '7'] = true := by decide
example : 0 < 2 := by decide

end Props.C03
