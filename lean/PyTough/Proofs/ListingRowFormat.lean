/-
  The format of a printed row of a TOUGH2-family table and the column inference of `parse_table_line` on it.
  A line is a prefix, then right-aligned number fields (`Cell`), then a tail; consecutive fields are told apart by a
  blank or by the exponent of the field in front (`Sep`).  On such a line `indicesOf` finds one decimal point per field
  and `boundaries` the start of every field but the first.  `rowFormatB` decides the side conditions on a concrete line
  (the driver runs it on the longest line of every table of every file it opens); `rowFormat_sound` says that a
  positive answer provides them.  Core Lean only.
-/
import PyTough.Model.Listing
namespace Proofs.Rows
open Py Model Model.Listing

/-- one number field of the longest line: `pad` blanks, then the number text `pre.post` -/
structure Cell where
  pad : Nat
  pre : Str          -- sign and digit(s) in front of the decimal point
  post : Str         -- digits and exponent behind it

def Cell.txt (c : Cell) : Str := c.pre ++ '.' :: c.post
def Cell.render (c : Cell) : Str := List.replicate c.pad ' ' ++ c.txt
def Cell.width (c : Cell) : Nat := c.pad + c.pre.length + 1 + c.post.length

/-- the number text has exactly one decimal point and no blank -/
structure Cell.WF (c : Cell) : Prop where
  pre_nodot : '.' ∉ c.pre
  pre_nosp : ' ' ∉ c.pre
  post_nodot : '.' ∉ c.post
  post_nosp : ' ' ∉ c.post

/-- how field `b` follows field `a` on the longest line: a blank in front of `b`'s number, whose point is not its
    first character (`line.find(' ', pt+1, nextpt-1)` does not look at the character in front of the point), or `b`'s
    number fills its field and `a`'s number ends in `E` and three more characters -/
def Sep (a b : Cell) : Prop :=
  (b.pad ≥ 1 ∧ b.pre ≠ []) ∨
  (b.pad = 0 ∧ ∃ frac s d1 d2, a.post = frac ++ ['E', s, d1, d2] ∧ 'E' ∉ frac)

def SepChain : List Cell → Prop
  | a :: b :: r => Sep a b ∧ SepChain (b :: r)
  | _ => True

def renderAll (cells : List Cell) : Str := cells.flatMap Cell.render

/-- positions of the decimal points when the first field starts at `off` -/
def dots : Nat → List Cell → List Nat
  | _, [] => []
  | off, c :: r => (off + c.pad + c.pre.length) :: dots (off + c.width) r
/-- positions of the field starts when the first field starts at `off` -/
def starts : Nat → List Cell → List Nat
  | _, [] => []
  | off, c :: r => off :: starts (off + c.width) r

theorem render_length (c : Cell) : c.render.length = c.width := by
  unfold Cell.render Cell.txt Cell.width
  simp only [List.length_append, List.length_replicate, List.length_cons]
  omega

theorem indicesOf_go_append (ch : Char) (a b : Str) (i : Nat) :
    indicesOf.go ch (a ++ b) i = indicesOf.go ch a i ++ indicesOf.go ch b (i + a.length) := by
  induction a generalizing i with
  | nil => simp [indicesOf.go]
  | cons x r ih =>
    simp only [List.cons_append, indicesOf.go, List.length_cons]
    have e : i + 1 + r.length = i + (r.length + 1) := by omega
    split
    · rw [ih, e]; rfl
    · rw [ih, e]

theorem indicesOf_go_none (ch : Char) (a : Str) (i : Nat) (h : ch ∉ a) : indicesOf.go ch a i = [] := by
  induction a generalizing i with
  | nil => rfl
  | cons x r ih =>
    simp only [indicesOf.go]
    have hx : x ≠ ch := fun e => h (e ▸ List.mem_cons_self)
    rw [if_neg hx]
    exact ih (i + 1) (fun hm => h (List.mem_cons_of_mem _ hm))

theorem mem_replicate_ne {ch : Char} {n : Nat} (h : ch ≠ ' ') : ch ∉ List.replicate n ' ' := by
  intro hm; exact h (List.eq_of_mem_replicate hm)

theorem indicesOf_go_cell (c : Cell) (hc : c.WF) (i : Nat) :
    indicesOf.go '.' c.render i = [i + c.pad + c.pre.length] := by
  unfold Cell.render Cell.txt
  rw [indicesOf_go_append, indicesOf_go_none '.' (List.replicate c.pad ' ') i (mem_replicate_ne (by decide))]
  rw [List.nil_append, indicesOf_go_append, indicesOf_go_none '.' c.pre _ hc.pre_nodot]
  simp only [List.nil_append, indicesOf.go, List.length_replicate, if_true]
  rw [indicesOf_go_none '.' c.post _ hc.post_nodot]

theorem indicesOf_go_cells (cells : List Cell) (hwf : ∀ c ∈ cells, c.WF) (tail : Str) (ht : '.' ∉ tail) (off : Nat) :
    indicesOf.go '.' (renderAll cells ++ tail) off = dots off cells := by
  induction cells generalizing off with
  | nil => simp [renderAll, dots, indicesOf_go_none '.' tail off ht]
  | cons c r ih =>
    have hc := hwf c List.mem_cons_self
    simp only [renderAll, List.flatMap_cons, List.append_assoc, dots]
    rw [indicesOf_go_append, indicesOf_go_cell c hc, render_length]
    have := ih (fun x hx => hwf x (List.mem_cons_of_mem _ hx)) (off + c.width)
    simp only [renderAll] at this
    rw [this]; rfl

theorem indicesOf_line (P : Str) (cells : List Cell) (tail : Str) (hP : '.' ∉ P) (ht : '.' ∉ tail)
    (hwf : ∀ c ∈ cells, c.WF) :
    indicesOf (P ++ (renderAll cells ++ tail)) '.' = dots P.length cells := by
  unfold indicesOf
  rw [indicesOf_go_append, indicesOf_go_none '.' P 0 hP, List.nil_append, Nat.zero_add]
  exact indicesOf_go_cells cells hwf tail ht P.length

theorem findCharIn_go_append (ch : Char) (hi : Nat) (X Y : Str) (i : Nat) (hX : ch ∉ X) :
    findCharIn.go ch hi (X ++ Y) i = if hi ≤ i + X.length then none else findCharIn.go ch hi Y (i + X.length) := by
  induction X generalizing i with
  | nil =>
    split
    · cases Y with
      | nil => rfl
      | cons y r => exact if_pos (by assumption)
    · rfl
  | cons x r ih =>
    simp only [List.cons_append, findCharIn.go, List.length_cons]
    rw [if_neg fun (e : x = ch) => hX (e ▸ List.mem_cons_self), ih (i + 1) fun hm => hX (List.mem_cons_of_mem _ hm),
      Nat.add_assoc, Nat.add_comm 1]
    split
    · rw [if_pos (by omega)]
    · rfl

theorem findCharIn_first (ch : Char) (A X Y : Str) (hi : Nat) (hX : ch ∉ X) (h : A.length + X.length < hi) :
    findCharIn (A ++ (X ++ ch :: Y)) ch A.length hi = some (A.length + X.length) := by
  unfold findCharIn
  rw [if_neg (by omega), List.drop_left, findCharIn_go_append ch hi X _ _ hX, if_neg (by omega), findCharIn.go,
    if_neg (by omega), if_pos rfl]

theorem findCharIn_absent (ch : Char) (A X Y : Str) (hi : Nat) (hX : ch ∉ X) (h : hi ≤ A.length + X.length) :
    findCharIn (A ++ (X ++ Y)) ch A.length hi = none := by
  unfold findCharIn
  split
  · rfl
  · rw [List.drop_left, findCharIn_go_append ch hi X Y _ hX, if_pos h]

/-- one step: between the points of two adjacent fields `c`, `d` the boundary found is the start of `d` -/
theorem boundary_step (P : Str) (c d : Cell) (R : Str) (hc : c.WF) (hd : d.WF) (hsep : Sep c d) :
    nextStart (P ++ (c.render ++ (d.render ++ R))) (P.length + c.pad + c.pre.length)
      (P.length + c.width + d.pad + d.pre.length) = .ok (P.length + c.width) := by
  have hline : P ++ (c.render ++ (d.render ++ R))
      = (P ++ (List.replicate c.pad ' ' ++ (c.pre ++ ['.']))) ++ (c.post ++ (d.render ++ R)) := by
    simp [Cell.render, Cell.txt]
  have hA : (P ++ (List.replicate c.pad ' ' ++ (c.pre ++ ['.']))).length = P.length + c.pad + c.pre.length + 1 := by
    simp only [List.length_append, List.length_replicate, List.length_cons, List.length_nil]; omega
  unfold nextStart
  rw [hline, ← hA]
  generalize P ++ (List.replicate c.pad ' ' ++ (c.pre ++ ['.'])) = A at hA ⊢
  have hw : P.length + c.width = A.length + c.post.length := by rw [hA, Cell.width]; omega
  rw [hw]
  rcases hsep with ⟨hpad, hpre⟩ | ⟨hpad, frac, s, d1, d2, hpost, hE⟩
  · -- a blank in front of d's number: the first blank behind c's point
    have hplen : d.pre.length ≥ 1 := List.length_pos_iff.mpr hpre
    have hB : d.render ++ R = ' ' :: (List.replicate (d.pad - 1) ' ' ++ d.txt ++ R) := by
      unfold Cell.render
      rw [← Nat.sub_add_cancel hpad, List.replicate_succ]
      simp
    rw [hB, findCharIn_first ' ' A c.post _ _ hc.post_nosp (by omega)]
    simp only
    rw [if_pos (by omega)]
  · -- d's number fills its field: no blank up to d's point, the boundary comes from c's exponent
    have hpl : c.post.length = frac.length + 4 := by rw [hpost]; simp
    have hB : c.post ++ (d.render ++ R) = (c.post ++ d.pre) ++ ('.' :: d.post ++ R) := by
      unfold Cell.render Cell.txt; rw [hpad]; simp
    have hnosp : ' ' ∉ c.post ++ d.pre := fun hm =>
      (List.mem_append.mp hm).elim hc.post_nosp hd.pre_nosp
    have hB2 : c.post ++ (d.render ++ R) = frac ++ ('E' :: ([s, d1, d2] ++ (d.render ++ R))) := by
      rw [hpost]; simp
    rw [hB, findCharIn_absent ' ' A _ _ _ hnosp (by simp only [List.length_append]; omega)]
    simp only [expBoundary]
    rw [← hB, hB2, findCharIn_first 'E' A frac _ _ hE (by omega)]
    simp only
    rw [if_pos (by omega)]
    congr 1; omega

theorem boundaries_cells (P : Str) (cells : List Cell) (tail : Str) (hwf : ∀ c ∈ cells, c.WF) (hsep : SepChain cells) :
    boundaries (P ++ (renderAll cells ++ tail)) (dots P.length cells) = .ok (starts P.length cells).tail := by
  induction cells generalizing P with
  | nil => rfl
  | cons c r ih =>
    cases r with
    | nil => rfl
    | cons d r' =>
      have hline : P ++ (renderAll (c :: d :: r') ++ tail) = P ++ (c.render ++ (d.render ++ (renderAll r' ++ tail))) := by
        simp [renderAll]
      have hstep := boundary_step P c d (renderAll r' ++ tail) (hwf c List.mem_cons_self)
        (hwf d (List.mem_cons_of_mem _ List.mem_cons_self)) hsep.1
      -- the recursive call is the same loop on the line with prefix P ++ render c
      have hrec := ih (P ++ c.render) (fun x hx => hwf x (List.mem_cons_of_mem _ hx)) hsep.2
      have hP' : (P ++ c.render).length = P.length + c.width := by simp [render_length]
      have hline' : (P ++ c.render) ++ (renderAll (d :: r') ++ tail) = P ++ (renderAll (c :: d :: r') ++ tail) := by
        simp [renderAll]
      rw [hline', hP'] at hrec
      simp only [dots, starts, List.tail_cons] at hrec ⊢
      rw [boundaries, hrec, hline, hstep]

def Cell.wfB (c : Cell) : Bool :=
  !c.pre.contains '.' && !c.pre.contains ' ' && !c.post.contains '.' && !c.post.contains ' '

theorem Cell.wfB_sound {c : Cell} (h : c.wfB = true) : c.WF := by
  simp only [Cell.wfB, Bool.and_eq_true, Bool.not_eq_true', List.contains_eq_mem, decide_eq_false_iff_not] at h
  exact ⟨h.1.1.1, h.1.1.2, h.1.2, h.2⟩

def sepB (a b : Cell) : Bool :=
  (decide (b.pad ≥ 1) && !b.pre.isEmpty) ||
  (decide (b.pad = 0) && decide (a.post.length ≥ 4) &&
    ((a.post.drop (a.post.length - 4)).head? == some 'E') && !(a.post.take (a.post.length - 4)).contains 'E')

theorem sepB_sound {a b : Cell} (h : sepB a b = true) : Sep a b := by
  unfold sepB at h
  rcases Bool.or_eq_true_iff.mp h with h1 | h2
  · left
    simp only [Bool.and_eq_true, decide_eq_true_eq, Bool.not_eq_true', List.isEmpty_eq_false_iff] at h1
    exact h1
  · right
    simp only [Bool.and_eq_true, decide_eq_true_eq, Bool.not_eq_true', beq_iff_eq, List.contains_eq_mem, decide_eq_false_iff_not] at h2
    obtain ⟨⟨⟨hp, hlen⟩, hE⟩, hno⟩ := h2
    refine ⟨hp, a.post.take (a.post.length - 4), ?_⟩
    have hsplit : a.post = a.post.take (a.post.length - 4) ++ a.post.drop (a.post.length - 4) := (List.take_append_drop _ _).symm
    have hdl : (a.post.drop (a.post.length - 4)).length = 4 := by simp; omega
    match hd : a.post.drop (a.post.length - 4), hdl with
    | [x, s, d1, d2], _ =>
      rw [hd] at hE
      simp at hE
      refine ⟨s, d1, d2, ?_, hno⟩
      rw [← hE, ← hd]; exact hsplit

def sepChainB : List Cell → Bool
  | a :: b :: r => sepB a b && sepChainB (b :: r)
  | _ => true

theorem sepChainB_sound : ∀ {l : List Cell}, sepChainB l = true → SepChain l
  | [], _ => trivial
  | [_], _ => trivial
  | a :: b :: r, h => by
    simp only [sepChainB, Bool.and_eq_true] at h
    exact ⟨sepB_sound h.1, sepChainB_sound h.2⟩

/-- the field text as a cell: leading blanks, then the text up to the first point, then the rest -/
def parseCell (field : Str) : Cell :=
  let pad := (field.takeWhile (· = ' ')).length
  let txt := field.drop pad
  { pad, pre := txt.takeWhile (· != '.'), post := (txt.dropWhile (· != '.')).drop 1 }

/-- split `line` at `bounds = [b₀, b₁, …, b_{n-1}]` (field starts); the last field ends before the trailing whitespace -/
def cutFields (line : Str) : List Nat → List Str
  | a :: b :: r => slice line a b :: cutFields line (b :: r)
  | [a] =>
    let rest := line.drop a
    [rstrip rest]
  | [] => []

/-- the check: with `P = line[:b₀]`, the fields cut at the boundaries and the tail (trailing whitespace of the line),
    the line is `P ++ fields ++ tail`, every side condition of the theorem holds and the boundaries are the field starts -/
def rowFormatB (line : Str) (bounds : List Nat) : Bool :=
  match bounds with
  | [] => false
  | b0 :: _ =>
    let P := line.take b0
    let cells := (cutFields line bounds).map parseCell
    let tail := line.drop (b0 + (cells.map Cell.width).sum)
    !P.contains '.' && !tail.contains '.' && cells.all Cell.wfB && sepChainB cells && !cells.isEmpty &&
      (P ++ (renderAll cells ++ tail) == line) && (starts P.length cells == bounds)

theorem rowFormat_sound (line : Str) (bounds : List Nat) (h : rowFormatB line bounds = true) :
    ∃ (P : Str) (cells : List Cell) (tail : Str),
      line = P ++ (renderAll cells ++ tail) ∧ '.' ∉ P ∧ '.' ∉ tail ∧ (∀ c ∈ cells, c.WF) ∧ SepChain cells ∧ cells ≠ [] ∧
      starts P.length cells = bounds := by
  unfold rowFormatB at h
  cases bounds with
  | nil => cases h
  | cons b0 r =>
    simp only [Bool.and_eq_true, Bool.not_eq_true', List.contains_eq_mem, decide_eq_false_iff_not, List.all_eq_true,
      beq_iff_eq, List.isEmpty_eq_false_iff, and_assoc] at h
    obtain ⟨hP, ht, hwf, hsep, hne, hline, hst⟩ := h
    exact ⟨_, _, _, hline.symm, hP, ht, fun c hc => Cell.wfB_sound (hwf c hc), sepChainB_sound hsep, hne, hst⟩

end Proofs.Rows
