/-
  `delete_connection` preserves the structural invariant: the two columns forget the connection, and stop being
  neighbours exactly when no other connection joins them (`stillJoined`).
-/
import PyTough.Proofs.GeoInv0
namespace Proofs.Geo
open Model.Geo Model.Geo.Geo Py

variable {g : Geo}

/-- after removing connection `i`, does another connection of its first column still reach its second column? -/
def stillJoined (g : Geo) (i : Nat) : Bool :=
  ((g.col (g.con i).c0).cons.filter (· != i)).any fun j => (g.con j).c0 = (g.con i).c1 || (g.con j).c1 = (g.con i).c1

/-- the `C` field of the model's `delConn`, named so that statements about it do not carry the whole state -/
def delConnCols (g : Geo) (i : Nat) : Array Column :=
  let k := g.con i
  let C1 := (g.C.modify k.c0 (rmCon i)).modify k.c1 (rmCon i)
  let still := (C1[k.c0]!).cons.any fun j => (g.con j).c0 = k.c1 || (g.con j).c1 = k.c1
  if still then C1 else
    (C1.modify k.c0 fun cl => { cl with nbrs := setDiscard cl.nbrs k.c1 }).modify k.c1 fun cl =>
      { cl with nbrs := setDiscard cl.nbrs k.c0 }

theorem delConn_shape (g : Geo) (names : Name × Name) (i : Nat) : g.delConn names i =
    { g with C := delConnCols g i, connD := g.connD.del names, connlist := g.connlist.erase i } := by
  unfold delConn delConnCols; rfl

theorem delConnCols_size (g : Geo) (i : Nat) : (delConnCols g i).size = g.C.size := by
  simp only [delConnCols]
  split
  · simp only [Array.size_modify]
  · simp only [Array.size_modify]

theorem delConnCols_get (g : Geo) (i : Nat)
    (h0 : (g.con i).c0 < g.C.size) (h1 : (g.con i).c1 < g.C.size) (hne : (g.con i).c0 ≠ (g.con i).c1) (j : Nat) :
    (delConnCols g i)[j]! =
      if j = (g.con i).c0 then
        { g.col j with cons := (g.col j).cons.filter (· != i),
                       nbrs := if stillJoined g i then (g.col j).nbrs else setDiscard (g.col j).nbrs (g.con i).c1 }
      else if j = (g.con i).c1 then
        { g.col j with cons := (g.col j).cons.filter (· != i),
                       nbrs := if stillJoined g i then (g.col j).nbrs else setDiscard (g.col j).nbrs (g.con i).c0 }
      else g.col j := by
  have hC1 := fun x => getElem!_modify_modify g.C _ _ x (rmCon i) (rmCon i) h0 h1 hne
  have hstill : (((g.C.modify (g.con i).c0 (rmCon i)).modify (g.con i).c1 (rmCon i))[(g.con i).c0]!.cons.any fun j =>
      decide ((g.con j).c0 = (g.con i).c1) || decide ((g.con j).c1 = (g.con i).c1)) = stillJoined g i := by
    rw [hC1, if_pos rfl]; rfl
  simp only [delConnCols, Geo.col, hstill]
  cases hst : stillJoined g i
  · simp only [Bool.false_eq_true, if_false]
    rw [getElem!_modify4 _ _ _ _ _ _ _ _ h0 h1 hne]
    rfl
  · simp only [if_true]
    rw [hC1]
    rfl

theorem delConnCols_proj {β} (π : Column → β) (hcons : ∀ cl s, π { cl with cons := s } = π cl)
    (hnbrs : ∀ cl s, π { cl with nbrs := s } = π cl) (g : Geo) (i j : Nat) :
    π (delConnCols g i)[j]! = π g.C[j]! := by
  have hC1 : π ((g.C.modify (g.con i).c0 (rmCon i)).modify (g.con i).c1 (rmCon i))[j]! = π g.C[j]! := by
    rw [getElem!_modify_proj _ _ _ (rmCon i) π fun _ => hcons _ _,
      getElem!_modify_proj _ _ _ (rmCon i) π fun _ => hcons _ _]
  simp only [delConnCols]
  split
  · exact hC1
  · rw [getElem!_modify_proj _ _ _ _ π fun _ => hnbrs _ _, getElem!_modify_proj _ _ _ _ π fun _ => hnbrs _ _, hC1]

section
variable (g : Geo) (i : Nat) (h0 : (g.con i).c0 < g.C.size) (h1 : (g.con i).c1 < g.C.size)
  (hne : (g.con i).c0 ≠ (g.con i).c1)
include h0 h1 hne

theorem delConnCols_mem_cons (j k : Nat) : k ∈ (delConnCols g i)[j]!.cons ↔
    k ∈ (g.col j).cons ∧ (k ≠ i ∨ ¬((g.con i).c0 = j ∨ (g.con i).c1 = j)) := by
  rw [delConnCols_get g i h0 h1 hne]
  by_cases e0 : j = (g.con i).c0
  · rw [if_pos e0]; simp [e0]
  · rw [if_neg e0]
    by_cases e1 : j = (g.con i).c1
    · rw [if_pos e1]; simp [e1]
    · rw [if_neg e1]; simp [Ne.symm e0, Ne.symm e1]

theorem delConnCols_mem_nbrs (c d : Nat) : d ∈ (delConnCols g i)[c]!.nbrs ↔
    d ∈ (g.col c).nbrs ∧ (stillJoined g i = true ∨ ¬ joins g i c d) := by
  rw [delConnCols_get g i h0 h1 hne]
  unfold joins
  by_cases e0 : c = (g.con i).c0
  · subst e0; rw [if_pos rfl]
    cases hst : stillJoined g i
    · simp only [Bool.false_eq_true, if_false, mem_setDiscard, false_or]
      exact and_congr_right fun _ => ⟨fun h1 h2 => h2.elim (fun e => h1 e.2.symm) fun e => hne e.2.symm,
        fun h1 h2 => h1 (Or.inl ⟨trivial, h2.symm⟩)⟩
    · simp
  · rw [if_neg e0]
    by_cases e1 : c = (g.con i).c1
    · subst e1; rw [if_pos rfl]
      cases hst : stillJoined g i
      · simp only [Bool.false_eq_true, if_false, mem_setDiscard, false_or]
        exact and_congr_right fun _ => ⟨fun h1 h2 => h2.elim (fun e => hne e.1) fun e => h1 e.1.symm,
          fun h1 h2 => h1 (Or.inr ⟨h2.symm, trivial⟩)⟩
      · simp
    · rw [if_neg e1]
      exact (and_iff_left (Or.inr fun h => h.elim (fun e => e0 e.1.symm) fun e => e1 e.2.symm)).symm

end

theorem deleteConnection_spec {g' : Geo} {names : Name × Name} (hd : g.deleteConnection names = .ok g') (h : Inv0 g) :
    ∃ i, g.connD.get? names = some i ∧ i ∈ g.connlist ∧ g' = g.delConn names i ∧
      (g.con i).c0 ≠ (g.con i).c1 := by
  unfold deleteConnection at hd
  cases hk : g.connD.get? names with
  | none => rw [hk] at hd; cases hd
  | some i =>
    rw [hk] at hd
    simp only at hd
    have hil : i ∈ g.connlist := regOK_mem h.cons.reg hk
    have h0 := h.cols.lt _ (h.conEnds i hil).1
    split at hd
    · cases hd
    · split at hd
      · cases hd
      · rename_i hc1
        split at hd
        · cases hd
        · cases hd
          -- from the run, not the invariant: on a self-connection the second `contains` test fails
          have hne : (g.con i).c0 ≠ (g.con i).c1 := by
            intro e
            rw [← e, updCol_col, if_pos ⟨rfl, h0⟩] at hc1
            simp [rmCon] at hc1
          exact ⟨i, rfl, hil, rfl, hne⟩

theorem joins_of_touches {k a b : Nat} (hne : a ≠ b) :
    ((g.con k).c0 = a ∨ (g.con k).c1 = a) ∧ ((g.con k).c0 = b ∨ (g.con k).c1 = b) ↔ joins g k a b := by
  constructor
  · rintro ⟨h1 | h1, h2 | h2⟩
    · exact absurd (h1.symm.trans h2) hne
    · exact Or.inl ⟨h1, h2⟩
    · exact Or.inr ⟨h2, h1⟩
    · exact absurd (h1.symm.trans h2) hne
  · rintro (⟨h1, h2⟩ | ⟨h1, h2⟩)
    · exact ⟨Or.inl h1, Or.inr h2⟩
    · exact ⟨Or.inr h2, Or.inl h1⟩

theorem joins_pair {i k c d : Nat} (hi : joins g i c d) : joins g k (g.con i).c0 (g.con i).c1 ↔ joins g k c d := by
  rcases hi with ⟨e0, e1⟩ | ⟨e0, e1⟩
  · rw [e0, e1]
  · rw [e0, e1]; exact Or.comm

theorem deleteConnection_inv0 {g' : Geo} {names : Name × Name} (hd : g.deleteConnection names = .ok g') (h : Inv0 g) :
    Inv0 g' := by
  obtain ⟨i, hk, hil, rfl, hne⟩ := deleteConnection_spec hd h
  have h0 := h.cols.lt _ (h.conEnds i hil).1
  have h1 := h.cols.lt _ (h.conEnds i hil).2
  have hstill : stillJoined g i = true ↔ ∃ k ∈ g.connlist, k ≠ i ∧ joins g k (g.con i).c0 (g.con i).c1 := by
    simp only [stillJoined, List.any_eq_true, List.mem_filter, bne_iff_ne, ne_eq, Bool.or_eq_true, decide_eq_true_eq,
      h.colCons _ (h.conEnds i hil).1, ← joins_of_touches hne]
    exact exists_congr fun k => by simp only [and_assoc, and_left_comm, and_comm]
  rw [delConn_shape]
  refine h.setConns _ g.K _ _ (delConnCols_size g i)
    (delConnCols_proj (fun cl => { cl with cons := [], nbrs := [] }) (fun _ _ => rfl) (fun _ _ => rfl) g i)
    (h.cons.erase hk) ?_ ?_ ?_ ?_
  · exact fun k hk' => h.conEnds k (h.cons.mem_erase.mp hk').2
  · exact fun c hc => cached_erase (h.colCons c hc) h.cons.nodup (delConnCols_mem_cons g i h0 h1 hne c)
  · intro c hc d
    rw [delConnCols_mem_nbrs g i h0 h1 hne, h.nbrs c hc d, joined_iff, hstill]
    -- joined through `i` itself only if another connection joins the same pair
    constructor
    · rintro ⟨⟨k, hkl, hj⟩, hor⟩
      by_cases e : k = i
      · subst e
        obtain ⟨k', hkl', hki', hj'⟩ := hor.resolve_right (not_not_intro hj)
        exact ⟨k', h.cons.mem_erase.mpr ⟨hki', hkl'⟩, (joins_pair hj).mp hj'⟩
      · exact ⟨k, h.cons.mem_erase.mpr ⟨e, hkl⟩, hj⟩
    · rintro ⟨k, hk', hj⟩
      obtain ⟨hki, hkl⟩ := h.cons.mem_erase.mp hk'
      exact ⟨⟨k, hkl, hj⟩, (Classical.em (joins g i c d)).imp (fun hi => ⟨k, hkl, hki, (joins_pair hi).mpr hj⟩) id⟩
  · exact fun k hk' => h.conNodes k (h.cons.mem_erase.mp hk').2

end Proofs.Geo
