/-
  The table-reading loop of read_table_AUTOUGH2 (Model/ListingFile.lean) over the lines of one printed table:
  the loop runs until the line whose columns 1..5 are the table's keyword (`EEEEE`, `CCCCC`, `GGGGG`), stores the
  values of the k-th data line in row k, and one more line is read behind the terminator; skip_table_AUTOUGH2 on the
  same lines.  Core Lean only.
-/
import PyTough.Proofs.ListingWhole
namespace Proofs.Whole
open Py Model Model.Listing

/-- what one printed data line contributes: the values `read_table_line_AUTOUGH2` splits out of it, one per column;
    `none` when the real code would raise on this line (or numpy would broadcast a single value) -/
def rowOfLineA (nc : Nat) (start : Option Int) (d : Str) : Option (List FVal) :=
  match readTableLineAUTOUGH2 d start with
  | .ok vals => if vals.length = nc then some vals else none
  | .error _ => none

/-- rows `r, r+1, …` receive the values of consecutive data lines -/
def enumRows (r : Nat) (vs : List (List FVal)) : List (Nat × List FVal) :=
  (vs.zipIdx r).map fun p => (p.2, p.1)

theorem applyRows_enum (data : Array (Array FVal)) (r : Nat) (vs : List (List FVal)) (j : Nat) (v : List FVal)
    (hj : vs[j]? = some v) (hsz : r + vs.length ≤ data.size) :
    (applyRows data (enumRows r vs))[r + j]? = some v.toArray := by
  have hjl : j < vs.length := (List.getElem?_eq_some_iff.mp hj).1
  rw [enumRows, ← List.filterMap_eq_map]
  refine applyRows_line _ _ data j (v, r + j) _ v (by rw [List.getElem?_zipIdx, hj]; rfl) rfl (by omega) ?_
  -- a later entry of `zipIdx` carries a later row number
  intro j' d' hlt hj' v' h
  rw [List.getElem?_zipIdx] at hj'
  obtain ⟨x, _, rfl⟩ := Option.map_eq_some_iff.mp hj'
  injection h with h
  injection h with h
  omega

theorem rowOfLineA_some {nc : Nat} {start : Option Int} {d : Str} (h : (rowOfLineA nc start d).isSome = true) :
    ∃ vals, readTableLineAUTOUGH2 d start = .ok vals ∧ vals.length = nc ∧ rowOfLineA nc start d = some vals := by
  unfold rowOfLineA at h ⊢
  split at h
  · rename_i vals hv
    split at h
    · rename_i hl
      exact ⟨vals, hv, hl, by simp [hl]⟩
    · cases h
  · cases h

/-- the values of a data line (`[]` where `rowOfLineA` has none; the region conditions exclude it) -/
def valsA (nc : Nat) (start : Option Int) (d : Str) : List FVal := (rowOfLineA nc start d).getD []

/-- the row updates of the data lines `D`: line `j` fills row `j` -/
def upsA (t : Table) (D : List Str) : List (Nat × List FVal) :=
  enumRows 0 (D.map (valsA t.cols.length (t.numpos.headD none)))

theorem upsA_row (t : Table) (D : List Str)
    (hok : ∀ d ∈ D, (rowOfLineA t.cols.length (t.numpos.headD none) d).isSome = true)
    (hsz : D.length ≤ t.rows.size) (hdata : t.data.size = t.rows.size) (j : Nat) (d : Str) (hj : D[j]? = some d) :
    ∃ vals, readTableLineAUTOUGH2 d (t.numpos.headD none) = .ok vals ∧ vals.length = t.cols.length ∧
      (applyRows t.data (upsA t D))[j]? = some vals.toArray := by
  obtain ⟨vals, hv, hl, hf⟩ := rowOfLineA_some (hok d (List.mem_of_getElem? hj))
  refine ⟨vals, hv, hl, ?_⟩
  have := applyRows_enum t.data 0 (D.map (valsA t.cols.length (t.numpos.headD none))) j vals
    (by rw [List.getElem?_map, hj, Option.map_some, valsA, hf]; rfl) (by rw [List.length_map, hdata]; omega)
  rwa [Nat.zero_add] at this

theorem upsA_row_beyond (t : Table) (D : List Str) (i : Nat) (hi : D.length ≤ i) :
    (applyRows t.data (upsA t D))[i]? = t.data[i]? := by
  refine applyRows_untouched _ _ _ fun u hu => ?_
  obtain ⟨⟨v, k⟩, hm, rfl⟩ := List.mem_map.mp hu
  have := List.mem_zipIdx hm
  rw [List.length_map] at this
  omega

/-- the line in hand is `(D ++ [term]).headD []`: the first data line, or the terminator when `D` is empty -/
theorem autLoop_run (start : Option Int) (kw : Str) (D : List Str) (term : Str) (tail : List Str)
    (fuel : Nat) (row : Nat) (t : Table) (s : Rd)
    (hfuel : D.length < fuel)
    (hD : ∀ d ∈ D, slice d 1 6 ≠ kw) (hterm : slice term 1 6 = kw)
    (hrest : s.pos.rest = (D ++ [term]).tail ++ tail)
    (hok : ∀ d ∈ D, (rowOfLineA t.cols.length start d).isSome = true)
    (hsz : row + D.length ≤ t.rows.size) :
    readTableAUTOUGH2.loop start kw fuel ((D ++ [term]).headD []) row t s
      = .ok ({ t with data := applyRows t.data (enumRows row (D.map (valsA t.cols.length start))) },
             { s with pos := ⟨s.pos.no + D.length, tail⟩ }) := by
  induction fuel generalizing D row t s with
  | zero => cases hfuel
  | succ f ih =>
    cases D with
    | nil =>
      simp only [List.nil_append, List.headD_cons, List.tail_cons] at hrest ⊢
      unfold readTableAUTOUGH2.loop
      have hc : (slice term 1 6 != kw) = false := by simp [hterm]
      simp only [hc]
      simp only [List.length_nil, List.map_nil, enumRows, List.zipIdx_nil, applyRows]
      rw [rd_pos_eta s (s.pos.no + 0) tail rfl hrest]
      rfl
    | cons d D' =>
      simp only [List.cons_append, List.headD_cons, List.tail_cons] at hrest ⊢
      unfold readTableAUTOUGH2.loop
      have hc : (slice d 1 6 != kw) = true := by simpa using hD d List.mem_cons_self
      simp only [hc, if_true]
      obtain ⟨vals, hv, hl, hf⟩ := rowOfLineA_some (hok d List.mem_cons_self)
      have hset := setRowAt_ok t row vals (by simp only [List.length_cons] at hsz; omega) hl
      rw [hv, bind_ok (liftE_ok vals s)]
      rw [hset, bind_ok (liftE_ok _ s)]
      rw [bind_ok (readline_headD s (D' ++ [term]) tail (by simp) hrest)]
      rw [ih D' (row + 1) { t with data := t.data.set! row vals.toArray }
        { s with pos := ⟨s.pos.no + 1, (D' ++ [term]).tail ++ tail⟩ } (by simp only [List.length_cons] at hfuel; omega)
        (fun x hx => hD x (List.mem_cons_of_mem _ hx)) rfl
        (fun x hx => hok x (List.mem_cons_of_mem _ hx))
        (by simp only [List.length_cons] at hsz; simpa using (by omega : row + 1 + D'.length ≤ t.rows.size))]
      simp only [List.map_cons, valsA, hf, Option.getD_some, enumRows, List.zipIdx_cons, applyRows, List.length_cons]
      have e : s.pos.no + 1 + D'.length = s.pos.no + (D'.length + 1) := by omega
      rw [e]

/-- the lines of an AUTOUGH2 table region, from behind the three lines `read_header_AUTOUGH2` reads: the title block
    `A` (non-blank: AUTOUGH2 prints the keyword line once more, then the table's title), a blank line `b`, the column header block `B` (non-blank), blank lines `b2 :: Bl`, the
    data lines `D`, the terminator `term`, then `tail` -/
def autRegion (A : List Str) (b : Str) (B : List Str) (b2 : Str) (Bl D : List Str) (term : Str) (tail : List Str) : List Str :=
  A ++ b :: (B ++ b2 :: (Bl ++ ((D ++ [term]) ++ tail)))

/-- the conditions of `read_table_AUTOUGH2` on the parts of `autRegion`, for a table `t` that has been set up
    (`Props.C05.TableRegionA` is the same text) -/
def RegionAOk (tn : String) (t : Table) (A : List Str) (b : Str) (B : List Str) (b2 : Str) (Bl D : List Str) (term : Str) : Prop :=
  (∀ l ∈ A, isBlank l = false) ∧ isBlank b = true ∧ (∀ l ∈ B, isBlank l = false) ∧ isBlank b2 = true ∧
  (∀ l ∈ Bl, isBlank l = true) ∧ isBlank ((D ++ [term]).headD []) = false ∧
  (∀ d ∈ D, slice d 1 6 ≠ keyword5 tn) ∧ slice term 1 6 = keyword5 tn ∧
  (∀ d ∈ D, (rowOfLineA t.cols.length (t.numpos.headD none) d).isSome = true) ∧
  D.length ≤ t.rows.size ∧ t.data.size = t.rows.size

instance (tn : String) (t : Table) (A : List Str) (b : Str) (B : List Str) (b2 : Str) (Bl D : List Str) (term : Str) :
    Decidable (RegionAOk tn t A b B b2 Bl D term) := by
  unfold RegionAOk; infer_instance

theorem readTableAUTOUGH2_run (tn : String) (t : Table) (s : Rd)
    (A : List Str) (b : Str) (B : List Str) (b2 : Str) (Bl D : List Str) (term : Str) (tail : List Str)
    (ht : s.tables.lookup tn = some t)
    (hrest : s.pos.rest = autRegion A b B b2 Bl D term tail)
    (hreg : RegionAOk tn t A b B b2 Bl D term) :
    readTableAUTOUGH2 tn s = .ok ((),
      { s with pos := ⟨s.pos.no + (A.length + 1 + B.length + 1 + Bl.length + D.length + 1 + min 1 tail.length), tail.drop 1⟩,
               tables := upsert (·.1) s.tables (tn, { t with data := applyRows t.data (upsA t D) }) }) := by
  obtain ⟨hA, hb, hB, hb2, hBl, hfirst, hD, hterm, hok, hsz, _⟩ := hreg
  unfold readTableAUTOUGH2 autRegion upsA at *
  rw [bind_ok (getTable_ok tn t s ht)]
  rw [bind_ok (skipToBlank_run s)]
  rw [hrest, skipToBlankL_app A b _ _ hA hb]
  rw [bind_ok (readline_cons _ b _ rfl)]
  rw [bind_ok (skipToBlank_run _)]
  simp only
  rw [skipToBlankL_app B b2 _ _ hB hb2]
  have hL : (D ++ [term]) ++ tail = (D ++ [term]).headD [] :: ((D ++ [term]).tail ++ tail) := by
    cases D <;> simp
  rw [hL]
  rw [bind_ok (skipToNonblank_ok _ _ (skipToNonblankL_app (b2 :: Bl) _ _ _
    (fun x hx => by rcases List.mem_cons.mp hx with rfl | h; exact hb2; exact hBl x h) hfirst))]
  rw [bind_ok (readline_cons _ _ _ rfl)]
  rw [get_bind]
  rw [bind_ok (autLoop_run (t.numpos.headD none) (keyword5 tn) D term tail _ 0 t _ (by simp; omega) hD hterm rfl hok (by omega))]
  rw [bind_ok (putTable_run _ _ _)]
  rw [bind_ok (readline_any _)]
  rw [pure_run]
  congr 4
  simp only [List.length_cons]
  omega

theorem skipTableAUTOUGH2_gen (tn : String) (s : Rd) (A : List Str) (b : Str) (R : List Str) (term : Str) (tail : List Str)
    (hrest : s.pos.rest = A ++ b :: (R ++ term :: tail))
    (hA : ∀ l ∈ A, isBlank l = false) (hb : isBlank b = true)
    (hR : ∀ l ∈ b :: R, slice l 1 6 ≠ keyword5 tn) (hterm : slice term 1 6 = keyword5 tn) :
    skipTableAUTOUGH2 tn s = .ok ((),
      { s with pos := ⟨s.pos.no + (A.length + 1 + R.length + 1 + min 1 tail.length), tail.drop 1⟩ }) := by
  unfold skipTableAUTOUGH2
  rw [bind_ok (skipToBlank_run s)]
  rw [hrest, skipToBlankL_app A b _ _ hA hb]
  have hsplit : b :: (R ++ term :: tail) = (b :: R) ++ term :: tail := by simp
  rw [hsplit]
  rw [bind_ok (readUntil_ok _ _ _ term _ (readUntilL_app _ false (b :: R) term tail _
    (fun x hx => by simpa using hR x hx)
    (by simpa using hterm)))]
  simp only
  rw [bind_ok (readline_any _)]
  rw [pure_run]
  congr 4
  simp only [List.length_cons]
  omega

/-- skipping ends where reading the table ends, provided (`hhead`, which reading does not need) that no line between
    the first blank line and the data lines carries the keyword in columns 1..5 -/
theorem skipTableAUTOUGH2_run (tn : String) (s : Rd)
    (A : List Str) (b : Str) (B : List Str) (b2 : Str) (Bl D : List Str) (term : Str) (tail : List Str)
    (hrest : s.pos.rest = autRegion A b B b2 Bl D term tail)
    (hA : ∀ l ∈ A, isBlank l = false) (hb : isBlank b = true)
    (hhead : ∀ l ∈ b :: (B ++ b2 :: Bl), slice l 1 6 ≠ keyword5 tn)
    (hD : ∀ d ∈ D, slice d 1 6 ≠ keyword5 tn) (hterm : slice term 1 6 = keyword5 tn) :
    skipTableAUTOUGH2 tn s = .ok ((),
      { s with pos := ⟨s.pos.no + (A.length + 1 + B.length + 1 + Bl.length + D.length + 1 + min 1 tail.length), tail.drop 1⟩ }) := by
  rw [skipTableAUTOUGH2_gen tn s A b (B ++ b2 :: Bl ++ D) term tail (by rw [hrest]; simp [autRegion]) hA hb ?_ hterm]
  · congr 4
    simp only [List.length_cons, List.length_append]
    omega
  · intro x hx
    have hx' : x ∈ (b :: (B ++ b2 :: Bl)) ++ D := by simpa using hx
    rcases List.mem_append.mp hx' with h | h
    · exact hhead x h
    · exact hD x h

end Proofs.Whole
