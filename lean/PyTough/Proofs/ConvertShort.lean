/-
  Flavour conversion (C20): the SHORT section at the level of name lines, written and read back.  The heading line
  carries the frequency (a table over 0..99); each of the ELEME / CONNE / GENER sub-sections (`Sub`) is consumed by one
  round of `readShortLoop`, its items resolved against the grid and the generator lookup (`readShortLoop_run`).
-/
import PyTough.Proofs.ConvertSpec
import PyTough.Proofs.StrLemmas
namespace Proofs.Convert
open Py Model.Convert Gen.ConvertTables

/-- a name that can stand at the start of a line of a SHORT sub-section: five characters, not blank, not one of
    the sub-headings -/
def goodName (n : Str) : Bool := n.length == 5 && !n.all isStrWs && ![ELEME, CONNE, GENER].contains n

def goodBlocks (blocks : List Str) (l : List Item) : Bool :=
  l.all fun it => match it with | .blk n => goodName n && blocks.contains n | _ => false
def goodCons (cons : List (Str × Str)) (l : List Item) : Bool :=
  l.all fun it => match it with | .con a b => goodName a && b.length == 5 && cons.contains (a, b) | _ => false
def goodGens (dict : GDict) (l : List Item) : Bool :=
  l.all fun it => match it with | .gen i b n => goodName b && n.length == 5 && dict.lookup (b, n) == some i | _ => false

/-- a line at which a sub-reader stops (the others it keeps) -/
def stopLine (l : Str) : Bool := isBlankLine l || isSubHeading l

theorem takeSub_eq (ls : List Str) : takeSub ls = (ls.takeWhile (!stopLine ·), ls.dropWhile (!stopLine ·)) := by
  induction ls with
  | nil => rfl
  | cons l r ih =>
    rw [takeSub, ih, List.takeWhile_cons, List.dropWhile_cons]
    unfold stopLine
    cases isBlankLine l || isSubHeading l <;> rfl

theorem takeSub_append {ls : List Str} {x : Str} {r : List Str} (h : ∀ l ∈ ls, stopLine l = false) (hx : stopLine x = true) :
    takeSub (ls ++ x :: r) = (ls, x :: r) := by
  simp +contextual [takeSub_eq, List.takeWhile_append_of_pos, List.dropWhile_append_of_pos, h, hx]

theorem goodName_spec {n : Str} (h : goodName n = true) :
    n.length = 5 ∧ n.all isStrWs = false ∧ [ELEME, CONNE, GENER].contains n = false := by
  unfold goodName at h
  simp only [Bool.and_eq_true, beq_iff_eq, Bool.not_eq_true'] at h
  exact ⟨h.1.1, h.1.2, h.2⟩

theorem stopLine_name {n : Str} (b : Str) (h : goodName n = true) : stopLine (n ++ b) = false := by
  obtain ⟨h1, h2, h3⟩ := goodName_spec h
  unfold stopLine isBlankLine isSubHeading
  rw [slice_append_left n b 5 h1, h3]
  simp only [List.all_append, h2, Bool.false_and, Bool.or_self]

theorem readShortLoop_blank (blocks : List Str) (cons : List (Str × Str)) (dict : GDict) (fuel : Nat) (r : List Str) (so : Short) :
    readShortLoop blocks cons dict fuel ([] :: r) so = .ok so := by
  cases fuel with
  | zero => rfl
  | succ n => simp [readShortLoop, isBlankLine]

def conText : Item → Str | .con a b => a ++ b | _ => []
def genText : Item → Str | .gen _ b n => b ++ n | _ => []

theorem goodBlocks_item {blocks : List Str} {l : List Item} (h : goodBlocks blocks l = true) {it : Item} (hi : it ∈ l) :
    ∃ n, it = .blk n ∧ goodName n = true ∧ blocks.contains n = true := by
  have := List.all_eq_true.mp h it hi
  cases it with
  | blk n => simp only [Bool.and_eq_true] at this; exact ⟨n, rfl, this.1, this.2⟩
  | _ => cases this

theorem goodCons_item {cons : List (Str × Str)} {l : List Item} (h : goodCons cons l = true) {it : Item} (hi : it ∈ l) :
    ∃ a b, it = .con a b ∧ goodName a = true ∧ b.length = 5 ∧ cons.contains (a, b) = true := by
  have := List.all_eq_true.mp h it hi
  cases it with
  | con a b => simp only [Bool.and_eq_true, beq_iff_eq] at this; exact ⟨a, b, rfl, this.1.1, this.1.2, this.2⟩
  | _ => cases this

theorem goodGens_item {dict : GDict} {l : List Item} (h : goodGens dict l = true) {it : Item} (hi : it ∈ l) :
    ∃ i b n, it = .gen i b n ∧ goodName b = true ∧ n.length = 5 ∧ dict.lookup (b, n) = some i := by
  have := List.all_eq_true.mp h it hi
  cases it with
  | gen i b n => simp only [Bool.and_eq_true, beq_iff_eq] at this; exact ⟨i, b, n, rfl, this.1.1, this.1.2, this.2⟩
  | _ => cases this

theorem resolveBlocks_lines {blocks : List Str} {l : List Item} (h : goodBlocks blocks l = true) :
    resolveBlocks blocks (l.map blkText) = l := by
  unfold resolveBlocks
  rw [List.map_map]
  exact map_filter_map_self l fun it hi => by
    obtain ⟨n, rfl, hn, hc⟩ := goodBlocks_item h hi
    simp only [Function.comp, blkText, slice_zero_self n 5 (goodName_spec hn).1, hc, and_self]

theorem resolveCons_lines {cons : List (Str × Str)} {l : List Item} (h : goodCons cons l = true) :
    resolveCons cons (l.map conText) = l := by
  unfold resolveCons
  rw [List.map_map]
  exact map_filter_map_self l fun it hi => by
    obtain ⟨a, b, rfl, ha, hb, hc⟩ := goodCons_item h hi
    have h5 := (goodName_spec ha).1
    simp only [Function.comp, conText, slice_append_left a b 5 h5, slice_append_right a b 5 5 10 h5 hb rfl, hc, and_self]

theorem resolveGens_lines {dict : GDict} {l : List Item} (h : goodGens dict l = true) :
    resolveGens dict (l.map genText) = l := by
  unfold resolveGens
  rw [List.map_map]
  exact filterMap_map_self l fun it hi => by
    obtain ⟨i, b, n, rfl, hb, hn, hc⟩ := goodGens_item h hi
    have h5 := (goodName_spec hb).1
    simp only [Function.comp, genText, slice_append_left b n 5 h5, slice_append_right b n 5 5 10 h5 hn rfl, hc, Option.map_some]

/-- the kind of a sub-section; `Sub.kw` … `Sub.resolve` are the arms of `writeShort` and `readShortLoop` for each kind, so that a
    round of the loop is stated once (`readShortLoop_sub`) -/
inductive Sub | blocks | cons | gens

def Sub.kw : Sub → Str | .blocks => ELEME | .cons => CONNE | .gens => GENER
def Sub.line : Sub → Item → Str | .blocks => blkText | .cons => conText | .gens => genText
def Sub.wline : Sub → Item → Option Str | .blocks => shortBlockLine | .cons => shortConLine | .gens => shortGenLine
def Sub.good (blocks : List Str) (cons : List (Str × Str)) (dict : GDict) : Sub → List Item → Bool
  | .blocks => goodBlocks blocks | .cons => goodCons cons | .gens => goodGens dict
def Sub.set : Sub → Short → Option (List Item) → Short
  | .blocks, so, v => { so with block := v } | .cons, so, v => { so with con := v } | .gens, so, v => { so with gen := v }
def Sub.resolve (blocks : List Str) (cons : List (Str × Str)) (dict : GDict) : Sub → List Str → List Item
  | .blocks => resolveBlocks blocks | .cons => resolveCons cons | .gens => resolveGens dict

theorem readShortLoop_sub (blocks : List Str) (cons : List (Str × Str)) (dict : GDict) (s : Sub) (fuel : Nat)
    (r : List Str) (so : Short) :
    readShortLoop blocks cons dict (fuel + 1) (s.kw :: r) so =
      readShortLoop blocks cons dict fuel (takeSub r).2 (s.set so (some (s.resolve blocks cons dict (takeSub r).1))) := by
  cases s <;> rfl

theorem Sub.resolve_lines {blocks : List Str} {cons : List (Str × Str)} {dict : GDict} (s : Sub) {l : List Item}
    (h : s.good blocks cons dict l = true) : s.resolve blocks cons dict (l.map s.line) = l := by
  cases s
  · exact resolveBlocks_lines h
  · exact resolveCons_lines h
  · exact resolveGens_lines h

theorem sub_written {blocks : List Str} {cons : List (Str × Str)} {dict : GDict} {s : Sub} {l : List Item}
    (h : s.good blocks cons dict l = true) :
    l.mapM s.wline = some (l.map s.line) ∧ ∀ x ∈ l.map s.line, stopLine x = false := by
  have item : ∀ it ∈ l, s.wline it = some (s.line it) ∧ stopLine (s.line it) = false := by
    intro it hi
    cases s with
    | blocks =>
      obtain ⟨n, rfl, hn, _⟩ := goodBlocks_item h hi
      exact ⟨rfl, List.append_nil n ▸ stopLine_name [] hn⟩
    | cons =>
      obtain ⟨a, b, rfl, ha, _, _⟩ := goodCons_item h hi
      exact ⟨rfl, stopLine_name b ha⟩
    | gens =>
      obtain ⟨i, b, n, rfl, hb, _, _⟩ := goodGens_item h hi
      exact ⟨rfl, stopLine_name n hb⟩
  refine ⟨mapM_pure_map _ _ _ fun it hi => (item it hi).1, fun x hx => ?_⟩
  obtain ⟨it, hi, rfl⟩ := List.mem_map.mp hx
  exact (item it hi).2

/-- the lines of the sub-sections `subs` (each a kind and its items) as `writeShort` prints them -/
def subsLines (subs : List (Sub × List Item)) : List Str := subs.flatMap fun p => p.1.kw :: p.2.map p.1.line

/-- with more fuel than lines, the loop reads the printed sub-sections back up to the blank line (each round consumes at least its sub-heading) -/
theorem readShortLoop_run {blocks : List Str} {cons : List (Str × Str)} {dict : GDict} {subs : List (Sub × List Item)}
    (hgood : ∀ p ∈ subs, p.1.good blocks cons dict p.2 = true) {fuel : Nat} (hfuel : (subsLines subs).length < fuel)
    (r : List Str) (so : Short) :
    readShortLoop blocks cons dict fuel (subsLines subs ++ [] :: r) so = .ok (subs.foldl (fun so p => p.1.set so (some p.2)) so) := by
  induction subs generalizing fuel so with
  | nil => exact readShortLoop_blank blocks cons dict fuel r so
  | cons p more ih =>
    obtain ⟨s, l⟩ := p
    have hg := hgood (s, l) List.mem_cons_self
    -- what follows the items is the next sub-heading or the closing blank line
    obtain ⟨x, r', hx, hxr⟩ : ∃ x r', stopLine x = true ∧ subsLines more ++ [] :: r = x :: r' := by
      cases more with
      | nil => exact ⟨[], r, by decide, rfl⟩
      | cons q _ => exact ⟨q.1.kw, _, by cases q.1 <;> decide, rfl⟩
    simp only [subsLines, List.flatMap_cons, List.length_append, List.length_cons] at hfuel
    cases fuel with
    | zero => cases hfuel
    | succ f =>
      have e : subsLines ((s, l) :: more) ++ [] :: r = s.kw :: (l.map s.line ++ (subsLines more ++ [] :: r)) := by
        simp [subsLines]
      rw [e, readShortLoop_sub, hxr, takeSub_append (sub_written hg).2 hx,
        s.resolve_lines hg, ← hxr]
      exact ih (fun p hp => hgood p (List.mem_cons_of_mem _ hp)) (by rw [subsLines]; omega) _

theorem subLines_eq (blocks : List Str) (cons : List (Str × Str)) (dict : GDict) (s : Sub) (ov : Option (List Item))
    (hgood : ∀ l, ov = some l → s.good blocks cons dict l = true) :
    subLines s.kw s.wline ov = some (subsLines (ov.toList.map (s, ·))) := by
  cases ov with
  | none => rfl
  | some l => simp [subLines, (sub_written (hgood l rfl)).1, subsLines]

/-- the sub-sections of `so` that are present, in the order written -/
def presentSubs (so : Short) : List (Sub × List Item) :=
  so.block.toList.map (.blocks, ·) ++ so.con.toList.map (.cons, ·) ++ so.gen.toList.map (.gens, ·)

/-- what `frequency` reads back as: absent, `None` and 0 all give `None` (nothing is printed for them) -/
def canonFreq : Option PyV → PyV
  | some (.int f) => if f = 0 then .none else .int f
  | _ => .none

/-- a frequency the heading line can carry in its two columns -/
def goodFreq : Option PyV → Bool
  | none => true
  | some .none => true
  | some (.int f) => decide (0 ≤ f) && decide (f < 100)
  | _ => false

def readFreq (h : Str) : PyV := match pyInt (slice h 5 7) with | .ok i => PyV.int i | .error _ => PyV.none

theorem readShort_eq (blocks : List Str) (cons : List (Str × Str)) (dict : GDict) (h : Str) (body : List Str) :
    readShort blocks cons dict h body =
      readShortLoop blocks cons dict (body.length + 1) body { freq := some (readFreq h) } := by
  unfold readShort readFreq
  rfl

theorem freq_table : ∀ n : Nat, n < 100 →
    readFreq (if (n : Int) = 0 then SHORT else SHORT ++ rjust (intText n) 2) = (if (n : Int) = 0 then PyV.none else PyV.int n) := by
  decide +kernel

theorem header_roundtrip {so : Short} (hf : goodFreq so.freq = true) :
    ∃ h, shortHeader so = some h ∧ readFreq h = canonFreq so.freq := by
  unfold shortHeader
  cases hfr : so.freq with
  | none => exact ⟨SHORT, rfl, by decide⟩
  | some v =>
    rw [hfr] at hf
    cases v with
    | none => exact ⟨SHORT, rfl, by decide⟩
    | num q => cases hf
    | str s => cases hf
    | int f =>
      simp only [goodFreq, Bool.and_eq_true, decide_eq_true_eq] at hf
      refine ⟨_, rfl, ?_⟩
      have hn : f = (f.toNat : Int) := by omega
      have := freq_table f.toNat (by omega)
      rw [← hn] at this
      simpa [canonFreq] using this

end Proofs.Convert
