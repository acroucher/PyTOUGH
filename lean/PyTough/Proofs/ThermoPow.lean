/-
  `IAPWS97.power_array` computes powers: for a well-formed chain (the decidable predicate
  `chainWF`, discharged by `decide` over the generated chains) and a non-zero value `v`, every
  defined entry `k` of the array holds `v ^ k`.
-/
import PyTough.Proofs.ThermoReal
import PyTough.Proofs.ListLemmas

namespace Proofs.Thermo
open Model.Thermo

/-- index `k` lies inside an array with `npos` positive and `nneg` negative slots -/
def InR (npos nneg : Nat) (k : Int) : Prop := -(nneg : Int) ≤ k ∧ k ≤ (npos : Int)

theorem pyPos_eq {npos nneg : Nat} {k : Int} (h : InR npos nneg k) :
    (pyPos (1 + npos + nneg) k : Int) = if 0 ≤ k then k else 1 + npos + nneg + k := by
  unfold InR at h; unfold pyPos
  by_cases h0 : 0 ≤ k
  · rw [if_pos h0, if_pos h0]; omega
  · rw [if_neg h0, if_neg h0, if_pos (by omega)]; omega

theorem pyPos_lt {npos nneg : Nat} {k : Int} (h : InR npos nneg k) : pyPos (1 + npos + nneg) k < 1 + npos + nneg := by
  have e := pyPos_eq h
  unfold InR at h
  omega

theorem pyPos_inj {npos nneg : Nat} {k k' : Int} (h : InR npos nneg k) (h' : InR npos nneg k')
    (e : pyPos (1 + npos + nneg) k = pyPos (1 + npos + nneg) k') : k = k' := by
  have e1 := pyPos_eq h
  have e2 := pyPos_eq h'
  rw [e] at e1
  unfold InR at h h'
  omega

theorem get_set {npos nneg : Nat} {p : List ℝ} (hl : p.length = 1 + npos + nneg) {k k' : Int}
    (hk : InR npos nneg k) (hk' : InR npos nneg k') (x : ℝ) :
    PArr.get (PArr.set p k x) k' = if k = k' then x else PArr.get p k' := by
  unfold PArr.get PArr.set
  rw [List.length_set, getD_set, hl]
  exact if_congr ⟨fun h => pyPos_inj hk hk' h.1, fun h => ⟨h ▸ rfl, pyPos_lt hk⟩⟩ rfl rfl

/-- the invariant of the chain walk: the entries listed in `D` are in range and hold the powers -/
def PowInv (v : ℝ) (npos nneg : Nat) (p : List ℝ) (D : List Int) : Prop :=
  p.length = 1 + npos + nneg ∧ ∀ k ∈ D, InR npos nneg k ∧ PArr.get p k = v ^ k

variable {v : ℝ} {npos nneg : Nat} {p : List ℝ} {D : List Int}

theorem PowInv.set (h : PowInv v npos nneg p D) {k : Int} (hr : InR npos nneg k) (hk : k ∉ D) (x : ℝ) : PowInv v npos nneg (PArr.set p k x) D ∧ PArr.get (PArr.set p k x) k = x := by
  refine ⟨⟨List.length_set.trans h.1, fun j hj => ⟨(h.2 j hj).1, ?_⟩⟩, (get_set h.1 hr hr x).trans (if_pos rfl)⟩
  rw [get_set h.1 hr (h.2 j hj).1, if_neg fun e : k = j => hk (e ▸ hj)]
  exact (h.2 j hj).2

theorem PowInv.cons (h : PowInv v npos nneg p D) {k : Int} (hr : InR npos nneg k) (e : PArr.get p k = v ^ k) : PowInv v npos nneg p (k :: D) :=
  ⟨h.1, fun j hj => (List.mem_cons.mp hj).elim (fun ej => ej ▸ ⟨hr, e⟩) (h.2 j)⟩

theorem PowInv.mono {D' : List Int} (h : PowInv v npos nneg p D) (hs : ∀ k ∈ D', k ∈ D) : PowInv v npos nneg p D' :=
  ⟨h.1, fun k hk => h.2 k (hs k hk)⟩

theorem step_inv (hv : v ≠ 0) (h : PowInv v npos nneg p D) (tgt : Int) (ops : List Int)
    (hne : ops ≠ []) (hops : ∀ o ∈ ops, o ∈ D) (hsum : ops.foldl (· + ·) 0 = tgt) (hnew : tgt ∉ D)
    (hr : InR npos nneg tgt) : PowInv v npos nneg (chainStep p (tgt, ops)) (tgt :: D) := by
  cases ops with
  | nil => exact absurd rfl hne
  | cons o rest =>
    -- the loop `p[tgt] *= p[m]`: `D` stays as it is, and the exponent held at `tgt` grows by `m`
    have inner : ∀ (rest : List Int), (∀ m ∈ rest, m ∈ D) → ∀ (q : List ℝ) (s : Int), PowInv v npos nneg q D → PArr.get q tgt = v ^ s →
        let q' := rest.foldl (fun q m => PArr.set q tgt (PArr.get q tgt * PArr.get q m)) q
        PowInv v npos nneg q' D ∧ PArr.get q' tgt = v ^ (rest.foldl (· + ·) s) := by
      intro rest
      induction rest with
      | nil => intro _ q s h1 h2; exact ⟨h1, h2⟩
      | cons m rest ih =>
        intro hm q s h1 h2
        obtain ⟨h1', e⟩ := h1.set hr hnew (PArr.get q tgt * PArr.get q m)
        exact ih (fun x hx => hm x (by simp [hx])) _ _ h1' (by rw [e, h2, (h1.2 m (hm m (by simp))).2, ← zpow_add₀ hv])
    obtain ⟨h1, e⟩ := h.set hr hnew (PArr.get p o)
    obtain ⟨l1, l3⟩ := inner rest (fun m hm => hops m (by simp [hm])) _ o h1 (by rw [e]; exact (h.2 o (hops o (by simp))).2)
    have hs : rest.foldl (· + ·) o = tgt := by
      rw [← hsum]; simp [List.foldl_cons]
    exact l1.cons hr (by rw [l3, hs])

theorem chainWFAux_cons {tgt : Int} {ops : List Int} {rest : List (Int × List Int)} :
    chainWFAux npos nneg D ((tgt, ops) :: rest) = true ↔ ops ≠ [] ∧ (∀ o ∈ ops, o ∈ D) ∧ ops.foldl (· + ·) 0 = tgt ∧ tgt ∉ D ∧
      InR npos nneg tgt ∧ chainWFAux npos nneg (tgt :: D) rest = true := by
  simp only [chainWFAux, InR, Bool.and_eq_true, Bool.not_eq_true', List.isEmpty_iff, ne_eq, List.all_eq_true,
    List.contains_iff_mem, beq_iff_eq, decide_eq_true_eq, ← Bool.not_eq_true, and_assoc]

theorem fold_inv (hv : v ≠ 0) : ∀ (comb : List (Int × List Int)) (p : List ℝ) (D : List Int), PowInv v npos nneg p D →
    chainWFAux npos nneg D comb = true → PowInv v npos nneg (comb.foldl chainStep p) ((comb.map Prod.fst).reverse ++ D)
  | [], _, _, h, _ => h
  | (tgt, ops) :: rest, p, D, h, hwf => by
    obtain ⟨hne, hops, hsum, hnew, hr, hrest⟩ := chainWFAux_cons.mp hwf
    rw [List.map_cons, List.reverse_cons, List.append_assoc]
    exact fold_inv hv rest _ _ (step_inv hv h tgt ops hne hops hsum hnew hr) hrest

theorem one_le_chainNneg (comb : List (Int × List Int)) : 1 ≤ chainNneg comb := by
  unfold chainNneg
  rw [← List.foldl_map (g := max), List.foldl_max]
  exact le_max_left _ _

theorem powerArray_eq_zpow (comb : List (Int × List Int)) (hwf : chainWF comb = true) (v : ℝ) (hv : v ≠ 0) :
    ∀ k ∈ chainDefined comb, PArr.get (powerArray v comb) k = v ^ k := by
  unfold chainWF at hwf
  simp only [Bool.and_eq_true, decide_eq_true_eq] at hwf
  obtain ⟨hpos, haux⟩ := hwf
  have hneg := one_le_chainNneg comb
  intro k hk
  unfold powerArray
  simp only
  set npos := chainNpos comb
  set nneg := chainNneg comb
  have r0 : InR npos nneg 0 := by unfold InR; omega
  have r1 : InR npos nneg 1 := by unfold InR; omega
  have rm : InR npos nneg (-1) := by unfold InR; omega
  have hz : (le v (ofInt 0 : ℝ) && le (ofInt 0 : ℝ) v) = false := by
    rw [tf_le', tf_le', tf_ofInt]
    simp only [Int.cast_zero, Bool.and_eq_false_imp, decide_eq_true_eq, decide_eq_false_iff_not, not_le]
    intro h; exact lt_of_le_of_ne h hv
  rw [hz]
  simp only [Bool.false_eq_true, if_false]
  -- the three initial writes `p[0] = 1`, `p[1] = v`, `p[-1] = 1/v`
  have h0 : PowInv v npos nneg (List.replicate (1 + npos + nneg) (ofInt 0)) [] := ⟨by simp, fun _ hj => absurd hj List.not_mem_nil⟩
  obtain ⟨h1, e1⟩ := h0.set r0 List.not_mem_nil (ofInt 1)
  obtain ⟨h2, e2⟩ := (h1.cons r0 (by rw [e1]; simp [tf_ofInt])).set r1 (by decide) v
  obtain ⟨h3, e3⟩ := (h2.cons r1 (by rw [e2]; simp)).set rm (by decide) (ofInt 1 / v)
  have hinv := (h3.cons rm (by rw [e3]; simp [tf_ofInt])).mono (D' := [0, 1, -1]) (by decide)
  refine ((fold_inv hv comb _ _ hinv haux).2 k ?_).2
  rw [List.mem_append, List.mem_reverse]
  exact (List.mem_append.mp hk).symm

end Proofs.Thermo
