/-
  `Covers` restricted to a set of reader states.  `Proofs.Nav.Covers` quantifies over ALL states, which no real file
  satisfies (two arbitrary states need not even belong to the same file).  Here the hypothesis is asked only of states
  satisfying an invariant `P` that every successful re-read preserves — e.g. the finite orbit of the opened reader, for
  which both conditions are a decidable per-file check (`orbitOk`).  Core Lean only.
-/
import PyTough.Model.ListingNav
import PyTough.Proofs.ListingNav
import PyTough.Proofs.ListLemmas
import PyTough.Model.ListingHistory
namespace Proofs.NavOn
open Py Model.Nav Proofs.Nav

variable {V E W : Type}

def CoversOn (P : V → Prop) (N : Nav V E) (view : V → W) : Prop :=
  ∀ j v v', j < N.n → P v → P v' → (N.load j v).map view = (N.load j v').map view

def PreservedBy (P : V → Prop) (N : Nav V E) : Prop :=
  ∀ j v v', j < N.n → P v → N.load j v = .ok v' → P v'

/-- `s` satisfies `P` and is what some `load j` returned from a state satisfying `P` -/
def LoadedOn (P : V → Prop) (N : Nav V E) (s : V) : Prop := P s ∧ ∃ j u, j < N.n ∧ P u ∧ N.load j u = .ok s

theorem setIndex_loadedOn {P : V → Prop} {N : Nav V E} (hp : PreservedBy P N) {i : Int} {v s : V} (hv : P v)
    (h : setIndex N i v = .ok s) : LoadedOn P N s := by
  obtain ⟨k, hk, _, _, hload⟩ := setIndex_norm h
  exact ⟨hp _ _ _ hk hv hload, k, v, hk, hv, hload⟩

theorem apply_loadedOn {T : Type} {P : V → Prop} (N : Nav V E) (hp : PreservedBy P N) (lt : T → T → Bool) (dist : T → T → T)
    (times : List T) (steps : List Int) (op : Op T) (v s : V) (b : Bool) (hv : LoadedOn P N v)
    (h : apply N lt dist times steps op v = .ok (b, s)) : LoadedOn P N s := by
  cases op with
  | first | last | index _ => exact setIndex_loadedOn hp hv.1 (map_true_ok h).2
  | next | prev =>
    simp only [apply, next, prev] at h
    split at h
    · exact setIndex_loadedOn hp hv.1 (map_true_ok h).2
    · cases h; exact hv
  | time _ | step _ =>
    obtain ⟨_, _, hi⟩ := setNearest_ok (map_true_ok h).2
    exact setIndex_loadedOn hp hv.1 hi
  | history => cases h; exact hv

theorem run_loadedOn {T : Type} {P : V → Prop} (N : Nav V E) (hp : PreservedBy P N) (lt : T → T → Bool) (dist : T → T → T)
    (times : List T) (steps : List Int) (ops : List (Op T)) (v s : V) (hv : LoadedOn P N v)
    (h : run N lt dist times steps ops v = .ok s) : LoadedOn P N s := by
  induction ops generalizing v with
  | nil => simp only [run] at h; injection h with h; subst h; exact hv
  | cons op ops ih =>
    simp only [run] at h
    split at h
    · rename_i b v' hop
      exact ih v' (apply_loadedOn N hp lt dist times steps op v v' b hv hop) h
    · cases h

theorem nav_view_eq_fresh_on {T : Type} (P : V → Prop) (N : Nav V E) (view : V → W) (hp : PreservedBy P N)
    (hcov : CoversOn P N view) (hl : LoadSetsIndex N)
    (lt : T → T → Bool) (dist : T → T → T) (times : List T) (steps : List Int)
    (u v0 s : V) (hu : P u) (hopen : first N u = .ok v0)
    (ops : List (Op T)) (hrun : run N lt dist times steps ops v0 = .ok s) :
    ∃ f, setIndex N (N.idx s) v0 = .ok f ∧ view f = view s ∧ N.idx f = N.idx s := by
  have h0 : LoadedOn P N v0 := setIndex_loadedOn hp hu hopen
  obtain ⟨_, j, w, hj, hw, hload⟩ := run_loadedOn N hp lt dist times steps ops v0 s h0 hrun
  have hidx : N.idx s = (j : Int) := hl _ _ _ hload
  have h1 : (N.load j v0).map view = .ok (view s) := by
    rw [hcov j v0 w hj h0.1 hw, hload]; rfl
  obtain ⟨f, hf, hvf⟩ := map_ok_iff.mp h1
  refine ⟨f, ?_, hvf.symm, ?_⟩
  · rw [hidx, setIndex_natCast N hj]; exact hf
  · rw [hl _ _ _ hf, hidx]

def orbitOk [DecidableEq V] [DecidableEq W] [DecidableEq E] (N : Nav V E) (view : V → W) (S : List V) : Bool :=
  (List.range N.n).all fun j => S.all fun v =>
    (match N.load j v with | .ok v' => S.contains v' | .error _ => true) &&
    S.all fun v' => decide ((N.load j v).map view = (N.load j v').map view)

theorem orbitOk_spec [DecidableEq V] [DecidableEq W] [DecidableEq E] (N : Nav V E) (view : V → W) (S : List V)
    (h : orbitOk N view S = true) : PreservedBy (· ∈ S) N ∧ CoversOn (· ∈ S) N view := by
  simp only [orbitOk, List.all_eq_true, List.mem_range, Bool.and_eq_true, decide_eq_true_eq] at h
  constructor
  · intro j v v' hj hv hload
    have := (h j hj v hv).1
    rw [hload] at this
    simpa using this
  · intro j v v' hj hv hv'
    exact (h j hj v hv).2 v' hv'

end Proofs.NavOn

-- `orbitOk` compares reader states; the model files derive no decidable equality for them
deriving instance DecidableEq for Model.Listing.Pos
deriving instance DecidableEq for Model.Listing.Table
deriving instance DecidableEq for Model.Listing.Rd

namespace Proofs.NavOn
open Py Model Model.Listing

/-- what a listing reader shows: index, time, step and the contents of every table -/
structure FileView where
  index : Int
  time : FVal
  step : Step
  tables : List (String × Array (Array FVal))
  deriving DecidableEq

def fileView (s : Rd) : FileView := ⟨s.index, s.time, s.step, s.tables.map fun nt => (nt.1, nt.2.data)⟩

end Proofs.NavOn
