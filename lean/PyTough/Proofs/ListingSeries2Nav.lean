/-
  Every navigation action is `index = k` for an index `k` the action computes (Model/ListingNav.lean): first → 0,
  last → n-1, next → i+1, prev → i-1, index = j → j (j + n when negative), time = t / step = s → the nearest-selection
  index, spelled out (`NearestSel`).  next at the last and prev at the first index report False and change nothing.
  Core Lean only.
-/
import PyTough.Model.ListingNav
import PyTough.Proofs.ListingNav
namespace Proofs.Series2Nav
open Py Model.Nav Proofs.Nav

variable {V E T : Type}

/-- what `set_time(t)` / `set_step(s)` select, as a non-negative index `k` into the result values `vals`
    (`fulltimes` / `fullsteps`):
    * `t` below the first value: `k = 0`;
    * otherwise `t` above the last value: `k = len - 1` (the code assigns `-1`);
    * otherwise `k` is the FIRST index whose value is at minimal distance from `t` (`numpy.argmin(abs(vals - t))`):
      no value is strictly nearer, and every earlier value is strictly farther. -/
def NearestSel (lt : T → T → Bool) (dist : T → T → T) (vals : List T) (t : T) (k : Nat) : Prop :=
  ∃ v0 vl, vals[0]? = some v0 ∧ vals[vals.length - 1]? = some vl ∧
    ((lt t v0 = true ∧ k = 0) ∨
     (lt t v0 = false ∧ lt vl t = true ∧ k = vals.length - 1) ∨
     (lt t v0 = false ∧ lt vl t = false ∧ ∃ vk, vals[k]? = some vk ∧
        (∀ (j : Nat) (vj : T), vals[j]? = some vj → lt (dist vj t) (dist vk t) = false) ∧
        (∀ (j : Nat) (vj : T), j < k → vals[j]? = some vj → lt (dist vk t) (dist vj t) = true)))

def ActionIndex (lt : T → T → Bool) (dist : T → T → T) (times : List T) (steps : List Int) (n : Nat) (i : Int) :
    Op T → Nat → Prop
  | .first, k => k = 0
  | .last, k => k + 1 = n
  | .next, k => i + 1 < n ∧ (k : Int) = i + 1
  | .prev, k => 0 < i ∧ (k : Int) = i - 1
  | .index j, k => (0 ≤ j ∧ (k : Int) = j) ∨ (j < 0 ∧ (k : Int) = j + n)
  | .time t, k => NearestSel lt dist times t k
  | .step x, k => NearestSel (fun a b => decide (a < b)) distInt steps x k
  | .history, _ => False

theorem nearestIndex_sel (lt : T → T → Bool) (dist : T → T → T) (hlt : StrictWeak lt) (vals : List T) (t : T) (i : Int)
    (h : nearestIndex lt dist vals t = some i) :
    NearestSel lt dist vals t (if i < 0 then i + (vals.length : Int) else i).toNat := by
  obtain ⟨v0, vl, h0, hl, hpos, hcase⟩ := nearestIndex_cases lt dist vals t i h
  refine ⟨v0, vl, h0, hl, ?_⟩
  rcases hcase with ⟨hlow, rfl⟩ | ⟨hlow, hhigh, rfl⟩ | ⟨hlow, hhigh, rfl⟩
  · exact .inl ⟨hlow, rfl⟩
  · exact .inr (.inl ⟨hlow, hhigh, by rw [if_pos (by omega)]; omega⟩)
  · obtain ⟨vk, hk, hmin, hfirst⟩ := argmin_map_spec lt hlt (fun v => dist v t) vals (List.ne_nil_of_length_pos hpos)
    generalize argmin lt (vals.map fun v => dist v t) = a at hk hfirst ⊢
    rw [normIdx_natCast]
    exact .inr (.inr ⟨hlow, hhigh, vk, hk, hmin, hfirst⟩)

theorem setIndex_sel {N : Nav V E} {i : Int} {v s : V} (h : setIndex N i v = .ok s) :
    ∃ k : Nat, k < N.n ∧ ((0 ≤ i ∧ (k : Int) = i) ∨ (i < 0 ∧ (k : Int) = i + N.n)) ∧
      setIndex N (k : Int) v = .ok s ∧ N.load k v = .ok s := by
  obtain ⟨k, hk, hki, hs, hload⟩ := setIndex_norm h
  refine ⟨k, hk, ?_, hs, hload⟩
  split at hki
  · exact .inr ⟨‹_›, hki⟩
  · exact .inl ⟨Int.not_lt.mp ‹_›, hki⟩

theorem setNearest_sel {N : Nav V E} {lt : T → T → Bool} {dist : T → T → T} (hlt : StrictWeak lt) {vals : List T}
    (hn : vals.length = N.n) {t : T} {v s : V} (h : setNearest N lt dist vals t v = .ok s) :
    ∃ k : Nat, k < N.n ∧ NearestSel lt dist vals t k ∧ setIndex N (k : Int) v = .ok s ∧ N.load k v = .ok s := by
  obtain ⟨i, hi, h⟩ := setNearest_ok h
  obtain ⟨k, hk, hki, hs, hload⟩ := setIndex_norm h
  have := nearestIndex_sel lt dist hlt vals t i hi
  rw [hn, ← hki, Int.toNat_natCast] at this
  exact ⟨k, hk, this, hs, hload⟩

/-- the first index at minimal distance is in particular at minimal distance; so are the two clamps when the values are in order -/
theorem NearestSel.minimal {lt : T → T → Bool} {dist : T → T → T} (ho : NearestOrder lt dist) {vals : List T} {t : T} {k : Nat}
    (hsorted : vals.Pairwise (fun a b => lt b a = false)) (h : NearestSel lt dist vals t k) :
    ∃ vk, vals[k]? = some vk ∧ ∀ (j : Nat) (vj : T), vals[j]? = some vj → lt (dist vj t) (dist vk t) = false := by
  obtain ⟨v0, vl, h0, hl, hcase⟩ := h
  rcases hcase with ⟨hlow, rfl⟩ | ⟨_, hhigh, rfl⟩ | ⟨_, _, vk, hk, hmin, _⟩
  · exact ⟨v0, h0, fun j vj hj => ho.low _ _ _ hlow (sorted_getElem? lt ho.sw.irrefl hsorted (Nat.zero_le j) h0 hj)⟩
  · refine ⟨vl, hl, fun j vj hj => ho.high _ _ _ hhigh ?_⟩
    have hj' := (List.getElem?_eq_some_iff.mp hj).1
    exact sorted_getElem? lt ho.sw.irrefl hsorted (by omega) hj hl
  · exact ⟨vk, hk, hmin⟩

/-- `listing.time = t` / `listing.step = x`: for result values in non-decreasing order the index reached holds a value at
    minimal distance from `t` -/
theorem _root_.Proofs.Nav.setNearest_nearest (lt : T → T → Bool) (dist : T → T → T) (ho : NearestOrder lt dist) (N : Nav V E)
    (hl : LoadSetsIndex N) (vals : List T) (t : T) (v s : V)
    (hn : vals.length = N.n) (hsorted : vals.Pairwise (fun a b => lt b a = false))
    (h : setNearest N lt dist vals t v = .ok s) :
    ∃ vj, vals[(N.idx s).toNat]? = some vj ∧ 0 ≤ N.idx s ∧
      ∀ (k : Nat) (vk : T), vals[k]? = some vk → lt (dist vk t) (dist vj t) = false := by
  obtain ⟨k, _, hsel, _, hload⟩ := setNearest_sel ho.sw hn h
  obtain ⟨vj, hk, hmin⟩ := hsel.minimal ho hsorted
  rw [hl _ _ _ hload]
  exact ⟨vj, hk, Int.natCast_nonneg k, hmin⟩

theorem action_is_set_index (N : Nav V E) (lt : T → T → Bool) (dist : T → T → T) (hlt : StrictWeak lt)
    (times : List T) (steps : List Int) (hnt : times.length = N.n) (hns : steps.length = N.n)
    (op : Op T) (v s : V) (b : Bool) (hv : 0 ≤ N.idx v ∧ N.idx v < N.n)
    (h : apply N lt dist times steps op v = .ok (b, s)) :
    (b = false ∧ s = v ∧ ((op = .next ∧ N.idx v = (N.n : Int) - 1) ∨ (op = .prev ∧ N.idx v = 0))) ∨
    (b = true ∧ s = v ∧ op = .history) ∨
    (b = true ∧ ∃ k : Nat, k < N.n ∧ ActionIndex lt dist times steps N.n (N.idx v) op k ∧
      setIndex N (k : Int) v = .ok s ∧ N.load k v = .ok s) := by
  cases op with
  | first =>
    obtain ⟨k, hk, hki, hs⟩ := setIndex_sel (map_true_ok h).2
    exact .inr (.inr ⟨(map_true_ok h).1, k, hk, show k = 0 by omega, hs⟩)
  | last =>
    obtain ⟨k, hk, hki, hs⟩ := setIndex_sel (map_true_ok h).2
    exact .inr (.inr ⟨(map_true_ok h).1, k, hk, show k + 1 = N.n by omega, hs⟩)
  | index j => exact .inr (.inr ⟨(map_true_ok h).1, setIndex_sel (map_true_ok h).2⟩)
  | next =>
    simp only [apply, next] at h
    split at h
    · obtain ⟨k, hk, hki, hs⟩ := setIndex_sel (map_true_ok h).2
      have e : (k : Int) = N.idx v + 1 := by omega
      exact .inr (.inr ⟨(map_true_ok h).1, k, hk, ⟨by omega, e⟩, hs⟩)
    · cases h
      exact .inl ⟨rfl, rfl, .inl ⟨rfl, by omega⟩⟩
  | prev =>
    simp only [apply, prev] at h
    split at h
    · obtain ⟨k, hk, hki, hs⟩ := setIndex_sel (map_true_ok h).2
      have e : (k : Int) = N.idx v - 1 := by omega
      exact .inr (.inr ⟨(map_true_ok h).1, k, hk, ⟨by omega, e⟩, hs⟩)
    · cases h
      exact .inl ⟨rfl, rfl, .inr ⟨rfl, by omega⟩⟩
  | time t => exact .inr (.inr ⟨(map_true_ok h).1, setNearest_sel hlt hnt (map_true_ok h).2⟩)
  | step x => exact .inr (.inr ⟨(map_true_ok h).1, setNearest_sel nearestOrder_int.sw hns (map_true_ok h).2⟩)
  | history =>
    cases h
    exact .inr (.inl ⟨rfl, rfl, rfl⟩)

theorem next_at_last (N : Nav V E) (v : V) (h : N.idx v ≥ (N.n : Int) - 1) : next N v = .ok (false, v) := by
  unfold next; rw [if_neg (by omega)]

theorem prev_at_first (N : Nav V E) (v : V) (h : N.idx v ≤ 0) : prev N v = .ok (false, v) := by
  unfold prev; rw [if_neg (by omega)]

end Proofs.Series2Nav
