/-
  From the method-level lemmas to `step`: the constructor-and-add calls a grid is built with
  (followed through `Fresh`: what such a call lists is new, what it touches is its own; the
  invariant alone is the case of the empty heap) and the calls that hand an existing object to
  `add_*` again.
-/
import PyTough.Proofs.GridOpsCon
namespace Proofs.Grid
open Py Model Model.Grid Model.Grid.World

theorem rockUsedIn_eq_false {w : World} {g : Grid} {x : Nat} (h : rockUsedIn w g x = false) :
    ∀ b ∈ g.blocklist, (w.bk b).rock ≠ x := by
  intro b hb e
  have : rockUsedIn w g x = true := List.any_eq_true.mpr ⟨b, hb, by simp [e]⟩
  rw [h] at this; cases this

theorem rockNameInUse_eq_false {w : World} {nm : Name} (h : rockNameInUse w nm = false) :
    ∀ old, dget w.rocktype nm = some old → ∀ b ∈ w.blocklist, (w.bk b).rock ≠ old := by
  intro old hd
  unfold rockNameInUse at h; rw [hd] at h
  exact rockUsedIn_eq_false (g := w.grid) h

theorem blockNameConnected_eq_false {w : World} {nm : Name} (h : blockNameConnected w nm = false) :
    ∀ old, dget w.block nm = some old → (w.bk old).conn = [] := by
  intro old hd
  unfold blockNameConnected at h; rw [hd] at h
  simpa using h

/-- `v` is a state reached while a second grid is being built in the heap of `w`: it is consistent,
    lists only objects created since, and has left the objects of `w` untouched
    (`l*`: the heaps have not shrunk, `n*`: what is listed is new, `e*`: the old objects are equal; `r`, `b`, `c`: rocks, blocks, connections) -/
structure Fresh (w v : World) : Prop where
  inv : Grid.Inv v
  lr : w.rocks.length ≤ v.rocks.length
  lb : w.blks.length ≤ v.blks.length
  lc : w.cons.length ≤ v.cons.length
  nr : ∀ x ∈ v.rocktypelist, w.rocks.length ≤ x
  nb : ∀ x ∈ v.blocklist, w.blks.length ≤ x
  nc : ∀ x ∈ v.connectionlist, w.cons.length ≤ x
  er : ∀ x, x < w.rocks.length → v.rk x = w.rk x
  eb : ∀ x, x < w.blks.length → v.bk x = w.bk x
  ec : ∀ x, x < w.cons.length → v.cn x = w.cn x

/-- one more constructor-and-add call: `v'` lists at most the object just allocated beyond what `v` lists.
    `eb` exempts the listed blocks: `add_connection` writes into the two it joins. -/
theorem Fresh.step {w v v' : World} (h : Fresh w v) (hI' : Grid.Inv v')
    (lr : v.rocks.length ≤ v'.rocks.length) (lb : v.blks.length ≤ v'.blks.length) (lc : v.cons.length ≤ v'.cons.length)
    (nr : ∀ x ∈ v'.rocktypelist, x = v.rocks.length ∨ x ∈ v.rocktypelist)
    (nb : ∀ x ∈ v'.blocklist, x = v.blks.length ∨ x ∈ v.blocklist)
    (nc : ∀ x ∈ v'.connectionlist, x = v.cons.length ∨ x ∈ v.connectionlist)
    (er : ∀ x, x < v.rocks.length → v'.rk x = v.rk x)
    (eb : ∀ x, x < v.blks.length → x ∉ v.blocklist → v'.bk x = v.bk x)
    (ec : ∀ x, x < v.cons.length → v'.cn x = v.cn x) : Fresh w v' :=
  { inv := hI'
    lr := Nat.le_trans h.lr lr, lb := Nat.le_trans h.lb lb, lc := Nat.le_trans h.lc lc
    nr := fun x hx => (nr x hx).elim (fun e => e ▸ h.lr) (h.nr x)
    nb := fun x hx => (nb x hx).elim (fun e => e ▸ h.lb) (h.nb x)
    nc := fun x hx => (nc x hx).elim (fun e => e ▸ h.lc) (h.nc x)
    er := fun x hx => (er x (Nat.lt_of_lt_of_le hx h.lr)).trans (h.er x hx)
    eb := fun x hx => (eb x (Nat.lt_of_lt_of_le hx h.lb) fun hm => Nat.lt_irrefl _ (Nat.lt_of_lt_of_le hx (h.nb x hm))).trans (h.eb x hx)
    ec := fun x hx => (ec x (Nat.lt_of_lt_of_le hx h.lc)).trans (h.ec x hx) }

theorem Fresh.of_inv {v : World} (hI : Grid.Inv v) : Fresh World.empty v :=
  { inv := hI
    lr := Nat.zero_le _, lb := Nat.zero_le _, lc := Nat.zero_le _
    nr := fun _ _ => Nat.zero_le _, nb := fun _ _ => Nat.zero_le _, nc := fun _ _ => Nat.zero_le _
    er := fun _ h => (nomatch h), eb := fun _ h => (nomatch h), ec := fun _ h => (nomatch h) }

theorem stepBasic_fresh {w v : World} (h : Fresh w v) (op : Op) (hpre : preBasic v op = true) :
    Fresh w (stepBasic v op).w := by
  cases op with
  | addRocktype nm tag =>
    simp only [preBasic, Bool.not_eq_true'] at hpre
    obtain ⟨l, e, hI', hm, _⟩ := addRocktype_new_spec h.inv { name := nm, tag := tag } (rockNameInUse_eq_false hpre)
    simp only [stepBasic, stepAddRocktype, ofR_w]
    rw [e]
    exact h.step hI' (by simp) (Nat.le_refl _) (Nat.le_refl _) hm
      (fun _ => Or.inr) (fun _ => Or.inr) (fun x hx => rk_newRock_old _ hx) (fun _ _ _ => rfl) (fun _ _ => rfl)
  | addBlock nm rock vol centre =>
    simp only [preBasic, Bool.and_eq_true, Bool.not_eq_true', Option.isSome_iff_exists] at hpre
    obtain ⟨⟨rt, hrt⟩, hfree⟩ := hpre
    obtain ⟨l, e, hI', hm, _⟩ := addBlock_new_spec h.inv { name := nm, volume := vol, rock := rt, centre := centre, conn := [] }
      rfl (h.inv.rd_sound _ _ hrt).1 (blockNameConnected_eq_false hfree)
    simp only [stepBasic, stepAddBlock, hrt, ofR_w]
    rw [e]
    exact h.step hI' (Nat.le_refl _) (by simp) (Nat.le_refl _) (fun _ => Or.inr)
      hm (fun _ => Or.inr)
      (fun _ _ => rfl) (fun x hx _ => bk_newBlk_old _ hx) (fun _ _ => rfl)
  | addConnection n0 n1 p =>
    simp only [preBasic, Bool.and_eq_true, Option.isSome_iff_exists, bne_iff_ne, ne_eq] at hpre
    obtain ⟨⟨⟨b0, h0⟩, ⟨b1, h1⟩⟩, hne⟩ := hpre
    have hb0 := h.inv.bd_sound _ _ h0
    have hb1 := h.inv.bd_sound _ _ h1
    obtain ⟨l, e, hI', hm, _⟩ := addConnection_new_spec h.inv (mkCon b0 b1 p) hb0.1 hb1.1
      fun e : b0 = b1 => hne (hb0.2.symm.trans (e ▸ hb1.2))
    simp only [stepBasic, stepAddConnection, World.blockOrFresh, h0, h1, ofR_w]
    rw [e, worldOf_ok]
    refine h.step hI' (Nat.le_refl _) (Nat.le_of_eq (conWorld_blks_length ..).symm) (by simp [conWorld]) (fun _ => Or.inr)
      (fun _ => Or.inr) hm (fun _ _ => rfl)
      (fun x _ hxb => ?_) (fun x hx => cn_newCon_old _ hx)
    exact bk_conWorld_ne _ _ _ _ _ _ _ (fun e : x = b0 => hxb (e ▸ hb0.1)) (fun e : x = b1 => hxb (e ▸ hb1.1))
  -- `preBasic` is `false` for every other operation
  | _ => cases hpre

theorem runBasic_fresh {w v : World} (h : Fresh w v) (ops : List Op) (hpre : preAllBasic v ops = true) :
    Fresh w (runBasic v ops) := by
  induction ops generalizing v with
  | nil => exact h
  | cons op r ih =>
    simp only [preAllBasic, Bool.and_eq_true] at hpre
    exact ih (stepBasic_fresh h op hpre.1) hpre.2

theorem stepBasic_inv {w : World} (hI : Grid.Inv w) (op : Op) (hpre : preBasic w op = true) :
    Grid.Inv (stepBasic w op).w :=
  (stepBasic_fresh (.of_inv hI) op hpre).inv

theorem runBasic_inv {w : World} (hI : Grid.Inv w) (ops : List Op) (hpre : preAllBasic w ops = true) :
    Grid.Inv (runBasic w ops) :=
  (runBasic_fresh (.of_inv hI) ops hpre).inv

theorem stepReuse_inv {w : World} (hI : Grid.Inv w) (op : Op) (hpre : pre w op = true) :
    Grid.Inv (stepReuse w op).w := by
  cases op with
  -- `pre` is `false` for `addBlockFresh` (it hands over a block with an unregistered rock type)
  | addBlockFresh nm rock vol centre => cases hpre
  | readdBlock nm =>
    simp only [pre] at hpre
    simp only [stepReuse]
    cases ho : outsideBlock w nm with
    | none => exact hI
    | some b =>
      simp only [ho, Bool.and_eq_true, List.isEmpty_iff, decide_eq_true_eq, Bool.not_eq_true'] at hpre
      obtain ⟨hlt, hnew, hname⟩ := findOutside_some ho
      simp only [beq_iff_eq] at hname
      obtain ⟨_, e, hI', _⟩ := addBlock_spec hI hlt hnew hpre.1.1 hpre.1.2 (hname ▸ blockNameConnected_eq_false hpre.2)
      exact inv_ofR (e ▸ hI')
  | readdRocktype nm =>
    simp only [pre] at hpre
    simp only [stepReuse]
    cases ho : outsideRock w nm with
    | none => exact hI
    | some r =>
      simp only [ho, Bool.not_eq_true'] at hpre
      obtain ⟨hlt, hnew, hname⟩ := findOutside_some ho
      simp only [beq_iff_eq] at hname
      obtain ⟨_, e, hI', _⟩ := addRocktype_spec hI hlt hnew (hname ▸ rockNameInUse_eq_false hpre)
      exact inv_ofR (e ▸ hI')
  | readdConnection n0 n1 =>
    simp only [pre] at hpre
    simp only [stepReuse]
    cases ho : outsideCon w (n0, n1) with
    | none => exact hI
    | some c =>
      simp only [ho, Bool.and_eq_true, decide_eq_true_eq, bne_iff_ne, ne_eq] at hpre
      obtain ⟨hlt, hnew, _⟩ := findOutside_some ho
      obtain ⟨_, e, hI', _⟩ := addConnection_spec hI hlt hnew hpre.1.1 hpre.1.2 hpre.2
      exact inv_ofR (e ▸ hI')
  | againBlock nm =>
    simp only [stepReuse]
    cases hd : dget w.block nm with
    | none => exact hI
    | some b =>
      exact inv_ofR (addBlock_again_inv hI (hI.bd_sound _ _ hd).1)
  -- `stepReuse` leaves the state as it is for the operations that are not its own
  | _ => exact hI

end Proofs.Grid
