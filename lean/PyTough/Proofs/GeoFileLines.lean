/-
  C03 proofs: a right-justified name survives `ljust(3)` on the way to the file and `strip().rjust(L)` on
  the way back; a reader's `while line.strip()` loop run over the lines of a list of records (`loop_run`,
  for `sectionLoop` and for the loop of `read_columns` alike); what the files of the single sections share.
-/
import PyTough.Proofs.GeoFileNum
namespace Proofs.GeoFile
open Py Model Model.GeoFile Proofs

/-! ### right-justified names -/

theorem takeWhile_blank (n : Str) :
    n.takeWhile (· == ' ') = List.replicate (n.takeWhile (· == ' ')).length ' ' :=
  List.eq_replicate_iff.mpr ⟨rfl, fun x hx => by simpa using mem_takeWhile_imp hx⟩

theorem not_mem_of_noNewline {n : Str} (h : noNewline n = true) : '\n' ∉ n := by
  unfold noNewline at h
  intro hc
  have := List.all_eq_true.mp h _ hc
  simp at this

/-- `nameOK L n` in the form the proofs use: `L` characters, blanks followed by a core that neither starts nor ends in
    whitespace, no line break -/
structure NameShape (L : Nat) (n : Str) : Prop where
  ex : ∃ k core a b, n = List.replicate k ' ' ++ core ∧ core.head? = some a ∧ core.getLast? = some b ∧
        isStrWs a = false ∧ isStrWs b = false
  len : n.length = L
  nonl : '\n' ∉ n

theorem nameShape_of_ok {L : Nat} {n : Str} (h : nameOK L n = true) : NameShape L n := by
  unfold nameOK at h
  simp only [Bool.and_eq_true, beq_iff_eq] at h
  obtain ⟨⟨hl, hc⟩, hn⟩ := h
  refine ⟨?_, hl, not_mem_of_noNewline hn⟩
  unfold coreOK at hc
  simp only at hc
  generalize hcore : n.dropWhile (· == ' ') = core at hc
  cases hh : core.head? with
  | none => simp [hh] at hc
  | some a =>
    cases hg : core.getLast? with
    | none => simp [hh, hg] at hc
    | some b =>
      simp only [hh, hg, Bool.and_eq_true, Bool.not_eq_true'] at hc
      refine ⟨(n.takeWhile (· == ' ')).length, core, a, b, ?_, hh, hg, hc.1, hc.2⟩
      rw [← takeWhile_blank, ← hcore, List.takeWhile_append_dropWhile]

theorem strip_shape {k j : Nat} {core : Str} {a b : Char} (ha : core.head? = some a) (hb : core.getLast? = some b)
    (hwa : isStrWs a = false) (hwb : isStrWs b = false) :
    strip (List.replicate k ' ' ++ core ++ List.replicate j ' ') = core :=
  stripBy_around (spaces_ws k) (spaces_ws j) (fun _ hx => Option.some.inj (ha.symm.trans hx) ▸ hwa)
    (fun _ hx => Option.some.inj (hb.symm.trans hx) ▸ hwb)

/-- **right-justified names are safe**: the transformations applied to a name on the way to the
    file (`ljust(3)`) and back (`strip().rjust(L)`) are inverse for a right-justified name of the
    convention's length `L` -/
theorem fixName_ljust {L : Nat} {n : Str} (h : NameShape L n) : fixName (ljust n 3) L = n := by
  obtain ⟨k, core, a, b, rfl, ha, hb, hwa, hwb⟩ := h.ex
  unfold fixName ljust
  rw [strip_shape ha hb hwa hwb]
  unfold rjust
  have := h.len
  simp only [List.length_append, List.length_replicate] at this
  congr 2
  omega

theorem nameShape_nonblank {L : Nat} {n : Str} (h : NameShape L n) : ∃ c ∈ n, isStrWs c = false := by
  obtain ⟨k, core, a, b, rfl, ha, _, hwa, _⟩ := h.ex
  cases core with
  | nil => simp at ha
  | cons x r =>
    simp only [List.head?_cons, Option.some.injEq] at ha
    subst ha
    exact ⟨x, by simp, hwa⟩

/-- a name written `ljust(3)` in a `3s` field -/
def nameItem (n : Str) : Item := strItem 3 (ljust n 3)

theorem nameItem_ok {L : Nat} {n : Str} (hL : L ≤ 3) (h : NameShape L n) : ItemOK (nameItem n) :=
  strItem_ok 3 _ ((pad_length true 3 n).trans (Nat.max_eq_left (h.len ▸ hL))) (pad_no_newline (left := true) h.nonl)

/-! ### blank and non-blank lines -/

theorem isBlank_false_of_mem {l : Str} {c : Char} (hc : c ∈ l) (hw : isStrWs c = false) : isBlank l = false := by
  unfold isBlank
  exact strip_ne_nil hc hw

theorem isBlank_of_all {l : Str} (h : ∀ c ∈ l, isStrWs c = true) : isBlank l = true := by
  unfold isBlank strip
  rw [stripBy_all _ _ h]; rfl

theorem isBlank_newline : isBlank ['\n'] = true := by decide

theorem isBlank_padded_newline : isBlank (padstring ['\n']) = true := by decide

theorem padstring_eq (l : Str) : padstring l = l ++ List.replicate (80 - l.length) ' ' := rfl

/-! ### the lines of a written file -/

theorem pyLines_line (b rest : Str) (h : '\n' ∉ b) :
    pyLines (b ++ '\n' :: rest) = (b ++ ['\n']) :: pyLines rest := by
  induction b with
  | nil => simp [pyLines]
  | cons c r ih =>
    simp only [List.mem_cons, not_or] at h
    have hc : c ≠ '\n' := fun e => h.1 e.symm
    simp only [List.cons_append, pyLines, if_neg hc, ih h.2]

/-- a line that ends in its only newline -/
def GoodLine (l : Str) : Prop := ∃ b, l = b ++ ['\n'] ∧ '\n' ∉ b

theorem pyLines_flatten (ls : List Str) (h : ∀ l ∈ ls, GoodLine l) :
    pyLines ls.flatten = ls := by
  induction ls with
  | nil => rfl
  | cons l r ih =>
    obtain ⟨b, rfl, hb⟩ := h l (by simp)
    rw [List.flatten_cons, List.append_assoc, List.singleton_append, pyLines_line _ _ hb,
      ih (fun x hx => h x (List.mem_cons_of_mem _ hx))]

/-! ### the section loop -/

theorem sectionLoop_blank (step : Geo → Str → Except Exc Geo) (g : Geo) (line : Str) (ls : List Str)
    (h : isBlank line = true) : sectionLoop step g line ls = .ok (g, ls) := by
  cases ls <;> simp [sectionLoop, h]

theorem readline_cons (l : Str) (ls : List Str) : readline (l :: ls) = (l, ls) := rfl

theorem length_readline (ls : List Str) : (readline ls).2.length = ls.length - 1 := by cases ls <;> rfl

theorem sectionLoop_next (step : Geo → Str → Except Exc Geo) (g g' : Geo) (line : Str) (ls : List Str)
    (h : isBlank line = false) (hs : step g line = .ok g') :
    sectionLoop step g line ls = sectionLoop step g' (readline ls).1 (readline ls).2 := by
  cases ls with
  | nil => simp [sectionLoop, h, hs, readline, show isBlank [] = true from rfl]
  | cons l r => simp [sectionLoop, h, hs, readline]

theorem padstring_line (b : Str) : ∃ extra, padstring (b ++ ['\n']) = b ++ '\n' :: extra := by
  refine ⟨List.replicate (80 - (b ++ ['\n']).length) ' ', ?_⟩
  rw [padstring_eq]; simp

/-- the lines of one record: its own line `head a` and the lines `sub a` that follow it (a column's node lines; else none) -/
def recLines {α : Type} (head : α → Str) (sub : α → List Str) (a : α) : List Str := (head a ++ ['\n']) :: sub a

/-- A reader's loop run over the lines of the records `xs` and the blank line that closes the section ends in `xs.foldl f g` and
    leaves `tail`, if one turn on the lines of a record does what `f` does (the last hypothesis).  `n` is the loop's fuel
    (`sectionLoop` has none: `simpleSection` passes a loop that ignores `n`); `pad` is what `readSection` does to the first line only
    (`padstring`), so the induction goes on with `pad := id`. -/
theorem loop_run {α : Type} (loop : Nat → Geo → Str → List Str → Except Exc (Geo × List Str))
    (f : Geo → α → Geo) (head : α → Str) (sub : α → List Str)
    (hblank : ∀ n g line ls, isBlank line = true → loop (n + 1) g line ls = .ok (g, ls)) :
    ∀ (xs : List α) (g : Geo) (n : Nat) (pad : Str → Str) (tail : List Str),
    (∀ b, ∃ extra, pad (b ++ ['\n']) = b ++ '\n' :: extra) → isBlank (pad ['\n']) = true → xs.length < n →
    (∀ pre a post, xs = pre ++ a :: post → ∀ n extra ls,
      loop (n + 1) (pre.foldl f g) (head a ++ '\n' :: extra) (sub a ++ ls)
        = loop n (f (pre.foldl f g) a) (readline ls).1 (readline ls).2) →
    loop n g (pad (readline (xs.flatMap (recLines head sub) ++ ['\n'] :: tail)).1)
      (readline (xs.flatMap (recLines head sub) ++ ['\n'] :: tail)).2 = .ok (xs.foldl f g, tail) := by
  intro xs
  induction xs with
  | nil =>
    intro g n pad tail _ hpb hn _
    obtain ⟨m, rfl⟩ : ∃ m, n = m + 1 := ⟨n - 1, by simp at hn; omega⟩
    exact hblank m g _ _ hpb
  | cons a r ih =>
    intro g n pad tail hpad _ hn hstep
    obtain ⟨m, rfl⟩ : ∃ m, n = m + 1 := ⟨n - 1, by simp at hn; omega⟩
    obtain ⟨extra, he⟩ := hpad (head a)
    simp only [List.flatMap_cons, recLines, List.cons_append, readline_cons, List.append_assoc, List.foldl_cons]
    rw [he]
    exact (hstep [] a r rfl m extra _).trans (ih (f g a) m id tail (fun b => ⟨[], rfl⟩) isBlank_newline (by simpa using hn)
      (fun pre x post e => hstep (a :: pre) x post (by rw [e]; rfl)))

/-! ### a section whose records take one line each -/

def recTextLines {α : Type} (items : α → List Item) (xs : List α) : List Str := xs.map fun a => recText (items a) ++ ['\n']

theorem simpleSection {α : Type} (step : Geo → Str → Except Exc Geo) (f : Geo → α → Geo) (items : α → List Item)
    (xs : List α) (g : Geo) (tail : List Str)
    (hstep : ∀ pre a post, xs = pre ++ a :: post → (∃ c ∈ recText (items a), isStrWs c = false) ∧
      ∀ extra : Str, step (pre.foldl f g) (recText (items a) ++ '\n' :: extra) = .ok (f (pre.foldl f g) a)) :
    sectionLoop step g (padstring (readline (recTextLines items xs ++ ['\n'] :: tail)).1)
      (readline (recTextLines items xs ++ ['\n'] :: tail)).2 = .ok (xs.foldl f g, tail) := by
  have := loop_run (fun _ => sectionLoop step) f (fun a => recText (items a)) (fun _ => [])
    (fun _ g line ls => sectionLoop_blank step g line ls)
    xs g (xs.length + 1) padstring tail padstring_line isBlank_padded_newline (Nat.lt_succ_self _)
    (fun pre a post e n extra ls => by
      obtain ⟨⟨c, hc, hw⟩, hs⟩ := hstep pre a post e
      exact sectionLoop_next step _ _ _ ls (isBlank_false_of_mem (c := c) (List.mem_append_left _ hc) hw) (hs extra))
  rwa [show xs.flatMap (recLines (fun a => recText (items a)) fun _ => []) = recTextLines items xs from
    List.map_eq_flatMap.symm] at this

/-! ### coordinate items; what a reader's step makes of the value read back from an item -/

theorem ofFVal_fin (neg : Bool) (m : Nat) (e : Int) : ofFVal (.fin neg m e) = some (ofDec neg m e) := by
  unfold ofFVal ofDec
  by_cases h : m = 0 <;> simp [h]

theorem fltOf_fin (neg : Bool) (m : Nat) (e : Int) : fltOf (.flt (.fin neg m e)) = .ok (ofDec neg m e) := by
  simp only [fltOf, ofFVal_fin]

/-- the item of a coordinate `x` (metres) written with `p` decimals in file units -/
def coordItem (p : Nat) (s : Rat) (x : Flt) : Item := fItem p (x.div s)

theorem coordItem_ok {p : Nat} {s : Rat} {x : Flt} (h : fitsC p s x = true) : ItemOK (coordItem p s x) :=
  fItem_ok h

theorem strOf_nameItem (n : Str) : strOf (nameItem n).read = .ok (ljust n 3) := rfl

theorem strOf_rjustItem (w : Nat) (nm : Str) : strOf (rjustItem w nm).read = .ok (rjust nm w) := rfl

theorem fltOf_coordItem (p : Nat) (s : Rat) (x : Flt) : fltOf (coordItem p s x).read = .ok (roundF p (x.div s)) :=
  fltOf_fin ..

/-- some character of the record text is not whitespace (so the loop does not stop there) -/
theorem nonblank_of_name {L : Nat} {n : Str} (h : NameShape L n) (rest : List Item) :
    ∃ c ∈ recText (nameItem n :: rest), isStrWs c = false := by
  obtain ⟨c, hc, hw⟩ := nameShape_nonblank h
  exact ⟨c, List.mem_flatten.mpr ⟨(nameItem n).text, List.mem_cons_self, List.mem_append_left _ hc⟩, hw⟩

/-! ### looking a record up by its name (`lookupNode`, `lookupColumn`, `lookupLayer` are this `find?`) -/

theorem find?_name_isSome {α : Type} (nm : α → Str) {l : List α} {x : Str} :
    (l.find? fun a => decide (nm a = x)).isSome = true ↔ x ∈ l.map nm := by
  rw [List.find?_isSome, List.mem_map]
  simp only [decide_eq_true_eq]

theorem find?_name_none {α : Type} (nm : α → Str) {l : List α} {x : Str} (h : x ∉ l.map nm) :
    (l.find? fun a => decide (nm a = x)) = none :=
  Option.not_isSome_iff_eq_none.mp (mt (find?_name_isSome nm).mp h)

theorem lookupNode_isSome {ns : List GNode} {name : Str} : (lookupNode ns name).isSome = true ↔ name ∈ ns.map (·.name) :=
  find?_name_isSome GNode.name

theorem lookupColumn_isSome {cs : List GColumn} {name : Str} :
    (lookupColumn cs name).isSome = true ↔ name ∈ cs.map (·.name) :=
  find?_name_isSome GColumn.name

theorem lookupNode_none {ns : List GNode} {name : Str} (h : name ∉ ns.map (·.name)) : lookupNode ns name = none :=
  find?_name_none GNode.name h

theorem lookupColumn_none {cs : List GColumn} {name : Str} (h : name ∉ cs.map (·.name)) : lookupColumn cs name = none :=
  find?_name_none GColumn.name h

theorem lookupLayer_none {ls : List GLayer} {name : Str} (h : name ∉ ls.map (·.name)) : lookupLayer ls name = none :=
  find?_name_none GLayer.name h

/-! ### lists, folds, and what `readSection` looks up in the header -/

theorem not_mem_of_nodup_append_cons {α : Type} {l r : List α} {a : α} (h : (l ++ a :: r).Nodup) : a ∉ l :=
  fun hc => (List.nodup_append.mp h).2.2 a hc a List.mem_cons_self rfl

theorem foldl_keeps {σ α β : Type} {f : σ → α → σ} (π : σ → β) (h : ∀ g a, π (f g a) = π g) (l : List α) (g : σ) :
    π (l.foldl f g) = π g := by
  induction l generalizing g with
  | nil => rfl
  | cons a r ih => rw [List.foldl_cons, ih, h]

theorem length_le_flatMap {α β : Type} (f : α → List β) (l : List α) (h : ∀ a ∈ l, f a ≠ []) :
    l.length ≤ (l.flatMap f).length := by
  rw [List.flatMap_def, ← List.length_map f]
  exact flatten_length_ge _ fun x hx => by
    obtain ⟨a, ha, rfl⟩ := List.mem_map.mp hx
    exact h a ha

/-- `mk l`: the state that holds the list `l`, everything else fixed; `add` appends to that list unless the key is there -/
theorem foldl_insertNew {σ α κ : Type} (key : α → κ) (add : σ → α → σ) (mk : List α → σ)
    (hadd : ∀ l a, key a ∉ l.map key → add (mk l) a = mk (l ++ [a])) : ∀ (as l : List α),
    (l.map key ++ as.map key).Nodup → as.foldl add (mk l) = mk (l ++ as)
  | [], l, _ => by rw [List.append_nil]; rfl
  | a :: as, l, hd => by
    rw [List.foldl_cons, hadd l a (not_mem_of_nodup_append_cons hd),
      foldl_insertNew key add mk hadd as (l ++ [a]) (by simpa [List.append_assoc] using hd), List.append_assoc]
    rfl

theorem lookup_eq_none_of_not_mem {κ β : Type} [BEq κ] [LawfulBEq κ] {k : κ} {l : List (κ × β)} (h : k ∉ l.map (·.1)) :
    l.lookup k = none :=
  List.lookup_eq_none_iff.mpr fun p hp => bne_iff_ne.mpr fun e => h (List.mem_map.mpr ⟨p, hp, e.symm⟩)

/-- what `readSection` looks up before it reads a line (`hL`, `hLL` follow from `cl`, `ll`: no entry of the two tables exceeds 3) -/
structure Env (g : Geo) (L LL : Nat) (s : Rat) : Prop where
  cl : colnameLength g.hdr.convention = .ok L
  ll : layernameLength g.hdr.convention = .ok LL
  sc : unitScale g.hdr.unitType = .ok s
  hL : L ≤ 3
  hLL : LL ≤ 3

end Proofs.GeoFile
