/-
  Records of `fixed_format_file.py`, written by `write_values_to_string` and read by `parse_string`.
  The idea: a written line is the concatenation of texts of exactly the fields' widths
  (`written_widths`) and `parse_string` reads its first field from the first `width` columns and the
  others from the rest (`parseString_cons`), so parsing a written record reads each field from its
  own text (`parse_written`; from the widths alone: `parseString_texts`, `parse_complete`); what one
  field reads back as is `roundtrip_*`.
-/
import PyTough.Proofs.FixedFmt
namespace Proofs
open Py Model

theorem fmtVal_e_real {f : FieldSpec} (h : f.typ = 'e') (r : Rat) :
    fmtVal f (.real r) = .ok (pad f.left f.width
      (signChars (decide (r < 0)) ++ fmtEBody (f.prec.getD 6) r.num.natAbs r.den)) := by
  unfold fmtVal signChars
  simp [h]

theorem fmtVal_e_int {f : FieldSpec} (h : f.typ = 'e') (i : Int) :
    fmtVal f (.int i) = .ok (pad f.left f.width
      (signChars (decide (i < 0)) ++ fmtEBody (f.prec.getD 6) i.natAbs 1)) := by
  unfold fmtVal signChars
  simp [h]

theorem fmtVal_f_real {f : FieldSpec} (h : f.typ = 'f') (r : Rat) :
    fmtVal f (.real r) = .ok (pad f.left f.width
      (signChars (decide (r < 0)) ++ fmtFBody (f.prec.getD 6) r.num.natAbs r.den)) := by
  unfold fmtVal signChars
  simp [h]

theorem fmtVal_f_int {f : FieldSpec} (h : f.typ = 'f') (i : Int) :
    fmtVal f (.int i) = .ok (pad f.left f.width
      (signChars (decide (i < 0)) ++ fmtFBody (f.prec.getD 6) i.natAbs 1)) := by
  unfold fmtVal signChars
  simp [h]

theorem fmtVal_d_int {f : FieldSpec} (h : f.typ = 'd') (i : Int) :
    fmtVal f (.int i) = .ok (pad f.left f.width (signChars (decide (i < 0)) ++ natDigits i.natAbs)) := by
  unfold fmtVal signChars
  simp [h]

/-- `'%…' % None` raises for every type letter -/
theorem fmtVal_none (f : FieldSpec) (s : Str) : fmtVal f .none ≠ .ok s := by
  unfold fmtVal
  simp only
  by_cases hs : f.typ = 's'
  · rw [if_pos hs]; nofun
  · rw [if_neg hs]
    by_cases hd : f.typ = 'd'
    · rw [if_pos hd]; nofun
    · rw [if_neg hd]; split <;> nofun

/-- `'%w.ks'` keeps the first `k` characters; `'%ws'` all of them -/
def strTrunc : Option Nat → Str → Str
  | some k, s => s.take k
  | none, s => s

theorem mem_strTrunc {p : Option Nat} {s : Str} {c : Char} (h : c ∈ strTrunc p s) : c ∈ s := by
  cases p with
  | none => exact h
  | some k => exact List.mem_of_mem_take h

theorem fmtVal_s_str {f : FieldSpec} (h : f.typ = 's') (s : Str) :
    fmtVal f (.str s) = .ok (pad f.left f.width (strTrunc f.prec s)) := by
  unfold fmtVal
  cases hp : f.prec <;> simp [h, strTrunc]

theorem fmtVal_ok_pad {f : FieldSpec} {v : Val} {s : Str} (h : fmtVal f v = .ok s) :
    ∃ t, s = pad f.left f.width t := by
  unfold fmtVal at h
  simp only at h
  by_cases hs : f.typ = 's'
  · rw [if_pos hs] at h
    cases v <;> cases h <;> exact ⟨_, rfl⟩
  · rw [if_neg hs] at h
    by_cases hd : f.typ = 'd'
    · rw [if_pos hd] at h
      cases v <;> cases h <;> exact ⟨_, rfl⟩
    · rw [if_neg hd] at h
      by_cases he : (decide (f.typ = 'e') || decide (f.typ = 'f')) = true
      · rw [if_pos he] at h
        cases v <;> cases h <;> exact ⟨_, rfl⟩
      · rw [if_neg he] at h
        cases h

theorem fmtVal_length_ge {f : FieldSpec} {v : Val} {s : Str} (h : fmtVal f v = .ok s) :
    f.width ≤ s.length := by
  obtain ⟨t, rfl⟩ := fmtVal_ok_pad h
  rw [pad_length]; omega

/-- the format `fit_value` tries at precision `q`: `'%{width}.{q}{typ}'` -/
def atPrec (f : FieldSpec) (q : Nat) : FieldSpec := { f with left := false, prec := some q }

theorem fitGo_succ (f : FieldSpec) (v : Val) (fuel p : Nat) : fitValue.go f v (fuel + 1) p =
    match fmtVal (atPrec f p) v with
    | .error e => .error e
    | .ok s => if s.length ≤ f.width then .ok s else if p = 0 then .error .valueError else fitValue.go f v fuel (p - 1) :=
  rfl

/-- `fit_value` goes on past precision `q`: `%` prints the value there, wider than the field -/
def tooWide (f : FieldSpec) (v : Val) (q : Nat) : Bool :=
  match fmtVal (atPrec f q) v with
  | .ok t => decide (f.width < t.length)
  | .error _ => false

theorem tooWide_of_ok {f : FieldSpec} {v : Val} {q : Nat} {t : Str} (h : fmtVal (atPrec f q) v = .ok t) :
    tooWide f v q = decide (f.width < t.length) := by
  unfold tooWide; rw [h]

/-- the loop of `fit_value` from precision `p` down: the first number `i` of dropped decimals at
    which `%` raises or prints a text that fits -/
theorem fitGo_eq (f : FieldSpec) (v : Val) (p : Nat) : ∀ fuel k, p - k < fuel →
    fitValue.go f v fuel (p - k) =
      match (List.range' k (p - k + 1)).find? fun i => !tooWide f v (p - i) with
      | some i => fmtVal (atPrec f (p - i)) v
      | none => .error .valueError
  | 0, _, h => absurd h (Nat.not_lt_zero _)
  | fuel + 1, k, h => by
    rw [fitGo_succ, List.range'_succ, List.find?_cons]
    unfold tooWide
    cases hf : fmtVal (atPrec f (p - k)) v with
    | error e => simp only [Bool.not_false, hf]
    | ok s =>
      by_cases hfit : s.length ≤ f.width
      · simp only [if_pos hfit, decide_eq_false (Nat.not_lt.mpr hfit), Bool.not_false, hf]
      · simp only [if_neg hfit, decide_eq_true (Nat.not_le.mp hfit), Bool.not_true]
        by_cases h0 : p - k = 0
        · rw [if_pos h0, h0]; rfl
        · have := fitGo_eq f v p fuel (k + 1) (by omega)
          rw [if_neg h0, show p - k - 1 = p - (k + 1) from rfl, this, show p - (k + 1) + 1 = p - k by omega]
          rfl

theorem fitValue_eq (f : FieldSpec) (v : Val) : fitValue f v =
    if (f.typ = 'e' ∨ f.typ = 'f' ∨ f.typ = 'g') ∧ f.raw.contains '.' = true then
      match f.prec with
      | some (p + 1) =>
        match (List.range (p + 1)).find? fun i => !tooWide f v (p - i) with
        | some i => fmtVal (atPrec f (p - i)) v
        | none => .error .valueError
      | _ => .error .valueError
    else .error .valueError := by
  unfold fitValue
  simp only [Bool.and_eq_true, Bool.or_eq_true, decide_eq_true_eq, or_assoc]
  split
  · cases f.prec with
    | none => rfl
    | some p =>
      cases p with
      | zero => rfl
      | succ p =>
        dsimp only
        rw [List.range_eq_range']
        exact fitGo_eq f v p (p + 1) 0 (Nat.lt_succ_self _)
  · rfl

/-- when `fit_value` returns, it returns the value at the largest smaller precision that fits -/
theorem fitValue_ok {f : FieldSpec} {v : Val} {s : Str} (h : fitValue f v = .ok s) :
    (f.typ = 'e' ∨ f.typ = 'f' ∨ f.typ = 'g') ∧
    s.length ≤ f.width ∧ ∃ p q, f.prec = some p ∧ q < p ∧ fmtVal (atPrec f q) v = .ok s ∧
      ∀ q', q < q' → q' < p → ∀ t, fmtVal (atPrec f q') v = .ok t → f.width < t.length := by
  rw [fitValue_eq] at h
  split at h
  · rename_i hc
    split at h
    · rename_i p hp
      split at h
      · rename_i i hi
        obtain ⟨h1, h2, h3⟩ := List.find?_range_eq_some.mp hi
        have := List.mem_range.mp h2
        rw [tooWide_of_ok h] at h1
        refine ⟨hc.1, by simpa using h1, p + 1, p - i, hp, by omega, h, fun q' a b t ht => ?_⟩
        have := h3 (p - q') (by omega)
        rw [Nat.sub_sub_self (by omega), tooWide_of_ok ht] at this
        simpa using this
      · cases h
    · cases h
  · cases h

theorem fitValue_error {f : FieldSpec} {v : Val} {e : Exc} {p : Nat}
    (ht : f.typ = 'e' ∨ f.typ = 'f' ∨ f.typ = 'g') (hdot : f.raw.contains '.' = true) (hp : f.prec = some p)
    (h : fitValue f v = .error e) :
    (∃ q, q < p ∧ fmtVal (atPrec f q) v = .error e) ∨
      e = .valueError ∧ ∀ q, q < p → ∀ t, fmtVal (atPrec f q) v = .ok t → f.width < t.length := by
  rw [fitValue_eq, if_pos ⟨ht, hdot⟩, hp] at h
  cases p with
  | zero => cases h; exact Or.inr ⟨rfl, fun q hq => absurd hq (Nat.not_lt_zero _)⟩
  | succ p =>
    dsimp only at h
    split at h
    · rename_i i hi
      have := List.mem_range.mp (List.find?_range_eq_some.mp hi).2.1
      exact Or.inl ⟨p - i, by omega, h⟩
    · rename_i hn
      cases h
      refine Or.inr ⟨rfl, fun q hq t ht => ?_⟩
      have := List.find?_range_eq_none.mp hn (p - q) (by omega)
      rw [Nat.sub_sub_self (by omega), tooWide_of_ok ht] at this
      simpa using this

/-- the three things `write_values_to_string` can put in a field -/
inductive Written (f : FieldSpec) (v : Val) (s : Str) : Prop where
  | blank (h : v = .none ∨ f.typ = 'x') (hs : s = List.replicate f.width ' ')
  | full (hv : v ≠ .none) (h : fmtVal f v = .ok s)
  | reduced (hv : v ≠ .none) (htyp : f.typ = 'e' ∨ f.typ = 'f' ∨ f.typ = 'g') (p q : Nat) (hp : f.prec = some p) (hq : q < p) (h : fmtVal (atPrec f q) v = .ok s)
      (hfull : ∀ t, fmtVal f v = .ok t → f.width < t.length)
      (hmax : ∀ q', q < q' → q' < p → ∀ t, fmtVal (atPrec f q') v = .ok t → f.width < t.length)

theorem writeField_eq (f : FieldSpec) (v : Val) : writeField f v =
    if v = .none ∨ f.typ = 'x' then .ok (List.replicate f.width ' ')
    else fmtVal f v >>= fun s => if s.length > f.width then fitValue f v else .ok s := by
  unfold writeField
  by_cases hc : v = .none ∨ f.typ = 'x'
  · rw [if_pos hc, if_neg fun h => hc.elim h.1 h.2]
  · rw [if_neg hc, if_pos (not_or.mp hc)]
    cases fmtVal f v <;> rfl

theorem writeField_ok {f : FieldSpec} {v : Val} {s : Str} (h : writeField f v = .ok s) :
    s.length = f.width ∧ Written f v s := by
  rw [writeField_eq] at h
  split at h
  · rename_i hc
    cases h
    exact ⟨List.length_replicate, .blank hc rfl⟩
  · rename_i hc
    obtain ⟨s0, hf, h⟩ := bind_ok_iff.mp h
    have hge := fmtVal_length_ge hf
    by_cases hw : s0.length > f.width
    · rw [if_pos hw] at h
      obtain ⟨htyp, h1, p, q, hp, hq, h2, h3⟩ := fitValue_ok h
      have := fmtVal_length_ge h2
      exact ⟨by simp only [atPrec] at this; omega,
        .reduced (not_or.mp hc).1 htyp p q hp hq h2 (fun t ht => by rw [hf] at ht; cases ht; exact hw) h3⟩
    · rw [if_neg hw] at h
      cases h
      exact ⟨by omega, .full (not_or.mp hc).1 hf⟩

theorem writeField_ok_fmt {f : FieldSpec} {v : Val} {s : Str} (h : writeField f v = .ok s)
    (hv : v ≠ .none) (hx : f.typ ≠ 'x') :
    fmtVal f v = .ok s ∨ ∃ q, q < f.prec.getD 6 ∧ (f.typ = 'e' ∨ f.typ = 'f' ∨ f.typ = 'g') ∧
      fmtVal (atPrec f q) v = .ok s := by
  rcases (writeField_ok h).2 with ⟨hb, _⟩ | ⟨_, hf⟩ | ⟨_, htyp, p, q, hp, hq, hf, _, _⟩
  · rcases hb with hb | hb
    · exact absurd hb hv
    · exact absurd hb hx
  · exact Or.inl hf
  · exact Or.inr ⟨q, by rw [hp]; exact hq, htyp, hf⟩

/-- if `%` prints the value, in every format of the field's type, as a padded text `body q` that
    depends on the format only through its precision `q`, then such a text is what gets written -/
theorem writeField_body {f : FieldSpec} {v : Val} {s : Str} (h : writeField f v = .ok s)
    (hv : v ≠ .none) (hx : f.typ ≠ 'x') {body : Nat → Str}
    (hb : ∀ g : FieldSpec, g.typ = f.typ → fmtVal g v = .ok (pad g.left g.width (body (g.prec.getD 6)))) :
    ∃ q, q ≤ f.prec.getD 6 ∧ ∃ left w, s = pad left w (body q) := by
  rcases writeField_ok_fmt h hv hx with hf | ⟨q, hq, _, hf⟩
  · rw [hb f rfl] at hf
    cases hf
    exact ⟨_, Nat.le_refl _, _, _, rfl⟩
  · rw [hb (atPrec f q) rfl] at hf
    cases hf
    exact ⟨q, Nat.le_of_lt hq, _, _, rfl⟩

theorem writeField_of_fits {f : FieldSpec} {v : Val} {s : Str} (hv : v ≠ .none) (hx : f.typ ≠ 'x')
    (h : fmtVal f v = .ok s) (hfit : s.length ≤ f.width) : writeField f v = .ok s := by
  rw [writeField_eq, if_neg (not_or.mpr ⟨hv, hx⟩), h, ok_bind, if_neg (by omega)]

theorem writeField_error {f : FieldSpec} {v : Val} {e : Exc} (h : writeField f v = .error e) :
    fmtVal f v = .error e ∨ ∃ t, fmtVal f v = .ok t ∧ f.width < t.length ∧ fitValue f v = .error e := by
  rw [writeField_eq] at h
  split at h
  · cases h
  · cases hf : fmtVal f v with
    | error e' => rw [hf] at h; exact Or.inl h
    | ok s0 =>
      rw [hf, ok_bind] at h
      by_cases hw : s0.length > f.width
      · rw [if_pos hw] at h; exact Or.inr ⟨s0, rfl, hw, h⟩
      · rw [if_neg hw] at h; cases h

theorem writeField_str_full {f : FieldSpec} (ht : f.typ = 's') (hp : f.prec = none) {nm : Str}
    (hw : nm.length = f.width) : writeField f (.str nm) = .ok nm := by
  have hpad : pad f.left f.width nm = nm := by
    cases f.left <;> simp [pad_false, pad_true, hw]
  have hf : fmtVal f (.str nm) = .ok nm := by
    rw [fmtVal_s_str ht, hp]; simp only [strTrunc]; rw [hpad]
  exact writeField_of_fits (by simp) (by rw [ht]; decide) hf (by omega)

def widthSum (fs : List FieldSpec) : Nat := (fs.map (·.width)).sum

theorem widthSum_append (a b : List FieldSpec) : widthSum (a ++ b) = widthSum a + widthSum b := by
  simp [widthSum]

theorem widthSum_cons (f : FieldSpec) (r : List FieldSpec) : widthSum (f :: r) = f.width + widthSum r := by
  simp [widthSum]

theorem writeValues_ok_iff {fs : List FieldSpec} {vals : List Val} {line : Str} :
    writeValues fs vals = .ok line ↔
      ∃ strs, All2 (fun (vf : Val × FieldSpec) s => writeField vf.2 vf.1 = .ok s) (vals.zip fs) strs ∧
        line = strs.flatten := by
  unfold writeValues
  constructor
  · intro h
    obtain ⟨strs, hm, h⟩ := bind_ok_iff.mp h
    cases h
    exact ⟨strs, (mapM_ok_iff _ _ _).mp hm, rfl⟩
  · rintro ⟨strs, h, rfl⟩
    exact bind_ok_iff.mpr ⟨strs, (mapM_ok_iff _ _ _).mpr h, rfl⟩

theorem writeValues_nil (fs : List FieldSpec) : writeValues fs [] = .ok [] := rfl

theorem writeValues_nil_specs (vals : List Val) : writeValues [] vals = .ok [] := by
  unfold writeValues; rw [List.zip_nil_right]; rfl

theorem writeValues_cons (f : FieldSpec) (fs : List FieldSpec) (v : Val) (vs : List Val) :
    writeValues (f :: fs) (v :: vs) =
      (do let t ← writeField f v; let r ← writeValues fs vs; pure (t ++ r)) := by
  unfold writeValues
  rw [List.zip_cons_cons, List.mapM_cons]
  simp only [bind_assoc, pure_bind, List.flatten_cons]

theorem writeValues_cons_ok {f : FieldSpec} {fs : List FieldSpec} {v : Val} {vs : List Val} {line : Str}
    (h : writeValues (f :: fs) (v :: vs) = .ok line) :
    ∃ t r, writeField f v = .ok t ∧ writeValues fs vs = .ok r ∧ line = t ++ r := by
  rw [writeValues_cons] at h
  obtain ⟨t, ht, h⟩ := bind_ok_iff.mp h
  obtain ⟨r, hr, h⟩ := bind_ok_iff.mp h
  cases h
  exact ⟨t, r, ht, hr, rfl⟩

abbrev HasWidths (fs : List FieldSpec) (strs : List Str) : Prop :=
  All2 (fun (f : FieldSpec) (s : Str) => s.length = f.width) fs strs

theorem written_widths {vals : List Val} {fs : List FieldSpec} {strs : List Str}
    (h : All2 (fun (vf : Val × FieldSpec) s => writeField vf.2 vf.1 = .ok s) (vals.zip fs) strs) :
    HasWidths (fs.take vals.length) strs := by
  induction vals generalizing fs strs with
  | nil => simp only [List.zip_nil_left] at h; cases h; simp; exact .nil
  | cons v vs ih =>
    cases fs with
    | nil => simp only [List.zip_nil_right] at h; cases h; simp; exact .nil
    | cons f fr =>
      simp only [List.zip_cons_cons] at h
      cases h with
      | cons h1 t =>
        simp only [List.length_cons, List.take_succ_cons]
        exact .cons (writeField_ok h1).1 (ih t)

theorem flatten_length_of_widths {fs : List FieldSpec} {strs : List Str}
    (h : HasWidths fs strs) :
    strs.flatten.length = widthSum fs := by
  induction h with
  | nil => rfl
  | cons h _ ih => simp [widthSum_cons, h, ih]

theorem lineSpec_go_append (fs₁ fs₂ : List FieldSpec) : ∀ pos,
    lineSpec.go pos (fs₁ ++ fs₂) = lineSpec.go pos fs₁ ++ lineSpec.go (pos + widthSum fs₁) fs₂ := by
  induction fs₁ with
  | nil => intro pos; simp [lineSpec.go, widthSum]
  | cons f r ih =>
    intro pos
    simp only [List.cons_append, lineSpec.go, ih, widthSum_cons, Nat.add_assoc]

theorem lineSpec_go_length (fs : List FieldSpec) : ∀ pos, (lineSpec.go pos fs).length = fs.length := by
  induction fs with
  | nil => intro pos; rfl
  | cons f r ih => intro pos; simp [lineSpec.go, ih]

theorem lineSpec_split (fs₁ : List FieldSpec) (f : FieldSpec) (fs₂ : List FieldSpec) :
    lineSpec (fs₁ ++ f :: fs₂) = lineSpec fs₁ ++
      ((widthSum fs₁, widthSum fs₁ + f.width), f.typ) :: lineSpec.go (widthSum fs₁ + f.width) fs₂ := by
  unfold lineSpec
  rw [lineSpec_go_append]
  simp [lineSpec.go]

theorem lineSpec_go_start_ge (fs : List FieldSpec) : ∀ pos, ∀ sp ∈ lineSpec.go pos fs, pos ≤ sp.1.1 := by
  induction fs with
  | nil => intro pos sp h; simp [lineSpec.go] at h
  | cons f r ih =>
    intro pos sp h
    simp only [lineSpec.go, List.mem_cons] at h
    rcases h with rfl | h
    · exact Nat.le_refl _
    · have := ih _ sp h; omega

/-- the reader applied to one entry of `line_spec` -/
def readAt (rf : ReadFn) (line : Str) (sp : (Nat × Nat) × Char) : Except Exc PVal :=
  readField rf sp.2 (slice line sp.1.1 sp.1.2)

theorem parseString_eq (rf : ReadFn) (fs : List FieldSpec) (line : Str) :
    parseString rf fs line = (lineSpec fs).mapM (readAt rf line) := rfl

theorem lineSpec_go_shift (rf : ReadFn) (line : Str) (pos : Nat) (fs : List FieldSpec) : ∀ k,
    (lineSpec.go (pos + k) fs).mapM (readAt rf line) = (lineSpec.go k fs).mapM (readAt rf (line.drop pos)) := by
  induction fs with
  | nil => intro k; unfold lineSpec.go; rw [List.mapM_nil, List.mapM_nil]
  | cons f r ih =>
    intro k
    have e : readAt rf line ((pos + k, pos + k + f.width), f.typ) = readAt rf (line.drop pos) ((k, k + f.width), f.typ) := by
      unfold readAt slice; rw [Nat.add_assoc, List.drop_drop, Nat.add_sub_add_left]
    unfold lineSpec.go
    rw [List.mapM_cons, List.mapM_cons, e, Nat.add_assoc, ih]

theorem parseString_nil (rf : ReadFn) (line : Str) : parseString rf [] line = .ok [] := rfl

theorem parseString_cons (rf : ReadFn) (f : FieldSpec) (fs : List FieldSpec) (line : Str) :
    parseString rf (f :: fs) line =
      (do let x ← readField rf f.typ (line.take f.width)
          let xs ← parseString rf fs (line.drop f.width)
          pure (x :: xs)) := by
  rw [parseString_eq, parseString_eq]
  unfold lineSpec
  simp only [lineSpec.go, List.mapM_cons]
  have := lineSpec_go_shift rf line f.width fs 0
  rw [Nat.add_zero] at this
  rw [Nat.zero_add, this]
  simp [readAt, slice]

theorem parseString_cons_append (rf : ReadFn) (f : FieldSpec) (fs : List FieldSpec) {t : Str} (h : t.length = f.width)
    (rest : Str) : parseString rf (f :: fs) (t ++ rest) =
      (do let x ← readField rf f.typ t; let xs ← parseString rf fs rest; pure (x :: xs)) := by
  rw [parseString_cons, ← h, List.take_left, List.drop_left]

theorem parseString_texts (rf : ReadFn) {fs₁ : List FieldSpec} {strs : List Str}
    (hw : HasWidths fs₁ strs) (fs₂ : List FieldSpec) (tail : Str) :
    parseString rf (fs₁ ++ fs₂) (strs.flatten ++ tail) = (do
      let a ← (fs₁.zip strs).mapM (fun (p : FieldSpec × Str) => readField rf p.1.typ p.2)
      let b ← parseString rf fs₂ tail
      pure (a ++ b)) := by
  induction hw with
  | nil => simp
  | cons h _ ih =>
    rw [List.cons_append, List.flatten_cons, List.append_assoc, parseString_cons_append rf _ _ h, ih]
    simp

theorem parseString_empty (rf : ReadFn) (fs : List FieldSpec) :
    parseString rf fs [] = fs.mapM (fun g => readField rf g.typ []) := by
  induction fs with
  | nil => rfl
  | cons f r ih => rw [parseString_cons, List.mapM_cons, List.take_nil, List.drop_nil, ih]

theorem parseString_ws (rf : ReadFn) {fs : List FieldSpec}
    (hnum : ∀ f ∈ fs, f.typ = 'd' ∨ f.typ = 'e' ∨ f.typ = 'f' ∨ f.typ = 'g' ∨ f.typ = 'x') :
    ∀ {ws : Str}, (∀ c ∈ ws, isStrWs c = true) → parseString rf fs ws = .ok (fs.map (fun _ => PVal.none)) := by
  induction fs with
  | nil => intro ws _; rfl
  | cons f r ih =>
    intro ws hws
    rw [parseString_cons, read_ws rf (hnum f (by simp)) (fun c hc => hws c (List.mem_of_mem_take hc)),
      ih (fun g hg => hnum g (List.mem_cons_of_mem _ hg)) (fun c hc => hws c (List.mem_of_mem_drop hc))]
    rfl

theorem parse_written (rf : ReadFn) (tail : Str) : ∀ (fs : List FieldSpec) (vals : List Val) {line : Str},
    writeValues fs vals = .ok line →
    parseString rf fs (line ++ tail) = (do
      let a ← (vals.zip fs).mapM (fun vf => writeField vf.2 vf.1 >>= readField rf vf.2.typ)
      let b ← parseString rf (fs.drop vals.length) tail
      pure (a ++ b)) := by
  intro fs
  induction fs with
  | nil =>
    intro vals line h
    rw [writeValues_nil_specs] at h
    cases h
    rw [List.zip_nil_right, List.drop_nil]
    rfl
  | cons f fs ih =>
    intro vals line h
    cases vals with
    | nil => cases h; simp
    | cons v vs =>
      obtain ⟨t, r, ht, hr, rfl⟩ := writeValues_cons_ok h
      rw [List.append_assoc, parseString_cons_append rf f fs (writeField_ok ht).1, ih vs hr, List.zip_cons_cons,
        List.mapM_cons, ht, ok_bind]
      simp

theorem writeValues_length {fs : List FieldSpec} {vals : List Val} {line : Str}
    (h : writeValues fs vals = .ok line) : line.length = widthSum (fs.take vals.length) := by
  obtain ⟨strs, h1, rfl⟩ := writeValues_ok_iff.mp h
  exact flatten_length_of_widths (written_widths h1)

theorem parse_complete {rf : ReadFn} {fs : List FieldSpec} {strs : List Str}
    (hw : HasWidths fs strs) (tail : Str) :
    parseString rf fs (strs.flatten ++ tail) =
      (fs.zip strs).mapM (fun (p : FieldSpec × Str) => readField rf p.1.typ p.2) := by
  have := parseString_texts rf hw [] tail
  rw [List.append_nil, parseString_nil] at this
  rw [this]
  cases (fs.zip strs).mapM (fun (p : FieldSpec × Str) => readField rf p.1.typ p.2) with
  | error e => rfl
  | ok a => exact congrArg Except.ok (List.append_nil a)

/-- a real in a `%e` field reads back as the printed digits: the value rounded to `q+1` significant
    digits, `q` being the field's precision or (when that does not fit) a smaller one -/
theorem roundtrip_e_real (rf : ReadFn) {f : FieldSpec} (ht : f.typ = 'e') (r : Rat) {s : Str}
    (h : writeField f (.real r) = .ok s) :
    ∃ q, q ≤ f.prec.getD 6 ∧ readField rf 'e' s =
      .ok (.flt (.fin (decide (r < 0)) (fmtEParts q r.num.natAbs r.den).1
        ((fmtEParts q r.num.natAbs r.den).2 - q))) := by
  obtain ⟨q, hq, _, _, rfl⟩ := writeField_body h (by simp) (by rw [ht]; decide)
    (body := fun q => signChars (decide (r < 0)) ++ fmtEBody q r.num.natAbs r.den)
    (fun g hg => fmtVal_e_real (hg.trans ht) r)
  exact ⟨q, hq, read_eText rf _ _ _ _ _ _ r.den_pos⟩

/-- the same for a Python `int` handed to a `%e` field -/
theorem roundtrip_e_int (rf : ReadFn) {f : FieldSpec} (ht : f.typ = 'e') (i : Int) {s : Str}
    (h : writeField f (.int i) = .ok s) :
    ∃ q, q ≤ f.prec.getD 6 ∧ readField rf 'e' s =
      .ok (.flt (.fin (decide (i < 0)) (fmtEParts q i.natAbs 1).1 ((fmtEParts q i.natAbs 1).2 - q))) := by
  obtain ⟨q, hq, _, _, rfl⟩ := writeField_body h (by simp) (by rw [ht]; decide)
    (body := fun q => signChars (decide (i < 0)) ++ fmtEBody q i.natAbs 1)
    (fun g hg => fmtVal_e_int (hg.trans ht) i)
  exact ⟨q, hq, read_eText rf _ _ _ _ _ _ (by decide)⟩

/-- a real in a `%f` field reads back as the printed decimal: the value rounded to `q` decimals -/
theorem roundtrip_f_real (rf : ReadFn) {f : FieldSpec} (ht : f.typ = 'f') (r : Rat) {s : Str}
    (h : writeField f (.real r) = .ok s) :
    ∃ q, q ≤ f.prec.getD 6 ∧ readField rf 'f' s =
      .ok (.flt (.fin (decide (r < 0)) (fM q r.num.natAbs r.den) (-(q : Int)))) := by
  obtain ⟨q, hq, _, _, rfl⟩ := writeField_body h (by simp) (by rw [ht]; decide)
    (body := fun q => signChars (decide (r < 0)) ++ fmtFBody q r.num.natAbs r.den)
    (fun g hg => fmtVal_f_real (hg.trans ht) r)
  exact ⟨q, hq, read_fText rf _ _ _ _ _ _⟩

/-- an integer that is written at all reads back exactly -/
theorem roundtrip_d_int (rf : ReadFn) {f : FieldSpec} (ht : f.typ = 'd') (i : Int) {s : Str}
    (h : writeField f (.int i) = .ok s) : readField rf 'd' s = .ok (.int i) := by
  obtain ⟨_, _, _, _, rfl⟩ := writeField_body h (by simp) (by rw [ht]; decide)
    (body := fun _ => signChars (decide (i < 0)) ++ natDigits i.natAbs)
    (fun g hg => fmtVal_d_int (hg.trans ht) i)
  rw [read_dText]
  congr 2
  by_cases hi : i < 0 <;> simp [hi] <;> omega

/-- a name that is written at all comes back as the written (padded) text -/
theorem roundtrip_s_str (rf : ReadFn) {f : FieldSpec} (ht : f.typ = 's') (nm : Str) {s : Str}
    (h : writeField f (.str nm) = .ok s) :
    s = pad f.left f.width (strTrunc f.prec nm) ∧ (strTrunc f.prec nm).length ≤ f.width ∧
      readField rf 's' s = .ok (.str (rstripNewline s)) := by
  have hlen := (writeField_ok h).1
  rcases writeField_ok_fmt h (by simp) (by rw [ht]; decide) with hf | ⟨_, _, htyp, _⟩
  · rw [fmtVal_s_str ht] at hf
    cases hf
    rw [pad_length] at hlen
    exact ⟨rfl, by omega, readField_s rf _⟩
  · rw [ht] at htyp; exact absurd htyp (by decide)

/-- a name of exactly the field's width, with no line end in it, is written as itself and reads back as itself -/
theorem roundtrip_s_full (rf : ReadFn) {f : FieldSpec} (ht : f.typ = 's') (hp : f.prec = none) {nm : Str}
    (hw : nm.length = f.width) (hnl : '\n' ∉ nm) :
    writeField f (.str nm) = .ok nm ∧ readField rf 's' nm = .ok (.str nm) :=
  ⟨writeField_str_full ht hp hw,
    by rw [readField_s, rstripNewline_of_last (fun c hc e => hnl (e ▸ List.mem_of_getLast? hc))]⟩

/-- an absent value (or an `x` field) is written as blanks and reads back as nothing -/
theorem roundtrip_absent (rf : ReadFn) {f : FieldSpec} {v : Val} (hv : v = .none ∨ f.typ = 'x') :
    writeField f v = .ok (List.replicate f.width ' ') ∧
      (f.typ = 'd' ∨ f.typ = 'e' ∨ f.typ = 'f' ∨ f.typ = 'g' ∨ f.typ = 'x' →
        readField rf f.typ (List.replicate f.width ' ') = .ok .none) :=
  ⟨by rw [writeField_eq, if_pos hv], fun ht => read_blank rf ht f.width⟩

end Proofs
