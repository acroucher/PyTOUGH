/-
  The region routines `cowat`, `supst`, `super_` of IAPWS-97 over the reals: each returns the two partial derivatives of one
  potential (`gamma1`, `gamma2`, `phi3`, Laurent polynomials over the generated tables).  The sums the routines form over their
  power arrays are the termwise derivatives because the chains are well formed and every entry read is defined (both evaluated
  by the kernel), so each routine has a closed form.  Also the region classifier as nested conditions on real numbers.
-/
import PyTough.Proofs.ThermoPow
import PyTough.Gen.Iapws
import Mathlib.Analysis.Calculus.Deriv.ZPow
import Mathlib.Analysis.SpecialFunctions.Log.Deriv
open Model.Thermo Proofs.Thermo
namespace Proofs.Iapws
open Gen.Iapws

theorem power_chains_wf : ∀ c ∈ allChains, chainWF c = true := by decide +kernel

/-- Laurent polynomial `Σ n · x^i · y^j` over a table of rows `(i, j, n)` -/
noncomputable def laurent (tbl : List (Int × Int × ℝ)) (x y : ℝ) : ℝ :=
  (tbl.map fun r => r.2.2 * x ^ r.1 * y ^ r.2.1).sum
noncomputable def laurentDx (tbl : List (Int × Int × ℝ)) (x y : ℝ) : ℝ :=
  (tbl.map fun r => r.2.2 * ((r.1 : ℝ) * x ^ (r.1 - 1)) * y ^ r.2.1).sum
noncomputable def laurentDy (tbl : List (Int × Int × ℝ)) (x y : ℝ) : ℝ :=
  (tbl.map fun r => r.2.2 * x ^ r.1 * ((r.2.1 : ℝ) * y ^ (r.2.1 - 1))).sum

theorem hasDerivAt_list_sum {α : Type} (l : List α) (f : α → ℝ → ℝ) (f' : α → ℝ) (x : ℝ) (h : ∀ a, HasDerivAt (f a) (f' a) x) :
    HasDerivAt (fun x' => (l.map fun a => f a x').sum) (l.map f').sum x := by
  induction l with
  | nil => simpa using hasDerivAt_const x (0 : ℝ)
  | cons a l ih =>
    simp only [List.map_cons, List.sum_cons]
    exact (h a).add ih

theorem laurent_hasDerivAt_x (tbl : List (Int × Int × ℝ)) (x y : ℝ) (hx : x ≠ 0) :
    HasDerivAt (fun x' => laurent tbl x' y) (laurentDx tbl x y) x :=
  hasDerivAt_list_sum tbl (fun r x' => r.2.2 * x' ^ r.1 * y ^ r.2.1) _ x fun r =>
    ((hasDerivAt_zpow r.1 x (Or.inl hx)).const_mul r.2.2).mul_const (y ^ r.2.1)

theorem laurent_hasDerivAt_y (tbl : List (Int × Int × ℝ)) (x y : ℝ) (hy : y ≠ 0) :
    HasDerivAt (fun y' => laurent tbl x y') (laurentDy tbl x y) y :=
  hasDerivAt_list_sum tbl (fun r y' => r.2.2 * x ^ r.1 * y' ^ r.2.1) _ y fun r =>
    (hasDerivAt_zpow r.2.1 y (Or.inl hy)).const_mul (r.2.2 * x ^ r.1)

theorem mem_zip3_ints {a b : List Int} {c : List ℝ} {r : Int × Int × ℝ} (h : r ∈ zip3 a b c) : (r.1, r.2.1) ∈ List.zip a b := by
  obtain ⟨i, hi⟩ := List.getElem?_of_mem h
  rw [zip3, List.getElem?_zip_eq_some, List.getElem?_zip_eq_some] at hi
  exact List.mem_of_getElem? (List.getElem?_zip_eq_some.mpr ⟨hi.1, hi.2.1⟩)

/-- the entry `i − 1` is read with multiplier `i`: for `i = 0` it need not hold a power -/
theorem read_pow {ps : List ℝ} {x : ℝ} {i : Int} (h : i = 0 ∨ PArr.get ps (i - 1) = x ^ (i - 1)) (c : ℝ) :
    c * (i : ℝ) * PArr.get ps (i - 1) = c * ((i : ℝ) * x ^ (i - 1)) := by
  rcases h with rfl | h
  · simp
  · rw [h, mul_assoc]

/-- every entry that the two derivative sums over the rows `zip is js` read with a non-zero multiplier is defined in the chains
    (`Model.Thermo.readsDefined` is the translator-side Boolean of `Props.C14.indices_defined`) -/
def RowsDefined (is js : List Int) (pc tc : List (Int × List Int)) : Prop :=
  ∀ q ∈ List.zip is js, (q.1 = 0 ∨ (q.1 - 1) ∈ chainDefined pc) ∧ q.2 ∈ chainDefined tc ∧ q.1 ∈ chainDefined pc ∧
    (q.2 = 0 ∨ (q.2 - 1) ∈ chainDefined tc)

instance (is js : List Int) (pc tc : List (Int × List Int)) : Decidable (RowsDefined is js pc tc) := by
  unfold RowsDefined; infer_instance

/-- the summands are written as the generated bodies of `cowat`, `supst`, `super_` have them, so that the two equations rewrite there -/
theorem region_sums (is js : List Int) (ns : List ℝ) (pc tc : List (Int × List Int)) (hpc : pc ∈ allChains) (htc : tc ∈ allChains)
    (hreads : RowsDefined is js pc tc) (x y : ℝ) (hx : x ≠ 0) (hy : y ≠ 0) :
    pySum (List.map (fun r => r.2.2 * (r.1 : ℝ) * PArr.get (powerArray x pc) (r.1 - 1) * PArr.get (powerArray y tc) r.2.1)
      (zip3 is js ns)) = laurentDx (zip3 is js ns) x y ∧
    pySum (List.map (fun r => r.2.2 * PArr.get (powerArray x pc) r.1 * (r.2.1 : ℝ) * PArr.get (powerArray y tc) (r.2.1 - 1))
      (zip3 is js ns)) = laurentDy (zip3 is js ns) x y := by
  have px := powerArray_eq_zpow pc (power_chains_wf pc hpc) x hx
  have py := powerArray_eq_zpow tc (power_chains_wf tc htc) y hy
  have hrows := fun r (hr : r ∈ zip3 is js ns) => hreads _ (mem_zip3_ints hr)
  rw [pySum_eq, pySum_eq]
  exact ⟨congrArg List.sum (List.map_congr_left fun r hr => by rw [read_pow ((hrows r hr).1.imp id (px _)), py _ (hrows r hr).2.1]),
    congrArg List.sum (List.map_congr_left fun r hr => by rw [read_pow ((hrows r hr).2.2.2.imp id (py _)), px _ (hrows r hr).2.2.1])⟩

/-! ### the generated constants as numbers
  A literal is `lit bits n d`, over ℝ `n / d` (`tf_lit`).  The doubles written out by hand (`c71`, `c1222`, `tmin`; `pmin` of `ThermoSat.lean`, `tkr` of `ThermoIfc67.lean`) are tied to the
  generated literals by the run equation that mentions them: with another value it would not go through. -/

theorem rconst_pos : (0 : ℝ) < rconst := by unfold rconst; rw [tf_lit]; norm_num
theorem pstar1_eq : (pstar1 : ℝ) = 16530000 := by unfold pstar1; rw [tf_lit]; norm_num
theorem tstar1_eq : (tstar1 : ℝ) = 1386 := by unfold tstar1; rw [tf_lit]; norm_num
theorem pstar2_eq : (pstar2 : ℝ) = 1000000 := by unfold pstar2; rw [tf_lit]; norm_num
theorem tstar2_eq : (tstar2 : ℝ) = 540 := by unfold tstar2; rw [tf_lit]; norm_num
theorem pstar4_eq : (pstar4 : ℝ) = 1000000 := by unfold pstar4; rw [tf_lit]; norm_num

theorem tc_k_bounds : (27314999 / 100000 : ℝ) < tc_k ∧ (tc_k : ℝ) < 27315001 / 100000 := by
  unfold tc_k
  rw [tf_lit]
  norm_num

theorem tcritical_bounds : (3739 / 10 : ℝ) < tcritical ∧ (tcritical : ℝ) < 374 := by
  unfold tcritical
  rw [tf_lit]
  norm_num

theorem tk_pos (t : ℝ) (ht0 : 0 ≤ t) : 0 < t + tc_k :=
  add_pos_of_nonneg_of_pos ht0 (lt_trans (by norm_num) tc_k_bounds.1)

/-- the two offsets of the region-1 equation as the code has them (the doubles nearest 7.1 and 1.222) -/
noncomputable def c71 : ℝ := 3996944669291315 / 562949953421312
noncomputable def c1222 : ℝ := 2751699372323373 / 2251799813685248
noncomputable def tbl1 : List (Int × Int × ℝ) := zip3 ir1 jr1 nr1
noncomputable def pi1 (p : ℝ) : ℝ := p / pstar1
noncomputable def tau1 (t : ℝ) : ℝ := tstar1 / (t + tc_k)
/-- dimensionless Gibbs free energy of region 1 over the generated tables -/
noncomputable def gamma1 (π τ : ℝ) : ℝ := laurent tbl1 (c71 - π) (τ - c1222)

theorem r1_base_x (p : ℝ) (hp : p ≤ 100000000) : c71 - pi1 p ≠ 0 := by
  have h : pi1 p < c71 := by
    unfold pi1 c71
    rw [pstar1_eq]
    exact lt_of_le_of_lt (div_le_div_of_nonneg_right hp (by norm_num)) (by norm_num)
  exact ne_of_gt (sub_pos.mpr h)

theorem r1_base_y (t : ℝ) (ht0 : 0 ≤ t) (ht : t ≤ 350) : tau1 t - c1222 ≠ 0 := by
  have hT := tk_pos t ht0
  have h : c1222 < tau1 t := by
    unfold tau1 c1222
    rw [tstar1_eq, lt_div_iff₀ hT]
    linarith only [ht, tc_k_bounds.2]
  exact ne_of_gt (sub_pos.mpr h)

theorem cowat_eq (t p : ℝ) (ht0 : 0 ≤ t) (ht : t ≤ 350) (hp : p ≤ 100000000) :
    cowat t p = Ret.pair (pstar1 / (rconst * (t + tc_k) * (-(laurentDx tbl1 (c71 - pi1 p) (tau1 t - c1222)))))
      (rconst * (t + tc_k) * (tau1 t * laurentDy tbl1 (c71 - pi1 p) (tau1 t - c1222)
        - pi1 p * (-(laurentDx tbl1 (c71 - pi1 p) (tau1 t - c1222))))) := by
  obtain ⟨s1, s2⟩ := region_sums ir1 jr1 nr1 pc1 tc1 (by simp [allChains]) (by simp [allChains]) (by decide +kernel)
    (c71 - pi1 p) (tau1 t - c1222) (r1_base_x p hp) (r1_base_y t ht0 ht)
  unfold cowat
  simp only [tf_add, tf_sub, tf_mul, tf_neg, tf_le', tf_ofInt, tf_lit, Bool.and_eq_true, decide_eq_true_eq]
  -- `at *`: the numerals of `s1`, `s2` must take the same form as those of the goal for the rewrites below
  norm_num only [] at *
  rw [if_pos ⟨ht, hp⟩]
  unfold c71 pi1 tau1 c1222 at s1 s2
  unfold c71 pi1 tau1 c1222 tbl1
  rw [s1, s2]

theorem single_potential_r1 (t p : ℝ) (ht0 : 0 ≤ t) (ht : t ≤ 350) (hp : p ≤ 100000000) :
    ∃ gπ gτ : ℝ,
      HasDerivAt (fun π' => gamma1 π' (tau1 t)) gπ (pi1 p) ∧
      HasDerivAt (fun τ' => gamma1 (pi1 p) τ') gτ (tau1 t) ∧
      cowat t p = Ret.pair (pstar1 / (rconst * (t + tc_k) * gπ))
        (rconst * (t + tc_k) * (tau1 t * gτ - pi1 p * gπ)) := by
  have hx := r1_base_x p hp
  have hy := r1_base_y t ht0 ht
  refine ⟨-(laurentDx tbl1 (c71 - pi1 p) (tau1 t - c1222)), laurentDy tbl1 (c71 - pi1 p) (tau1 t - c1222), ?_, ?_, cowat_eq t p ht0 ht hp⟩
  · have h1 := laurent_hasDerivAt_x tbl1 (c71 - pi1 p) (tau1 t - c1222) hx
    have h2 : HasDerivAt (fun π' : ℝ => c71 - π') (-1) (pi1 p) := (hasDerivAt_id' (pi1 p)).const_sub c71
    have := h1.comp (pi1 p) h2
    unfold gamma1
    exact this.congr_deriv (by ring)
  · have h1 := laurent_hasDerivAt_y tbl1 (c71 - pi1 p) (tau1 t - c1222) hy
    have h2 : HasDerivAt (fun τ' : ℝ => τ' - c1222) 1 (tau1 t) := (hasDerivAt_id' (tau1 t)).sub_const c1222
    have := h1.comp (tau1 t) h2
    unfold gamma1
    exact this.congr_deriv (by ring)

noncomputable def poly1 (tbl : List (Int × ℝ)) (y : ℝ) : ℝ := (tbl.map fun r => r.2 * y ^ r.1).sum
noncomputable def poly1D (tbl : List (Int × ℝ)) (y : ℝ) : ℝ := (tbl.map fun r => r.2 * ((r.1 : ℝ) * y ^ (r.1 - 1))).sum

theorem poly1_hasDerivAt (tbl : List (Int × ℝ)) (y : ℝ) (hy : y ≠ 0) :
    HasDerivAt (fun y' => poly1 tbl y') (poly1D tbl y) y :=
  hasDerivAt_list_sum tbl (fun r y' => r.2 * y' ^ r.1) _ y fun r => (hasDerivAt_zpow r.1 y (Or.inl hy)).const_mul r.2

theorem sum_d1 (js : List Int) (ns : List ℝ) (tc : List (Int × List Int)) (htc : tc ∈ allChains)
    (hreads : ∀ j ∈ js, j = 0 ∨ (j - 1) ∈ chainDefined tc) (y : ℝ) (hy : y ≠ 0) :
    pySum (List.map (fun r => r.2 * (r.1 : ℝ) * PArr.get (powerArray y tc) (r.1 - 1)) (List.zip js ns)) = poly1D (List.zip js ns) y := by
  have py := powerArray_eq_zpow tc (power_chains_wf tc htc) y hy
  rw [pySum_eq]
  exact congrArg List.sum (List.map_congr_left fun r hr => read_pow ((hreads _ (List.of_mem_zip hr).1).imp id (py _)) _)

noncomputable def tbl2 : List (Int × Int × ℝ) := zip3 ir2 jr2 nr2
noncomputable def tbl20 : List (Int × ℝ) := List.zip j0r2 n0r2
noncomputable def pi2 (p : ℝ) : ℝ := p / pstar2
noncomputable def tau2 (t : ℝ) : ℝ := tstar2 / (t + tc_k)
/-- dimensionless Gibbs free energy of region 2: ideal-gas part `ln π + Σ n⁰ τ^J⁰` plus residual part -/
noncomputable def gamma2 (π τ : ℝ) : ℝ := Real.log π + poly1 tbl20 τ + laurent tbl2 π (τ - 1 / 2)

theorem r2_tau_pos (t : ℝ) (ht0 : 0 ≤ t) : 0 < tau2 t := by
  unfold tau2; rw [tstar2_eq]
  exact div_pos (by norm_num) (tk_pos t ht0)

theorem r2_y_pos (t : ℝ) (ht0 : 0 ≤ t) (ht : t ≤ 800) : 0 < tau2 t - 1 / 2 := by
  unfold tau2
  rw [tstar2_eq, sub_pos, lt_div_iff₀ (tk_pos t ht0)]
  linarith only [ht, tc_k_bounds.2]

theorem r2_pi_ne (p : ℝ) (hp0 : 0 < p) : pi2 p ≠ 0 := by
  unfold pi2; rw [pstar2_eq]
  exact ne_of_gt (div_pos hp0 (by norm_num))

theorem supst_eq (t p : ℝ) (ht0 : 0 ≤ t) (ht : t ≤ 800) (hp0 : 0 < p) (hp : p ≤ 100000000) :
    supst t p = Ret.pair (pstar2 / (rconst * (t + tc_k) * (1 / pi2 p + laurentDx tbl2 (pi2 p) (tau2 t - 1 / 2))))
      (rconst * (t + tc_k) * (tau2 t * (poly1D tbl20 (tau2 t) + laurentDy tbl2 (pi2 p) (tau2 t - 1 / 2))
        - pi2 p * (1 / pi2 p + laurentDx tbl2 (pi2 p) (tau2 t - 1 / 2)))) := by
  have hx := r2_pi_ne p hp0
  have hy := (r2_y_pos t ht0 ht).ne'
  have s0 := sum_d1 j0r2 n0r2 tc2 (by simp [allChains]) (by decide +kernel) (tau2 t) (r2_tau_pos t ht0).ne'
  obtain ⟨s1, s2⟩ := region_sums ir2 jr2 nr2 pc2 tsc2 (by simp [allChains]) (by simp [allChains]) (by decide +kernel)
    (pi2 p) (tau2 t - 1 / 2) hx hy
  unfold supst
  simp only [tf_add, tf_sub, tf_mul, tf_le', tf_ofInt, tf_lit, Bool.and_eq_true, decide_eq_true_eq]
  norm_num only [] at *
  rw [if_pos ⟨ht.trans (by norm_num), hp⟩]
  unfold tau2 at s0
  unfold pi2 tau2 at s1 s2
  unfold pi2 tau2 tbl2 tbl20
  rw [s0, s1, s2]

noncomputable def tbl3 : List (Int × Int × ℝ) := zip3 ir3 jr3 nr3
noncomputable def delta3 (d : ℝ) : ℝ := d / dstar3
noncomputable def tau3 (t : ℝ) : ℝ := tstar3 / (t + tc_k)
/-- dimensionless Helmholtz free energy of region 3 -/
noncomputable def phi3 (δ τ : ℝ) : ℝ := nr3_0 * Real.log δ + laurent tbl3 δ τ

theorem r3_tau_pos (t : ℝ) (ht0 : 0 ≤ t) : 0 < tau3 t := by
  unfold tau3 tstar3; rw [tf_lit]
  exact div_pos (by norm_num) (tk_pos t ht0)

theorem r3_delta_ne (d : ℝ) (hd : d ≠ 0) : delta3 d ≠ 0 := by
  unfold delta3 dstar3; rw [tf_lit]
  exact div_ne_zero hd (by norm_num)

theorem super_eq (d t : ℝ) (hd : d ≠ 0) (ht0 : 0 ≤ t) :
    super_ d t = Ret.pair (d * (rconst * (t + tc_k)) * delta3 d * (nr3_0 * (delta3 d) ^ (-1 : ℤ) + laurentDx tbl3 (delta3 d) (tau3 t)))
      (rconst * (t + tc_k) * tau3 t * laurentDy tbl3 (delta3 d) (tau3 t)) := by
  have hx := r3_delta_ne d hd
  have hy := ne_of_gt (r3_tau_pos t ht0)
  obtain ⟨s1, s2⟩ := region_sums ir3 jr3 nr3 dc3 tc3 (by simp [allChains]) (by simp [allChains]) (by decide +kernel)
    (delta3 d) (tau3 t) hx hy
  have sm := powerArray_eq_zpow dc3 (power_chains_wf dc3 (by simp [allChains])) _ hx (-1) (by decide)
  unfold super_
  simp only [tf_add, tf_mul, tf_ofInt]
  unfold delta3 tau3 at s1 s2
  unfold delta3 at sm
  unfold delta3 tau3 tbl3
  rw [s1, s2, sm]

/-- the double nearest 0.01 (lower temperature limit of the classifier) -/
noncomputable def tmin : ℝ := 5764607523034235 / 576460752303423488
theorem tmin_nonneg : (0 : ℝ) ≤ tmin := by unfold tmin; norm_num

/-- saturation pressure / B23 pressure as numbers (`Ret.toK` of the routines' results) -/
noncomputable def satP (t : ℝ) : ℝ := (sat t).toK
noncomputable def b23P (t : ℝ) : ℝ := (b23p t).toK

theorem region_unfold (t p : ℝ) : region t p =
    if tmin ≤ t ∧ t ≤ 800 ∧ 0 ≤ p ∧ p ≤ 100000000 then
      if t ≤ 350 then (if satP t < p then Ret.int 1 else Ret.int 2)
      else if t ≤ 590 then (if b23P t < p then Ret.int 3 else Ret.int 2)
      else Ret.int 2
    else Ret.none := by
  unfold region satP b23P tmin
  simp only [tf_le', tf_lt', tf_lit, Bool.and_eq_true, decide_eq_true_eq]
  norm_num only []
  simp only [and_assoc]

/-- the range tests of `cowat` and `supst`, with the body they guard left open (`cowat_eq`, `supst_eq` give it in closed form) -/
theorem cowat_guard (t p : ℝ) : ∃ d u, cowat t p = if t ≤ 350 ∧ p ≤ 100000000 then Ret.pair d u else Ret.none := by
  unfold cowat
  refine ⟨_, _, if_congr ?_ rfl rfl⟩
  simp only [tf_le', tf_lit, Bool.and_eq_true, decide_eq_true_eq]
  norm_num only []

theorem supst_guard (t p : ℝ) : ∃ d u, supst t p = if t ≤ 1000 ∧ p ≤ 100000000 then Ret.pair d u else Ret.none := by
  unfold supst
  refine ⟨_, _, if_congr ?_ rfl rfl⟩
  simp only [tf_le', tf_lit, Bool.and_eq_true, decide_eq_true_eq]
  norm_num only []

end Proofs.Iapws
