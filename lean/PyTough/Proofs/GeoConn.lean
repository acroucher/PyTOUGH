/-
  `add_connection` preserves the structural invariant: in the column heap `addConnCols` exactly the two columns learn
  of the connection and of each other; the rest is the frame `Inv0.setConns`.
-/
import PyTough.Proofs.GeoInv0
namespace Proofs.Geo
open Model.Geo Model.Geo.Geo Py

/-- what `add_connection` builds when the key is new -/
def addConnFresh (g : Geo) (c0 c1 : Nat) : Geo :=
  let i := g.K.size
  { g with K := g.K.push { c0, c1, nodes := g.connectionNodes c0 c1 },
           connlist := g.connlist ++ [i],
           connD := g.connD.set ((g.col c0).name, (g.col c1).name) i,
           C := (((g.C.modify c0 fun cl => { cl with cons := setAdd cl.cons i }).modify c1
                  fun cl => { cl with cons := setAdd cl.cons i }).modify c0
                  fun cl => { cl with nbrs := setAdd cl.nbrs c1 }).modify c1
                  fun cl => { cl with nbrs := setAdd cl.nbrs c0 } }

theorem addConnection_eq (g : Geo) (c0 c1 : Nat) :
    g.addConnection c0 c1 =
      if g.connD.contains ((g.col c0).name, (g.col c1).name) then g else addConnFresh g c0 c1 := by
  unfold addConnection addConnFresh
  simp only [List.foldl_cons, List.foldl_nil, updCol]

-- What these `modify`s do is stated on this array, never on `(addConnFresh g c0 c1).col j`: to match that term with an
-- array access the unifier evaluates the chain. Rewrite a goal with `addConnFresh_shape` (and `Geo.col`) first.
def addConnCols (C : Array Column) (c0 c1 i : Nat) : Array Column :=
  (((C.modify c0 fun cl => { cl with cons := setAdd cl.cons i }).modify c1
      fun cl => { cl with cons := setAdd cl.cons i }).modify c0
      fun cl => { cl with nbrs := setAdd cl.nbrs c1 }).modify c1
      fun cl => { cl with nbrs := setAdd cl.nbrs c0 }

theorem addConnCols_proj {β} (π : Column → β) (hcons : ∀ cl s, π { cl with cons := s } = π cl)
    (hnbrs : ∀ cl s, π { cl with nbrs := s } = π cl) (C : Array Column) (c0 c1 i j : Nat) :
    π (addConnCols C c0 c1 i)[j]! = π C[j]! := by
  unfold addConnCols
  rw [getElem!_modify_proj _ _ _ _ π fun _ => hnbrs _ _, getElem!_modify_proj _ _ _ _ π fun _ => hnbrs _ _,
    getElem!_modify_proj _ _ _ _ π fun _ => hcons _ _, getElem!_modify_proj _ _ _ _ π fun _ => hcons _ _]

theorem addConnFresh_shape (g : Geo) (c0 c1 : Nat) : addConnFresh g c0 c1 =
    { g with C := addConnCols g.C c0 c1 g.K.size, K := g.K.push { c0, c1, nodes := g.connectionNodes c0 c1 },
             connlist := g.connlist ++ [g.K.size],
             connD := g.connD.set ((g.col c0).name, (g.col c1).name) g.K.size } := by
  unfold addConnFresh addConnCols; rfl

section
variable (C : Array Column) (c0 c1 i : Nat) (h0 : c0 < C.size) (h1 : c1 < C.size) (hne : c0 ≠ c1)
include h0 h1 hne

theorem addConnCols_get (j : Nat) :
    (addConnCols C c0 c1 i)[j]! =
      if j = c0 then { C[j]! with cons := setAdd C[j]!.cons i, nbrs := setAdd C[j]!.nbrs c1 }
      else if j = c1 then { C[j]! with cons := setAdd C[j]!.cons i, nbrs := setAdd C[j]!.nbrs c0 }
      else C[j]! :=
  getElem!_modify4 C c0 c1 j _ _ _ _ h0 h1 hne

theorem addConnCols_mem_cons (j k : Nat) :
    k ∈ (addConnCols C c0 c1 i)[j]!.cons ↔ k ∈ C[j]!.cons ∨ (k = i ∧ (j = c0 ∨ j = c1)) := by
  rw [addConnCols_get C c0 c1 i h0 h1 hne]
  by_cases e0 : j = c0
  · simp [e0, mem_setAdd]
  · by_cases e1 : j = c1
    · simp [e1, Ne.symm hne, mem_setAdd]
    · simp [e0, e1]

theorem addConnCols_mem_nbrs (j d : Nat) :
    d ∈ (addConnCols C c0 c1 i)[j]!.nbrs ↔ d ∈ C[j]!.nbrs ∨ (j = c0 ∧ d = c1) ∨ (j = c1 ∧ d = c0) := by
  rw [addConnCols_get C c0 c1 i h0 h1 hne]
  by_cases e0 : j = c0
  · simp [e0, mem_setAdd, hne]
  · by_cases e1 : j = c1
    · simp [e1, Ne.symm hne, mem_setAdd]
    · simp [e0, e1]

end

/-- every field of a column other than its connection and neighbour sets is as before -/
theorem addConnFresh_col_proj {β} (π : Column → β) (hcons : ∀ cl s, π { cl with cons := s } = π cl)
    (hnbrs : ∀ cl s, π { cl with nbrs := s } = π cl) (g : Geo) (c0 c1 j : Nat) :
    π ((addConnFresh g c0 c1).col j) = π (g.col j) := by
  simp only [addConnFresh_shape, Geo.col]
  exact addConnCols_proj π hcons hnbrs g.C c0 c1 g.K.size j

section addconn
variable (g : Geo) (c0 c1 : Nat) (h0 : c0 < g.C.size) (h1 : c1 < g.C.size) (hne : c0 ≠ c1)
include h0 h1 hne

theorem addConnFresh_colSurface (j : Nat) : ((addConnFresh g c0 c1).col j).surface = (g.col j).surface :=
  addConnFresh_col_proj (·.surface) (fun _ _ => rfl) (fun _ _ => rfl) g c0 c1 j

theorem addConnFresh_colNumLayers (j : Nat) : ((addConnFresh g c0 c1).col j).numLayers = (g.col j).numLayers :=
  addConnFresh_col_proj (·.numLayers) (fun _ _ => rfl) (fun _ _ => rfl) g c0 c1 j

end addconn

/-- the situation in which `add_connection(connection([col0, col1]))` is a sensible edit: two different columns of
    the geometry, not yet joined, sharing a side (which `connection_nodes` then finds) -/
structure AddConnPre (g : Geo) (c0 c1 : Nat) : Prop where
  m0 : c0 ∈ g.columnlist
  m1 : c1 ∈ g.columnlist
  ne : c0 ≠ c1
  notJoined : g.joined c0 c1 = false
  side : ∃ a b, g.connectionNodes c0 c1 = some (a, b) ∧ a ≠ b ∧
    isSide (g.col c0).nodes a b = true ∧ isSide (g.col c1).nodes a b = true

theorem AddConnPre.of_bool {g : Geo} {c0 c1 : Nat} (h : g.addConnPreB c0 c1 = true) : AddConnPre g c0 c1 := by
  simp only [Geo.addConnPreB, Bool.and_eq_true, List.contains_eq_mem, decide_eq_true_eq, bne_iff_ne, ne_eq,
    Bool.not_eq_true'] at h
  obtain ⟨⟨⟨⟨m0, m1⟩, ne⟩, nj⟩, hs⟩ := h
  refine ⟨m0, m1, ne, nj, ?_⟩
  cases hn : g.connectionNodes c0 c1 with
  | none => rw [hn] at hs; cases hs
  | some p =>
    rw [hn] at hs
    simp only [Bool.and_eq_true, bne_iff_ne, ne_eq] at hs
    exact ⟨p.1, p.2, rfl, hs.1.1, hs.1.2, hs.2⟩

variable {g : Geo}

/-- only the structural invariant: `add_connection` does not refresh the connection name list (known finding) -/
theorem addConnection_inv0 (c0 c1 : Nat) (pre : AddConnPre g c0 c1) (h : Inv0 g) : Inv0 (g.addConnection c0 c1) := by
  rw [addConnection_eq]
  split
  · exact h
  rename_i hfresh
  have h0 : c0 < g.C.size := h.cols.lt c0 pre.m0
  have h1 : c1 < g.C.size := h.cols.lt c1 pre.m1
  have hold : ∀ k ∈ g.connlist, (g.K.push { c0, c1, nodes := g.connectionNodes c0 c1 })[k]! = g.con k :=
    fun k hk => getElem!_push_lt _ _ _ (h.cons.lt k hk)
  have hnew := getElem!_push_eq g.K { c0, c1, nodes := g.connectionNodes c0 c1 }
  rw [addConnFresh_shape]
  refine h.setConns _ _ _ _ (by simp only [addConnCols, Array.size_modify])
    (addConnCols_proj (fun cl => { cl with cons := [], nbrs := [] }) (fun _ _ => rfl) (fun _ _ => rfl) g.C c0 c1 _)
    (h.cons.push (f := fun k : Conn => ((g.col k.c0).name, (g.col k.c1).name)) _ (by simpa using hfresh)) ?_ ?_ ?_ ?_
  · refine forall_mem_push.mpr ⟨fun k hk => ?_, ?_⟩
    · rw [hold k hk]; exact h.conEnds k hk
    · rw [hnew]; exact ⟨pre.m0, pre.m1⟩
  · exact fun c hc => cached_insert (h.colCons c hc) h.cons.fresh (addConnCols_mem_cons g.C c0 c1 _ h0 h1 pre.ne c)
      (fun k hk => by rw [hold k hk]) (by rw [hnew]; simp only [eq_comm])
  · intro c hc d
    refine (addConnCols_mem_nbrs g.C c0 c1 _ h0 h1 pre.ne c d).trans ((or_congr_left (h.nbrs c hc d)).trans ?_)
    simp only [joined_iff, joins, List.mem_append, List.mem_singleton, or_and_right, exists_or, exists_eq_left, hnew]
    refine or_congr (exists_congr fun k => and_congr_right fun hk => by rw [hold k hk]) ?_
    simp only [eq_comm, and_comm]
  · refine forall_mem_push.mpr ⟨fun k hk => ?_, ?_⟩
    · rw [hold k hk]; exact h.conNodes k hk
    · rw [hnew]; exact pre.side

end Proofs.Geo
