/-
  Proofs for C04 (core Lean only): the loops of `fromgeo` and of the name indices as collecting
  loops; what the two loop bodies of `add_connections` build; the block list built by `fromgeo` is
  the announced name list, the connection list is the announced pairs pushed in order
  (`addConnsFrom_names`; that nothing is pushed twice is FromGeoConnNodup's).
-/
import PyTough.Model.FromGeo
import PyTough.Proofs.FromGeoLoops
import PyTough.Proofs.Literals
namespace Proofs.FromGeo
open Py Model.FromGeo

theorem addBlock_eq : addBlock = upsert (·.name) := rfl
theorem addConn_eq : addConn = upsert TConn.names := rfl

-- In the equations below both sides are the same nest of `match`es, but each definition has its own
-- matcher, and two stuck matchers are not unified: the scrutinees are split into constructors first.
theorem layerBlockNames_eq (conv : Nat) (lay : Layer) (cols : List Column) :
    layerBlockNames conv lay cols = flatMapE (fun c => oneE (blockName conv lay.name c.name)) cols := by
  induction cols with
  | nil => rfl
  | cons c cs ih =>
    simp only [layerBlockNames, flatMapE_cons, ih]
    cases blockName conv lay.name c.name <;>
      cases flatMapE (fun c => oneE (blockName conv lay.name c.name)) cs <;> rfl

theorem namesLayerColumn_eq (g : Geo) (ls : List Layer) :
    namesLayerColumn g ls = flatMapE (fun l => layerBlockNames g.convention l (layerCols g l)) ls := by
  induction ls with
  | nil => rfl
  | cons l ls ih =>
    simp only [namesLayerColumn, flatMapE_cons, ih]
    cases layerBlockNames g.convention l (layerCols g l) <;>
      cases flatMapE (fun l => layerBlockNames g.convention l (layerCols g l)) ls <;> rfl

theorem vertNames_eq (g : Geo) (first : Bool) (above lay : Layer) (cols : List Column) :
    vertNames g first above lay cols = flatMapE (fun c => optE (vertName g first above lay c)) cols := by
  induction cols with
  | nil => rfl
  | cons c cs ih =>
    simp only [vertNames, flatMapE_cons, ih]
    cases vertName g first above lay c <;>
      cases flatMapE (fun c => optE (vertName g first above lay c)) cs <;> rfl

theorem horizNames_eq (conv : Nat) (lay : Layer) (ks : List Conn) :
    horizNames conv lay ks = flatMapE (fun k => oneE (horizName conv lay k)) ks := by
  induction ks with
  | nil => rfl
  | cons k ks ih =>
    simp only [horizNames, flatMapE_cons, ih]
    cases horizName conv lay k <;> cases flatMapE (fun k => oneE (horizName conv lay k)) ks <;> rfl

/-- the atmosphere blocks of `g` as (column name, block centre): one without centre for type 0, one over each column for type 1 -/
def atmCols (g : Geo) : List (Str × Option P3) :=
  if g.atmType = 0 then [(atmColName g.convention, none)]
  else if g.atmType = 1 then g.columns.map fun c => (c.name, blockCentre g g.layer0 c) else []

/-- the block `add_atmosphereblocks` builds for an entry of `atmCols` -/
def atmBlock (g : Geo) (m : BlockMap) (p : Str × Option P3) : Except Exc Block :=
  match blockName g.convention g.layer0.name p.1 m with
  | .error e => .error e
  | .ok n => .ok ⟨n, some g.atmVolume, p.2, true⟩

/-- what `add_underground_blocks` builds for the announced name `nm` -/
def underBlock (g : Geo) (m : BlockMap) (nm : Str) : Except Exc Block :=
  match findLayer g (layerName g.convention nm) with
  | .error e => .error e
  | .ok lay =>
    match findColumn g (columnName g.convention nm) with
    | .error e => .error e
    | .ok col => .ok ⟨applyMap m nm, blockVolume g lay col, blockCentre g lay col, false⟩

theorem addAtmColumns_eq (g : Geo) (m : BlockMap) (cols : List Column) (bs : List Block) :
    addAtmColumns g m bs cols = loopE (·.name) (fun p => oneE (atmBlock g m p)) bs
      (cols.map fun c => (c.name, blockCentre g g.layer0 c)) := by
  induction cols generalizing bs with
  | nil => rfl
  | cons c cs ih =>
    simp only [addAtmColumns, ih, List.map_cons, loopE, flatMapE_cons, addBlock_eq]
    rw [atmBlock]
    cases blockName g.convention g.layer0.name c.name m with
    | error e => rfl
    | ok n =>
      cases flatMapE (fun p => oneE (atmBlock g m p)) (cs.map fun c => (c.name, blockCentre g g.layer0 c)) <;> rfl

theorem addAtmosphereBlocks_eq (g : Geo) (m : BlockMap) (bs : List Block) :
    addAtmosphereBlocks g m bs = loopE (·.name) (fun p => oneE (atmBlock g m p)) bs (atmCols g) := by
  unfold addAtmosphereBlocks atmCols
  split
  · simp only [loopE, flatMapE_cons, atmBlock, addBlock_eq]
    cases blockName g.convention g.layer0.name (atmColName g.convention) m <;> rfl
  · split
    · exact addAtmColumns_eq ..
    · rfl

theorem atmNames_eq (g : Geo) :
    atmNames g = flatMapE (fun p => oneE (blockName g.convention g.layer0.name p.1)) (atmCols g) := by
  unfold atmNames atmCols
  split
  · simp only [flatMapE_cons]
    cases blockName g.convention g.layer0.name (atmColName g.convention) <;> rfl
  · split
    · rw [layerBlockNames_eq, flatMapE_map]
    · rfl

theorem numAtmBlocks_eq (g : Geo) :
    numAtmBlocks g = if g.atmType ≤ 2 then .ok (atmCols g).length else .error .indexError := by
  unfold numAtmBlocks atmCols
  by_cases h0 : g.atmType = 0
  · simp [h0]
  · by_cases h1 : g.atmType = 1
    · simp [h1]
    · by_cases h2 : g.atmType = 2
      · simp [h2]
      · rw [if_neg h0, if_neg h1, if_neg h2, if_neg (by omega)]

theorem addUnderground_eq (g : Geo) (m : BlockMap) (rest : List Str) (bs : List Block) :
    addUnderground g m bs rest = loopE (·.name) (fun nm => oneE (underBlock g m nm)) bs rest := by
  induction rest generalizing bs with
  | nil => rfl
  | cons nm rest ih =>
    simp only [addUnderground, ih, loopE, flatMapE_cons, addBlock_eq]
    rw [underBlock]
    cases findLayer g (layerName g.convention nm) with
    | error e => rfl
    | ok lay =>
      cases findColumn g (columnName g.convention nm) with
      | error e => rfl
      | ok col => cases flatMapE (fun nm => oneE (underBlock g m nm)) rest <;> rfl

theorem addVertical_eq (g : Geo) (m : BlockMap) (bs : List Block) (first : Bool) (above lay : Layer)
    (cols : List Column) (cs : List TConn) :
    addVertical g m bs first above lay cs cols =
      loopE TConn.names (fun c => optE (vertConn g m bs first above lay c)) cs cols := by
  induction cols generalizing cs with
  | nil => rfl
  | cons c rest ih =>
    simp only [addVertical, ih, loopE, flatMapE_cons, addConn_eq]
    cases vertConn g m bs first above lay c with
    | error e => rfl
    | ok o =>
      cases o <;> cases flatMapE (fun c => optE (vertConn g m bs first above lay c)) rest <;> rfl

theorem addHorizontal_eq (g : Geo) (m : BlockMap) (bs : List Block) (lay : Layer) (ks : List Conn)
    (cs : List TConn) :
    addHorizontal g m bs lay cs ks = loopE TConn.names (fun k => oneE (horizConn g m bs lay k)) cs ks := by
  induction ks generalizing cs with
  | nil => rfl
  | cons k rest ih =>
    simp only [addHorizontal, ih, loopE, flatMapE_cons, addConn_eq]
    cases horizConn g m bs lay k with
    | error e => rfl
    | ok c => cases flatMapE (fun k => oneE (horizConn g m bs lay k)) rest <;> rfl

theorem applyMap_nil (n : Str) : applyMap [] n = n := by
  simp [applyMap, List.lookup]

theorem blockName_map (conv : Nat) (l c : Str) (m : BlockMap) :
    blockName conv l c m = match blockName conv l c [] with
      | .ok n => .ok (applyMap m n)
      | .error e => .error e := by
  unfold blockName
  cases fixBlockname (rawName conv l c) <;> simp [applyMap_nil]

theorem blockName_map_ok {conv : Nat} {l c : Str} {n : Str} (m : BlockMap)
    (h : blockName conv l c [] = .ok n) : blockName conv l c m = .ok (applyMap m n) := by
  rw [blockName_map, h]

theorem blockName_unmap {conv : Nat} {l c : Str} {m : BlockMap} {n : Str} (h : blockName conv l c m = .ok n) :
    ∃ n0, blockName conv l c [] = .ok n0 ∧ n = applyMap m n0 := by
  rw [blockName_map] at h
  split at h
  · exact ⟨_, ‹_›, (Except.ok.inj h).symm⟩
  · cases h

theorem blockName_det {conv : Nat} {l c n n' : Str} (h : blockName conv l c = .ok n) (h' : blockName conv l c = .ok n') :
    n = n' := Except.ok.inj (h.symm.trans h')

theorem findBlock_ok {bs : List Block} {n : Str} {b : Block} :
    findBlock bs n = .ok b ↔ bs.find? (fun b => b.name = n) = some b := by
  unfold findBlock
  split <;> simp [*]

theorem findBlock_name {bs : List Block} {n : Str} {b : Block} (h : findBlock bs n = .ok b) : b.name = n := by
  simpa using List.find?_some (findBlock_ok.1 h)

theorem findBlock_mem {bs : List Block} {n : Str} {b : Block} (h : findBlock bs n = .ok b) : b ∈ bs :=
  List.mem_of_find?_eq_some (findBlock_ok.1 h)

theorem findBlock_of_mem_names {bs : List Block} {n : Str} (h : n ∈ bs.map (·.name)) :
    ∃ b, findBlock bs n = .ok b := by
  obtain ⟨b, hb, rfl⟩ := List.mem_map.1 h
  simpa only [findBlock_ok, ← Option.isSome_iff_exists, List.find?_isSome] using ⟨b, hb, decide_eq_true rfl⟩

theorem findBlock_of_mem {bs : List Block} {b : Block} (hnd : (bs.map (·.name)).Nodup) (hb : b ∈ bs) :
    findBlock bs b.name = .ok b :=
  findBlock_ok.2 (find?_of_mem_nodup hnd hb fun _ => decide_eq_true_iff)

theorem centre3_inv {b : Block} {c : P3} (h : centre3 b = .ok c) : b.centre = some c := by
  unfold centre3 at h
  split at h
  · exact Except.ok.inj h ▸ ‹_›
  · cases h

theorem centreZ_inv {b : Block} {z : Rat} (h : centreZ b = .ok z) : ∃ c, b.centre = some c ∧ z = c.z := by
  unfold centreZ at h
  split at h
  · exact ⟨_, ‹_›, (Except.ok.inj h).symm⟩
  · cases h

theorem vertConn_inv {g : Geo} {m : BlockMap} {bs : List Block} {first : Bool} {above lay : Layer} {col : Column}
    {o : Option TConn} (h : vertConn g m bs first above lay col = .ok o) :
    ∃ n0 blk, blockName g.convention lay.name col.name = .ok n0 ∧ findBlock bs (applyMap m n0) = .ok blk ∧
      (((first = true ∨ col.surface ≤ lay.top) ∧ ∃ cz, centreZ blk = .ok cz ∧
          ((g.atmType ≠ 0 ∧ g.atmType ≠ 1 ∧ o = none) ∨
           ∃ ab, ((g.atmType = 0 ∧ bs.head? = some ab) ∨
                  (g.atmType = 1 ∧ ∃ an, blockName g.convention g.layer0.name col.name = .ok an ∧
                    findBlock bs (applyMap m an) = .ok ab)) ∧
             o = some ⟨blk.name, ab.name, 3, .exact (col.surface - cz), .exact g.atmConn, .exact col.area, .exact g.tilt.z⟩)) ∨
       (¬ (first = true ∨ col.surface ≤ lay.top) ∧
        ∃ an ab az, blockName g.convention above.name col.name = .ok an ∧ findBlock bs (applyMap m an) = .ok ab ∧
          centreZ ab = .ok az ∧
          o = some ⟨blk.name, ab.name, 3, .exact (lay.top - lay.centre), .exact (az - above.bottom),
                    .exact col.area, .exact g.tilt.z⟩)) := by
  unfold vertConn at h
  split at h
  · cases h
  rename_i n hn
  obtain ⟨n0, hn0, rfl⟩ := blockName_unmap hn
  split at h
  · cases h
  rename_i blk hblk
  refine ⟨n0, blk, hn0, hblk, ?_⟩
  split at h
  · rename_i hc
    split at h
    · cases h
    rename_i cz hcz
    refine Or.inl ⟨hc, cz, hcz, ?_⟩
    split at h
    · rename_i h0
      ok_inv h
      rename_i ab hab
      exact Or.inr ⟨ab, Or.inl ⟨h0, hab⟩, rfl⟩
    · rename_i h0
      split at h
      · rename_i h1
        ok_inv h
        rename_i _ an han _ ab hab
        obtain ⟨an0, han0, rfl⟩ := blockName_unmap han
        exact Or.inr ⟨ab, Or.inr ⟨h1, an0, han0, hab⟩, rfl⟩
      · rename_i h1
        exact Or.inl ⟨h0, h1, (Except.ok.inj h).symm⟩
  · rename_i hc
    ok_inv h
    rename_i _ an han _ ab hab _ az haz
    obtain ⟨an0, han0, rfl⟩ := blockName_unmap han
    exact Or.inr ⟨hc, an0, ab, az, han0, hab, haz, rfl⟩

theorem connectionParams_inv {g : Geo} {k : Conn} {lay : Layer} {p : Surd × Surd × Surd}
    (h : connectionParams g k lay = .ok p) :
    ∃ s0 s1, blockSurface g lay k.col0 = some s0 ∧ blockSurface g lay k.col1 = some s1 ∧
      p = (⟨1, P2.normSq (P2.sub (lineProjection k.col0.centre k.n0 k.n1) k.col0.centre)⟩,
           ⟨1, P2.normSq (P2.sub (lineProjection k.col1.centre k.n0 k.n1) k.col1.centre)⟩,
           ⟨min (s0 - lay.bottom) (s1 - lay.bottom), P2.normSq (P2.sub k.n0 k.n1)⟩) := by
  unfold connectionParams at h
  split at h
  · with_reducible exact ⟨_, _, ‹_›, ‹_›, (Except.ok.inj h).symm⟩
  · cases h

theorem horizConn_inv {g : Geo} {m : BlockMap} {bs : List Block} {lay : Layer} {k : Conn} {c : TConn}
    (h : horizConn g m bs lay k = .ok c) :
    ∃ n0 n1 b0 b1 d0 d1 area c0 c1, blockName g.convention lay.name k.col0.name m = .ok n0 ∧
      findBlock bs n0 = .ok b0 ∧ blockName g.convention lay.name k.col1.name m = .ok n1 ∧
      findBlock bs n1 = .ok b1 ∧ connectionParams g k lay = .ok (d0, d1, area) ∧
      centre3 b0 = .ok c0 ∧ centre3 b1 = .ok c1 ∧
      c = ⟨b0.name, b1.name, permDirection g.rot (P3.sub c1 c0), d0, d1, area,
           ⟨P3.dot (P3.sub c1 c0) g.tilt, 1 / P3.normSq (P3.sub c1 c0)⟩⟩ := by
  unfold horizConn at h
  ok_inv h
  with_reducible exact ⟨_, _, _, _, _, _, _, _, _, ‹_›, ‹_›, ‹_›, ‹_›, ‹_›, ‹_›, ‹_›, rfl⟩

/-- What a vertical connection `c` returned by `vertConn` was built from: `n0` the announced name of the block of (`lay`, `col`),
    `blk` the block filed under it; `atm` reads the connection to the atmosphere, `interior` the one to the layer above. -/
structure VertFields (g : Geo) (m : BlockMap) (bs : List Block) (first : Bool) (above lay : Layer) (col : Column)
    (c : TConn) (n0 : Str) (blk : Block) : Prop where
  dirn : c.dirn = 3
  area : c.area = .exact col.area
  dircos : c.dircos = .exact g.tilt.z
  name0 : blockName g.convention lay.name col.name = .ok n0
  b0 : c.b0 = applyMap m n0
  found0 : findBlock bs c.b0 = .ok blk
  atm : first = true ∨ col.surface ≤ lay.top →
    ∃ cz, centreZ blk = .ok cz ∧ c.d0 = .exact (col.surface - cz) ∧ c.d1 = .exact g.atmConn
  interior : ¬ (first = true ∨ col.surface ≤ lay.top) →
    ∃ an ab az, blockName g.convention above.name col.name = .ok an ∧ c.b1 = applyMap m an ∧
      findBlock bs c.b1 = .ok ab ∧ centreZ ab = .ok az ∧
      c.d0 = .exact (lay.top - lay.centre) ∧ c.d1 = .exact (az - above.bottom)

theorem vertConn_some {g : Geo} {m : BlockMap} {bs : List Block} {first : Bool} {above lay : Layer}
    {col : Column} {c : TConn} (h : vertConn g m bs first above lay col = .ok (some c)) :
    ∃ n0 blk, VertFields g m bs first above lay col c n0 blk := by
  obtain ⟨n0, blk, hn0, hblk, hrest⟩ := vertConn_inv h
  have hname := findBlock_name hblk
  refine ⟨n0, blk, ?_⟩
  rcases hrest with ⟨hc, cz, hcz, ⟨_, _, e⟩ | ⟨ab, _, e⟩⟩ | ⟨hc, an, ab, az, han, hab, haz, e⟩
  · cases e
  · cases e
    exact ⟨rfl, rfl, rfl, hn0, hname, hname ▸ hblk, fun _ => ⟨cz, hcz, rfl, rfl⟩, fun hn => absurd hc hn⟩
  · cases e
    have hn' := findBlock_name hab
    exact ⟨rfl, rfl, rfl, hn0, hname, hname ▸ hblk, fun h => absurd h hc,
      fun _ => ⟨an, ab, az, han, hn', hn' ▸ hab, haz, rfl, rfl⟩⟩

/-- What a connection `c` returned by `horizConn` was built from: `b0 b1` the blocks filed under its two names, `c0 c1` their
    centres, `s0 s1` the block surfaces of the two columns in `lay`; then each field of `c` in those terms. -/
structure HorizFields (g : Geo) (bs : List Block) (lay : Layer) (k : Conn) (c : TConn)
    (b0 b1 : Block) (c0 c1 : P3) (s0 s1 : Rat) : Prop where
  found0 : findBlock bs c.b0 = .ok b0
  found1 : findBlock bs c.b1 = .ok b1
  centre0 : b0.centre = some c0
  centre1 : b1.centre = some c1
  surface0 : blockSurface g lay k.col0 = some s0
  surface1 : blockSurface g lay k.col1 = some s1
  dirn : c.dirn = permDirection g.rot (P3.sub c1 c0)
  area : c.area = ⟨min (s0 - lay.bottom) (s1 - lay.bottom), P2.normSq (P2.sub k.n0 k.n1)⟩
  d0 : c.d0 = ⟨1, P2.normSq (P2.sub (lineProjection k.col0.centre k.n0 k.n1) k.col0.centre)⟩
  d1 : c.d1 = ⟨1, P2.normSq (P2.sub (lineProjection k.col1.centre k.n0 k.n1) k.col1.centre)⟩
  dircos : c.dircos = ⟨P3.dot (P3.sub c1 c0) g.tilt, 1 / P3.normSq (P3.sub c1 c0)⟩

theorem horizConn_fields {g : Geo} {m : BlockMap} {bs : List Block} {lay : Layer} {k : Conn} {c : TConn}
    (h : horizConn g m bs lay k = .ok c) : ∃ b0 b1 c0 c1 s0 s1, HorizFields g bs lay k c b0 b1 c0 c1 s0 s1 := by
  obtain ⟨n0, n1, b0, b1, _, _, _, c0, c1, _, hb0, _, hb1, hp, e0, e1, rfl⟩ := horizConn_inv h
  obtain ⟨s0, s1, hs0, hs1, e⟩ := connectionParams_inv hp
  cases e
  exact ⟨b0, b1, c0, c1, s0, s1, findBlock_name hb0 ▸ hb0, findBlock_name hb1 ▸ hb1, centre3_inv e0, centre3_inv e1,
    hs0, hs1, rfl, rfl, rfl, rfl, rfl⟩

theorem atmBlock_name {g : Geo} {m : BlockMap} {p : Str × Option P3} {b : Block} (h : atmBlock g m p = .ok b) :
    ∃ n0, blockName g.convention g.layer0.name p.1 = .ok n0 ∧ b.name = applyMap m n0 := by
  unfold atmBlock at h
  ok_inv h
  obtain ⟨n0, hn0, rfl⟩ := blockName_unmap ‹_›
  exact ⟨n0, hn0, rfl⟩

theorem underBlock_name {g : Geo} {m : BlockMap} {nm : Str} {b : Block} (h : underBlock g m nm = .ok b) :
    b.name = applyMap m nm := by
  unfold underBlock at h
  ok_inv h
  rfl

theorem underBlocks_names {g : Geo} {m : BlockMap} {names : List Str} {r : List Block}
    (h : flatMapE (fun nm => oneE (underBlock g m nm)) names = .ok r) :
    r.map (·.name) = names.map (applyMap m) :=
  flatMapE_one_map (fun _ _ => underBlock_name) h

theorem addAtmosphereBlocks_names {g : Geo} {m : BlockMap} {a : List Str} {bs0 : List Block}
    (ha : atmNames g = .ok a) (hb : addAtmosphereBlocks g m [] = .ok bs0) :
    bs0.map (·.name) = pushNames [] (a.map (applyMap m)) := by
  rw [atmNames_eq] at ha
  rw [addAtmosphereBlocks_eq] at hb
  obtain ⟨r', hr', e⟩ := loopE_keys (g' := applyMap m) hb
    (fun p _ => oneE_rel (r' := blockName g.convention g.layer0.name p.1) fun b hb => atmBlock_name hb)
  rw [ha] at hr'
  cases hr'
  exact e

theorem numAtmBlocks_length {g : Geo} {a : List Str} {n : Nat} (ha : atmNames g = .ok a) (hn : numAtmBlocks g = .ok n) :
    n = a.length := by
  rw [atmNames_eq] at ha
  rw [numAtmBlocks_eq] at hn
  split at hn
  · rw [← Except.ok.inj hn, flatMapE_one_length ha]
  · cases hn

theorem namesDmplexLayer_perm (conv : Nat) (lay : Layer) :
    ∀ (cols : List Column) (h w : List Str), namesDmplexLayer conv lay cols = .ok (h, w) →
      ∃ ns, layerBlockNames conv lay cols = .ok ns ∧ (h ++ w).Perm ns := by
  intro cols
  induction cols with
  | nil => intro h w hh; simp only [namesDmplexLayer] at hh; cases hh; exact ⟨[], rfl, List.Perm.refl _⟩
  | cons c cs ih =>
    intro h w hh
    simp only [namesDmplexLayer] at hh
    split at hh
    · cases hh
    rename_i n hn
    split at hh
    · cases hh
    split at hh
    · cases hh
    rename_i h' w' hr
    obtain ⟨ns', hns', hp⟩ := ih h' w' hr
    simp only [layerBlockNames, hn, hns']
    split at hh
    · cases hh
      exact ⟨n :: ns', rfl, List.Perm.cons n hp⟩
    · cases hh
      exact ⟨n :: ns', rfl, List.perm_middle.trans (List.Perm.cons n hp)⟩

theorem namesDmplex_perm (g : Geo) :
    ∀ (ls : List Layer) (h w : List Str), namesDmplex g ls = .ok (h, w) →
      ∃ u, namesLayerColumn g ls = .ok u ∧ (h ++ w).Perm u := by
  intro ls
  induction ls with
  | nil => intro h w hh; simp only [namesDmplex] at hh; cases hh; exact ⟨[], rfl, List.Perm.refl _⟩
  | cons l ls ih =>
    intro h w hh
    simp only [namesDmplex] at hh
    ok_inv hh
    rename_i _ h1 w1 hl _ h2 w2 hr
    obtain ⟨ns, hns, hp1⟩ := namesDmplexLayer_perm g.convention l _ _ _ hl
    obtain ⟨u, hu, hp2⟩ := ih h2 w2 hr
    simp only [namesLayerColumn, hns, hu]
    refine ⟨ns ++ u, rfl, ?_⟩
    have hp : ((h1 ++ h2) ++ (w1 ++ w2)).Perm ((h1 ++ w1) ++ (h2 ++ w2)) := by
      rw [List.append_assoc, List.append_assoc, ← List.append_assoc h2, ← List.append_assoc w1]
      exact List.Perm.append_left _ (List.Perm.append_right _ List.perm_append_comm)
    exact hp.trans (List.Perm.append hp1 hp2)

/-- What `Fresh g` says of the cached name list: it is the atmosphere names `a` followed by the underground names `u`, and `u` is
    the list `u0` of the names in layer-column order up to rearrangement. -/
structure FreshNames (g : Geo) (a u u0 : List Str) : Prop where
  atm : atmNames g = .ok a
  names : g.blockNames = a ++ u
  under : namesLayerColumn g g.layers = .ok u0
  perm : u.Perm u0

theorem fresh_names {g : Geo} (hf : Fresh g) : ∃ a u u0, FreshNames g a u u0 := by
  unfold Fresh blockNameList at hf
  split at hf
  · cases hf
  rename_i a ha
  split at hf
  · split at hf
    · rename_i u hu
      exact ⟨a, u, u, ha, (Except.ok.inj hf).symm, hu, List.Perm.refl _⟩
    · cases hf
  · split at hf
    · split at hf
      · rename_i h w hu
        obtain ⟨u0, hu0, hp⟩ := namesDmplex_perm g _ _ _ hu
        exact ⟨a, h ++ w, u0, ha, (Except.ok.inj hf).symm, hu0, hp⟩
      · cases hf
    · cases hf

/-- `add_blocks` when the cached names are up to date and their images under the map distinct: `add_block` only appends, so the
    block list is the atmosphere blocks followed by the blocks built for the underground names -/
theorem addBlocks_shape {g : Geo} {m : BlockMap} {bs : List Block} {a u u0 : List Str} (F : FreshNames g a u u0)
    (hn : (g.blockNames.map (applyMap m)).Nodup) (h : addBlocks g m = .ok bs) :
    ∃ bs0 r, bs0.map (·.name) = a.map (applyMap m) ∧ flatMapE (fun nm => oneE (underBlock g m nm)) u = .ok r ∧
      bs = bs0 ++ r := by
  unfold addBlocks at h
  ok_inv h
  rename_i _ bs0 hb0 _ n hnn
  rw [addUnderground_eq, F.names, numAtmBlocks_length F.atm hnn, List.drop_left] at h
  obtain ⟨r, hr, rfl⟩ := loopE_ok h
  rw [F.names, List.map_append] at hn
  have h0 : bs0.map (·.name) = a.map (applyMap m) :=
    (addAtmosphereBlocks_names F.atm hb0).trans (pushNames_nodup [] _ (List.nodup_append.1 hn).1)
  exact ⟨bs0, r, h0, hr, foldl_upsert_append r bs0 (by rw [List.map_append, h0, underBlocks_names hr]; exact hn)⟩

theorem fromgeo_inv {g : Geo} {m : BlockMap} {T : Grid} (h : fromgeo g m = .ok T) :
    addBlocks g m = .ok T.blocks ∧ addConnsFrom g m T.blocks true g.layer0 [] g.layers = .ok T.conns := by
  unfold fromgeo at h
  ok_inv h
  with_reducible exact ⟨‹_›, ‹_›⟩

theorem addBlocks_names {g : Geo} {m : BlockMap} {bs : List Block} (hf : Fresh g)
    (hn : (g.blockNames.map (applyMap m)).Nodup) (h : addBlocks g m = .ok bs) :
    bs.map (·.name) = g.blockNames.map (applyMap m) := by
  obtain ⟨a, u, _, F⟩ := fresh_names hf
  obtain ⟨bs0, r, h0, hr, rfl⟩ := addBlocks_shape F hn h
  rw [List.map_append, h0, underBlocks_names hr, F.names, List.map_append]

theorem vertConn_name {g : Geo} {m : BlockMap} {bs : List Block} {first : Bool} {above lay : Layer}
    {col : Column} {o : Option TConn} (hbn : bs.map (·.name) = g.blockNames.map (applyMap m))
    (h : vertConn g m bs first above lay col = .ok o) :
    ∃ o', vertName g first above lay col = .ok o' ∧ o.map TConn.names = o'.map (mapPair m) := by
  obtain ⟨n0, blk, hn0, hblk, hrest⟩ := vertConn_inv h
  have hname := findBlock_name hblk
  unfold vertName
  rw [hn0]
  rcases hrest with ⟨hc, cz, _, hatm⟩ | ⟨hc, an, ab, _, han, hab, _, rfl⟩
  · rcases hatm with ⟨h0, h1, rfl⟩ | ⟨ab, ⟨h0, hab⟩ | ⟨h1, an, han, hab⟩, rfl⟩
    · simp only [hc, if_true, h0, h1, if_false]
      exact ⟨none, rfl, rfl⟩
    · -- the first block of the grid carries the first announced name
      have : (bs.map (·.name)).head? = some ab.name := by rw [List.head?_map, hab]; rfl
      rw [hbn, List.head?_map] at this
      cases ha : g.blockNames.head? with
      | none => rw [ha] at this; cases this
      | some a =>
        rw [ha] at this
        simp only [hc, if_true, h0]
        exact ⟨_, rfl, by simpa [TConn.names, mapPair, hname] using (Option.some.inj this).symm⟩
    · simp only [hc, if_true, h1, Nat.one_ne_zero, if_false, han]
      exact ⟨_, rfl, by simp [TConn.names, mapPair, hname, findBlock_name hab]⟩
  · simp only [hc, if_false, han]
    exact ⟨_, rfl, by simp [TConn.names, mapPair, hname, findBlock_name hab]⟩

theorem horizConn_name {g : Geo} {m : BlockMap} {bs : List Block} {lay : Layer} {k : Conn} {c : TConn}
    (h : horizConn g m bs lay k = .ok c) :
    ∃ p, horizName g.convention lay k = .ok p ∧ c.names = mapPair m p := by
  obtain ⟨_, _, b0, b1, _, _, _, _, _, hm0, hb0, hm1, hb1, _, _, _, rfl⟩ := horizConn_inv h
  obtain ⟨n0, hn0, rfl⟩ := blockName_unmap hm0
  obtain ⟨n1, hn1, rfl⟩ := blockName_unmap hm1
  exact ⟨(n0, n1), by simp only [horizName, hn0, hn1],
    by simp [TConn.names, mapPair, findBlock_name hb0, findBlock_name hb1]⟩

theorem addConnsFrom_cons_iff {g : Geo} {m : BlockMap} {bs : List Block} {first : Bool} {above lay : Layer}
    {ls : List Layer} {cs cs' : List TConn} :
    addConnsFrom g m bs first above cs (lay :: ls) = .ok cs' ↔
      ∃ cs1 cs2, loopE TConn.names (fun c => optE (vertConn g m bs first above lay c)) cs (layerCols g lay) = .ok cs1 ∧
        loopE TConn.names (fun k => oneE (horizConn g m bs lay k)) cs1 (layerConns g (layerCols g lay)) = .ok cs2 ∧
        addConnsFrom g m bs false lay cs2 ls = .ok cs' := by
  simp only [addConnsFrom, addVertical_eq, addHorizontal_eq]
  constructor
  · intro h
    ok_inv h
    with_reducible exact ⟨_, _, ‹_›, ‹_›, h⟩
  · rintro ⟨cs1, cs2, h1, h2, h3⟩
    simp only [h1, h2, h3]

theorem addConnsFrom_names {g : Geo} {m : BlockMap} {bs : List Block}
    (hbn : bs.map (·.name) = g.blockNames.map (applyMap m)) {ls : List Layer} {first : Bool} {above : Layer}
    {cs cs' : List TConn} (h : addConnsFrom g m bs first above cs ls = .ok cs') :
    ∃ L, connNamesFrom g first above ls = .ok L ∧
      cs'.map TConn.names = pushNames (cs.map TConn.names) (L.map (mapPair m)) := by
  induction ls generalizing first above cs with
  | nil =>
    cases h
    exact ⟨[], rfl, rfl⟩
  | cons lay ls ih =>
    obtain ⟨cs1, cs2, hv, hh, h⟩ := addConnsFrom_cons_iff.1 h
    simp only [connNamesFrom]
    obtain ⟨v, hvn, hv1⟩ := loopE_keys (f' := fun c => optE (vertName g first above lay c)) (g' := mapPair m)
      hv (fun c _ => optE_rel fun o ho => vertConn_name hbn ho)
    obtain ⟨w, hwn, hw1⟩ := loopE_keys (f' := fun k => oneE (horizName g.convention lay k)) (g' := mapPair m)
      hh (fun k _ => oneE_rel fun c hc => horizConn_name hc)
    obtain ⟨L, hL, hL1⟩ := ih h
    rw [vertNames_eq, hvn, horizNames_eq, hwn, hL]
    refine ⟨v ++ w ++ L, rfl, ?_⟩
    rw [hL1, hw1, hv1, List.map_append, List.map_append, pushNames_append, pushNames_append]

end Proofs.FromGeo
