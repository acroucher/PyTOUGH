/-
  C03 proofs: from the decidable predicate `WF g` to the facts the section lemmas use (`WFP`).
-/
import PyTough.Proofs.GeoFileSections
import PyTough.Proofs.GeoFileColumns
import PyTough.Proofs.GeoFileLayers
import PyTough.Proofs.GeoFileHeader
namespace Proofs.GeoFile
open Py Model Model.GeoFile Proofs

/-- `WF g` clause by clause, with the name lengths and the unit scale it looks up (`hL`, `hLL`, `sOf` follow from `cl`, `ll`, `sc`) -/
structure WFP (g : Geo) (L LL : Nat) (s : Rat) : Prop where
  hdr : HeaderOK g.hdr
  cl : colnameLength g.hdr.convention = .ok L
  ll : layernameLength g.hdr.convention = .ok LL
  sc : unitScale g.hdr.unitType = .ok s
  hL : L ≤ 3
  hLL : LL ≤ 3
  sOf : scaleOf g = s
  nodes : ∀ n ∈ g.nodes, NodeOK L s n
  nodesNodup : (g.nodes.map (·.name)).Nodup
  cols : ∀ c ∈ g.columns, ColOK L s (g.nodes.map (canonNode s)) c
  colSurf : ∀ c ∈ g.columns, c.defaultSurface = true ∨ ∃ z, c.surface = some z ∧ fitsC 2 s z = true
  colsNodup : (g.columns.map (·.name)).Nodup
  conns : ∀ k ∈ g.connections, k.1 ∈ g.columns.map (·.name) ∧ k.2 ∈ g.columns.map (·.name)
  connsNodup : g.connections.Nodup
  layersNe : g.layers ≠ []
  layers : ∀ l ∈ g.layers, LayerOK LL s l
  layersNodup : (g.layers.map (·.name)).Nodup
  wells : ∀ w ∈ g.wells, WellOK s w
  wellsNodup : (g.wells.map fun w => rjust w.name 5).Nodup

theorem scale_of_unit (u : Str) (h : u = [] ∨ u = feet) : ∃ s, unitScale u = .ok s := by
  rcases h with rfl | rfl
  · exact ⟨1, rfl⟩
  · exact ⟨mkRat 381 1250, rfl⟩  -- 0.3048

/-- every unit scale of the table taken from /repo is positive -/
theorem scale_pos {u : Str} {s : Rat} (h : unitScale u = .ok s) : 0 < s := by
  unfold unitScale at h
  cases hf : Gen.GeoTables.unitScale.find? (·.1 = u) with
  | none => rw [hf] at h; cases h
  | some e =>
    rw [hf] at h
    cases h
    exact (by decide +kernel : ∀ e ∈ Gen.GeoTables.unitScale, 0 < mkRat e.2.1 e.2.2) e (List.mem_of_find?_eq_some hf)

theorem scale_ne_zero {u : Str} {s : Rat} (h : unitScale u = .ok s) : s ≠ 0 :=
  fun e => absurd (e ▸ scale_pos h) (by decide)

theorem columnOK_of {L : Nat} {s : Rat} {g : Geo} {c : GColumn} (hnodes : ∀ n ∈ g.nodes, NodeOK L s n)
    (h : columnOK L s g (g.nodes.map (canonNode s)) c = true) :
    ColOK L s (g.nodes.map (canonNode s)) c ∧ (c.defaultSurface = true ∨ ∃ z, c.surface = some z ∧ fitsC 2 s z = true) := by
  unfold columnOK at h
  simp only [Bool.and_eq_true, List.all_eq_true, decide_eq_true_eq, Bool.or_eq_true, beq_iff_eq] at h
  obtain ⟨⟨⟨⟨⟨name, nn⟩, found⟩, centre⟩, surf⟩, orient⟩ := h
  refine ⟨⟨nameShape_of_ok name, nn, fun nm hnm => ?_, ?_, by simpa [orientationOK] using orient⟩, surf.imp_right fun hz => ?_⟩
  · -- a node found in `g.nodes` is found among the rounded nodes: rounding keeps the names
    obtain ⟨n, hn1, hn2⟩ := List.mem_map.mp (lookupNode_isSome.mp (found nm hnm))
    refine ⟨hn2 ▸ (hnodes n hn1).name, Option.isSome_iff_exists.mp ?_⟩
    rw [lookupNode_isSome, map_canonNode_name]
    exact List.mem_map.mpr ⟨n, hn1, hn2⟩
  · refine centre.imp_right fun ⟨h1, hxy⟩ => ⟨h1, ?_⟩
    cases hcc : c.centre with
    | none => rw [hcc] at hxy; cases hxy
    | nan => rw [hcc] at hxy; cases hxy
    | «at» x y =>
      rw [hcc, Bool.and_eq_true] at hxy
      exact ⟨x, y, rfl, hxy⟩
  · cases hs : c.surface with
    | none => rw [hs] at hz; cases hz
    | some z => rw [hs] at hz; exact ⟨z, rfl, hz⟩

theorem wellOK_of {s : Rat} {w : GWell} (h : wellOK s w = true) : WellOK s w := by
  unfold wellOK at h
  simp only [Bool.and_eq_true, List.all_eq_true, Bool.not_eq_true', decide_eq_true_eq] at h
  obtain ⟨⟨⟨len, nonl⟩, ne⟩, pos⟩ := h
  exact ⟨⟨len, not_mem_of_noNewline nonl⟩, fun he => (by rw [he] at ne; cases ne), fun p hp => ⟨(pos p hp).1.1, (pos p hp).1.2, (pos p hp).2⟩⟩

theorem wfp_of {g : Geo} (h : WF g = true) : ∃ L LL s, WFP g L LL s := by
  unfold WF at h
  rw [Bool.and_eq_true] at h
  obtain ⟨hh, hrest⟩ := h
  have hdr := headerOK_of hh
  obtain ⟨L, LL, _, hcl, hll, _, hL, hLL⟩ := conv_tables _ hdr.conv
  obtain ⟨s, hs⟩ := scale_of_unit _ hdr.unit
  have hsOf : scaleOf g = s := by unfold scaleOf; rw [hs]
  rw [hcl, hll] at hrest
  simp only [hsOf, Bool.and_eq_true, List.all_eq_true, decide_eq_true_eq, nodup, Bool.not_eq_true'] at hrest
  obtain ⟨⟨⟨⟨⟨⟨⟨⟨⟨⟨nodes, nodesNodup⟩, cols⟩, colsNodup⟩, conns⟩, connsNodup⟩, layersNe⟩, layers⟩, layersNodup⟩, wells⟩,
    wellsNodup⟩ := hrest
  have hnodes : ∀ n ∈ g.nodes, NodeOK L s n := fun n hn =>
    ⟨nameShape_of_ok (nodes n hn).1.1, (nodes n hn).1.2, (nodes n hn).2⟩
  exact ⟨L, LL, s, {
    hdr, cl := hcl, ll := hll, sc := hs, hL, hLL, sOf := hsOf, nodes := hnodes, nodesNodup,
    cols := fun c hc => (columnOK_of hnodes (cols c hc)).1,
    colSurf := fun c hc => (columnOK_of hnodes (cols c hc)).2,
    colsNodup,
    conns := fun k hk => ⟨lookupColumn_isSome.mp (conns k hk).1, lookupColumn_isSome.mp (conns k hk).2⟩,
    connsNodup,
    layersNe := fun he => (by rw [he] at layersNe; cases layersNe),
    layers := fun l hl => ⟨nameShape_of_ok (layers l hl).1.1, (layers l hl).1.2, (layers l hl).2⟩,
    layersNodup,
    wells := fun w hw => wellOK_of (wells w hw),
    wellsNodup }⟩

theorem WFP.colName {g : Geo} {L LL : Nat} {s : Rat} (w : WFP g L LL s) {nm : Str} (h : nm ∈ g.columns.map (·.name)) :
    NameShape L nm := by
  obtain ⟨c, hc, e⟩ := List.mem_map.mp h
  exact e ▸ (w.cols c hc).name

/-- a record `write_surface` writes names a column of the geometry and holds a surface that fits its field -/
theorem WFP.surfPair_ok {g : Geo} {L LL : Nat} {s : Rat} (w : WFP g L LL s) {nz : Str × Flt} (h : nz ∈ surfPairs g.columns) :
    NameShape L nz.1 ∧ fitsC 2 s nz.2 = true ∧ nz.1 ∈ g.columns.map (·.name) := by
  obtain ⟨c, hc, hcz⟩ := List.mem_filterMap.mp h
  obtain ⟨hd, hz, hn⟩ := surfPair_eq_some hcz
  rw [← hn]
  rcases w.colSurf c hc with hd' | ⟨z, hz', hf⟩
  · rw [hd] at hd'; cases hd'
  · rw [hz] at hz'; cases hz'
    exact ⟨(w.cols c hc).name, hf, List.mem_map.mpr ⟨c, hc, rfl⟩⟩

theorem WFP.canonGeo_eq {g : Geo} {L LL : Nat} {s : Rat} (w : WFP g L LL s) :
    canonGeo g = { hdr := canonHeader g.hdr, nodes := g.nodes.map (canonNode s),
                   columns := g.columns.map (canonColumn s (g.nodes.map (canonNode s)) (canonLayers s g.layers)),
                   connections := g.connections, layers := canonLayers s g.layers, wells := g.wells.map (canonWell s) } := by
  unfold canonGeo
  rw [w.sOf]

end Proofs.GeoFile
