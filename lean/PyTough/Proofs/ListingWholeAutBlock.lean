/-
  The loop of read_tables_AUTOUGH2 over the tables of one result block: for every table read_header_AUTOUGH2 (title
  line, the `OUTPUT DATA AFTER … TIME STEPS … SECONDS` line, one more line), then read_table_AUTOUGH2 or
  skip_table_AUTOUGH2, then next_table_AUTOUGH2 (one line: the keyword line of the next table).  Core Lean only.
-/
import PyTough.Proofs.ListingWholeAut
namespace Proofs.Whole
open Py Model Model.Listing

/-- step and time that read_header_AUTOUGH2 takes from the line `… AFTER nnn TIME STEPS … ttt SECONDS`;
    `none` when the real code raises -/
def headerAVals (line : Str) : Option (Step × FVal) :=
  match fortranInt (sliceI line (findI line "AFTER".toList + 5) (findI line "TIME STEPS".toList)) with
  | .error _ => none
  | .ok step =>
    match fortranFloat (sliceI line (findI line "TIME STEPS".toList + 10) (findI line "SECONDS".toList)) with
    | .error _ => none
    | .ok time => some (fvalOfInt step, fvalOf time)

theorem readTitleA_run (s : Rd) (tl : Str) (r : List Str)
    (hti : bound s.fam "read_title" = "read_title_AUTOUGH2") (hrest : s.pos.rest = tl :: r) :
    readTitle s = .ok ((), { s with pos := ⟨s.pos.no + 1, r⟩, title := strip tl }) := by
  unfold readTitle
  rw [get_bind]
  simp only [hti]
  rw [bind_ok (readline_cons s tl r hrest)]
  rfl

theorem headerAVals_some {hl : Str} {st : Step} {tm : FVal} (hv : headerAVals hl = some (st, tm)) :
    ∃ step time,
      fortranInt (sliceI hl (findI hl "AFTER".toList + 5) (findI hl "TIME STEPS".toList)) = .ok step ∧
      fortranFloat (sliceI hl (findI hl "TIME STEPS".toList + 10) (findI hl "SECONDS".toList)) = .ok time ∧
      st = fvalOfInt step ∧ tm = fvalOf time := by
  unfold headerAVals at hv
  ok_inv hv
  with_reducible exact ⟨_, _, ‹_›, ‹_›, rfl, rfl⟩

theorem readHeaderA_run (s : Rd) (tl hl l3 : Str) (r : List Str) (st : Step) (tm : FVal)
    (hhd : bound s.fam "read_header" = "read_header_AUTOUGH2")
    (hti : bound s.fam "read_title" = "read_title_AUTOUGH2")
    (hrest : s.pos.rest = tl :: hl :: l3 :: r) (hv : headerAVals hl = some (st, tm)) :
    readHeader s = .ok ((), { s with pos := ⟨s.pos.no + 3, r⟩, title := strip tl, step := st, time := tm }) := by
  obtain ⟨step, time, hstep, htime, rfl, rfl⟩ := headerAVals_some hv
  unfold readHeader
  rw [get_bind]
  simp only [hhd]
  unfold readHeaderAUTOUGH2
  rw [bind_ok (readTitleA_run s tl _ hti hrest)]
  rw [bind_ok (readline_cons _ hl (l3 :: r) rfl)]
  rw [hstep, bind_ok (liftE_ok _ _)]
  simp only
  rw [htime, bind_ok (liftE_ok _ _)]
  rw [bind_ok (modify_run _ _)]
  rw [bind_ok (readline_cons _ l3 r rfl)]
  rfl

theorem nextTableA_run (s : Rd)
    (hnt : bound s.fam "next_table" = "next_table_AUTOUGH2") (htt : bound s.fam "table_type" = "table_type_AUTOUGH2") :
    nextTable s = .ok (tableTypeAUTOUGH2 (slice (s.pos.rest.headD []) 1 6),
      { s with pos := ⟨s.pos.no + min 1 s.pos.rest.length, s.pos.rest.drop 1⟩ }) := by
  unfold nextTable
  refine liftC_ok _ s _ ⟨_, s.index⟩ ?_
  unfold Cu.nextTable
  rw [cu_read_bind]
  simp only [hnt]
  unfold Cu.nextTableAUTOUGH2
  rw [cu_bind_ok (cu_readline_any _ _)]
  unfold Cu.tableType
  rw [cu_read_bind]
  simp only [htt, List.headD_cons]
  rfl

/-- one table behind its three header lines: read (`RegionAOk`), or in `skip_tables` (the lines of `skipTableAUTOUGH2_gen`) -/
inductive AKind where
  | read (t : Table) (A : List Str) (b : Str) (B : List Str) (b2 : Str) (Bl D : List Str) (term : Str)
  | skip (A : List Str) (b : Str) (R : List Str) (term : Str)

def AKind.lines : AKind → List Str
  | .read _ A b B b2 Bl D term => A ++ b :: (B ++ b2 :: (Bl ++ (D ++ [term])))
  | .skip A b R term => A ++ b :: (R ++ [term])

/-- one table of a block: the three lines read_header_AUTOUGH2 reads (`tl` title, `hl` step/time line, `l3`), the
    table's lines, then — when another table follows — the line `x1` read behind the terminator and the line `kwl`
    next_table reads (the keyword line of the next table) -/
structure AEntry where
  tn : String
  tl : Str
  hl : Str
  l3 : Str
  kind : AKind
  x1 : Str := []
  kwl : Str := []

def AEntry.upd (e : AEntry) : Option Table :=
  match e.kind with
  | .read t _ _ _ _ _ D _ => some { t with data := applyRows t.data (upsA t D) }
  | .skip _ _ _ _ => none

def stepTablesA (e : AEntry) (T : List (String × Table)) : List (String × Table) := stepPut AEntry.tn AEntry.upd e T

def EntryOkA (sk : List String) (T : List (String × Table)) (e : AEntry) : Prop :=
  (headerAVals e.hl).isSome = true ∧
  match e.kind with
  | .read t A b B b2 Bl D term =>
    sk.contains e.tn = false ∧ T.lookup e.tn = some t ∧ RegionAOk e.tn t A b B b2 Bl D term
  | .skip A b R term =>
    sk.contains e.tn = true ∧ (∀ l ∈ A, isBlank l = false) ∧ isBlank b = true ∧
    (∀ l ∈ b :: R, slice l 1 6 ≠ keyword5 e.tn) ∧ slice term 1 6 = keyword5 e.tn

theorem EntryOkA_congr (sk : List String) (T T' : List (String × Table)) (e : AEntry) (h : T'.lookup e.tn = T.lookup e.tn)
    (hok : EntryOkA sk T e) : EntryOkA sk T' e := by
  unfold EntryOkA at *
  rw [h]
  exact hok

/-- the action of read_tables_AUTOUGH2 on one table -/
def actA (tn : String) : M Unit := do
  if (← get).skipTables.contains tn then skipTable tn else readTable tn

theorem readTables_A (s : Rd) (hb : bound s.fam "read_tables" = "read_tables_AUTOUGH2") :
    readTables s = tablesLoop actA true false (s.pos.rest.length + 2) "element" 0 s := by
  unfold readTables
  rw [get_bind, get_bind]
  simp only [hb]
  rfl

/-- holds for AUTOUGH2 (`Gen.ListingBind.binding`) -/
structure BoundA (fam : Fam) : Prop where
  readHeader : bound fam "read_header" = "read_header_AUTOUGH2"
  readTitle : bound fam "read_title" = "read_title_AUTOUGH2"
  readTable : bound fam "read_table" = "read_table_AUTOUGH2"
  skipTable : bound fam "skip_table" = "skip_table_AUTOUGH2"
  nextTable : bound fam "next_table" = "next_table_AUTOUGH2"
  tableType : bound fam "table_type" = "table_type_AUTOUGH2"

theorem actA_run (e : AEntry) (s : Rd) (tail : List Str) (hb : BoundA s.fam)
    (hok : EntryOkA s.skipTables s.tables e) (hrest : s.pos.rest = e.kind.lines ++ tail) :
    actA e.tn s = .ok ((), { s with pos := ⟨s.pos.no + (e.kind.lines.length + min 1 tail.length), tail.drop 1⟩,
                                     tables := stepTablesA e s.tables }) := by
  unfold EntryOkA at hok
  have hok := hok.2
  unfold stepTablesA stepPut AEntry.upd
  cases hk : e.kind with
  | read t A b B b2 Bl D term =>
    rw [hk] at hok hrest
    simp only [AKind.lines] at hok hrest ⊢
    obtain ⟨hc, ht, hreg⟩ := hok
    unfold actA
    rw [get_bind]
    simp only [hc, Bool.false_eq_true, if_false]
    unfold readTable
    rw [get_bind]
    simp only [hb.readTable]
    rw [readTableAUTOUGH2_run e.tn t s A b B b2 Bl D term tail ht (by rw [hrest]; simp [autRegion]) hreg]
    congr 4
    simp only [List.length_append, List.length_cons, List.length_nil]
    omega
  | skip A b R term =>
    rw [hk] at hok hrest
    simp only [AKind.lines] at hok hrest ⊢
    obtain ⟨hc, hA, hbl, hR, hterm⟩ := hok
    unfold actA
    rw [get_bind]
    simp only [hc, if_true]
    unfold skipTable
    rw [get_bind]
    simp only [hb.skipTable]
    rw [skipTableAUTOUGH2_gen e.tn s A b R term tail (by rw [hrest]; simp) hA hbl hR hterm]
    congr 4
    simp only [List.length_append, List.length_cons, List.length_nil]
    omega

/-- the lines of a result block from behind its `EEEEE` keyword line (where `fullpos` points); `E` is what follows the
    terminator line of the last table -/
def blockLinesA : List AEntry → List Str → List Str
  | [], E => E
  | [e], E => e.tl :: e.hl :: e.l3 :: (e.kind.lines ++ E)
  | e :: e' :: more, E => e.tl :: e.hl :: e.l3 :: (e.kind.lines ++ e.x1 :: e.kwl :: blockLinesA (e' :: more) E)

/-- the line number behind the terminator line of the last table -/
def endNoA : Nat → List AEntry → Nat
  | no, [] => no
  | no, [e] => no + 3 + e.kind.lines.length
  | no, e :: e' :: more => endNoA (no + 3 + e.kind.lines.length + 2) (e' :: more)

/-- the line next_table reads behind each table but the last is the keyword line of the table that follows -/
def LinksOkA : List AEntry → Prop
  | e :: e' :: more => tableTypeAUTOUGH2 (slice e.kwl 1 6) = some e'.tn ∧ LinksOkA (e' :: more)
  | _ => True

/-- behind the last table: the second line behind the terminator (read_table and skip_table read the first themselves,
    next_table this one; `''` at end of file) is not a table keyword line -/
def EndOkA (E : List Str) : Prop := tableTypeAUTOUGH2 (slice ((E.drop 1).headD []) 1 6) = none

instance (E : List Str) : Decidable (EndOkA E) := by unfold EndOkA; infer_instance

/-- the last table of the block: the reader shows its title, step and time afterwards -/
def lastE : AEntry → List AEntry → AEntry
  | e, [] => e
  | _, e' :: more => lastE e' more

/-- step and time of the entry's header line (`EntryOkA` says there are some) -/
def hvA (e : AEntry) : Step × FVal := (headerAVals e.hl).getD (some 0, zero)

theorem headerAVals_hvA (e : AEntry) (h : (headerAVals e.hl).isSome = true) : headerAVals e.hl = some ((hvA e).1, (hvA e).2) := by
  unfold hvA
  cases hh : headerAVals e.hl with
  | none => rw [hh] at h; cases h
  | some v => rfl

-- the `rfl`s of `tablesLoopA_block` compare reader states that hold `hvA e` and must not run `headerAVals`
attribute [irreducible] hvA

/-- one turn of the loop of read_tables_AUTOUGH2, whatever follows it (`k`) -/
theorem turnA_run {β : Type} (k : Option String → M β) (e : AEntry) (s : Rd) (tail : List Str) (hb : BoundA s.fam)
    (hok : EntryOkA s.skipTables s.tables e)
    (hrest : s.pos.rest = e.tl :: e.hl :: e.l3 :: (e.kind.lines ++ tail)) :
    (readHeader >>= fun _ => actA e.tn >>= fun _ => nextTable >>= k) s
      = k (tableTypeAUTOUGH2 (slice ((tail.drop 1).headD []) 1 6))
          { s with pos := ⟨s.pos.no + 3 + e.kind.lines.length + min 2 tail.length, tail.drop 2⟩,
                   tables := stepTablesA e s.tables, title := strip e.tl, step := (hvA e).1, time := (hvA e).2 } := by
  have hh := readHeaderA_run s e.tl e.hl e.l3 _ _ _ hb.readHeader hb.readTitle hrest (headerAVals_hvA e hok.1)
  have ha := actA_run e { s with pos := ⟨s.pos.no + 3, e.kind.lines ++ tail⟩, title := strip e.tl, step := (hvA e).1, time := (hvA e).2 }
    tail hb hok rfl
  rw [bind_ok hh, bind_ok ha, bind_run, nextTableA_run]
  · -- two lines read one after the other
    have h2 : min 1 tail.length + min 1 (tail.drop 1).length = min 2 tail.length := by
      simp only [List.length_drop]; omega
    simp only [Nat.add_assoc, h2, List.drop_drop]
  · exact hb.nextTable
  · exact hb.tableType

theorem tablesLoopA_block (e : AEntry) (more : List AEntry) (E : List Str) (s : Rd) (fuel nelt : Nat)
    (hfuel : more.length < fuel) (hb : BoundA s.fam)
    (hnodup : ((e :: more).map (·.tn)).Nodup)
    (hok : ∀ x ∈ e :: more, EntryOkA s.skipTables s.tables x)
    (hlinks : LinksOkA (e :: more)) (hend : EndOkA E)
    (hrest : s.pos.rest = blockLinesA (e :: more) E) :
    tablesLoop actA true false fuel e.tn nelt s
      = .ok ((), { s with pos := ⟨endNoA s.pos.no (e :: more) + min 2 E.length, E.drop 2⟩,
                          tables := (e :: more).foldl (fun T x => stepTablesA x T) s.tables,
                          title := strip (lastE e more).tl, step := (hvA (lastE e more)).1, time := (hvA (lastE e more)).2 }) := by
  induction fuel generalizing e more s with
  | zero => cases hfuel
  | succ f ih =>
    unfold tablesLoop
    simp only [if_true]
    cases more with
    | nil =>
      simp only [blockLinesA] at hrest
      rw [turnA_run _ e s E hb (hok e List.mem_cons_self) hrest]
      unfold EndOkA at hend
      rw [hend]
      rfl
    | cons e' more' =>
      simp only [blockLinesA] at hrest
      rw [turnA_run _ e s _ hb (hok e List.mem_cons_self) hrest]
      simp only [List.drop_succ_cons, List.drop_zero, List.headD_cons, hlinks.1, Bool.false_and, Bool.false_eq_true, if_false]
      have hmin : min 2 (e.x1 :: e.kwl :: blockLinesA (e' :: more') E).length = 2 := by
        simp only [List.length_cons]; omega
      rw [hmin]
      rw [ih e' more' { s with pos := ⟨s.pos.no + 3 + e.kind.lines.length + 2, blockLinesA (e' :: more') E⟩,
                               tables := stepTablesA e s.tables, title := strip e.tl, step := (hvA e).1, time := (hvA e).2 }
        (by simp only [List.length_cons] at hfuel; omega) hb
        (List.nodup_cons.mp hnodup).2
        (stepPut_keeps (EntryOkA s.skipTables) (EntryOkA_congr _) e _ _ hnodup hok)
        hlinks.2 rfl]
      rfl

theorem blockLinesA_length (L : List AEntry) (E : List Str) : L.length ≤ (blockLinesA L E).length := by
  induction L with
  | nil => simp
  | cons e r ih =>
    cases r with
    | nil => simp only [blockLinesA, List.length_cons, List.length_append, List.length_nil]; omega
    | cons e' m => simp only [blockLinesA, List.length_cons, List.length_append] at ih ⊢; omega

theorem setIndex_block_A (s : Rd) (i : Int) (jn : Nat) (p : Pos)
    (e : AEntry) (more : List AEntry) (E : List Str)
    (hj : (if i < 0 then i + (s.fullpos.size : Int) else i) = (jn : Int)) (hjn : jn < s.fullpos.size)
    (hp : s.fullpos[jn]! = p)
    (hel : e.tn = "element")
    (hrt : bound s.fam "read_tables" = "read_tables_AUTOUGH2") (hb : BoundA s.fam)
    (hprest : p.rest = blockLinesA (e :: more) E)
    (hnodup : ((e :: more).map (·.tn)).Nodup)
    (hok : ∀ x ∈ e :: more, EntryOkA s.skipTables s.tables x)
    (hlinks : LinksOkA (e :: more)) (hend : EndOkA E) :
    setIndex i s
      = .ok ((), { s with pos := ⟨endNoA p.no (e :: more) + min 2 E.length, E.drop 2⟩,
                          index := if i < 0 then i + (s.fulltimes.size : Int) else i,
                          tables := (e :: more).foldl (fun T x => stepTablesA x T) s.tables,
                          title := strip (lastE e more).tl, step := (hvA (lastE e more)).1, time := (hvA (lastE e more)).2 }) := by
  rw [setIndex_seek s i jn p hj hjn hp]
  generalize (if i < 0 then i + (s.fulltimes.size : Int) else i) = ix
  rw [readTables_A { s with pos := p, index := ix } hrt]
  rw [← hel]
  have hlen := blockLinesA_length (e :: more) E
  rw [tablesLoopA_block e more E { s with pos := p, index := ix } _ 0
    (by simp only [hprest]; simp only [List.length_cons] at hlen; omega) hb hnodup hok hlinks hend hprest]

theorem lastE_mem (e : AEntry) (more : List AEntry) : lastE e more ∈ e :: more := by
  induction more generalizing e with
  | nil => exact List.mem_cons_self
  | cons e' m ih => exact List.mem_cons_of_mem _ (ih e')

end Proofs.Whole
