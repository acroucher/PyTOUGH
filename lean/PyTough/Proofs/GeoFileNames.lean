/-
  C03 proofs: the derived block and connection name lists of two geometries that have the
  same names, orders and surface-versus-layer comparisons are identical.
-/
import PyTough.Proofs.GeoFileLayers
namespace Proofs.GeoFile
open Py Model Model.GeoFile Proofs

/-- layer `l'` of `G` stands for layer `l` of `g`: the same name, and every comparison the name lists make between a column
    surface and a boundary of the layer has the same outcome (`cmp` includes that every column has a surface) -/
structure LayerRel (g : Geo) (f : GColumn → GColumn) (l l' : GLayer) : Prop where
  name : l'.name = l.name
  cmp : ∀ c ∈ g.columns, ∃ z z', c.surface = some z ∧ (f c).surface = some z' ∧
    decide (z.toRat > l.bottom.toRat) = decide (z'.toRat > l'.bottom.toRat) ∧
    decide (z.toRat ≤ l.top.toRat) = decide (z'.toRat ≤ l'.top.toRat)

/-- `G` has the names and orders of `g`.  Columns correspond through `f`, layers by position (`LayerRel`): a re-read
    layer depends on the layer above it too. -/
structure Aligned (g G : Geo) (f : GColumn → GColumn) : Prop where
  conv : G.hdr.convention = g.hdr.convention
  atm : G.hdr.atmosType = g.hdr.atmosType
  order : G.hdr.blockOrder = g.hdr.blockOrder
  cols : G.columns = g.columns.map f
  fname : ∀ c, (f c).name = c.name
  fnodes : ∀ c, (f c).nodes = c.nodes
  conns : G.connections = g.connections
  layers : All2 (LayerRel g f) g.layers G.layers

theorem all2_of_zip {α β : Type} {R : α → β → Prop} : ∀ {as : List α} {bs : List β}, as.length = bs.length →
    (∀ p ∈ as.zip bs, R p.1 p.2) → All2 R as bs
  | [], [], _, _ => .nil
  | [], _ :: _, hl, _ => by simp at hl
  | _ :: _, [], hl, _ => by simp at hl
  | a :: _, b :: _, hl, h =>
    .cons (h (a, b) List.mem_cons_self) (all2_of_zip (Nat.succ.inj hl) fun p hp => h p (List.mem_cons_of_mem _ hp))

theorem mapM_all2_congr {α β γ : Type} {f : α → Except Exc γ} {g : β → Except Exc γ} {as : List α} {bs : List β}
    (h : All2 (fun a b => g b = f a) as bs) : bs.mapM g = as.mapM f := by
  induction h with
  | nil => rw [List.mapM_nil, List.mapM_nil]
  | cons hab _ ih => rw [List.mapM_cons, List.mapM_cons, hab, ih]

theorem filterE_ok {α : Type} (p : α → Except Exc Bool) (q : α → Bool) : ∀ (l : List α), (∀ a ∈ l, p a = .ok (q a)) →
    filterE p l = .ok (l.filter q) := by
  intro l
  induction l with
  | nil => intro _; rfl
  | cons a r ih =>
    intro h
    rw [filterE, h a (by simp), ih (fun x hx => h x (List.mem_cons_of_mem _ hx)), List.filter_cons]

theorem above_of_surface {c : GColumn} {z : Flt} (h : c.surface = some z) (l : GLayer) :
    above c l = .ok (inLayer c.surface l) := by
  unfold above inLayer
  rw [h]

/-- one block of `block_name_list_dmplex`; like `connPair` and `vertBlock` it names a lambda of the model as a function of
    names and numbers, the arguments in which `blocks_eq` and `vertical_eq` compare the two geometries -/
def dmplexBlock (conv : Int) (ln cn : Str) (k : Nat) : Except Exc (Str × Bool) := do
  let b ← blockName conv ln cn
  if k = 4 then pure (b, true)
  else if k = 3 then pure (b, false)
  else .error .generic

theorem namesDmplex_unfold (conv : Int) (X : Geo) :
    namesDmplex conv X = (do
      let per ← (X.layers.drop 1).mapM fun l => do
        let cols ← layerColumns X.columns l
        cols.mapM fun (c : GColumn) => dmplexBlock conv l.name c.name c.nodes.length
      let all := per.flatten
      pure ((all.filter (·.2)).map (·.1) ++ (all.filter (!·.2)).map (·.1))) := rfl

theorem lookupColumn_mem {cs : List GColumn} {nm : Str} {c : GColumn} (h : lookupColumn cs nm = some c) : c ∈ cs := by
  unfold lookupColumn at h
  exact List.mem_of_find?_eq_some h

/-- the block-name pair of a horizontal connection -/
def connPair (conv : Int) (ln : Str) (k : Str × Str) : Except Exc (Str × Str) := do
  let a ← blockName conv ln k.1
  let b ← blockName conv ln k.2
  pure (a, b)

/-- the vertical connection(s) of one block -/
def vertBlock (conv atmT : Int) (atm0 : Option Str) (ilay : Nat) (ln aboveN l0N : Str) (top : Flt) (cn : Str) (surf : Option Flt) :
    Except Exc (List (Str × Str)) := do
  let this ← blockName conv ln cn
  let toAtm : Bool := ilay = 0 || (match surf with
    | some z => decide (z.toRat ≤ top.toRat)
    | none => false)
  if toAtm then
    if atmT = 0 then
      match atm0 with
      | some a => pure [(this, a)]
      | none => .error .indexError
    else if atmT = 1 then do
      let a ← blockName conv l0N cn
      pure [(this, a)]
    else pure []
  else do
    let a ← blockName conv aboveN cn
    pure [(this, a)]

theorem verticalNames_unfold (X : Geo) (atm0 : Option Str) (ilay : Nat) (l aboveL l0 : GLayer) (cols : List GColumn) :
    verticalNames X atm0 ilay l aboveL l0 cols = (do
      let per ← cols.mapM fun c =>
        vertBlock X.hdr.convention X.hdr.atmosType atm0 ilay l.name aboveL.name l0.name l.top c.name c.surface
      pure per.flatten) := rfl

theorem connLoop_unfold (X : Geo) (atm0 : Option Str) (l0 : GLayer) (cs : List ((Str × Str) × Option Flt × Option Flt))
    (ilay : Nat) (aboveL l : GLayer) (r : List GLayer) :
    connLoop X atm0 l0 cs ilay aboveL (l :: r) = (do
      let v ← (do let cols ← layerColumns X.columns l
                  verticalNames X atm0 ilay l aboveL l0 cols)
      let h ← (cs.filter fun k => inLayer k.2.1 l && inLayer k.2.2 l).mapM (fun k => connPair X.hdr.convention l.name k.1)
      let rest ← connLoop X atm0 l0 cs (ilay + 1) l r
      pure (v ++ h ++ rest)) := by
  rw [connLoop]
  simp only [bind, Except.bind, connPair]
  cases layerColumns X.columns l with
  | error e => rfl
  | ok cols => rfl

theorem layerColumns_left {g : Geo} {f : GColumn → GColumn} {l l' : GLayer} (hp : LayerRel g f l l') :
    layerColumns g.columns l = .ok (g.columns.filter (fun c => inLayer c.surface l)) := by
  unfold layerColumns
  apply filterE_ok
  intro c hc
  obtain ⟨z, z', hz, _, _, _⟩ := hp.cmp c hc
  exact above_of_surface hz l

theorem inLayer_eq {g : Geo} {f : GColumn → GColumn} {l l' : GLayer} (hp : LayerRel g f l l') {c : GColumn} (hc : c ∈ g.columns) :
    inLayer (f c).surface l' = inLayer c.surface l := by
  obtain ⟨z, z', hz, hz', h1, _⟩ := hp.cmp c hc
  unfold inLayer
  rw [hz, hz']
  exact h1.symm

section
variable {g G : Geo} {f : GColumn → GColumn} (A : Aligned g G f)
include A

theorem layerColumns_right {l l' : GLayer} (hp : LayerRel g f l l') :
    layerColumns G.columns l' = .ok ((g.columns.filter (fun c => inLayer c.surface l)).map f) := by
  unfold layerColumns
  rw [A.cols, filterE_ok (fun c => above c l') (fun c => inLayer c.surface l') (g.columns.map f) (by
    intro c' hc'
    obtain ⟨c, hc, rfl⟩ := List.mem_map.mp hc'
    obtain ⟨z, z', _, hz', _, _⟩ := hp.cmp c hc
    exact above_of_surface hz' l')]
  rw [List.filter_map]
  congr 2
  apply List.filter_congr
  intro c hc
  exact inLayer_eq hp hc

/-- both layer lists are empty, or both have a first layer, and the layers below correspond -/
theorem layers_cases : (g.layers = [] ∧ G.layers = []) ∨
    ∃ l0 r l0' r', g.layers = l0 :: r ∧ G.layers = l0' :: r' ∧ LayerRel g f l0 l0' ∧ All2 (LayerRel g f) r r' := by
  have h := A.layers
  generalize hl : g.layers = ls at h
  generalize hl' : G.layers = ls' at h
  cases h with
  | nil => exact .inl ⟨rfl, rfl⟩
  | cons h0 t => exact .inr ⟨_, _, _, _, rfl, rfl, h0, t⟩

/-- anything computed per block from the layer name, the column name and the number of nodes: one layer -/
theorem layer_blocks_eq {γ : Type} (h : Str → Str → Nat → Except Exc γ) {l l' : GLayer} (hp : LayerRel g f l l') :
    (do let cols ← layerColumns G.columns l'
        cols.mapM fun (c : GColumn) => h l'.name c.name c.nodes.length) =
    (do let cols ← layerColumns g.columns l
        cols.mapM fun (c : GColumn) => h l.name c.name c.nodes.length) := by
  rw [layerColumns_right A hp, layerColumns_left hp]
  simp only [bind, Except.bind]
  exact mapM_map_congr _ fun c _ => by rw [A.fname, A.fnodes, hp.name]

/-- … and all layers below the first -/
theorem blocks_eq {γ : Type} (h : Str → Str → Nat → Except Exc γ) :
    ((G.layers.drop 1).mapM fun l' => do
        let cols ← layerColumns G.columns l'
        cols.mapM fun (c : GColumn) => h l'.name c.name c.nodes.length) =
    ((g.layers.drop 1).mapM fun l => do
        let cols ← layerColumns g.columns l
        cols.mapM fun (c : GColumn) => h l.name c.name c.nodes.length) := by
  rcases layers_cases A with ⟨hl, hl'⟩ | ⟨l0, r, l0', r', hl, hl', _, t⟩
  · rw [hl, hl', List.drop_nil, List.mapM_nil, List.mapM_nil]
  · rw [hl, hl', List.drop_succ_cons, List.drop_succ_cons, List.drop_zero, List.drop_zero]
    exact mapM_all2_congr (t.imp fun _ _ _ hp => layer_blocks_eq A h hp)

theorem namesLayerColumn_eq : namesLayerColumn G.hdr.convention G = namesLayerColumn g.hdr.convention g := by
  unfold namesLayerColumn
  rw [A.conv, blocks_eq A fun ln cn _ => blockName g.hdr.convention ln cn]

theorem namesDmplex_eq : namesDmplex G.hdr.convention G = namesDmplex g.hdr.convention g := by
  rw [namesDmplex_unfold, namesDmplex_unfold, A.conv, blocks_eq A (dmplexBlock g.hdr.convention)]

theorem atmosNames_eq : atmosNames G = atmosNames g := by
  unfold atmosNames
  rcases layers_cases A with ⟨hl, hl'⟩ | ⟨l0, r, l0', r', hl, hl', h0, _⟩
  · rw [hl, hl']
  · rw [hl, hl']
    simp only [A.atm, A.conv, h0.name, A.cols]
    rw [List.mapM_map]
    simp only [Function.comp_def, A.fname]

theorem blockNameList_eq : blockNameList G = blockNameList g := by
  unfold blockNameList
  rcases layers_cases A with ⟨hl, hl'⟩ | ⟨l0, r, l0', r', hl, hl', _, _⟩
  · rw [hl, hl']
  · rw [hl, hl']
    simp only
    rw [atmosNames_eq A, A.order, namesLayerColumn_eq A, namesDmplex_eq A]

/-! ### connections -/

theorem lookupColumn_map (cs : List GColumn) (nm : Str) :
    lookupColumn (cs.map f) nm = (lookupColumn cs nm).map f := by
  unfold lookupColumn
  rw [List.find?_map]
  have : ((fun (c : GColumn) => decide (c.name = nm)) ∘ f) = (fun (c : GColumn) => decide (c.name = nm)) := by
    funext c
    simp only [Function.comp, A.fname]
  rw [this]

theorem inLayer_lookup {l l' : GLayer} (hp : LayerRel g f l l') (nm : Str) :
    inLayer ((lookupColumn G.columns nm).bind (·.surface)) l' = inLayer ((lookupColumn g.columns nm).bind (·.surface)) l := by
  rw [A.cols, lookupColumn_map A]
  cases hl : lookupColumn g.columns nm with
  | none => rfl
  | some c =>
    simp only [Option.map_some, Option.bind_some]
    exact inLayer_eq hp (lookupColumn_mem hl)

theorem horizontal_eq {l l' : GLayer} (hp : LayerRel g f l l') :
    ((connSurfaces G).filter fun k => inLayer k.2.1 l' && inLayer k.2.2 l').mapM
        (fun k => connPair G.hdr.convention l'.name k.1) =
    ((connSurfaces g).filter fun k => inLayer k.2.1 l && inLayer k.2.2 l).mapM
        (fun k => connPair g.hdr.convention l.name k.1) := by
  unfold connSurfaces
  rw [List.filter_map, List.filter_map, List.mapM_map, List.mapM_map, A.conns, A.conv, hp.name]
  congr 1
  apply List.filter_congr
  intro k _
  simp only [Function.comp, inLayer_lookup A hp]

theorem vertical_eq (atm0 : Option Str) (ilay : Nat) {l l' aboveL aboveL' l0 l0' : GLayer}
    (hp : LayerRel g f l l') (ha : aboveL'.name = aboveL.name) (h0 : l0'.name = l0.name) :
    (do let cols ← layerColumns G.columns l'
        verticalNames G atm0 ilay l' aboveL' l0' cols) =
    (do let cols ← layerColumns g.columns l
        verticalNames g atm0 ilay l aboveL l0 cols) := by
  rw [layerColumns_right A hp, layerColumns_left hp]
  simp only [bind, Except.bind]
  rw [verticalNames_unfold, verticalNames_unfold, mapM_map_congr (g := fun c =>
    vertBlock g.hdr.convention g.hdr.atmosType atm0 ilay l.name aboveL.name l0.name l.top c.name c.surface)]
  intro c hc
  obtain ⟨z, z', hz, hz', _, h2⟩ := hp.cmp c (List.mem_filter.mp hc).1
  rw [A.conv, A.atm, hp.name, ha, h0, A.fname, hz, hz']
  unfold vertBlock
  simp only [h2]

theorem connLoop_eq (atm0 : Option Str) {l0 l0' : GLayer} (h0 : l0'.name = l0.name) {r r' : List GLayer}
    (t : All2 (LayerRel g f) r r') : ∀ (ilay : Nat) (aboveL aboveL' : GLayer), aboveL'.name = aboveL.name →
    connLoop G atm0 l0' (connSurfaces G) ilay aboveL' r' = connLoop g atm0 l0 (connSurfaces g) ilay aboveL r := by
  induction t with
  | nil => intro _ _ _ _; rfl
  | cons hp _ ih =>
    intro ilay aboveL aboveL' ha
    rw [connLoop_unfold, connLoop_unfold, vertical_eq A atm0 ilay hp ha h0, horizontal_eq A hp, ih (ilay + 1) _ _ hp.name]

theorem blockConnectionNameList_eq : blockConnectionNameList G = blockConnectionNameList g := by
  unfold blockConnectionNameList
  rcases layers_cases A with ⟨hl, hl'⟩ | ⟨l0, r, l0', r', hl, hl', h0, t⟩
  · rw [hl, hl']
  · rw [hl, hl']
    simp only
    cases t with
    | nil => rfl
    | cons ha tb =>
      simp only
      rw [blockNameList_eq A]
      exact bind_congr fun names => connLoop_eq A names.head? h0.name (.cons ha tb) 0 l0 l0' h0.name

end

/-! ### the re-read geometry is aligned with the original -/

theorem all_zip_map {α β : Type} (f : α → β) (p : α × β → Bool) (l : List α) :
    (l.zip (l.map f)).all p = l.all fun a => p (a, f a) := by
  induction l with
  | nil => rfl
  | cons a r ih => rw [List.map_cons, List.zip_cons_cons, List.all_cons, List.all_cons, ih]

/-- `StableSurfaces g`, comparison by comparison -/
theorem stableSurfaces_iff_forall (g : Geo) : StableSurfaces g = true ↔
    ∀ c ∈ g.columns, ∀ p ∈ g.layers.zip (canonLayers (scaleOf g) g.layers), ∃ z z', c.surface = some z ∧
      (canonColumn (scaleOf g) (g.nodes.map (canonNode (scaleOf g))) (canonLayers (scaleOf g) g.layers) c).surface = some z' ∧
      decide (z.toRat > p.1.bottom.toRat) = decide (z'.toRat > p.2.bottom.toRat) ∧
      decide (z.toRat ≤ p.1.top.toRat) = decide (z'.toRat ≤ p.2.top.toRat) := by
  unfold StableSurfaces canonGeo
  simp only [all_zip_map, List.all_eq_true]
  apply forall_congr'; intro c
  apply forall_congr'; intro _
  apply forall_congr'; intro p
  apply forall_congr'; intro _
  cases c.surface with
  | none => simp
  | some z =>
    cases (canonColumn (scaleOf g) (g.nodes.map (canonNode (scaleOf g))) (canonLayers (scaleOf g) g.layers) c).surface with
    | none => simp
    | some z' => simp

/-- (`hbo` is `HeaderOK.bo`) -/
theorem aligned_canon {g : Geo} (hbo : g.hdr.blockOrder = g.hdr.blockOrderInt.map Int.toNat) (hst : StableSurfaces g = true) :
    Aligned g (canonGeo g) (canonColumn (scaleOf g) (g.nodes.map (canonNode (scaleOf g))) (canonLayers (scaleOf g) g.layers)) :=
  ⟨rfl, rfl, hbo.symm, rfl, fun _ => rfl, fun _ => rfl, rfl, all2_of_zip (canonLayers_length _ _).symm fun p hp =>
    ⟨(zip_canonLayers _ _ p hp).1, fun c hc => (stableSurfaces_iff_forall g).mp hst c hc p hp⟩⟩

end Proofs.GeoFile
