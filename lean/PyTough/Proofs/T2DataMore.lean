/-
  C01 proofs: INDOM, MOMOP (and the MOP digit strings), SELEC, DIFFU.
-/
import PyTough.Proofs.T2DataGrid
namespace Proofs.T2
open Py Model Model.T2 Proofs Proofs.Incon
open Gen.Sections (Rec)

/-- an INDOM entry the writer and reader agree on: a visible five-character rock name and at most four values
    that read back as values -/
structure GoodIndom (f0 : FieldSpec) (e : Str × List Val) : Prop where
  len : e.1.length = 5
  vis : isBlank e.1 = false
  vars : e.2.length ≤ 4
  present : ∀ x ∈ e.2, canonV f0 x ≠ Val.none

theorem indom_record {T : Tabs} (hs : ChunkShape T c!"indom2" 4)
    (e : Str × List Val) (hg : GoodIndom (fieldAt T c!"indom2" 0) e) (hw : ∃ ls, writeIndomEntry T e = .ok ls) :
    RecordRT id (fun _ => false) (readIndomRec .default T)
      (linesOf (writeIndomEntry T))
      (fun e => (e.1, e.2.map (canonV (fieldAt T c!"indom2" 0)))) e := by
  have hT := hs.get
  obtain ⟨ls, hls⟩ := hw
  have hw := hls
  unfold writeIndomEntry at hw
  simp only [hT, pure, Except.pure, ok_bind, bind_ok_iff, Except.ok.injEq] at hw
  obtain ⟨l2, hw, rfl⟩ := hw
  refine ⟨nl e.1, [l2], linesOf_ok hls, not_blank_append hg.vis, rfl, fun rest => ?_⟩
  show readIndomRec .default T (nl e.1) (l2 :: rest) = .ok (_, 1)
  unfold readIndomRec
  have h := uniform_partial_read hs.chunk e.2 hg.vars hw (.refl l2)
  simp only [hT, bind, Except.bind, pure, Except.pure, readline, h]
  rw [trimTrailingNones_append_nones (List.forall_mem_map.mpr hg.present), slice_kw e.1 hg.len]

/-- INDOM: a rock name line and a line of at most four values per entry, set into the reader's dictionary (`setIndom`) -/
theorem section_roundtrip_INDOM {T : Tabs} (hs : ChunkShape T c!"indom2" 4)
    (d d0 : Indom) (hg : ∀ e ∈ d, GoodIndom (fieldAt T c!"indom2" 0) e) (hw : ∀ e ∈ d, ∃ ls, writeIndomEntry T e = .ok ls)
    (rest : List Str) :
    readIndom .default T d0
        ((d.map (linesOf (writeIndomEntry T))).flatten ++ nl [] :: rest) =
      .ok ((d.map (fun e => (e.1, e.2.map (canonV (fieldAt T c!"indom2" 0))))).foldl setIndom d0, rest) := by
  unfold readIndom
  rw [untilBlank_roundtrip id (fun _ => false) _ _ _ d (fun e he => indom_record hs e (hg e he) (hw e he)) (nl [])
    (Or.inl isBlank_nl_nil) rest]
  rfl

theorem indom_readsBack {T : Tabs} (hs : ChunkShape T c!"indom2" 4)
    (d d0 : Indom) (hne : d ≠ []) (hg : ∀ e ∈ d, GoodIndom (fieldAt T c!"indom2" 0) e) (hw : ∀ e ∈ d, ∃ ls, writeIndomEntry T e = .ok ls) :
    ∃ lines, writeIndom T d = .ok lines ∧ ReadsBack c!"INDOM" lines (readIndom .default T d0)
      ((d.map (fun e => (e.1, e.2.map (canonV (fieldAt T c!"indom2" 0))))).foldl setIndom d0) := by
  unfold writeIndom
  rw [List.isEmpty_eq_false_iff.mpr hne]
  exact recordList_readsBack (writeIndomEntry T) d hw c!"INDOM" (section_roundtrip_INDOM hs d d0 hg hw)

def digits10 : List Int := [0, 1, 2, 3, 4, 5, 6, 7, 8, 9]

theorem mop_digit {i : Int} (hi : i ∈ digits10) :
    ∃ ch, intStr i = [ch] ∧ pyInt [ch] = .ok i ∧ isStrWs ch = false := by
  -- the character is `'0' + i`
  refine ⟨Char.ofNat (48 + i.toNat), ?_⟩
  revert i
  decide

theorem mop_string (ds : List Int) (hd : ∀ i ∈ ds, i ∈ digits10) :
    (ds.flatMap intStr).length = ds.length ∧ (∀ c ∈ ds.flatMap intStr, isStrWs c = false) ∧
      (ds.flatMap intStr).mapM (fun c => pyInt [c]) = .ok ds := by
  induction ds with
  | nil => exact ⟨rfl, (by intro c hc; cases hc), rfl⟩
  | cons i is ih =>
    obtain ⟨ch, h1, h2, h3⟩ := mop_digit (hd i (by simp))
    obtain ⟨ihl, ihc, ihm⟩ := ih (fun j hj => hd j (List.mem_cons_of_mem _ hj))
    simp only [List.flatMap_cons, h1, List.cons_append, List.nil_append, List.length_cons, ihl, List.mapM_cons, h2, ihm,
      bind, Except.bind, pure, Except.pure, true_and]
    refine ⟨?_, trivial⟩
    intro c hc
    rcases List.mem_cons.mp hc with rfl | hc'
    · exact h3
    · exact ihc c hc'

theorem rstrip_eq_self {s : Str} (h : ∀ c ∈ s, isStrWs c = false) : rstrip s = s :=
  dropWhile_reverse_of_last fun c hc => h c (List.mem_of_getLast? hc)

/-- options: a leading unused entry 0 and `n` one-digit options -/
structure GoodOptions (n : Nat) (opts : List Int) : Prop where
  head : opts.head? = some 0
  len : opts.length = n + 1
  digits : ∀ i ∈ opts.drop 1, i ∈ digits10

/-- the string `write_parameters` / `write_more_options` makes of the options decodes
    to the options -/
theorem options_roundtrip {n : Nat} {opts : List Int} (h : GoodOptions n opts) :
    (digitsOfOptions opts).length = n ∧ '\n' ∉ digitsOfOptions opts ∧ optionsOfStr (digitsOfOptions opts) n = .ok opts := by
  obtain ⟨hl, hc, hm⟩ := mop_string (opts.drop 1) h.digits
  have hlen : (digitsOfOptions opts).length = n := by
    unfold digitsOfOptions; rw [hl, List.length_drop, h.len]; omega
  refine ⟨hlen, fun hnl => absurd (hc _ hnl) (by decide), ?_⟩
  unfold optionsOfStr
  have hs : rstrip (digitsOfOptions opts) = digitsOfOptions opts := rstrip_eq_self hc
  have hj : ljust (digitsOfOptions opts) n = digitsOfOptions opts := by
    unfold ljust; rw [hlen, Nat.sub_self]; simp
  have hrp : replaceChar ' ' ['0'] (digitsOfOptions opts) = digitsOfOptions opts :=
    replaceChar_of_not_mem (fun hsp => absurd (hc _ hsp) (by decide))
  simp only [hs, hj, hrp, bind, Except.bind, pure, Except.pure]
  have : (digitsOfOptions opts).mapM (fun c => pyInt [c]) = .ok (opts.drop 1) := hm
  rw [this]
  simp only
  cases ho : opts with
  | nil => rw [ho] at h; have := h.len; simp at this
  | cons a as =>
    have := h.head
    rw [ho] at this
    simp only [List.head?_cons, Option.some.injEq] at this
    rw [this]; rfl

structure MomopShape (T : Tabs) : Prop where
  kind : RecShape T c!"_more_option_str" 1
  names : (recOf T c!"_more_option_str").names = [c!"_more_option_str"]
  str : StrField (fieldAt T c!"_more_option_str" 0)
  width : (fieldAt T c!"_more_option_str" 0).width = 21

instance (T : Tabs) : Decidable (MomopShape T) :=
  decidable_of_iff (_ ∧ _ ∧ _ ∧ _) ⟨fun ⟨h1, h2, h3, h4⟩ => ⟨h1, h2, h3, h4⟩, fun h => ⟨h.kind, h.names, h.str, h.width⟩⟩

/-- whole objects `d d0`, as `write_more_options` / `read_more_options` take them; only `moreOption` plays a part -/
theorem section_roundtrip_MOMOP {T : Tabs} (hs : MomopShape T)
    (d d0 : T2Data) (hg : GoodOptions 21 d.moreOption) {lines : List Str} (hw : writeMoreOptions T d = .ok lines) :
    ReadsBack c!"MOMOP" lines (readMoreOptions .default T d0) { d0 with moreOption := d.moreOption } := by
  obtain ⟨hlen, hnl, hopt⟩ := options_roundtrip hg
  have hT := hs.kind.get
  have hfs : (recOf T c!"_more_option_str").fs = [fieldAt T c!"_more_option_str" 0] := hs.kind.fs_eq
  unfold writeMoreOptions at hw
  simp only [hT, ok_bind, bind_ok_iff, Except.ok.injEq, pure, Except.pure] at hw
  obtain ⟨l, hl, rfl⟩ := hw
  refine ⟨[l], rfl, fun rest => ?_⟩
  have e := valueLine_read hs.kind.wf _ [] hl
  have hcanon := (str_field_write hs.str (by rw [hlen, hs.width]) hnl).2
  unfold readMoreOptions
  simp only [List.cons_append, List.nil_append, readline, hT, bind, Except.bind, pure, Except.pure, e]
  have hget : (absorb (recOf T c!"_more_option_str").names (canonVals (recOf T c!"_more_option_str")
      (lineVals (recOf T c!"_more_option_str") [(c!"_more_option_str", .str (digitsOfOptions d.moreOption))])) []).get
      c!"_more_option_str" = some (.str (digitsOfOptions d.moreOption)) := by
    have hlv : lineVals (recOf T c!"_more_option_str") [(c!"_more_option_str", .str (digitsOfOptions d.moreOption))] =
        [.str (digitsOfOptions d.moreOption)] := by rw [lineVals, hs.names]; rfl
    rw [hlv, canonVals, hfs, hs.names]
    simp only [List.zip_cons_cons, List.zip_nil_right, List.map_cons, List.map_nil, hcanon]
    rfl
  rw [hget]
  simp only [Val.str?, hopt]

/-- a selection block the writer and reader agree on: up to sixteen integers of which the first is the number of
    lines of reals, that number being what the list of reals needs, and surviving its own field -/
structure GoodSelection (f1 : FieldSpec) (s : Selection) : Prop where
  head : ∃ rest, s.integer = .int (Int.ofNat ((s.float.length + 8 - 1) / 8)) :: rest
  ilen : s.integer.length ≤ 16
  keep : canonV f1 (.int (Int.ofNat ((s.float.length + 8 - 1) / 8))) = .int (Int.ofNat ((s.float.length + 8 - 1) / 8))

/-- the line of sixteen integers and the lines of eight reals it announces read back:
    every integer and real in its position (absent ones `None`), the reals padded with `None` to whole lines -/
theorem section_roundtrip_SELEC {T : Tabs} (hs1 : ChunkShape T c!"selec1" 16) (hs2 : ChunkShape T c!"selec2" 8)
    (s : Selection) (hg : GoodSelection (fieldAt T c!"selec1" 0) s) {lines : List Str}
    (hw : writeSelection T (some s) = .ok lines) :
    ReadsBack c!"SELEC" lines (readSelection .default T)
      { integer := s.integer.map (canonV (fieldAt T c!"selec1" 0)) ++ List.replicate (16 - s.integer.length) Val.none,
        float := s.float.map (canonV (fieldAt T c!"selec2" 0)) ++
          List.replicate (((s.float.length + 8 - 1) / 8) * 8 - s.float.length) Val.none } := by
  have hT1 := hs1.get
  have hT2 := hs2.get
  obtain ⟨irest, hint⟩ := hg.head
  unfold writeSelection at hw
  have hsl : selecLines s.integer.head? = .ok ((s.float.length + 8 - 1) / 8) := by rw [hint]; rfl
  simp only [hT1, hT2, hsl, pure, Except.pure, ok_bind, bind_ok_iff, Except.ok.injEq] at hw
  obtain ⟨l1, hl1, ls, hch, rfl⟩ := hw
  refine ⟨l1 :: ls, rfl, fun rest => ?_⟩
  unfold readSelection
  have e1 := uniform_partial_read hs1.chunk s.integer hg.ilen hl1 (.refl l1)
  simp only [List.cons_append, readline, hT1, hT2, bind, Except.bind, pure, Except.pure, e1]
  have hhead : (s.integer.map (canonV (fieldAt T c!"selec1" 0)) ++ List.replicate (16 - s.integer.length) Val.none).head? =
      some (.int (Int.ofNat ((s.float.length + 8 - 1) / 8))) := by
    rw [hint]; simp only [List.map_cons, List.cons_append, List.head?_cons, hg.keep]
  rw [hhead]
  have hsl' : selecLines (some (Val.int (Int.ofNat ((s.float.length + 8 - 1) / 8)))) = .ok ((s.float.length + 8 - 1) / 8) := rfl
  simp only [hsl', chunked_roundtrip hs2.chunk (by decide) s.float hch rest]

theorem diffusion_rows {r : Rec} {f0 : FieldSpec} (hr : ChunkRec r 8 f0) (np : Nat) :
    ∀ (rows : List (List Val)) (ls : List Str), rows.mapM (writeValuesLine r) = .ok ls →
      (∀ row ∈ rows, row.length = np ∧ np ≤ 8) → ∀ rest,
      readDiffusion.go .default (Int.ofNat np) r rows.length (ls ++ rest) = .ok (rows.map (·.map (canonV f0)), rest) := by
  intro rows
  induction rows with
  | nil => intro ls h _ rest; simp only [List.mapM_nil, pure, Except.pure] at h; cases h; rfl
  | cons row rows ih =>
    intro ls h hrow rest
    obtain ⟨l, ls', hl, hm, rfl⟩ := mapM_cons_ok _ _ _ _ h
    obtain ⟨hlen, hnp⟩ := hrow row (by simp)
    have e := uniform_partial_read hr row (by omega) hl (.refl l)
    simp only [List.length_cons, List.cons_append, readDiffusion.go, readline, e,
      ih ls' hm (fun x hx => hrow x (List.mem_cons_of_mem _ hx)) rest, List.map_cons, sliceTo_ofNat]
    rw [List.take_append_of_le_length (by simp [hlen]), List.take_of_length_le (by simp [hlen])]

/-- one line of diffusivities per component, `num_phases` values each (MULTI read
    before): every row reads back with its values -/
theorem section_roundtrip_DIFFU {T : Tabs} (hs : ChunkShape T c!"diffusion" 8)
    (multi : Dict) (rows rows0 : List (List Val)) (hne : rows ≠ []) (np : Nat)
    (hnc : multi.get c!"num_components" = some (.int (Int.ofNat rows.length)))
    (hnp : multi.get c!"num_phases" = some (.int (Int.ofNat np)))
    (hrow : ∀ row ∈ rows, row.length = np ∧ np ≤ 8) {lines : List Str} (hw : writeDiffusion T rows = .ok lines) :
    ReadsBack c!"DIFFU" lines (readDiffusion .default T multi rows0)
      (rows0 ++ rows.map (·.map (canonV (fieldAt T c!"diffusion" 0)))) := by
  have hT := hs.get
  have he := List.isEmpty_eq_false_iff.mpr hne
  unfold writeDiffusion at hw
  simp only [he, Bool.false_eq_true, ↓reduceIte, hT, ok_bind, bind_ok_iff, Except.ok.injEq, pure, Except.pure] at hw
  obtain ⟨ls, hm, rfl⟩ := hw
  refine ⟨ls, rfl, fun rest => ?_⟩
  unfold readDiffusion
  simp only [hnc, hnp, hT, bind, Except.bind, pure, Except.pure]
  have hto : (Int.ofNat rows.length).toNat = rows.length := rfl
  rw [hto, diffusion_rows hs.chunk np rows ls hm hrow rest]

end Proofs.T2
