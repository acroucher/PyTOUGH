/-
  C01 proofs: relative-permeability / capillarity lines (RPCAP and the rock-type continuation lines),
  dictionary sections (LINEQ, SOLVR, MULTI) and ROCKS.
-/
import PyTough.Proofs.T2DataGrid
namespace Proofs.T2
open Py Model Model.T2 Proofs Proofs.Incon
open Gen.Sections (Rec)

structure RPShape (T : Tabs) (n : Str) : Prop where
  get : T.get n = .ok (recOf T n)
  fs : (recOf T n).fs = fieldAt T n 0 :: fieldAt T n 1 :: List.replicate 7 (fieldAt T n 2)
  num : ∀ f ∈ (recOf T n).fs, NumericTyp f.typ

instance (T : Tabs) (n : Str) : Decidable (RPShape T n) :=
  decidable_of_iff (_ ∧ _ ∧ _) ⟨fun ⟨h1, h2, h3⟩ => ⟨h1, h2, h3⟩, fun h => ⟨h.get, h.fs, h.num⟩⟩

/-- what such a line reads back as: the type and all seven parameter positions (absent ones `None`) -/
def canonRP (ft fp : FieldSpec) (p : RP) : RP :=
  { type := canonV ft p.type, params := p.params.map (canonV fp) ++ List.replicate (7 - p.params.length) Val.none }

abbrev canonRPOf (T : Tabs) (n : Str) : RP → RP := canonRP (fieldAt T n 0) (fieldAt T n 2)

theorem rp_line_roundtrip {T : Tabs} {n : Str} (hs : RPShape T n) (p : RP) (hlen : p.params.length ≤ 7)
    {l : Str} (hw : writeRP (recOf T n) (some p) = .ok l) : readRPLine .default (recOf T n) l = .ok (canonRPOf T n p) := by
  unfold writeRP at hw
  simp only at hw
  have hvalid : ∀ f ∈ (recOf T n).fs, ValidTyp f.typ := fun f hf => NumericTyp.valid (hs.num f hf)
  have hnum : ∀ f ∈ (recOf T n).fs.drop ([p.type, Val.none] ++ p.params).length, NumericTyp f.typ :=
    fun f hf => hs.num f (List.mem_of_mem_drop hf)
  unfold readRPLine
  rw [readValues_written (recOf T n) _ hvalid hnum hw (.refl l), hs.fs]
  simp only [List.cons_append, List.nil_append, List.zip_cons_cons, List.map_cons, List.length_cons, List.drop_succ_cons,
    bind, Except.bind, pure, Except.pure, List.headD_cons, List.drop_zero, canonRP]
  rw [map_zip_replicate _ 7 _ hlen, List.drop_replicate, List.map_replicate]

/-- RPCAP: both lines — the type and all seven parameters of the relative permeability and
    of the capillary pressure function — read back, each parameter to the digits of its field -/
theorem section_roundtrip_RPCAP {T : Tabs} (hs1 : RPShape T c!"relative_permeability") (hs2 : RPShape T c!"capillarity")
    (rp cp : RP)
    (hl1 : rp.params.length ≤ 7) (hl2 : cp.params.length ≤ 7) {lines : List Str}
    (hw : writeRPCap T ⟨some rp, some cp⟩ = .ok lines) :
    ReadsBack c!"RPCAP" lines (readRPCap .default T)
      ⟨some (canonRPOf T c!"relative_permeability" rp), some (canonRPOf T c!"capillarity" cp)⟩ := by
  have hT1 := hs1.get
  have hT2 := hs2.get
  unfold writeRPCap at hw
  simp only [Option.isNone_some, Bool.false_eq_true, ↓reduceIte, hT1, hT2, pure, Except.pure, ok_bind, bind_ok_iff,
    Except.ok.injEq] at hw
  obtain ⟨l1, h1, l2, h2, rfl⟩ := hw
  refine ⟨[l1, l2], rfl, fun rest => ?_⟩
  unfold readRPCap
  simp only [List.cons_append, List.nil_append, readline, hT1, hT2, bind, Except.bind, pure, Except.pure,
    rp_line_roundtrip hs1 rp hl1 h1, rp_line_roundtrip hs2 cp hl2 h2]

/-- LINEQ, SOLVR, and MULTI before its `eos` is stripped: a keyword line and one dictionary line -/
theorem section_roundtrip_dict {T : Tabs} {rec : Str} (hr : RecOK T rec) (kw : Str)
    (d d0 : Dict) (hne : d ≠ []) {lines : List Str} (hw : writeDictSection T kw rec d = .ok lines) :
    ReadsBack kw lines (readDictSection .default T rec d0)
      (absorb (recOf T rec).names (canonVals (recOf T rec) (lineVals (recOf T rec) d)) d0) := by
  have hT := hr.get
  have he := List.isEmpty_eq_false_iff.mpr hne
  unfold writeDictSection at hw
  simp only [he, Bool.false_eq_true, ↓reduceIte, hT, pure, Except.pure, ok_bind, bind_ok_iff, Except.ok.injEq] at hw
  obtain ⟨l, hl, rfl⟩ := hw
  refine ⟨[l], rfl, fun rest => ?_⟩
  unfold readDictSection
  simp only [List.cons_append, List.nil_append, readline, hT, bind, Except.bind, pure, Except.pure, valueLine_read hr.wf d d0 hl]

/-- `write_rocktypes` writes both function lines with `rocks1.2`, `read_rocktypes` reads them with `rocks1.2` and
    `rocks1.3`: the two records have to be the same (`same`) -/
structure RockShape (T : Tabs) : Prop where
  kind : RecShape T c!"rocks1" 9
  name : NameField (fieldAt T c!"rocks1" 0)
  extra : RecOK T c!"rocks1.1"
  rp : RPShape T c!"rocks1.2"
  get13 : T.get c!"rocks1.3" = .ok (recOf T c!"rocks1.3")
  same : recOf T c!"rocks1.3" = recOf T c!"rocks1.2"

instance (T : Tabs) : Decidable (RockShape T) :=
  decidable_of_iff (_ ∧ _ ∧ _ ∧ _ ∧ _ ∧ _) ⟨fun ⟨h1, h2, h3, h4, h5, h6⟩ => ⟨h1, h2, h3, h4, h5, h6⟩,
    fun h => ⟨h.kind, h.name, h.extra, h.rp, h.get13, h.same⟩⟩

def rockLevel (rt : Rock) : Int := match rt.nad with | .int k => k | _ => 0

/-- `r11`: the record of the second line; `fd … fsh`: fields 2–8 of the first; `ft fp`: the type and parameter fields
    of the RP / CP lines -/
def canonRock (r11 : Rec) (fd fpo fk1 fk2 fk3 fc fsh ft fp : FieldSpec) (rt : Rock) : Rock :=
  { name := rt.name, nad := rt.nad, density := canonV fd rt.density, porosity := canonV fpo rt.porosity,
    perm := [canonV fk1 (rt.perm.getD 0 .none), canonV fk2 (rt.perm.getD 1 .none), canonV fk3 (rt.perm.getD 2 .none)],
    conductivity := canonV fc rt.conductivity, specificHeat := canonV fsh rt.specificHeat,
    extra := if 1 ≤ rockLevel rt then absorb r11.names (canonVals r11 (lineVals r11 rt.extra)) defaultRockExtra else defaultRockExtra,
    rp := if 2 ≤ rockLevel rt then rt.rp.map (canonRP ft fp) else none,
    cp := if 2 ≤ rockLevel rt then rt.cp.map (canonRP ft fp) else none }

abbrev canonRockOf (T : Tabs) : Rock → Rock :=
  canonRock (recOf T c!"rocks1.1") (fieldAt T c!"rocks1" 2) (fieldAt T c!"rocks1" 3) (fieldAt T c!"rocks1" 4)
    (fieldAt T c!"rocks1" 5) (fieldAt T c!"rocks1" 6) (fieldAt T c!"rocks1" 7) (fieldAt T c!"rocks1" 8)
    (fieldAt T c!"rocks1.2" 0) (fieldAt T c!"rocks1.2" 2)

/-- a rock type the ROCKS writer and reader agree on: a visible five-character name, NAD absent or an integer that
    survives its field, three permeabilities, and (for NAD ≥ 2) both functions with at most seven parameters -/
structure GoodRock (fnad : FieldSpec) (rt : Rock) : Prop where
  name : ∃ nm, rt.name = .str nm ∧ nm.length = 5 ∧ '\n' ∉ nm ∧ isBlank nm = false
  nad : rt.nad = .none ∨ ∃ k : Int, rt.nad = .int k
  nadKeep : canonV fnad rt.nad = rt.nad
  perm : rt.perm.length = 3
  rp : 2 ≤ rockLevel rt → ∃ p, rt.rp = some p ∧ p.params.length ≤ 7
  cp : 2 ≤ rockLevel rt → ∃ p, rt.cp = some p ∧ p.params.length ≤ 7

theorem rock_header {T : Tabs} (hs : RockShape T) (rt : Rock) (hg : GoodRock (fieldAt T c!"rocks1" 1) rt)
    {l : Str} (hw : writeValuesLine (recOf T c!"rocks1") ([rt.name, rt.nad, rt.density, rt.porosity] ++ rt.perm ++ [rt.conductivity, rt.specificHeat]) = .ok l) :
    isBlank (padstring l) = false ∧
      readValues .default (recOf T c!"rocks1") (padstring l) = .ok [rt.name, rt.nad, canonV (fieldAt T c!"rocks1" 2) rt.density,
        canonV (fieldAt T c!"rocks1" 3) rt.porosity, canonV (fieldAt T c!"rocks1" 4) (rt.perm.getD 0 .none),
        canonV (fieldAt T c!"rocks1" 5) (rt.perm.getD 1 .none), canonV (fieldAt T c!"rocks1" 6) (rt.perm.getD 2 .none),
        canonV (fieldAt T c!"rocks1" 7) rt.conductivity, canonV (fieldAt T c!"rocks1" 8) rt.specificHeat] := by
  obtain ⟨nm, hnm, hl5, hnl, hvis⟩ := hg.name
  obtain ⟨k1, k2, k3, hp⟩ := length_eq_three hg.perm
  rw [hp, hnm] at hw
  have hw' : writeValuesLine (recOf T c!"rocks1") [.str nm, rt.nad, rt.density, rt.porosity, k1, k2, k3, rt.conductivity, rt.specificHeat] = .ok l := hw
  obtain ⟨_, hnb, hrd⟩ := named_record hs.kind.wf hs.kind.fs_eq hs.name.toStrField (hl5.trans hs.name.width.symm) hnl hvis rfl hw'
    (.padstring l)
  simp only [fieldsFrom, Nat.reduceAdd, List.zip_cons_cons, List.zip_nil_right, List.map_cons, List.map_nil, hg.nadKeep] at hrd
  rw [hrd, hp, hnm]
  exact ⟨hnb, rfl⟩

theorem rock_record {T : Tabs} (hs : RockShape T) (rt : Rock) (hg : GoodRock (fieldAt T c!"rocks1" 1) rt)
    (hw : ∃ ls, writeRock T rt = .ok ls) :
    RecordRT padstring (fun _ => false) (readRock .default T)
      (linesOf (writeRock T)) (canonRockOf T) rt := by
  obtain ⟨ls, hw⟩ := hw
  have hls := hw
  have hT1 := hs.kind.get
  have hT11 := hs.extra.get
  have hT12 := hs.rp.get
  have hT13 := hs.get13
  rw [hs.same] at hT13
  unfold writeRock at hw
  simp only [hT1, hT11, hT12, pure, Except.pure, ok_bind] at hw
  rw [bind_ok_iff] at hw
  obtain ⟨l1, hl1, hw⟩ := hw
  obtain ⟨hnb, hhead⟩ := rock_header hs rt hg hl1
  rcases hg.nad with hnone | ⟨k, hk⟩
  · -- NAD absent
    simp only [hnone, beq_self_eq_true, ↓reduceIte] at hw
    cases hw
    refine ⟨l1, [], linesOf_ok hls, hnb, rfl, fun rest => ?_⟩
    unfold readRock
    have hlv : rockLevel rt = 0 := by unfold rockLevel; rw [hnone]
    simp only [hT1, hT11, hT12, hT13, bind, Except.bind, pure, Except.pure, hhead, hnone, beq_self_eq_true, ↓reduceIte, Val.ge,
      canonRock, hlv]
    rfl
  · have hne' : (Val.int k == Val.none) = false := rfl
    have hlv : rockLevel rt = k := by unfold rockLevel; rw [hk]
    simp only [hne', Bool.false_eq_true, ↓reduceIte, hk, Val.ge, ok_bind] at hw
    by_cases h1 : (1 : Int) ≤ k
    · simp only [h1, decide_true, Bool.not_true, Bool.false_eq_true, ↓reduceIte] at hw
      rw [bind_ok_iff] at hw
      obtain ⟨l2, hl2, hw⟩ := hw
      have hex := valueLine_read hs.extra.wf rt.extra defaultRockExtra hl2
      by_cases h2 : (2 : Int) ≤ k
      · obtain ⟨rp, hrp, hrpl⟩ := hg.rp (by rw [hlv]; exact h2)
        obtain ⟨cp, hcp, hcpl⟩ := hg.cp (by rw [hlv]; exact h2)
        simp only [h2, decide_true, Bool.not_true, Bool.false_eq_true, ↓reduceIte, hrp, hcp, bind_ok_iff, Except.ok.injEq] at hw
        obtain ⟨l3, hl3, l4, hl4, rfl⟩ := hw
        refine ⟨l1, [l2, l3, l4], linesOf_ok hls, hnb, rfl, fun rest => ?_⟩
        unfold readRock
        have e3 := rp_line_roundtrip hs.rp rp hrpl hl3
        have e4 := rp_line_roundtrip hs.rp cp hcpl hl4
        simp only [hT1, hT11, hT12, hT13, bind, Except.bind, pure, Except.pure, hhead, hne', Bool.false_eq_true, ↓reduceIte,
          hk, Val.ge, h1, h2, decide_true, Bool.not_true, List.cons_append, List.nil_append, readline, hex, List.drop_succ_cons,
          List.drop_zero, e3, e4, canonRock, hlv, hrp, hcp, Option.map_some, List.length_cons, List.length_nil]
      · simp only [h2, decide_false, Bool.not_false, ↓reduceIte] at hw
        cases hw
        refine ⟨l1, [l2], linesOf_ok hls, hnb, rfl, fun rest => ?_⟩
        unfold readRock
        simp only [hT1, hT11, bind, Except.bind, pure, Except.pure, hhead, hne', Bool.false_eq_true, ↓reduceIte,
          hk, Val.ge, h1, h2, decide_true, decide_false, Bool.not_true, Bool.not_false, List.cons_append, List.nil_append, readline,
          hex, canonRock, hlv, List.length_cons, List.length_nil]
    · simp only [h1, decide_false, Bool.not_false, ↓reduceIte] at hw
      cases hw
      refine ⟨l1, [], linesOf_ok hls, hnb, rfl, fun rest => ?_⟩
      unfold readRock
      have h2 : ¬ (2 : Int) ≤ k := by omega
      simp only [hT1, bind, Except.bind, pure, Except.pure, hhead, hne', Bool.false_eq_true, ↓reduceIte, hk,
        Val.ge, h1, decide_false, Bool.not_false, canonRock, hlv, h2]
      rfl

/-- ROCKS: one line, two for NAD ≥ 1, four for NAD ≥ 2 (both functions with all seven parameters); every rock type
    read is added to the grid (`addRock`) -/
theorem section_roundtrip_ROCKS {T : Tabs} (hs : RockShape T) (rs : List Rock)
    (hg : ∀ rt ∈ rs, GoodRock (fieldAt T c!"rocks1" 1) rt) (hw : ∀ rt ∈ rs, ∃ ls, writeRock T rt = .ok ls) (rest : List Str) :
    readRocks .default T ((rs.map (linesOf (writeRock T))).flatten ++ nl [] :: rest) =
      .ok ((rs.map (canonRockOf T)).foldl addRock [], rest) := by
  unfold readRocks
  rw [untilBlank_roundtrip padstring (fun _ => false) _ _ _ rs
    (fun rt hm => rock_record hs rt (hg rt hm) (hw rt hm)) (nl []) (Or.inl (by decide)) rest]
  rfl

theorem rocks_readsBack {T : Tabs} (hs : RockShape T) (rs : List Rock)
    (hg : ∀ rt ∈ rs, GoodRock (fieldAt T c!"rocks1" 1) rt) (hw : ∀ rt ∈ rs, ∃ ls, writeRock T rt = .ok ls) :
    ∃ lines, writeRocks T rs = .ok lines ∧ ReadsBack c!"ROCKS" lines (readRocks .default T)
      ((rs.map (canonRockOf T)).foldl addRock []) :=
  recordList_readsBack (writeRock T) rs hw c!"ROCKS" (section_roundtrip_ROCKS hs rs hg hw)

end Proofs.T2
