/-
  Proofs for C04: exact geometry (volumes and their telescoping, perpendicular distances,
  shoelace area).  Arithmetic over ℚ with Mathlib's ring/field tactics.
-/
import Mathlib.Algebra.BigOperators.Group.List.Basic
import Mathlib.Tactic.Ring
import Mathlib.Tactic.Linarith
import Mathlib.Tactic.LinearCombination
import PyTough.Model.FromGeo
import PyTough.Proofs.Plane
namespace Proofs.FromGeo
open Py Model.FromGeo

theorem heights_telescope (s : Rat) : ∀ (ls : List Layer) (t : Rat), chainOk t ls = true → lastBottom t ls < s →
    ((ls.filter (fun l => decide (l.bottom < s))).map (fun l => min s l.top - l.bottom)).sum
      = min s t - lastBottom t ls
  | [], t, _, hlast => by
    have h : t < s := hlast
    simp [lastBottom, min_eq_right (le_of_lt h)]
  | l :: ls, t, hc, hlast => by
    simp only [chainOk, Bool.and_eq_true, decide_eq_true_eq] at hc
    obtain ⟨⟨htop, hpos⟩, hrest⟩ := hc
    have ih := heights_telescope s ls l.bottom hrest hlast
    simp only [lastBottom]
    by_cases hb : l.bottom < s
    · rw [List.filter_cons_of_pos (by simpa using hb), List.map_cons, List.sum_cons, ih, htop,
        min_eq_right (le_of_lt hb)]
      ring
    · have hs : s ≤ l.bottom := not_lt.1 hb
      rw [List.filter_cons_of_neg (by simpa using hb), ih, min_eq_left hs,
        min_eq_left (by rw [← htop]; exact le_of_lt (lt_of_le_of_lt hs hpos))]

/-- what `LayersWF` says about the first underground layer and the layers below it -/
theorem layersWF_cons {g : Geo} {l1 : Layer} {rest : List Layer} (hwf : LayersWF g) (hl : g.layers = l1 :: rest) :
    l1.name ≠ g.layer0.name ∧ l1.top = g.layer0.top ∧ l1.bottom < l1.top ∧ chainOk l1.bottom rest = true ∧
      ∀ l ∈ rest, l.name ≠ g.layer0.name ∧ l.name ≠ l1.name := by
  obtain ⟨h0, hchain, hnd⟩ := hwf
  simp only [hl, chainOk, Bool.and_eq_true, decide_eq_true_eq] at hchain
  simp only [Geo.layerlist, hl, List.map_cons, List.nodup_cons, List.mem_cons, List.mem_map, not_or, not_exists,
    not_and] at hnd
  exact ⟨fun h => hnd.1.1 h.symm, by rw [hchain.1.1, h0], hchain.1.2, hchain.2,
    fun l hm => ⟨fun h => hnd.1.2 l hm h, fun h => hnd.2.1 l hm h⟩⟩

theorem layer_name_ne0 {g : Geo} {lay : Layer} (hwf : LayersWF g) (hl : lay ∈ g.layers) :
    lay.name ≠ g.layer0.name := by
  have hnd := hwf.2.2
  simp only [Geo.layerlist, List.map_cons, List.nodup_cons, List.mem_map, not_exists, not_and] at hnd
  exact fun h => hnd.1 lay hl h

theorem blockTop_first {g : Geo} {l1 : Layer} {rest : List Layer} (hl : g.layers = l1 :: rest) (col : Column) :
    blockTop g l1 col = col.surface := by
  simp [blockTop, hl]

theorem blockTop_lower {g : Geo} {l1 lay : Layer} {rest : List Layer} (hl : g.layers = l1 :: rest)
    (hne : lay.name ≠ l1.name) (col : Column) : blockTop g lay col = min col.surface lay.top := by
  have hne' : ¬ (some l1 = some lay) := fun h => by cases h; exact hne rfl
  simp only [blockTop, hl, List.head?_cons, hne', false_or]
  by_cases h1 : col.surface < lay.top
  · rw [if_pos h1, min_eq_left (le_of_lt h1)]
  · rw [if_neg h1, min_eq_right (not_lt.1 h1)]

theorem blockSurface_blockTop {g : Geo} {lay : Layer} {col : Column} (hwf : LayersWF g) (hl : lay ∈ g.layers)
    (hb : lay.bottom < col.surface) : blockSurface g lay col = some (blockTop g lay col) := by
  cases hls : g.layers with
  | nil => rw [hls] at hl; cases hl
  | cons l1 rest =>
    obtain ⟨hn1, ht, _, _, hlow⟩ := layersWF_cons hwf hls
    rw [hls] at hl
    unfold blockSurface
    rcases List.mem_cons.1 hl with rfl | hm
    · rw [blockTop_first hls, if_neg hn1, hls]
      by_cases h1 : col.surface < lay.top
      · simp [h1, hb]
      · by_cases h2 : col.surface > g.layer0.top
        · simp [h1, h2]
        · simp only [h1, h2, if_false]
          rw [le_antisymm (not_lt.1 (ht ▸ h2)) (not_lt.1 h1)]
    · obtain ⟨hn0, hne⟩ := hlow lay hm
      rw [blockTop_lower hls hne, if_neg hn0, hls]
      by_cases h1 : col.surface < lay.top
      · simp [h1, hb, min_eq_left (le_of_lt h1)]
      · simp only [h1, if_false, hne, min_eq_right (not_lt.1 h1)]
        split <;> rfl

theorem blockCentre_truncated {g : Geo} {lay : Layer} {col : Column} (hn : lay.name ≠ g.layer0.name)
    (hb : lay.bottom < col.surface) (ht : col.surface ≤ lay.top) :
    blockCentre g lay col = some ⟨col.centre.x, col.centre.y, (1 / 2 : Rat) * (lay.bottom + col.surface)⟩ := by
  rw [blockCentre, if_neg hn, if_pos ⟨hb, ht⟩]

theorem blockCentre_full {g : Geo} {lay : Layer} {col : Column} (hn : lay.name ≠ g.layer0.name)
    (hb : lay.bottom < col.surface) (ht : lay.top < col.surface) :
    blockCentre g lay col = some ⟨col.centre.x, col.centre.y, lay.centre⟩ := by
  rw [blockCentre, if_neg hn, if_neg fun h => absurd ht (not_lt.2 h.2), if_neg (not_le.2 hb)]

theorem blockCentre_some {g : Geo} {lay : Layer} {col : Column} (hn : lay.name ≠ g.layer0.name)
    (hb : lay.bottom < col.surface) : ∃ c, blockCentre g lay col = some c := by
  by_cases ht : col.surface ≤ lay.top
  · exact ⟨_, blockCentre_truncated hn hb ht⟩
  · exact ⟨_, blockCentre_full hn hb (not_le.1 ht)⟩

theorem blockVolume_eq {g : Geo} {lay : Layer} {col : Column} (hwf : LayersWF g)
    (hl : lay ∈ g.layers) (hb : lay.bottom < col.surface) :
    blockVolume g lay col = some (col.area * (blockTop g lay col - lay.bottom)) := by
  rw [blockVolume, if_neg (layer_name_ne0 hwf hl), blockSurface_blockTop hwf hl hb, mul_comm]

theorem columnVolume_eq {g : Geo} {col : Column} (hwf : LayersWF g) (hne : g.layers ≠ [])
    (hs : lowestBottom g < col.surface) :
    columnVolume g col = col.area * (col.surface - lowestBottom g) := by
  cases hl : g.layers with
  | nil => exact absurd hl hne
  | cons l1 rest =>
    obtain ⟨_, _, _, hrest, hnd⟩ := layersWF_cons hwf hl
    -- below the first layer a block of the column is `min surface top - bottom` high
    have hlow : ((rest.filter (fun l => decide (l.bottom < col.surface))).map (fun l => (blockVolume g l col).getD 0)).sum
        = col.area * (min col.surface l1.bottom - lastBottom l1.bottom rest) := by
      rw [← heights_telescope col.surface rest l1.bottom hrest (by simpa [lowestBottom, hl, lastBottom] using hs)]
      -- `sumRat` unfolds to `List.sum`
      refine .trans (congrArg List.sum (List.map_congr_left fun l hlm => ?_)) (Proofs.Refine.sumRat_map_mul col.area _ _)
      obtain ⟨hm, hlb⟩ := List.mem_filter.1 hlm
      simp [blockVolume_eq hwf (hl ▸ List.mem_cons_of_mem _ hm) (by simpa using hlb),
        blockTop_lower hl (hnd l hm).2]
    unfold columnVolume colLayers lowestBottom
    rw [hl]
    simp only [lastBottom]
    by_cases hb1 : l1.bottom < col.surface
    · rw [List.filter_cons_of_pos (by simpa using hb1), List.map_cons, List.sum_cons, hlow,
        blockVolume_eq hwf (hl ▸ List.mem_cons_self) hb1, blockTop_first hl,
        min_eq_right (le_of_lt hb1), Option.getD_some]
      ring
    · rw [List.filter_cons_of_neg (by simpa using hb1), hlow, min_eq_left (not_lt.1 hb1)]

theorem filter_sum {β} (q : β → Bool) (gf : β → Rat) (bs : List β) :
    ((bs.filter q).map gf).sum = (bs.map (fun b => if q b then gf b else 0)).sum := by
  simp only [List.sum_map_ite, List.sum_map_zero, add_zero, Bool.decide_eq_true]

theorem sum_swap {α β} (p : α → β → Bool) (f : α → β → Rat) (bs : List β) : ∀ (as : List α),
    (as.map (fun a => ((bs.filter (p a)).map (f a)).sum)).sum =
      (bs.map (fun b => ((as.filter (fun a => p a b)).map (fun a => f a b)).sum)).sum := by
  intro as
  induction as with
  | nil => simp
  | cons a as ih =>
    simp only [List.map_cons, List.sum_cons, ih]
    rw [filter_sum, ← List.sum_map_add]
    congr 1
    apply List.map_congr_left
    intro b _
    by_cases h : p a b = true
    · rw [List.filter_cons_of_pos (by simpa using h)]; simp [h]
    · rw [List.filter_cons_of_neg (by simpa using h)]; simp [h]

theorem totalVolume_eq_columns (g : Geo) :
    totalVolume g = (g.columns.map (fun c => columnVolume g c)).sum := by
  unfold totalVolume columnVolume colLayers layerCols
  exact sum_swap (fun (l : Layer) (c : Column) => decide (l.bottom < c.surface))
    (fun l c => (blockVolume g l c).getD 0) g.columns g.layers

theorem lastBottom_le : ∀ (ls : List Layer) (t : Rat), chainOk t ls = true →
    (lastBottom t ls ≤ t) ∧ ∀ l ∈ ls, lastBottom t ls ≤ l.bottom := by
  intro ls
  induction ls with
  | nil => intro t _; exact ⟨le_refl _, by simp⟩
  | cons l ls ih =>
    intro t hc
    simp only [chainOk, Bool.and_eq_true, decide_eq_true_eq] at hc
    obtain ⟨⟨htop, hpos⟩, hrest⟩ := hc
    obtain ⟨h1, h2⟩ := ih l.bottom hrest
    simp only [lastBottom]
    refine ⟨by linarith, ?_⟩
    intro l' hl'
    rcases List.mem_cons.1 hl' with rfl | hm
    · exact h1
    · exact h2 l' hm

theorem columnVolume_zero {g : Geo} {col : Column} (hwf : LayersWF g)
    (hs : col.surface ≤ lowestBottom g) : columnVolume g col = 0 := by
  have h := (lastBottom_le g.layers g.layer0.bottom hwf.2.1).2
  have : colLayers g col = [] := by
    unfold colLayers
    rw [List.filter_eq_nil_iff]
    intro l hl
    have := h l hl
    unfold lowestBottom at hs
    simp only [decide_eq_true_eq, not_lt]
    linarith
  simp [columnVolume, this]

theorem normSq_sub_ne_zero (l0 l1 : P2) (h : l0 ≠ l1) : P2.normSq (P2.sub l1 l0) ≠ 0 := by
  intro h0
  cases l0; cases l1
  simp only [P2.normSq, P2.dot, P2.sub] at h0
  obtain ⟨hx, hy⟩ := mul_self_add_mul_self_eq_zero.1 h0
  exact h (by rw [P2.mk.injEq]; constructor <;> linarith)

/-- the parameter of the projection along the line -/
def xiOf (a l0 l1 : P2) : Rat := P2.dot (P2.sub a l0) (P2.sub l1 l0) / P2.dot (P2.sub l1 l0) (P2.sub l1 l0)

theorem lineProjection_eq (a l0 l1 : P2) :
    lineProjection a l0 l1 = P2.add l0 (P2.smul (xiOf a l0 l1) (P2.sub l1 l0)) := rfl

theorem xiOf_mul (a l0 l1 : P2) (h : l0 ≠ l1) :
    xiOf a l0 l1 * P2.dot (P2.sub l1 l0) (P2.sub l1 l0) = P2.dot (P2.sub a l0) (P2.sub l1 l0) :=
  div_mul_cancel₀ _ (normSq_sub_ne_zero l0 l1 h)

theorem lineProjection_perp (a l0 l1 : P2) (h : l0 ≠ l1) :
    P2.dot (P2.sub a (lineProjection a l0 l1)) (P2.sub l1 l0) = 0 := by
  have hxi := xiOf_mul a l0 l1 h
  rw [lineProjection_eq]
  generalize xiOf a l0 l1 = xi at *
  simp only [P2.dot, P2.sub, P2.add, P2.smul] at hxi ⊢
  linear_combination (-1 : Rat) * hxi

theorem perp_pythagoras (a l0 l1 : P2) (h : l0 ≠ l1) (t : Rat) :
    P2.normSq (P2.sub a (P2.add l0 (P2.smul t (P2.sub l1 l0)))) =
      P2.normSq (P2.sub a (lineProjection a l0 l1)) +
      P2.normSq (P2.sub (lineProjection a l0 l1) (P2.add l0 (P2.smul t (P2.sub l1 l0)))) := by
  have hxi := xiOf_mul a l0 l1 h
  rw [lineProjection_eq]
  generalize xiOf a l0 l1 = xi at *
  simp only [P2.normSq, P2.dot, P2.sub, P2.add, P2.smul] at hxi ⊢
  linear_combination (2 * (t - xi)) * hxi

theorem normSq_nonneg (p : P2) : 0 ≤ P2.normSq p :=
  add_nonneg (mul_self_nonneg p.x) (mul_self_nonneg p.y)

theorem perp_dist_cross (a l0 l1 : P2) (h : l0 ≠ l1) :
    P2.normSq (P2.sub (lineProjection a l0 l1) a) =
      (cross (P2.sub l1 l0) (P2.sub a l0)) ^ 2 / P2.normSq (P2.sub l1 l0) := by
  have hxi := xiOf_mul a l0 l1 h
  rw [lineProjection_eq, eq_div_iff (normSq_sub_ne_zero l0 l1 h)]
  generalize xiOf a l0 l1 = xi at *
  simp only [P2.normSq, P2.dot, P2.sub, P2.add, P2.smul, cross] at hxi ⊢
  linear_combination (xi * ((l1.x - l0.x) * (l1.x - l0.x) + (l1.y - l0.y) * (l1.y - l0.y)) - ((a.x - l0.x) * (l1.x - l0.x) + (a.y - l0.y) * (l1.y - l0.y))) * hxi

/-- the unshifted shoelace sum -/
def shoelace (poly : List P2) : Rat :=
  (1 / 2 : Rat) * ((cyclicPairs poly).map (fun pq => cross pq.1 pq.2)).sum

/-- a point of this model as a point of `Model.Geo`, whose plane lemmas (Proofs/Plane.lean) then apply -/
def toPt (p : P2) : Model.Geo.Pt := (p.x, p.y)

theorem shoelace_toPt (poly : List P2) : shoelace poly = (1 / 2) * Model.Geo.shoelace2 (poly.map toPt) := by
  have h : cyclicPairs poly = Model.Geo.cyc poly := by
    cases poly with
    | nil => rfl
    | cons p0 rest => exact (Proofs.Refine.cyc_cons p0 rest).symm
  rw [shoelace, h, Model.Geo.shoelace2, Proofs.Refine.cyc_map, List.map_map]
  rfl

theorem polygonArea_toPt (poly : List P2) : polygonArea poly = Model.Geo.polygonArea (poly.map toPt) := by
  cases poly with
  | nil => rfl
  | cons p0 rest =>
    show shoelace ((p0 :: rest).map (P2.sub · p0)) =
      (1 / 2) * Model.Geo.shoelace2 (((p0 :: rest).map toPt).map (Model.Geo.Pt.sub · (toPt p0)))
    rw [shoelace_toPt, List.map_map, List.map_map]
    rfl

theorem polygonArea_eq_shoelace (poly : List P2) : polygonArea poly = shoelace poly := by
  rw [polygonArea_toPt, Proofs.Geo.polygonArea_eq, shoelace_toPt]

end Proofs.FromGeo
