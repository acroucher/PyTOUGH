/-
  Waiwera export (C20): the name → index dict, the rock cells and the boundary faces each as a `filterMap` over the
  blocks (what the loops return when they return), the source loop, and the EOS picked from the simulator string (the
  last table key that ends it, which is the longest because no later key is a proper suffix of an earlier one).
-/
import PyTough.Model.Waiwera
import PyTough.Proofs.Literals
namespace Proofs.Waiwera
open Py Model.Waiwera Gen.ConvertTables
open Model.Convert (Gener Dict PyV)

/-! `lastIdx`: a dict built from a list, name ↦ index -/

theorem lastIdx_spec {l : List Str} {k : Str} {j : Nat} (h : lastIdx l k = some j) :
    ∃ hj : j < l.length, l[j] = k := by
  induction l generalizing j with
  | nil => cases h
  | cons x r ih =>
    unfold lastIdx at h
    split at h
    · rename_i j' hr
      cases h
      obtain ⟨hj, hk⟩ := ih hr
      exact ⟨Nat.succ_lt_succ hj, hk⟩
    · split at h
      · cases h
        exact ⟨Nat.zero_lt_succ _, beq_iff_eq.mp ‹_›⟩
      · cases h

theorem lastIdx_none (l : List Str) (k : Str) : lastIdx l k = none ↔ k ∉ l := by
  induction l with
  | nil => simp [lastIdx]
  | cons x r ih =>
    rw [lastIdx, List.mem_cons, not_or, ← ih]
    cases lastIdx r k with
    | some j => simp
    | none => simp [eq_comm (a := k)]

theorem lastIdx_getElem {l : List Str} (hn : l.Nodup) {i : Nat} (hi : i < l.length) :
    lastIdx l l[i] = some i := by
  induction l generalizing i with
  | nil => cases hi
  | cons x r ih =>
    have hn' := List.nodup_cons.mp hn
    cases i with
    | zero => simp [lastIdx, (lastIdx_none r x).mpr hn'.1]
    | succ i => simp [lastIdx, ih hn'.2 (Nat.lt_of_succ_lt_succ hi)]

theorem findBlock_name {bs : List WBlock} {n : Str} {b : WBlock} (h : findBlock bs n = some b) : b.name = n := by
  unfold findBlock at h
  have := List.find?_some h
  simpa using this

/-- the cell block `n` contributes to the list of rock type `r`: its own index, if it is a non-boundary block of
    that rock type -/
def rockCell (rn gn : List Str) (nAtm : Nat) (bs : List WBlock) (atmos : Rat) (r : Nat) (n : Str) : Option Int :=
  match findBlock bs n with
  | some b =>
    if interior atmos b && lastIdx rn b.rock == some r then (lastIdx gn b.name).map fun i => (i : Int) - nAtm else none
  | none => none

theorem getD_appendAt (cells : List (List Int)) (r0 r : Nat) (v : Int) (h0 : r0 < cells.length) :
    (appendAt cells r0 v).getD r [] = cells.getD r [] ++ if r0 = r then [v] else [] := by
  unfold appendAt
  simp only [List.getD_eq_getElem?_getD, List.getElem?_modify]
  by_cases hr : r0 = r
  · subst hr
    simp [List.getElem?_eq_getElem h0]
  · simp only [hr, if_false, List.append_nil]
    cases cells[r]? <;> rfl

theorem length_appendAt (cells : List (List Int)) (r : Nat) (v : Int) :
    (appendAt cells r v).length = cells.length := by
  simp [appendAt]

theorem rockCellsLoop_inv {rn gn : List Str} {nAtm : Nat} {bs : List WBlock} {atmos : Rat}
    {todo : List Str} {cells res : List (List Int)} (hlen : cells.length = rn.length)
    (h : rockCellsLoop rn gn nAtm bs atmos todo cells = .ok res) :
    res.length = rn.length ∧
    (∀ r, res.getD r [] = cells.getD r [] ++ todo.filterMap (rockCell rn gn nAtm bs atmos r)) ∧
    ∀ n ∈ todo, ∃ b, findBlock bs n = some b ∧ (interior atmos b = true → ∃ r, lastIdx rn b.rock = some r) := by
  induction todo generalizing cells with
  | nil =>
    simp only [rockCellsLoop] at h
    cases h
    exact ⟨hlen, by simp, fun _ hm => nomatch hm⟩
  | cons n rest ih =>
    unfold rockCellsLoop at h
    ok_inv h
    rename_i b hb _ i hi
    by_cases hint : interior atmos b = true
    · rw [if_pos hint] at h
      ok_inv h
      rename_i r0 hr
      have hr0 : r0 < cells.length := by
        obtain ⟨hj, _⟩ := lastIdx_spec hr
        omega
      obtain ⟨hl, hc, hm⟩ := ih (by rw [length_appendAt]; exact hlen) h
      refine ⟨hl, fun r => ?_, List.forall_mem_cons.mpr ⟨⟨b, hb, fun _ => ⟨r0, hr⟩⟩, hm⟩⟩
      rw [hc r, getD_appendAt cells r0 r _ hr0, List.filterMap_cons, List.append_assoc]
      by_cases h1 : r0 = r <;> simp [rockCell, hb, hint, hr, hi, h1]
    · rw [if_neg hint] at h
      obtain ⟨hl, hc, hm⟩ := ih hlen h
      refine ⟨hl, fun r => ?_, List.forall_mem_cons.mpr ⟨⟨b, hb, fun hc => absurd hc hint⟩, hm⟩⟩
      rw [hc r, List.filterMap_cons]
      simp [rockCell, hb, hint]

theorem rockCells_inv {rn gn : List Str} {nAtm : Nat} {bs : List WBlock} {atmos : Rat} {cells : List (List Int)}
    (h : rockCells rn gn nAtm bs atmos = .ok cells) :
    cells.length = rn.length ∧ (∀ r, cells.getD r [] = gn.filterMap (rockCell rn gn nAtm bs atmos r)) ∧
    ∀ n ∈ gn, ∃ b, findBlock bs n = some b ∧ (interior atmos b = true → ∃ r, lastIdx rn b.rock = some r) := by
  obtain ⟨hl, hc, hm⟩ := rockCellsLoop_inv (List.length_map _) h
  refine ⟨hl, fun r => ?_, hm⟩
  rw [hc r, List.getD_eq_getElem?_getD, List.getElem?_map]
  cases rn[r]? <;> rfl

theorem sourcesLoop_inv {gn : List Str} {nAtm : Nat} {ubn : Bool} {gens : List Gener}
    {used : List (Str × Nat)} {acc res : List Source}
    (h : sourcesLoop gn nAtm ubn gens used acc = .ok res) :
    res.map (·.cell) = acc.map (·.cell) ++
      (gens.filter (fun g => g.type != groupType)).map (fun g => cellOf gn nAtm g.block) ∧
    ∀ g ∈ gens, unsupportedGenTypes.contains g.type = false := by
  induction gens generalizing used acc with
  | nil =>
    simp only [sourcesLoop] at h
    cases h
    exact ⟨by simp, fun _ hg => nomatch hg⟩
  | cons g rest ih =>
    unfold sourcesLoop at h
    split at h
    · cases h
    · rename_i hu
      generalize uniqueName ubn used g = p at h
      obtain ⟨nm, used'⟩ := p
      simp only at h
      obtain ⟨hc, hs⟩ := ih h
      refine ⟨?_, List.forall_mem_cons.mpr ⟨by simpa using hu, hs⟩⟩
      rw [hc, List.filter_cons]
      by_cases hg : (g.type != groupType) = true
      · simp [hg]
      · simp [hg]

/-- `eos_json` once the AUTOUGH2 EOS name is settled: a supported name gives its Waiwera EOS (`w` reads a second
    initial condition) -/
theorem eosJson_of_name {eos : EosArg} {multi : Dict} {sim a w : Str} {n : Nat}
    (ha : aut2EosName eos multi sim = a) (hne : a ≠ []) (h : supportedEos.lookup a = some w) (hw : w = ['w'] → 2 ≤ n) :
    eosJson eos multi sim n = .ok { name := w, tracer := tracerEos.contains a } := by
  have : a.isEmpty = false := List.isEmpty_eq_false_iff.mpr hne
  unfold eosJson
  simp only [ha, this, Bool.false_eq_true, if_false, h]
  split
  · rename_i hc; exact absurd (hw hc.1) (by omega)
  · rfl

/-- the body of the loop of `eosFromSimulator` -/
def eosStep (sim : Str) (acc : Str) (e : Str × Str) : Str := if e.1.isSuffixOf sim then e.1 else acc

/-- in the table, a later key is never a proper suffix of an earlier one -/
def LaterLonger (a b : Str × Str) : Prop := b.1.isSuffixOf a.1 = true → a.1.isSuffixOf b.1 = true

instance : DecidableRel LaterLonger := fun a b => by unfold LaterLonger; exact inferInstance

/-- of two keys that end `sim`, the earlier one ends the later one -/
theorem suffix_of_laterLonger {a b : Str × Str} {sim : Str} (h : LaterLonger a b) (ha : a.1 <:+ sim) (hb : b.1 <:+ sim) :
    a.1 <:+ b.1 := by
  rcases List.suffix_or_suffix_of_suffix ha hb with h' | h'
  · exact h'
  · exact List.isSuffixOf_iff_suffix.mp (h (List.isSuffixOf_iff_suffix.mpr h'))

/-- the loop keeps the last key that ends `sim`: nothing after it does -/
theorem foldl_step_last (sim : Str) (l : List (Str × Str)) (acc : Str) :
    (l.foldl (eosStep sim) acc = acc ∧ ∀ k ∈ l, ¬ k.1 <:+ sim) ∨
    ∃ l₁ e l₂, l = l₁ ++ e :: l₂ ∧ e.1 <:+ sim ∧ (∀ k ∈ l₂, ¬ k.1 <:+ sim) ∧ l.foldl (eosStep sim) acc = e.1 := by
  induction l generalizing acc with
  | nil => exact Or.inl ⟨rfl, fun _ hk => nomatch hk⟩
  | cons e r ih =>
    rw [List.foldl_cons]
    rcases ih (eosStep sim acc e) with ⟨h, hno⟩ | ⟨l₁, e', l₂, rfl, he', hno, h⟩
    · rw [h]
      unfold eosStep
      by_cases hb : e.1.isSuffixOf sim = true
      · rw [if_pos hb]
        exact Or.inr ⟨[], e, r, rfl, List.isSuffixOf_iff_suffix.mp hb, hno, rfl⟩
      · rw [if_neg hb]
        exact Or.inl ⟨rfl, List.forall_mem_cons.mpr ⟨fun hs => hb (List.isSuffixOf_iff_suffix.mpr hs), hno⟩⟩
    · exact Or.inr ⟨e :: l₁, e', l₂, rfl, he', hno, h⟩

theorem key_suffix_foldl {sim : Str} {l : List (Str × Str)} (acc : Str) (hp : l.Pairwise LaterLonger)
    {k : Str × Str} (hk : k ∈ l) (hs : k.1 <:+ sim) : k.1 <:+ l.foldl (eosStep sim) acc := by
  rcases foldl_step_last sim l acc with ⟨_, hno⟩ | ⟨l₁, e, l₂, rfl, he, hno, h⟩
  · exact absurd hs (hno k hk)
  · rw [h]
    rcases List.mem_append.mp hk with h1 | h2
    · exact suffix_of_laterLonger ((List.pairwise_append.mp hp).2.2 k h1 e List.mem_cons_self) hs he
    · rcases List.mem_cons.mp h2 with rfl | h2
      · exact List.suffix_refl _
      · exact absurd hs (hno k h2)

theorem supportedEos_laterLonger : supportedEos.Pairwise LaterLonger := by decide

/-- the cell a connection of boundary block `b` contributes: the index of its other end, if that is a
    non-boundary block -/
def nbCell (geoNames : List Str) (nAtm : Nat) (blocks : List WBlock) (atmos : Rat) (b : Str) (c : Str × Str) : Option Int :=
  match findBlock blocks (otherEnd c b) with
  | some w => if interior atmos w then (lastIdx geoNames (otherEnd c b)).map (fun i => (i : Int) - nAtm) else none
  | none => none

theorem nbCell_eq_some (geoNames : List Str) (nAtm : Nat) (blocks : List WBlock) (atmos : Rat) (b : Str) (c : Str × Str)
    (x : Int) :
    nbCell geoNames nAtm blocks atmos b c = some x ↔
      ∃ w i, findBlock blocks (otherEnd c b) = some w ∧ interior atmos w = true ∧
        lastIdx geoNames (otherEnd c b) = some i ∧ x = (i : Int) - nAtm := by
  unfold nbCell
  cases findBlock blocks (otherEnd c b) with
  | none => simp
  | some w =>
    by_cases hi : interior atmos w = true
    · cases lastIdx geoNames (otherEnd c b) <;> simp [hi, eq_comm (a := x)]
    · simp [hi]

/-- the cells of the interior neighbours of block `b`, one per connection -/
def nbCells (geoNames : List Str) (nAtm : Nat) (blocks : List WBlock) (atmos : Rat) (conns : List (Str × Str)) (b : Str) : List Int :=
  (connsOf conns b).filterMap (nbCell geoNames nAtm blocks atmos b)

theorem faceCellsLoop_inv {geoNames : List Str} {nAtm : Nat} {blocks : List WBlock} {atmos : Rat} {b : Str}
    {cs : List (Str × Str)} {out : List Int} (h : faceCellsLoop geoNames nAtm blocks atmos b cs = .ok out) :
    out = cs.filterMap (nbCell geoNames nAtm blocks atmos b) := by
  induction cs generalizing out with
  | nil => simp only [faceCellsLoop] at h; cases h; rfl
  | cons c rest ih =>
    unfold faceCellsLoop at h
    rw [List.filterMap_cons]
    ok_inv h
    rename_i w hw
    by_cases hi : interior atmos w = true
    · rw [if_pos hi] at h
      ok_inv h
      rename_i i hl
      have hc : nbCell geoNames nAtm blocks atmos b c = some ((i : Int) - nAtm) := by
        unfold nbCell; simp [hw, hi, hl]
      split at h
      · rename_i cs' hr
        cases h
        rw [hc, ih hr]
      · cases h
    · rw [if_neg hi] at h
      have hc : nbCell geoNames nAtm blocks atmos b c = none := by
        unfold nbCell; simp [hw, hi]
      rw [hc]
      exact ih h

/-- the entry of one boundary block: none when it has no interior neighbour -/
def bdyEntry (geoNames : List Str) (nAtm : Nat) (blocks : List WBlock) (atmos : Rat) (conns : List (Str × Str)) (b : WBlock) :
    Option (Str × List Int) :=
  if interior atmos b then none
  else if (nbCells geoNames nAtm blocks atmos conns b.name).isEmpty then none
  else some (b.name, nbCells geoNames nAtm blocks atmos conns b.name)

theorem bdyEntry_interior {geoNames : List Str} {nAtm : Nat} {blocks : List WBlock} {atmos : Rat} {conns : List (Str × Str)}
    {b : WBlock} (h : interior atmos b = true) : bdyEntry geoNames nAtm blocks atmos conns b = none := by
  simp [bdyEntry, h]

theorem bdyEntry_boundary {geoNames : List Str} {nAtm : Nat} {blocks : List WBlock} {atmos : Rat} {conns : List (Str × Str)}
    {b : WBlock} (h : ¬ interior atmos b = true) :
    bdyEntry geoNames nAtm blocks atmos conns b =
      if (nbCells geoNames nAtm blocks atmos conns b.name).isEmpty then none
      else some (b.name, nbCells geoNames nAtm blocks atmos conns b.name) := by
  simp [bdyEntry, h]

theorem bdyEntry_eq_some (geoNames : List Str) (nAtm : Nat) (blocks : List WBlock) (atmos : Rat) (conns : List (Str × Str))
    (b : WBlock) (e : Str × List Int) :
    bdyEntry geoNames nAtm blocks atmos conns b = some e ↔
      interior atmos b = false ∧ nbCells geoNames nAtm blocks atmos conns b.name ≠ [] ∧
        e = (b.name, nbCells geoNames nAtm blocks atmos conns b.name) := by
  unfold bdyEntry
  cases interior atmos b <;> cases nbCells geoNames nAtm blocks atmos conns b.name <;> simp [eq_comm]

theorem boundaryFacesLoop_inv {geoNames : List Str} {nAtm : Nat} {blocks : List WBlock} {atmos : Rat} {conns : List (Str × Str)}
    {todo : List WBlock} {out : List (Str × List Int)}
    (h : boundaryFacesLoop geoNames nAtm blocks atmos conns todo = .ok out) :
    out = todo.filterMap (bdyEntry geoNames nAtm blocks atmos conns) := by
  induction todo generalizing out with
  | nil => simp only [boundaryFacesLoop] at h; cases h; rfl
  | cons b rest ih =>
    unfold boundaryFacesLoop at h
    rw [List.filterMap_cons]
    by_cases hi : interior atmos b = true
    · rw [if_pos hi] at h
      rw [bdyEntry_interior hi]
      exact ih h
    · rw [if_neg hi] at h
      rw [bdyEntry_boundary hi]
      ok_inv h
      rename_i cs hf _ r hr
      have hcs : cs = nbCells geoNames nAtm blocks atmos conns b.name := faceCellsLoop_inv hf
      rw [← hcs, ← ih hr]
      by_cases he : cs.isEmpty = true
      · simp only [he, if_true]
      · simp only [he, Bool.false_eq_true, if_false]

theorem mem_nbCells (geoNames : List Str) (nAtm : Nat) (blocks : List WBlock) (atmos : Rat) (conns : List (Str × Str))
    (b : Str) (x : Int) :
    x ∈ nbCells geoNames nAtm blocks atmos conns b ↔
      ∃ c ∈ conns, (c.1 = b ∨ c.2 = b) ∧ ∃ w i, findBlock blocks (otherEnd c b) = some w ∧ interior atmos w = true ∧
        lastIdx geoNames (otherEnd c b) = some i ∧ x = (i : Int) - nAtm := by
  simp only [nbCells, connsOf, List.mem_filterMap, List.mem_filter, nbCell_eq_some, Bool.or_eq_true, beq_iff_eq, and_assoc]

end Proofs.Waiwera
