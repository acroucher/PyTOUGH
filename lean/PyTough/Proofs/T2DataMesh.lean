/-
  C01 proofs: MESHMAKER — counted lists and RZ2D (RADII / EQUID / LOGAR / LAYER), XYZ, MINC, and the section as a whole.
-/
import PyTough.Proofs.T2DataGrid
namespace Proofs.T2
open Py Model Model.T2 Proofs Proofs.Incon
open Gen.Sections (Rec)

theorem countLine_read {r : Rec} (hr : RecWF r) {f : FieldSpec} (hfs : r.fs = [f]) (ht : f.typ = 'd') (n : Nat) {l : Str}
    (h : writeValuesLine r [.int (Int.ofNat n)] = .ok l) :
    readValues .default r l = .ok [.int (Int.ofNat n)] := by
  obtain ⟨s, hs⟩ := written_each ((writeValuesLine_eq r _).symm.trans h) (.int (Int.ofNat n), f) (by rw [hfs]; simp)
  have := fullRecord_fields hr hfs _ rfl h (.refl l)
  simp only [List.zip_cons_cons, List.zip_nil_right, List.map_cons, List.map_nil, canonV_int ht hs] at this
  exact this

structure CountShape (T : Tabs) (n : Str) : Prop where
  kind : RecShape T n 1
  int : (fieldAt T n 0).typ = 'd'

instance (T : Tabs) (n : Str) : Decidable (CountShape T n) :=
  decidable_of_iff (_ ∧ _) ⟨fun ⟨h1, h2⟩ => ⟨h1, h2⟩, fun h => ⟨h.kind, h.int⟩⟩

/-- `write_values([n])`, then the values in lines of eight -/
theorem counted_roundtrip {T : Tabs} {n1 n2 : Str} (h1 : CountShape T n1) (h2 : ChunkShape T n2 8)
    (xs : List Val) {ls : List Str} (hw : writeCounted T n1 n2 xs = .ok ls) :
    ∃ l1 cl, ls = l1 :: cl ∧ readValues .default (recOf T n1) l1 = .ok [.int (Int.ofNat xs.length)] ∧
      ∀ rest, readChunks .default (recOf T n2) ((xs.length + 8 - 1) / 8) (cl ++ rest) =
        .ok (xs.map (canonV (fieldAt T n2 0)) ++ List.replicate (((xs.length + 8 - 1) / 8) * 8 - xs.length) Val.none, rest) := by
  unfold writeCounted at hw
  simp only [h1.kind.get, h2.get, pure, Except.pure, ok_bind, bind_ok_iff, Except.ok.injEq, ← ceil_lines] at hw
  obtain ⟨l1, hl1, cl, hch, rfl⟩ := hw
  exact ⟨l1, cl, rfl, countLine_read h1.kind.wf h1.kind.fs_eq h1.int xs.length hl1, fun rest => chunked_roundtrip h2.chunk (by decide) xs hch rest⟩

structure RZShape (T : Tabs) : Prop where
  radii1 : CountShape T c!"radii1"
  radii2 : ChunkShape T c!"radii2" 8
  equid : RecOK T c!"equid"
  logar : RecOK T c!"logar"
  layer1 : CountShape T c!"layer1"
  layer2 : ChunkShape T c!"layer2" 8

instance (T : Tabs) : Decidable (RZShape T) :=
  decidable_of_iff (_ ∧ _ ∧ _ ∧ _ ∧ _ ∧ _) ⟨fun ⟨h1, h2, h3, h4, h5, h6⟩ => ⟨h1, h2, h3, h4, h5, h6⟩,
    fun h => ⟨h.radii1, h.radii2, h.equid, h.logar, h.layer1, h.layer2⟩⟩

def canonRZ (re rl : Rec) (f0r f0l : FieldSpec) : RZSub → RZSub
  | .radii xs => .radii (xs.map (canonV f0r))
  | .equid d => .equid (absorb re.names (canonVals re (lineVals re d)) [])
  | .logar d => .logar (absorb rl.names (canonVals rl (lineVals rl d)) [])
  | .layer xs => .layer (xs.map (canonV f0l))

/-- a sub-section before LAYER: radii that read back as values; EQUID / LOGAR with at least one entry that reads back -/
def GoodRZSub (re rl : Rec) (f0r : FieldSpec) : RZSub → Prop
  | .radii xs => ∀ x ∈ xs, canonV f0r x ≠ Val.none
  | .equid d => absorb re.names (canonVals re (lineVals re d)) [] ≠ []
  | .logar d => absorb rl.names (canonVals rl (lineVals rl d)) [] ≠ []
  | .layer _ => False

/-- sub-sections RADII / EQUID / LOGAR and one closing LAYER: a LAYER that is not last falls to the third clause,
    where `GoodRZSub` is `False` -/
def GoodRZ (re rl : Rec) (f0r : FieldSpec) : List RZSub → Prop
  | [] => False
  | [.layer _] => True
  | s :: rest => GoodRZSub re rl f0r s ∧ GoodRZ re rl f0r rest

abbrev canonRZOf (T : Tabs) : RZSub → RZSub :=
  canonRZ (recOf T c!"equid") (recOf T c!"logar") (fieldAt T c!"radii2" 0) (fieldAt T c!"layer2" 0)

abbrev GoodRZOf (T : Tabs) : List RZSub → Prop :=
  GoodRZ (recOf T c!"equid") (recOf T c!"logar") (fieldAt T c!"radii2" 0)

theorem keyword_of_nl (kw : Str) (h : kw.length = 5) (hs : strip kw = kw) : keywordOf (nl kw) = kw := by
  unfold keywordOf
  rw [slice_kw kw h, hs]

theorem rz2d_subs {T : Tabs} (hs : RZShape T) :
    ∀ (subs : List RZSub) (lss : List (List Str)), subs.mapM (writeRZSub T) = .ok lss → GoodRZOf T subs →
      ∀ (fuel : Nat), subs.length ≤ fuel → ∀ rest,
        readRZ2D .default T fuel (lss.flatten ++ rest) = .ok (subs.map (canonRZOf T), rest) := by
  intro subs
  induction subs with
  | nil => intro lss _ hg; exact absurd hg (by simp [GoodRZ])
  | cons s subs ih =>
    intro lss hm hg fuel hf rest
    cases fuel with
    | zero => simp at hf
    | succ fuel =>
      obtain ⟨ls, lss', hws, hrest, rfl⟩ := mapM_cons_ok _ _ _ _ hm
      simp only [List.flatten_cons, List.append_assoc, List.map_cons]
      have hih := fun hgr => ih lss' hrest hgr fuel (by simpa using hf) rest
      unfold writeRZSub at hws
      cases s with
      | layer xs =>
        -- LAYER closes the section: it must be the last sub-section
        have hlast : subs = [] := by
          cases subs with
          | nil => rfl
          | cons a as => exact hg.1.elim
        subst hlast
        simp only [List.mapM_nil, pure, Except.pure] at hrest
        cases hrest
        simp only [bind_ok_iff, Except.ok.injEq, pure, Except.pure] at hws
        obtain ⟨cls, hwc, rfl⟩ := hws
        obtain ⟨l1, cl, rfl, hcount, hch⟩ := counted_roundtrip hs.layer1 hs.layer2 xs hwc
        -- `+decide` evaluates the keyword tests of `readRZ2D` (`c!"LAYER" == c!"RADII"`, …), here and in the other cases
        simp +decide only [List.cons_append, List.flatten_nil, List.nil_append, List.map_nil,
          readRZ2D, readline, keyword_of_nl c!"LAYER" rfl (by decide), ↓reduceIte, hs.layer1.kind.get, hs.layer2.get, bind, Except.bind, pure,
          Except.pure, hcount, List.head?_cons, countOf, ceilDiv_nat, hch rest, sliceTo_ofNat]
        rw [List.take_left' (List.length_map _)]
        rfl
      | radii xs =>
        obtain ⟨hgs, hgr⟩ : GoodRZSub _ _ _ (.radii xs) ∧ GoodRZOf T subs := hg
        simp only [bind_ok_iff, Except.ok.injEq, pure, Except.pure] at hws
        obtain ⟨cls, hwc, rfl⟩ := hws
        obtain ⟨l1, cl, rfl, hcount, hch⟩ := counted_roundtrip hs.radii1 hs.radii2 xs hwc
        simp +decide only [List.cons_append, readRZ2D, readline,
          keyword_of_nl c!"RADII" rfl (by decide), ↓reduceIte, hs.radii1.kind.get, hs.radii2.get, bind, Except.bind, pure, Except.pure, hcount,
          List.head?_cons, countOf, ceilDiv_nat, hch (lss'.flatten ++ rest), hih hgr, canonRZ]
        rw [nonNone_append_nones, nonNone_id (List.forall_mem_map.mpr hgs)]
      | equid d =>
        obtain ⟨hgs, hgr⟩ : GoodRZSub _ _ _ (.equid d) ∧ GoodRZOf T subs := hg
        simp only [hs.equid.get, ok_bind, bind_ok_iff, Except.ok.injEq, pure, Except.pure] at hws
        obtain ⟨l, hl, rfl⟩ := hws
        have e := valueLine_read hs.equid.wf d [] hl
        have hne := List.isEmpty_eq_false_iff.mpr hgs
        simp +decide only [List.cons_append, List.nil_append, readRZ2D, readline,
          keyword_of_nl c!"EQUID" rfl (by decide), ↓reduceIte, hs.equid.get, bind, Except.bind, pure, Except.pure, e, hih hgr, hne,
          canonRZ]
      | logar d =>
        obtain ⟨hgs, hgr⟩ : GoodRZSub _ _ _ (.logar d) ∧ GoodRZOf T subs := hg
        simp only [hs.logar.get, ok_bind, bind_ok_iff, Except.ok.injEq, pure, Except.pure] at hws
        obtain ⟨l, hl, rfl⟩ := hws
        have e := valueLine_read hs.logar.wf d [] hl
        have hne := List.isEmpty_eq_false_iff.mpr hgs
        simp +decide only [List.cons_append, List.nil_append, readRZ2D, readline,
          keyword_of_nl c!"LOGAR" rfl (by decide), ↓reduceIte, hs.logar.get, bind, Except.bind, pure, Except.pure, e, hih hgr, hne,
          canonRZ]

structure XYZShape (T : Tabs) : Prop where
  xyz1 : RecShape T c!"xyz1" 1
  xyz2 : RecShape T c!"xyz2" 4
  names2 : (recOf T c!"xyz2").names = [c!"ntype", [], c!"no", c!"del"]
  st : StrField (fieldAt T c!"xyz2" 0)
  nx : NumericTyp (fieldAt T c!"xyz2" 1).typ
  xyz3 : ChunkShape T c!"xyz3" 8

instance (T : Tabs) : Decidable (XYZShape T) :=
  decidable_of_iff (_ ∧ _ ∧ _ ∧ _ ∧ _ ∧ _) ⟨fun ⟨h1, h2, h3, h4, h5, h6⟩ => ⟨h1, h2, h3, h4, h5, h6⟩,
    fun h => ⟨h.xyz1, h.xyz2, h.names2, h.st, h.nx, h.xyz3⟩⟩

def canonXYZSub (fdel f3 : FieldSpec) (s : XYZSub) : XYZSub :=
  { ntype := s.ntype, no := s.no, del := canonV fdel s.del,
    deli := if s.del.isZero then s.deli.map (·.map (canonV f3)) else none }

/-- a direction block the writer and reader agree on: a visible NTYPE of the field's width, an integer NO that
    survives its field, DEL zero exactly when it reads back as zero, and then exactly NO increments -/
structure GoodXYZSub (ft fno fdel : FieldSpec) (s : XYZSub) : Prop where
  ntype : ∃ t, s.ntype = .str t ∧ t.length = ft.width ∧ '\n' ∉ t ∧ isBlank t = false
  no : ∃ k : Nat, s.no = .int (Int.ofNat k) ∧
        (if s.del.isZero then ∃ xs, s.deli = some xs ∧ xs.length = k else s.deli = none)
  keepNo : canonV fno s.no = s.no
  keepDel : (canonV fdel s.del).isZero = s.del.isZero

abbrev canonXYZSubOf (T : Tabs) : XYZSub → XYZSub := canonXYZSub (fieldAt T c!"xyz2" 3) (fieldAt T c!"xyz3" 0)

abbrev GoodXYZSubOf (T : Tabs) : XYZSub → Prop :=
  GoodXYZSub (fieldAt T c!"xyz2" 0) (fieldAt T c!"xyz2" 2) (fieldAt T c!"xyz2" 3)

theorem xyz_sub_record {T : Tabs} (hs : XYZShape T) (s : XYZSub) (hg : GoodXYZSubOf T s)
    (hw : ∃ ls, writeXYZSub T s = .ok ls) :
    RecordRT id (fun _ => false) (readXYZSub .default T)
      (linesOf (writeXYZSub T)) (canonXYZSubOf T) s := by
  obtain ⟨ls, hw⟩ := hw
  have hls := hw
  obtain ⟨t, hnt, htl, htnl, htv⟩ := hg.ntype
  obtain ⟨k, hno, hdeli⟩ := hg.no
  unfold writeXYZSub at hw
  simp only [hs.xyz2.get, hs.xyz3.get, pure, Except.pure, ok_bind] at hw
  have hlv : lineVals (recOf T c!"xyz2") [(c!"ntype", s.ntype), (c!"no", s.no), (c!"del", s.del)] = [s.ntype, .none, s.no, s.del] := by
    simp only [lineVals, hs.names2, List.map_cons, List.map_nil, Dict.get, List.find?]
    rfl
  unfold writeValueLine at hw
  unfold lineVals at hlv
  rw [hlv, hnt, bind_ok_iff] at hw
  obtain ⟨h, hh', hw⟩ := hw
  obtain ⟨_, hnb, hrd⟩ := named_record hs.xyz2.wf hs.xyz2.fs_eq hs.st htl htnl htv rfl hh' (.refl h)
  simp only [fieldsFrom, Nat.reduceAdd, List.zip_cons_cons, List.zip_nil_right, List.map_cons, List.map_nil,
    canonV_none hs.nx, hg.keepNo] at hrd
  by_cases hz : s.del.isZero = true
  · rw [hz] at hdeli
    simp only [↓reduceIte] at hdeli
    obtain ⟨xs, hxs, rfl⟩ := hdeli
    simp only [hz, ↓reduceIte, hno, ceilDiv_nat, hxs, ok_bind, bind_ok_iff, Except.ok.injEq] at hw
    obtain ⟨cl, hch, rfl⟩ := hw
    have hlen := writeChunksFrom_length _ 0 cl hch
    refine ⟨h, cl, linesOf_ok hls, hnb, rfl, fun rest => ?_⟩
    show readXYZSub .default T h (cl ++ rest) = _
    unfold readXYZSub
    have hz' : (canonV (fieldAt T c!"xyz2" 3) s.del).isZero = true := by rw [hg.keepDel]; exact hz
    obtain ⟨vs, hr, hv⟩ := chunked_roundtrip_take hs.xyz3.chunk (by decide) xs hch rest
    simp only [hs.xyz2.get, hs.xyz3.get, bind, Except.bind, pure, Except.pure, hrd, hz', ↓reduceIte, hno, ceilDiv_nat, hr, sliceTo_ofNat, hv,
      canonXYZSub, hz, hxs, Option.map_some, hlen, hnt]
  · have hz0 : s.del.isZero = false := Bool.eq_false_iff.mpr hz
    rw [hz0] at hdeli
    simp only [Bool.false_eq_true, ↓reduceIte] at hdeli
    simp only [hz0, Bool.false_eq_true, ↓reduceIte] at hw
    cases hw
    refine ⟨h, [], linesOf_ok hls, hnb, rfl, fun rest => ?_⟩
    show readXYZSub .default T h ([] ++ rest) = _
    unfold readXYZSub
    have hz' : (canonV (fieldAt T c!"xyz2" 3) s.del).isZero = false := by rw [hg.keepDel]; exact hz0
    simp only [hs.xyz2.get, bind, Except.bind, pure, Except.pure, hrd, hz', Bool.false_eq_true, ↓reduceIte, canonXYZSub, hz0,
      List.length_nil, hnt, hno]

theorem xyz_roundtrip {T : Tabs} (hs : XYZShape T) (deg : Val) (subs : List XYZSub)
    (hg : ∀ s ∈ subs, GoodXYZSubOf T s) {lines : List Str} (hw : writeXYZ T deg subs = .ok lines) :
    ReadsBack c!"XYZ" lines (readXYZ .default T) (.xyz (canonV (fieldAt T c!"xyz1" 0) deg) (subs.map (canonXYZSubOf T))) := by
  unfold writeXYZ at hw
  simp only [hs.xyz1.get, ok_bind, bind_ok_iff, Except.ok.injEq, pure, Except.pure] at hw
  obtain ⟨l1, hl1, lss, hm, rfl⟩ := hw
  refine ⟨l1 :: (lss.flatten ++ [nl []]), by simp, fun rest => ?_⟩
  have hdeg := fullRecord_fields hs.xyz1.wf hs.xyz1.fs_eq [deg] rfl hl1 (.refl l1)
  simp only [fieldsFrom, List.zip_cons_cons, List.zip_nil_right, List.map_cons, List.map_nil] at hdeg
  obtain ⟨hlss, hok⟩ := mapM_ok_lines (writeXYZSub T) subs lss hm
  unfold readXYZ
  simp only [List.cons_append, List.append_assoc, List.nil_append, readline, hs.xyz1.get, bind, Except.bind, pure,
    Except.pure, hdeg, List.head?_cons, countOf]
  rw [hlss, untilBlank_roundtrip id (fun _ => false) _ _ _ subs (fun s hsm => xyz_sub_record hs s (hg s hsm) (hok s hsm))
    (nl []) (Or.inl isBlank_nl_nil) rest]

/-- `minc`: the PART line, four 5-column fields (`widths`: the reader cuts them out of the stripped line), the third an
    `x` gap; `part1`: the numbers of continua and of volumes, the string WHERE, then seven spacings (`fs1`) -/
structure MincShape (T : Tabs) : Prop where
  minc : RecShape T c!"minc" 4
  sp : StrField (fieldAt T c!"minc" 0)
  sty : StrField (fieldAt T c!"minc" 1)
  xx : (fieldAt T c!"minc" 2).typ = 'x'
  sdu : StrField (fieldAt T c!"minc" 3)
  widths : ∀ f ∈ (recOf T c!"minc").fs, f.width = 5
  part1 : RecOK T c!"part1"
  fs1 : (recOf T c!"part1").fs =
    fieldAt T c!"part1" 0 :: fieldAt T c!"part1" 1 :: fieldAt T c!"part1" 2 :: List.replicate 7 (fieldAt T c!"part1" 3)
  sw : StrField (fieldAt T c!"part1" 2)
  nsp : NumericTyp (fieldAt T c!"part1" 3).typ
  part2 : ChunkShape T c!"part2" 8

instance (T : Tabs) : Decidable (MincShape T) :=
  decidable_of_iff (_ ∧ _ ∧ _ ∧ _ ∧ _ ∧ _ ∧ _ ∧ _ ∧ _ ∧ _ ∧ _)
    ⟨fun ⟨h1, h2, h3, h4, h5, h6, h7, h8, h9, h10, h11⟩ => ⟨h1, h2, h3, h4, h5, h6, h7, h8, h9, h10, h11⟩,
     fun h => ⟨h.minc, h.sp, h.sty, h.xx, h.sdu, h.widths, h.part1, h.fs1, h.sw, h.nsp, h.part2⟩⟩

theorem MincShape.width {T : Tabs} (hs : MincShape T) {i : Nat} (hi : i < 4) : (fieldAt T c!"minc" i).width = 5 := by
  apply hs.widths
  rw [hs.minc.fs_eq]
  match i, hi with
  | 0, _ | 1, _ | 2, _ | 3, _ => simp [fieldsFrom]

/-- a MINC block the writer and reader agree on: a five-character TYPE ending in a visible character, DUAL either
    blank or five characters ending in a visible one, WHERE of its field's width, at most seven spacings, and a
    volume count that survives its field -/
structure GoodMinc (fnv fw : FieldSpec) (m : Minc) : Prop where
  type : ∃ a b c d e, m.type = .str [a, b, c, d, e] ∧ isStrWs e = false ∧ '\n' ∉ [a, b, c, d]
  dual : m.dual = .str [' ', ' ', ' ', ' ', ' '] ∨
         ∃ a b c d e, m.dual = .str [a, b, c, d, e] ∧ isStrWs e = false ∧ '\n' ∉ [a, b, c, d]
  wh : ∃ w, m.where_ = .str w ∧ w.length = fw.width ∧ '\n' ∉ w
  spacing : m.spacing.length ≤ 7
  keepNv : canonV fnv (.int (Int.ofNat m.vol.length)) = .int (Int.ofNat m.vol.length)

/-- a blank DUAL comes back as `''`: the reader strips the PART line before it cuts the fields -/
def canonMinc (fnc fsp f2 : FieldSpec) (m : Minc) : Minc :=
  { type := m.type, dual := if m.dual = .str [' ', ' ', ' ', ' ', ' '] then .str [] else m.dual,
    numContinua := canonV fnc m.numContinua, where_ := m.where_,
    spacing := m.spacing.map (canonV fsp) ++ List.replicate (7 - m.spacing.length) Val.none,
    vol := m.vol.map (canonV f2) }

theorem ws_not_nl {e : Char} (h : isStrWs e = false) : e ≠ '\n' := by
  intro h'; rw [h'] at h; exact absurd h (by decide)

theorem nl_not_mem_concat {s : Str} {e : Char} (h : '\n' ∉ s) (he : isStrWs e = false) : '\n' ∉ s ++ [e] :=
  fun hm => (List.mem_append.mp hm).elim h fun h' => ws_not_nl he (List.mem_singleton.mp h').symm

theorem minc_part_line {T : Tabs} (hs : MincShape T) (ty du : Str) (hty : ty.length = 5) (hdu : du.length = 5)
    (hnt : '\n' ∉ ty) (hnd : '\n' ∉ du) {l : Str}
    (h : writeValuesLine (recOf T c!"minc") [.str c!"PART ", .str ty, .str [], .str du] = .ok l) :
    l = c!"PART " ++ ty ++ [' ', ' ', ' ', ' ', ' '] ++ du ++ ['\n'] := by
  rw [writeValuesLine_eq] at h
  obtain ⟨rec, hw, rfl⟩ := writeLine_ok h
  rw [hs.minc.fs_eq] at hw
  simp only [fieldsFrom, Nat.reduceAdd] at hw
  rw [writeValues_cons, writeValues_cons, writeValues_cons, writeValues_cons, writeValues_nil,
    (str_field_write hs.sp (by rw [hs.width (by decide)]; rfl) (by decide)).1,
    (str_field_write hs.sty (by rw [hs.width (by decide)]; exact hty) hnt).1,
    (roundtrip_absent .default (Or.inr hs.xx)).1, hs.width (by decide),
    (str_field_write hs.sdu (by rw [hs.width (by decide)]; exact hdu) hnd).1] at hw
  cases hw
  simp

theorem strip_append_ws {c e : Char} {mid ws : Str} (hc : isStrWs c = false) (he : isStrWs e = false)
    (hws : ∀ x ∈ ws, isStrWs x = true) : strip (c :: (mid ++ e :: ws)) = c :: (mid ++ [e]) := by
  have := stripBy_around (a := []) (core := c :: mid ++ [e]) (fun _ h => nomatch h) hws
    (fun x hx => Option.some.inj hx ▸ hc)
    (fun x hx => Option.some.inj ((List.getLast?_concat (l := c :: mid)).symm.trans hx) ▸ he)
  rwa [List.nil_append, List.cons_append, List.cons_append, List.append_assoc] at this

theorem rstripNewline_snoc (s : Str) {e : Char} (h : e ≠ '\n') : rstripNewline (s ++ [e]) = s ++ [e] :=
  rstripNewline_of_last fun _ hc => Option.some.inj (List.getLast?_concat.symm.trans hc) ▸ h

abbrev canonMincOf (T : Tabs) : Minc → Minc :=
  canonMinc (fieldAt T c!"part1" 0) (fieldAt T c!"part1" 3) (fieldAt T c!"part2" 0)

abbrev GoodMincOf (T : Tabs) : Minc → Prop := GoodMinc (fieldAt T c!"part1" 1) (fieldAt T c!"part1" 2)

/-- the stripped PART line has 10 characters (blank DUAL) or 20; the four fields are its columns 1–5, 6–10, 11–15,
    16–20 -/
theorem minc_header {T : Tabs} (hs : MincShape T) (m : Minc) (hg : GoodMincOf T m) {l : Str}
    (h : writeValuesLine (recOf T c!"minc") [.str c!"PART ", m.type, .str [], m.dual] = .ok l) :
    keywordOf (strip l) = c!"PART" ∧
    ∃ v0 v2, readValues .default (recOf T c!"minc") (strip l) = .ok [v0, m.type, v2, (canonMincOf T m).dual] := by
  obtain ⟨a, b, c, d, e, hty, he, hnl⟩ := hg.type
  have hen := ws_not_nl he
  have hnlty := nl_not_mem_concat hnl he
  have hP : isStrWs 'P' = false := by decide
  have hread : ∀ line : Str, readValues .default (recOf T c!"minc") line =
      .ok [.str (rstripNewline (line.take 5)), .str (rstripNewline ((line.drop 5).take 5)), .none,
           .str (rstripNewline ((((line.drop 5).drop 5).drop 5).take 5))] := by
    intro line
    unfold readValues
    rw [hs.minc.fs_eq]
    simp only [fieldsFrom, Nat.reduceAdd, parseString_cons, parseString_nil, hs.width (i := 0) (by decide),
      hs.width (i := 1) (by decide), hs.width (i := 2) (by decide), hs.width (i := 3) (by decide), hs.sp.typ, hs.sty.typ, hs.xx,
      hs.sdu.typ]
    rfl
  rcases hg.dual with hdu | ⟨a', b', c', d', e', hdu, he', hnl'⟩
  · -- blank DUAL: the stripped line ends after TYPE
    rw [hty, hdu] at h
    have hl := minc_part_line hs [a, b, c, d, e] [' ', ' ', ' ', ' ', ' '] rfl rfl hnlty (by decide) h
    have hstrip : strip l = ['P', 'A', 'R', 'T', ' ', a, b, c, d, e] := by
      rw [hl]
      exact strip_append_ws (mid := ['A', 'R', 'T', ' ', a, b, c, d]) hP he (by decide)
    rw [hstrip, hread]
    refine ⟨rfl, .str c!"PART ", .none, ?_⟩
    have h2 : (['P', 'A', 'R', 'T', ' ', a, b, c, d, e].drop 5).take 5 = [a, b, c, d] ++ [e] := rfl
    rw [h2, rstripNewline_snoc _ hen, hty]
    simp only [canonMinc, hdu, ↓reduceIte]
    rfl
  · have hen' := ws_not_nl he'
    have hnldu := nl_not_mem_concat hnl' he'
    rw [hty, hdu] at h
    have hl := minc_part_line hs [a, b, c, d, e] [a', b', c', d', e'] rfl rfl hnlty hnldu h
    have hstrip : strip l = ['P', 'A', 'R', 'T', ' ', a, b, c, d, e, ' ', ' ', ' ', ' ', ' ', a', b', c', d', e'] := by
      rw [hl]
      exact strip_append_ws (mid := ['A', 'R', 'T', ' ', a, b, c, d, e, ' ', ' ', ' ', ' ', ' ', a', b', c', d']) hP he'
        (by decide)
    rw [hstrip, hread]
    refine ⟨rfl, .str c!"PART ", .none, ?_⟩
    have h2 : (['P', 'A', 'R', 'T', ' ', a, b, c, d, e, ' ', ' ', ' ', ' ', ' ', a', b', c', d', e'].drop 5).take 5 =
        [a, b, c, d] ++ [e] := rfl
    have h4 : (((['P', 'A', 'R', 'T', ' ', a, b, c, d, e, ' ', ' ', ' ', ' ', ' ', a', b', c', d', e'].drop 5).drop 5).drop 5).take 5 =
        [a', b', c', d'] ++ [e'] := rfl
    have hne : ¬ (Val.str [a', b', c', d', e'] = Val.str [' ', ' ', ' ', ' ', ' ']) := by
      intro hh
      simp only [Val.str.injEq, List.cons.injEq, and_true] at hh
      rw [hh.2.2.2.2] at he'
      exact absurd he' (by decide)
    rw [h2, h4, rstripNewline_snoc _ hen, rstripNewline_snoc _ hen', hty]
    simp only [canonMinc, hdu, if_neg hne]
    rfl

theorem minc_roundtrip {T : Tabs} (hs : MincShape T) (m : Minc) (hg : GoodMincOf T m)
    {lines : List Str} (hw : writeMinc T m = .ok lines) :
    ReadsBack c!"MINC" lines (readMinc .default T) (some (canonMincOf T m)) := by
  obtain ⟨w, hwh, hwl, hwnl⟩ := hg.wh
  unfold writeMinc at hw
  simp only [hs.minc.get, hs.part1.get, hs.part2.get, pure, Except.pure, ok_bind, bind_ok_iff, Except.ok.injEq, ← ceil_lines] at hw
  obtain ⟨l1, hl1, l2, hl2, cl, hch, rfl⟩ := hw
  refine ⟨l1 :: l2 :: cl, rfl, fun rest => ?_⟩
  obtain ⟨hkw, v0, v2, hhead⟩ := minc_header hs m hg hl1
  have hnum : ∀ f ∈ (recOf T c!"part1").fs.drop ([m.numContinua, .int (Int.ofNat m.vol.length), m.where_] ++ m.spacing).length, NumericTyp f.typ := by
    rw [hs.fs1]; intro f hf
    simp only [List.cons_append, List.nil_append, List.length_cons, List.drop_succ_cons] at hf
    have := List.mem_of_mem_drop hf
    rw [(List.mem_replicate.mp this).2]; exact hs.nsp
  have hrd := readValues_written _ _ hs.part1.wf.valid hnum hl2 (.refl l2)
  rw [hs.fs1, hwh] at hrd
  simp only [List.cons_append, List.nil_append, List.zip_cons_cons, List.map_cons, List.length_cons, List.drop_succ_cons,
    hg.keepNv, (str_field_write hs.sw hwl hwnl).2, map_zip_replicate _ 7 _ hg.spacing, List.drop_replicate,
    List.map_replicate] at hrd
  unfold readMinc
  simp only [List.cons_append, readline, hkw, hs.minc.get, hs.part1.get, hs.part2.get, bind, Except.bind, pure, Except.pure, hhead, hrd,
    List.getD_cons_zero, List.getD_cons_succ, ceilDiv_nat, chunked_roundtrip hs.part2.chunk (by decide) m.vol hch rest,
    sliceTo_ofNat, List.drop_succ_cons, List.drop_zero]
  simp +decide only [↓reduceIte]
  rw [List.take_left' (List.length_map _)]
  simp only [canonMinc, hwh]

structure MeshShapes (T : Tabs) : Prop where
  rz : RZShape T
  xyz : XYZShape T
  minc : MincShape T

instance (T : Tabs) : Decidable (MeshShapes T) :=
  decidable_of_iff (_ ∧ _ ∧ _) ⟨fun ⟨h1, h2, h3⟩ => ⟨h1, h2, h3⟩, fun h => ⟨h.rz, h.xyz, h.minc⟩⟩

def GoodMesh (re rl : Rec) (f0r ft fno fdel fnv fw : FieldSpec) : MeshMaker → Prop
  | .rz2d subs => GoodRZ re rl f0r subs
  | .xyz _ subs => ∀ s ∈ subs, GoodXYZSub ft fno fdel s
  | .minc m => GoodMinc fnv fw m

def canonMesh (re rl : Rec) (f0r f0l fdeg fdel f3 fnc fsp f2 : FieldSpec) : MeshMaker → MeshMaker
  | .rz2d subs => .rz2d (subs.map (canonRZ re rl f0r f0l))
  | .xyz deg subs => .xyz (canonV fdeg deg) (subs.map (canonXYZSub fdel f3))
  | .minc m => .minc (canonMinc fnc fsp f2 m)

abbrev GoodMeshOf (T : Tabs) : MeshMaker → Prop :=
  GoodMesh (recOf T c!"equid") (recOf T c!"logar") (fieldAt T c!"radii2" 0) (fieldAt T c!"xyz2" 0) (fieldAt T c!"xyz2" 2)
    (fieldAt T c!"xyz2" 3) (fieldAt T c!"part1" 1) (fieldAt T c!"part1" 2)

abbrev canonMeshOf (T : Tabs) : MeshMaker → MeshMaker :=
  canonMesh (recOf T c!"equid") (recOf T c!"logar") (fieldAt T c!"radii2" 0) (fieldAt T c!"layer2" 0) (fieldAt T c!"xyz1" 0)
    (fieldAt T c!"xyz2" 3) (fieldAt T c!"xyz3" 0) (fieldAt T c!"part1" 0) (fieldAt T c!"part1" 3) (fieldAt T c!"part2" 0)

theorem writeRZSub_length {T : Tabs} {s : RZSub} {ls : List Str} (h : writeRZSub T s = .ok ls) : 1 ≤ ls.length := by
  -- the text begins with the keyword line: a counted list follows (one bind), or a dictionary line (two)
  cases s with
  | radii xs | layer xs =>
    simp only [writeRZSub, bind_ok_iff, pure, Except.pure, Except.ok.injEq] at h
    obtain ⟨_, _, rfl⟩ := h
    simp
  | equid d | logar d =>
    simp only [writeRZSub, bind_ok_iff, pure, Except.pure, Except.ok.injEq] at h
    obtain ⟨_, _, _, _, rfl⟩ := h
    simp

theorem writeMeshEntry_length {T : Tabs} {m : MeshMaker} {ls : List Str} (h : writeMeshEntry T m = .ok ls) :
    1 ≤ ls.length := by
  -- every entry's text is a `pure (keyword line :: …)` at the end of a chain of binds
  cases m with
  | rz2d subs =>
    simp only [writeMeshEntry, writeRZ2D, bind_ok_iff, pure, Except.pure, Except.ok.injEq] at h
    obtain ⟨lss, _, rfl⟩ := h
    simp
  | xyz deg subs =>
    simp only [writeMeshEntry, writeXYZ, bind_ok_iff, pure, Except.pure, Except.ok.injEq] at h
    obtain ⟨_, _, l1, _, lss, _, rfl⟩ := h
    simp
  | minc mc =>
    simp only [writeMeshEntry, writeMinc, bind_ok_iff, pure, Except.pure, Except.ok.injEq] at h
    obtain ⟨_, _, l1, _, _, _, l2, _, _, _, cl, _, rfl⟩ := h
    simp

theorem section_roundtrip_MESHM {T : Tabs} (hs : MeshShapes T) :
    ∀ (mm : List MeshMaker) (lss : List (List Str)), mm.mapM (writeMeshEntry T) = .ok lss →
      (∀ m ∈ mm, GoodMeshOf T m) →
      ∀ (fuel : Nat), mm.length < fuel → ∀ (acc : List MeshMaker) (rest : List Str),
        readMeshMaker .default T fuel acc (lss.flatten ++ nl [] :: rest) =
          .ok (acc ++ mm.map (canonMeshOf T), rest) := by
  intro mm
  induction mm with
  | nil =>
    intro lss h _ fuel hf acc rest
    simp only [List.mapM_nil, pure, Except.pure] at h
    cases h
    cases fuel with
    | zero => simp at hf
    | succ fuel => simp [readMeshMaker, isBlank_nl_nil]
  | cons m mm ih =>
    intro lss h hg fuel hf acc rest
    cases fuel with
    | zero => simp at hf
    | succ fuel =>
      obtain ⟨ls, lss', hm, hrest, rfl⟩ := mapM_cons_ok _ _ _ _ h
      have hih := ih lss' hrest (fun x hx => hg x (List.mem_cons_of_mem _ hx)) fuel (by simpa using hf)
      have hgm := hg m (by simp)
      simp only [List.flatten_cons, List.append_assoc, List.map_cons]
      cases m with
      | rz2d subs =>
        unfold writeMeshEntry writeRZ2D at hm
        simp only [bind, Except.bind, pure, Except.pure] at hm
        cases hsub : subs.mapM (writeRZSub T) with
        | error e => rw [hsub] at hm; cases hm
        | ok sl =>
          rw [hsub] at hm
          cases hm
          -- `readMeshMaker` gives `readRZ2D` the lines left `+ 2` as fuel
          have hlen : subs.length ≤ (sl.flatten ++ (lss'.flatten ++ nl [] :: rest)).length + 2 := by
            have := mapM_flatten_length (writeRZSub T) (fun _ _ h => writeRZSub_length h) subs sl hsub
            simp only [List.length_append]; omega
          have hrz := rz2d_subs hs.rz subs sl hsub hgm _ hlen (lss'.flatten ++ nl [] :: rest)
          simp +decide only [List.cons_append, List.append_assoc, readMeshMaker, ↓reduceIte, hrz,
            hih, canonMesh, List.nil_append]
      | xyz deg subs =>
        unfold writeMeshEntry at hm
        obtain ⟨body, rfl, hrd⟩ := xyz_roundtrip hs.xyz deg subs hgm hm
        simp +decide only [List.cons_append, List.append_assoc, readMeshMaker, ↓reduceIte, hrd, hih,
          canonMesh, List.nil_append]
      | minc mc =>
        unfold writeMeshEntry at hm
        obtain ⟨body, rfl, hrd⟩ := minc_roundtrip hs.minc mc hgm hm
        simp +decide only [List.cons_append, List.append_assoc, readMeshMaker, ↓reduceIte, hrd, hih,
          canonMesh, List.nil_append]

end Proofs.T2
