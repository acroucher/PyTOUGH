/-
  Proofs about the model of column_track and the line helpers (Model/Track.lean), property C12: the crossings lie on
  the line and on the boundary; one round of the loop (`trackLoop_cons_ok`) and one induction (`trackLoop_new`) give
  `TrackSpec`, of which the track theorems of Props/C12.lean are projections.
  In lemma names `lpiT` stands for `linePolygonIntersectionsT`, in hypothesis names `lir` for `lineIntersectsRectangle`.
-/
import PyTough.Model.Track
import Mathlib.Tactic.Linarith
import Mathlib.Tactic.Ring

namespace Proofs.Track
open Model.Locate Model.Track

/-- `p = a + s·(b − a)` -/
def lerp (a b : Pt) (s : Rat) : Pt := (a.1 + s * (b.1 - a.1), a.2 + s * (b.2 - a.2))

/-- the parameter range the code accepts: `[-tol, 1 + tol]`, `tol = 1e-9` -/
def InUnitTol (s : Rat) : Prop := -lpiTol ≤ s ∧ s ≤ 1 + lpiTol

/-- `p` lies on an edge of the polygon (within the code's end tolerance) -/
def OnBoundary (poly : Poly) (p : Pt) : Prop := ∃ e ∈ edges poly, ∃ x, InUnitTol x ∧ p = lerp e.1 e.2 x

def det2 (u w : Pt) : Rat := u.1 * w.2 - w.1 * u.2

theorem solve2_none {u w r : Pt} (h : det2 u w = 0) : solve2 u w r = none := by
  unfold solve2; simp only; unfold det2 at h; rw [if_pos h]

theorem solve2_some {u w r : Pt} (h : det2 u w ≠ 0) :
    solve2 u w r = some ((r.1 * w.2 - w.1 * r.2) / det2 u w, (u.1 * r.2 - r.1 * u.2) / det2 u w) := by
  unfold solve2; simp only; unfold det2 at h ⊢; rw [if_neg h]

theorem solve2_spec {u w r : Pt} {x0 x1 : Rat} (h : solve2 u w r = some (x0, x1)) :
    x0 * u.1 + x1 * w.1 = r.1 ∧ x0 * u.2 + x1 * w.2 = r.2 := by
  by_cases hdet : det2 u w = 0
  · rw [solve2_none hdet] at h; cases h
  · rw [solve2_some hdet] at h
    injection h with h
    injection h with h0 h1
    subst h0; subst h1
    constructor
    · rw [div_mul_eq_mul_div, div_mul_eq_mul_div, ← add_div, div_eq_iff hdet, det2]; ring
    · rw [div_mul_eq_mul_div, div_mul_eq_mul_div, ← add_div, div_eq_iff hdet, det2]; ring

theorem edgeCross_spec {a b : Pt} {e : Pt × Pt} {c : Cross} (h : edgeCross a b e = some c) :
    (∃ x, InUnitTol x ∧ c.pt = lerp e.1 e.2 x) ∧ InUnitTol c.t ∧ c.pt = lerp a b c.t := by
  unfold edgeCross at h
  simp only at h
  split at h
  · cases h
  · rename_i x0 x1 hs
    split at h
    · rename_i hc
      cases h
      simp only [Bool.and_eq_true, decide_eq_true_eq] at hc
      obtain ⟨h1, h2⟩ := solve2_spec hs
      simp only [Pt.sub] at h1 h2
      refine ⟨⟨x0, hc.1, rfl⟩, hc.2, ?_⟩
      simp only [lerp, Pt.sub, Prod.mk.injEq]
      exact ⟨by linarith only [h1], by linarith only [h2]⟩
    · cases h

/-- a crossing of the line with the polygon, as the code computes it -/
def GoodCross (poly : Poly) (a b : Pt) (c : Cross) : Prop :=
  OnBoundary poly c.pt ∧ InUnitTol c.t ∧ c.pt = lerp a b c.t

theorem crossStep_good {poly : Poly} {a b : Pt} {acc : List Cross} {e : Pt × Pt} (he : e ∈ edges poly)
    (hacc : ∀ c ∈ acc, GoodCross poly a b c) : ∀ c ∈ crossStep a b acc e, GoodCross poly a b c := by
  unfold crossStep
  split
  · exact hacc
  · rename_i c hc
    split
    · exact hacc
    · intro d hd
      simp only [List.mem_append, List.mem_singleton] at hd
      rcases hd with hd | rfl
      · exact hacc d hd
      · obtain ⟨⟨x, hx, hp⟩, ht, hl⟩ := edgeCross_spec hc
        exact ⟨⟨e, he, x, hx, hp⟩, ht, hl⟩

theorem crossings_good (poly : Poly) (a b : Pt) : ∀ c ∈ crossings poly a b, GoodCross poly a b c :=
  List.foldlRecOn (motive := fun acc => ∀ c ∈ acc, GoodCross poly a b c) (edges poly) (crossStep a b)
    (fun _ h => nomatch h) fun _ hacc _ he => crossStep_good he hacc

theorem lpiT_subset {poly : Poly} {a b : Pt} {pts : List Cross} (h : linePolygonIntersectionsT poly a b = .ok pts) :
    ∀ c ∈ pts, c ∈ crossings poly a b := by
  unfold linePolygonIntersectionsT at h
  split at h
  · cases h; intro c hc; cases hc
  · rename_i c0 cs hcs
    split at h
    · cases h
    · cases h
      intro c hc
      obtain ⟨ki, _, hk⟩ := List.mem_filterMap.mp hc
      rw [hcs]
      exact List.mem_of_getElem? hk

/-- a track entry is well placed: each end is the line's own end point inside the column
    (parameter 0 / 1), or a crossing of the line with the column's boundary -/
def SegOK (g : Geo) (a b : Pt) (s : Seg) : Prop :=
  ((s.pin = a ∧ s.sin = 0 ∧ g.containsPoint s.col a = true) ∨ GoodCross (g.poly s.col) a b ⟨s.pin, s.sin⟩) ∧
  ((s.pout = b ∧ s.sout = 1 ∧ g.containsPoint s.col b = true) ∨ GoodCross (g.poly s.col) a b ⟨s.pout, s.sout⟩)

/-- the entry and exit crossings chosen from the first (`n`) and last (`f`) reported crossing -/
def ioOf (a b : Pt) (n f : Cross) (isS isE : Bool) : Cross × Cross :=
  if isS then (⟨a, 0⟩, f) else if isE then (n, ⟨b, 1⟩) else (n, f)

/-- the entry of column `ci` with first crossing `n` and last crossing `f` -/
def segOf (ci : Nat) (a b : Pt) (n f : Cross) (isS isE : Bool) : Seg :=
  ⟨ci, (ioOf a b n f isS isE).1.pt, (ioOf a b n f isS isE).2.pt, (ioOf a b n f isS isE).1.t, (ioOf a b n f isS isE).2.t⟩

theorem colSeg_lpiT {g : Geo} {a b : Pt} {ci : Nat} {isS isE : Bool} {r : Option Seg}
    (h : colSeg g a b ci isS isE = .ok r) : ∃ pts, linePolygonIntersectionsT (g.poly ci) a b = .ok pts := by
  cases hl : linePolygonIntersectionsT (g.poly ci) a b with
  | ok pts => exact ⟨pts, rfl⟩
  | unstable w => unfold colSeg at h; rw [hl] at h; cases h

theorem colSeg_nil {g : Geo} {a b : Pt} {ci : Nat} (hl : linePolygonIntersectionsT (g.poly ci) a b = .ok [])
    (isS isE : Bool) : colSeg g a b ci isS isE = .ok none := by
  unfold colSeg
  rw [hl]

theorem colSeg_eq {g : Geo} {a b : Pt} {ci : Nat} {n f : Cross} {cs : List Cross}
    (hl : linePolygonIntersectionsT (g.poly ci) a b = .ok cs) (hn : cs.head? = some n) (hf : cs.getLast? = some f)
    (isS isE : Bool) :
    colSeg g a b ci isS isE =
      match longEnough (g.poly ci) (distSq a b) (ioOf a b n f isS isE).1.t (ioOf a b n f isS isE).2.t with
      | .unstable w => .unstable w
      | .ok true => .ok (some (segOf ci a b n f isS isE))
      | .ok false => .ok none := by
  cases cs with
  | nil => cases hn
  | cons p0 ps =>
    injection hn with hn
    subst hn
    unfold colSeg
    rw [hl]
    simp only [hf, Option.getD_some]
    rfl

theorem colSeg_ok {g : Geo} {a b : Pt} {ci : Nat} {isS isE : Bool} {s : Seg}
    (hS : isS = true → g.containsPoint ci a = true) (hE : isE = true → g.containsPoint ci b = true)
    (h : colSeg g a b ci isS isE = .ok (some s)) : s.col = ci ∧ SegOK g a b s := by
  obtain ⟨pts, hl⟩ := colSeg_lpiT h
  cases pts with
  | nil => rw [colSeg_nil hl] at h; cases h
  | cons n ps =>
    rw [colSeg_eq hl rfl (List.getLast?_eq_some_getLast (List.cons_ne_nil n ps))] at h
    have hgood := fun c hc => crossings_good (g.poly ci) a b c (lpiT_subset hl c hc)
    have hn := hgood n List.mem_cons_self
    have hf := hgood _ (List.getLast_mem (List.cons_ne_nil n ps))
    generalize (n :: ps).getLast _ = f at h hf
    split at h
    · cases h
    · injection h with h; cases h
      refine ⟨rfl, ?_, ?_⟩
      · cases isS with
        | true => exact Or.inl ⟨rfl, rfl, hS rfl⟩
        | false => cases isE <;> exact Or.inr hn
      · cases isS with
        | true => exact Or.inr hf
        | false =>
          cases isE with
          | true => exact Or.inl ⟨rfl, rfl, hE rfl⟩
          | false => exact Or.inr hf
    · cases h

/-- the loop state after the two `… is None and col.contains_point(…)` updates for column `ci` -/
def markEnds (g : Geo) (a b : Pt) (ci : Nat) (st : TState) : TState :=
  { startCol := if st.startCol.isNone && g.containsPoint ci a then some ci else st.startCol
    endCol := if st.endCol.isNone && g.containsPoint ci b then some ci else st.endCol
    track := st.track }

/-- the left side is `st2` of `trackLoop` as `simp only [trackLoop]` leaves it -/
theorem markEnds_eq (g : Geo) (a b : Pt) (ci : Nat) (st : TState) :
    (if (if st.startCol.isNone && g.containsPoint ci a then { st with startCol := some ci } else st).endCol.isNone
          && g.containsPoint ci b
      then { (if st.startCol.isNone && g.containsPoint ci a then { st with startCol := some ci } else st) with endCol := some ci }
      else (if st.startCol.isNone && g.containsPoint ci a then { st with startCol := some ci } else st))
    = markEnds g a b ci st := by
  unfold markEnds
  cases h1 : st.startCol.isNone && g.containsPoint ci a <;>
    cases h2 : st.endCol.isNone && g.containsPoint ci b <;>
    simp only [h2, Bool.false_eq_true, if_true, if_false]

/-- one round of the loop that ends well, `m` being the state after the two updates (`markEnds`): the column fails
    the bounding-box test and is skipped; or it holds both end points and the loop stops with the whole line as its
    entry; or `colSeg` is asked and its entry, if any, is appended -/
theorem trackLoop_cons_ok {g : Geo} {a b : Pt} {ci : Nat} {rest : List Nat} {st st' m : TState}
    (hm : markEnds g a b ci st = m) (h : trackLoop g a b (ci :: rest) st = .ok st') :
    (lineIntersectsRectangle (g.bbox ci) a b = some false ∧ trackLoop g a b rest st = .ok st') ∨
    (lineIntersectsRectangle (g.bbox ci) a b = some true ∧
      ((m.startCol = some ci ∧ m.endCol = some ci ∧ st' = { m with track := st.track ++ [⟨ci, a, b, 0, 1⟩] }) ∨
       (¬ (m.startCol = some ci ∧ m.endCol = some ci) ∧
          ∃ r, colSeg g a b ci (m.startCol == some ci) (m.endCol == some ci) = .ok r ∧
            trackLoop g a b rest { m with track := st.track ++ r.toList } = .ok st'))) := by
  subst hm
  simp only [trackLoop, markEnds_eq] at h
  split at h
  · cases h
  · rename_i hl
    exact Or.inl ⟨hl, h⟩
  · rename_i hl
    refine Or.inr ⟨hl, ?_⟩
    have ht : (markEnds g a b ci st).track = st.track := rfl
    rw [ht] at h
    split at h
    · rename_i hbr
      simp only [Bool.and_eq_true, beq_iff_eq] at hbr
      injection h with h
      exact Or.inl ⟨hbr.1, hbr.2, h.symm⟩
    · rename_i hbr
      simp only [Bool.and_eq_true, beq_iff_eq] at hbr
      refine Or.inr ⟨hbr, ?_⟩
      split at h
      · cases h
      · rename_i hseg
        refine ⟨none, hseg, ?_⟩
        rw [Option.toList_none, List.append_nil]
        exact h
      · rename_i s hseg
        exact ⟨some s, hseg, h⟩

/-- the recorded start and end columns contain the line's start and end point -/
structure EndsOK (g : Geo) (a b : Pt) (st : TState) : Prop where
  start : ∀ c, st.startCol = some c → g.containsPoint c a = true
  stop : ∀ c, st.endCol = some c → g.containsPoint c b = true

theorem mark_sound {g : Geo} {p : Pt} {ci : Nat} {o : Option Nat} (hinv : ∀ c, o = some c → g.containsPoint c p = true) :
    ∀ c, (if o.isNone && g.containsPoint ci p then some ci else o) = some c → g.containsPoint c p = true := by
  intro c hc
  split at hc
  · rename_i hcond
    simp only [Bool.and_eq_true] at hcond
    injection hc with hc
    exact hc ▸ hcond.2
  · exact hinv c hc

theorem EndsOK.markEnds {g : Geo} {a b : Pt} {st : TState} (h : EndsOK g a b st) (ci : Nat) :
    EndsOK g a b (markEnds g a b ci st) :=
  ⟨mark_sound h.start, mark_sound h.stop⟩

/-- column `ci` passed the bounding-box test and `colSeg`, called with the flags of some state of the loop,
    answered `r` (under `UniqueAt` the flags do not depend on the state: `Asked.flags`, LocateTrack3) -/
def Asked (g : Geo) (a b : Pt) (ci : Nat) (r : Option Seg) : Prop :=
  lineIntersectsRectangle (g.bbox ci) a b = some true ∧ ∃ st, EndsOK g a b st ∧
    colSeg g a b ci ((markEnds g a b ci st).startCol == some ci) ((markEnds g a b ci st).endCol == some ci) = .ok r

theorem Asked.ok {g : Geo} {a b : Pt} {ci : Nat} {s : Seg} (h : Asked g a b ci (some s)) : s.col = ci ∧ SegOK g a b s := by
  obtain ⟨_, st, hE, hseg⟩ := h
  have hE2 := hE.markEnds ci
  exact colSeg_ok (fun hS => hE2.start ci (by simpa using hS)) (fun hS => hE2.stop ci (by simpa using hS)) hseg

/-- where an entry of the track comes from: the whole line inside one column, or `colSeg` -/
def Appended (g : Geo) (a b : Pt) (s : Seg) : Prop :=
  (g.containsPoint s.col a = true ∧ g.containsPoint s.col b = true ∧ s = ⟨s.col, a, b, 0, 1⟩) ∨ Asked g a b s.col (some s)

/-- the invariant of `trackLoop` over the columns `cis`; `asked`: unless some column holds both end points (the
    `break`), every column that passes the bounding-box test had `colSeg` asked. `new` lists the entries in the order of
    `cis`, so the head column's entry goes in front -/
structure Collected (g : Geo) (a b : Pt) (cis : List Nat) (new : List Seg) : Prop where
  cols : (new.map (·.col)).Sublist cis
  appended : ∀ s ∈ new, Appended g a b s
  asked : (∃ c, g.containsPoint c a = true ∧ g.containsPoint c b = true) ∨
    ∀ ci ∈ cis, lineIntersectsRectangle (g.bbox ci) a b = some true → ∃ r, Asked g a b ci r ∧ ∀ s ∈ r, s ∈ new

theorem Collected.skip {g : Geo} {a b : Pt} {ci : Nat} {rest : List Nat} {new : List Seg}
    (hl : lineIntersectsRectangle (g.bbox ci) a b = some false) (h : Collected g a b rest new) :
    Collected g a b (ci :: rest) new where
  cols := h.cols.cons ci
  appended := h.appended
  asked := h.asked.imp_right fun hall cj hcj hlir => by
    rcases List.mem_cons.mp hcj with rfl | hcj
    · rw [hl] at hlir; cases hlir
    · exact hall cj hcj hlir

theorem Collected.stop {g : Geo} {a b : Pt} {ci : Nat} (rest : List Nat)
    (ha : g.containsPoint ci a = true) (hb : g.containsPoint ci b = true) :
    Collected g a b (ci :: rest) [⟨ci, a, b, 0, 1⟩] where
  cols := (List.nil_sublist rest).cons_cons ci
  appended := fun s hs => by
    rw [List.mem_singleton] at hs
    subst hs
    exact Or.inl ⟨ha, hb, rfl⟩
  asked := Or.inl ⟨ci, ha, hb⟩

theorem Collected.ask {g : Geo} {a b : Pt} {ci : Nat} {rest : List Nat} {new : List Seg} {r : Option Seg}
    (hask : Asked g a b ci r) (h : Collected g a b rest new) : Collected g a b (ci :: rest) (r.toList ++ new) where
  cols := by
    cases r with
    | none => exact h.cols.cons ci
    | some s =>
      simp only [Option.toList_some, List.singleton_append, List.map_cons, hask.ok.1]
      exact h.cols.cons_cons ci
  appended := fun s hs => by
    rcases List.mem_append.mp hs with hs | hs
    · rw [Option.mem_toList.mp hs] at hask
      exact Or.inr (hask.ok.1 ▸ hask)
    · exact h.appended s hs
  asked := h.asked.imp_right fun hall cj hcj hlj => by
    rcases List.mem_cons.mp hcj with rfl | hcj
    · exact ⟨r, hask, fun s hs => List.mem_append_left _ (Option.mem_toList.mpr hs)⟩
    · obtain ⟨r', ha, hr'⟩ := hall cj hcj hlj
      exact ⟨r', ha, fun s hs => List.mem_append_right _ (hr' s hs)⟩

theorem trackLoop_new {g : Geo} {a b : Pt} : ∀ (cis : List Nat) (st st' : TState),
    EndsOK g a b st → trackLoop g a b cis st = .ok st' → ∃ new, st'.track = st.track ++ new ∧ Collected g a b cis new := by
  intro cis
  induction cis with
  | nil =>
    intro st st' _ h
    simp only [trackLoop] at h
    cases h
    exact ⟨[], (List.append_nil _).symm, List.Sublist.slnil, fun s hs => (nomatch hs), Or.inr fun ci hci => (nomatch hci)⟩
  | cons ci rest ih =>
    intro st st' hE h
    have hE2 := hE.markEnds ci
    rcases trackLoop_cons_ok rfl h with ⟨hl, h⟩ | ⟨hlir, ⟨hs, he, rfl⟩ | ⟨_, r, hseg, h⟩⟩
    · obtain ⟨new, e, hc⟩ := ih st st' hE h
      exact ⟨new, e, hc.skip hl⟩
    · exact ⟨_, rfl, Collected.stop rest (hE2.start ci hs) (hE2.stop ci he)⟩
    · have hE3 : EndsOK g a b { markEnds g a b ci st with track := st.track ++ r.toList } := ⟨hE2.start, hE2.stop⟩
      obtain ⟨new, e, hc⟩ := ih _ st' hE3 h
      exact ⟨r.toList ++ new, by rw [e, List.append_assoc], hc.ask ⟨hlir, st, hE, hseg⟩⟩

theorem Appended.ok {g : Geo} {a b : Pt} {s : Seg} (h : Appended g a b s) : SegOK g a b s := by
  rcases h with ⟨ha, hb, e⟩ | hask
  · exact ⟨Or.inl ⟨congrArg Seg.pin e, congrArg Seg.sin e, ha⟩, Or.inl ⟨congrArg Seg.pout e, congrArg Seg.sout e, hb⟩⟩
  · exact hask.ok.2

/-- what `column_track` guarantees of the track it returns; `asked` as in `Collected` -/
structure TrackSpec (g : Geo) (a b : Pt) (segs : List Seg) : Prop where
  sorted : segs.Pairwise fun s s' => s.tin ≤ s'.tin
  nodup : (segs.map (·.col)).Nodup
  appended : ∀ s ∈ segs, s.col < g.ncols ∧ Appended g a b s
  asked : (∃ c, g.containsPoint c a = true ∧ g.containsPoint c b = true) ∨
    ∀ ci, ci < g.ncols → lineIntersectsRectangle (g.bbox ci) a b = some true → ∃ r, Asked g a b ci r ∧ ∀ s ∈ r, s ∈ segs

/-- the track is the sorted rearrangement of what the loop collects from the initial state -/
theorem columnTrack_spec {g : Geo} {a b : Pt} {segs : List Seg} (h : columnTrack g a b = .ok segs) :
    TrackSpec g a b segs := by
  unfold columnTrack at h
  split at h
  · cases h
  · rename_i st hst
    split at h
    · cases h
    · cases h
      obtain ⟨new, e, hc⟩ := trackLoop_new (List.range g.ncols) {} st ⟨fun _ => nofun, fun _ => nofun⟩ hst
      rw [show ({} : TState).track = [] from rfl, List.nil_append] at e
      subst e
      have hperm := List.mergeSort_perm st.track fun s s' => decide (s.tin ≤ s'.tin)
      refine ⟨?_, (hperm.map (·.col)).nodup_iff.mpr (hc.cols.nodup List.nodup_range), fun s hs => ?_,
        hc.asked.imp_right fun hall ci hci hlir => ?_⟩
      · exact (List.pairwise_mergeSort (le := fun (s s' : Seg) => decide (s.tin ≤ s'.tin))
          (fun x y z hxy hyz => by simp only [decide_eq_true_eq] at hxy hyz ⊢; exact le_trans hxy hyz)
          (fun x y => by simp only [Bool.or_eq_true, decide_eq_true_eq]; exact le_total _ _) st.track).imp
          fun hxy => by simpa using hxy
      · have hs := hperm.mem_iff.mp hs
        exact ⟨List.mem_range.mp (hc.cols.subset (List.mem_map_of_mem hs)), hc.appended s hs⟩
      · obtain ⟨r, hask, hr⟩ := hall ci (List.mem_range.mpr hci) hlir
        exact ⟨r, hask, fun s hs => hperm.mem_iff.mpr (hr s hs)⟩

/-- consecutive entries do not overlap and run forwards along the line, from parameter `lo` on -/
def Ordered : Rat → List Seg → Prop
  | lo, [] => lo ≤ 1
  | lo, s :: r => lo ≤ s.sin ∧ s.sin ≤ s.sout ∧ Ordered s.sout r

/-- if the entries run forwards along the line without overlapping, each length `(sout − sin)·‖line‖` is
    non-negative and they add up to at most the length of the line from `lo` on -/
theorem lengths_sum_le : ∀ (l : List Seg) (lo : Rat), Ordered lo l →
    (l.map fun s => s.sout - s.sin).sum ≤ 1 - lo ∧ ∀ s ∈ l, 0 ≤ s.sout - s.sin := by
  intro l
  induction l with
  | nil => intro lo h; simp only [Ordered] at h; simp; linarith
  | cons s r ih =>
    intro lo h
    simp only [Ordered] at h
    obtain ⟨h1, h2, h3⟩ := h
    obtain ⟨i1, i2⟩ := ih s.sout h3
    constructor
    · simp only [List.map_cons, List.sum_cons]; linarith
    · intro s' hs'
      simp only [List.mem_cons] at hs'
      rcases hs' with rfl | hs'
      · linarith
      · exact i2 s' hs'

end Proofs.Track
