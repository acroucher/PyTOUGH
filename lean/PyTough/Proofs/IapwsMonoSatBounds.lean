/-
  Enclosures of the saturation pressure `sat t` on a few temperature intervals, one checked piece each (`satK_encl` of
  `Proofs/ThermoSatOn.lean`): they show that the region-1 slabs of `density_monotone_r1_partial` between 230 and 250 degC reach below the saturation line,
  and serve for concrete region-1 states.  The lower bounds are the pressure limits of those slabs; the upper bounds
  serve only the two example states.
-/
import PyTough.Proofs.ThermoSatOn
import PyTough.Proofs.IapwsMonoR1
namespace Proofs.Iapws
open Gen.Iapws Model.Thermo Proofs.Thermo

/-- `(tlo, thi, L, U)`: `L ≤ sat t ≤ U` Pa on `tlo ≤ t ≤ thi` degC -/
def satEncls : List (ℕ × ℕ × ℕ × ℕ) := [
  (99, 101, 96000, 107000), (230, 235, 2000000, 3348000), (235, 240, 2500000, 3672000), (240, 243, 3000000, 3734000),
  (243, 246, 3000000, 3938000), (246, 250, 3300000, 4310000)]

theorem satEncls_ok : ∀ e ∈ satEncls, SatEncl e.1 e.2.1 e.2.2.1 e.2.2.2 := by decide +kernel

theorem satK_slab {tlo thi L U : ℕ} (h : (tlo, thi, L, U) ∈ satEncls) {t : ℝ} (h1 : (tlo : ℝ) ≤ t) (h2 : t ≤ thi) :
    (L : ℝ) ≤ satK t ∧ satK t ≤ U := by
  simpa using satK_encl (satEncls_ok _ h) (by simpa using h1) (by simpa using h2)

theorem satK_Q99 (t : ℝ) (h1 : 99 ≤ t) (h2 : t ≤ 101) : 96000 ≤ satK t ∧ satK t ≤ 107000 := satK_slab (by decide) h1 h2

theorem satK_Q246 (t : ℝ) (h1 : 246 ≤ t) (h2 : t ≤ 250) : 3300000 ≤ satK t ∧ satK t ≤ 4310000 := satK_slab (by decide) h1 h2

/-- the slabs `(tlo, thi, L, U)` of `s` follow one another from the temperature `t0` up to `t1`, and from each `L` the boxes of `l` chain up to `phi` -/
def Box1.slabs (l : List Box1) (t1 phi : ℕ) : ℕ → List (ℕ × ℕ × ℕ × ℕ) → Bool
  | t0, [] => t1 ≤ t0
  | t0, (tlo, thi, L, _) :: s => tlo ≤ t0 && chain tlo thi phi L l && slabs l t1 phi thi s

/-- liquid water next to saturation: on each slab `L ≤ sat t < p1`, so the state lies in the boxes chained from `L`
    (`t0 < t` strictly: once the slabs are used up, `t ≤ t1 ≤ t0` is absurd) -/
theorem Box1.slabs_density_mono {l : List Box1} (hl : ∀ b ∈ l, b.ok) {t1 phi : ℕ} {t p1 p2 : ℝ} (ht : t ≤ t1) (hs : satK t < p1) (h12 : p1 < p2)
    (hp2 : p2 ≤ phi) : ∀ (s : List (ℕ × ℕ × ℕ × ℕ)) (t0 : ℕ), s ⊆ satEncls → slabs l t1 phi t0 s = true → (t0 : ℝ) < t →
    ∃ d1 u1 d2 u2, cowat t p1 = Ret.pair d1 u1 ∧ cowat t p2 = Ret.pair d2 u2 ∧ 0 < d1 ∧ d1 < d2
  | [], _, _, h, h0 => absurd (ht.trans (Nat.cast_le.mpr (of_decide_eq_true h))) (not_le.mpr h0)
  | (tlo, thi, L, U) :: s, t0, hsub, h, h0 => by
    rw [slabs, Bool.and_eq_true, Bool.and_eq_true, decide_eq_true_eq] at h
    have h1 : (tlo : ℝ) ≤ t := (Nat.cast_le.mpr h.1.1).trans h0.le
    by_cases h2 : t ≤ thi
    · exact density_mono hl h.1.2 h1 h2 ((satK_slab (hsub List.mem_cons_self) h1 h2).1.trans hs.le) h12 hp2
    · exact slabs_density_mono hl ht hs h12 hp2 s thi (List.subset_of_cons_subset hsub) h.2 (not_le.mp h2)

end Proofs.Iapws
