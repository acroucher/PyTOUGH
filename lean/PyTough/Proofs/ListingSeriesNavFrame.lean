/-
  Frame facts about the navigation instance of the whole-file listing model (`Model.Listing.fileNav`):
  `read_tables` and everything below it never assigns `self._index` (`m_readTables`), and the outcome of `read_tables` does not
  depend on the time and step shown before (`abs_readTables`); `Props.C07` reads off from these what `load j` does.

  `Fr o i m`: started with index `i`, `m` returns with index `i`, and overwriting time and step by `o` before the run or after
  it is the same; `o = none` for `read_header`, which assigns them, and for its callers.  `Abs m`: the outcome of `m` does not
  depend on time and step, as `read_header` assigns both before anything reads them.
  A lemma's prefix names its judgement: `fr_` (`Fr`/`CFr`), `ts_` (`TS`), `abs_` (`Abs`), `m_` (`MKeepsI`), `c_` (`CKeepsI`),
  `ce_` (`CEnv`).
-/
import PyTough.Model.ListingHistory
import PyTough.Proofs.ListingWholeRun
namespace Proofs.SeriesNav
open Py Model Model.Listing
open Proofs.Whole (bind_run cu_bind_run)

structure MKeepsI {α} (i : Int) (m : M α) : Prop where
  h : ∀ s a s', s.index = i → m s = .ok (a, s') → s'.index = i
structure CKeepsI {α} (i : Int) (c : C α) : Prop where
  h : ∀ env cur a cur', cur.index = i → c env cur = .ok (a, cur') → cur'.index = i

def MKeeps {α} (m : M α) : Prop := ∀ s a s', m s = .ok (a, s') → s'.index = s.index
def CKeeps {α} (c : C α) : Prop := ∀ env cur a cur', c env cur = .ok (a, cur') → cur'.index = cur.index

theorem CKeeps_of {α} {c : C α} (h : ∀ i, CKeepsI i c) : CKeeps c := fun env cur a cur' hm => (h cur.index).h env cur a cur' rfl hm

/-!
  `TS m`: `m` neither reads nor writes `time`/`step` (it commutes with overwriting them);
  `Abs m`: `m` overwrites both before it reads either (its outcome does not depend on them);
  `CEnv c`: the cursor computation `c` does not read them from the reader. -/

def upd (s : Rd) (t : FVal) (st : Step) : Rd := { s with time := t, step := st }

structure TS {α} (m : M α) : Prop where
  h : ∀ s t st, m (upd s t st) = Except.map (fun p => (p.1, upd p.2 t st)) (m s)
structure Abs {α} (m : M α) : Prop where
  h : ∀ s t st, m (upd s t st) = m s
structure CEnv {α} (c : C α) : Prop where
  h : ∀ env t st cur, c (upd env t st) cur = c env cur

/-- side goals `f (upd s t st) = f s` and `f (upd s t st) = upd (f s) t st` of the rules for `get`, `read`, `modify` -/
macro "fr_side" : tactic => `(tactic| (intro s t st; first | rfl | (dsimp only [upd]; split <;> rfl)))

def updo (o : Option (FVal × Step)) (s : Rd) : Rd :=
  match o with
  | none => s
  | some x => upd s x.1 x.2

structure CFr {α} (o : Option (FVal × Step)) (i : Int) (c : C α) : Prop where
  h : ∀ env cur, cur.index = i → c (updo o env) cur = c env cur ∧ ∀ a cur', c env cur = .ok (a, cur') → cur'.index = i

structure Fr {α} (o : Option (FVal × Step)) (i : Int) (m : M α) : Prop where
  h : ∀ s, s.index = i → m (updo o s) = (m s).map (fun p => (p.1, updo o p.2)) ∧ ∀ a s', m s = .ok (a, s') → s'.index = i

section rules
variable {α β : Type} {o : Option (FVal × Step)} {i : Int}

theorem CFr.keeps {c : C α} (hc : CFr o i c) : CKeepsI i c := ⟨fun env cur a cur' hi h => ((hc.h env cur hi).2 a cur' h)⟩
theorem CFr.cenv {c : C α} (hc : ∀ t st i, CFr (some (t, st)) i c) : CEnv c := ⟨fun env t st cur => ((hc t st cur.index).h env cur rfl).1⟩
theorem Fr.keeps {m : M α} (hm : Fr o i m) : MKeepsI i m := ⟨fun s a s' hi h => ((hm.h s hi).2 a s' h)⟩
theorem Fr.ts {m : M α} (hm : ∀ t st i, Fr (some (t, st)) i m) : TS m := ⟨fun s t st => ((hm t st s.index).h s rfl).1⟩

theorem CFr.pure (a : α) : CFr o i (pure a : C α) := ⟨fun _ _ hi => ⟨rfl, fun _ _ h => by cases h; exact hi⟩⟩
theorem CFr.throw (e : LErr) : CFr o i (throw e : C α) := ⟨fun _ _ _ => ⟨rfl, nofun⟩⟩
theorem CFr.raise (e : Exc) : CFr o i (Cu.raise e : C α) := CFr.throw _
theorem CFr.liftE (x : Except Exc α) : CFr o i (Cu.liftE x : C α) := by
  cases x with
  | ok v => exact CFr.pure v
  | error e => exact CFr.throw _

theorem c_liftE (x : Except Exc α) : CKeepsI i (Cu.liftE x : C α) := (CFr.liftE (o := none) x).keeps
theorem ce_liftE (x : Except Exc α) : CEnv (Cu.liftE x : C α) := CFr.cenv fun _ _ _ => CFr.liftE x

theorem CFr.bind {m : C α} {f : α → C β} (hm : CFr o i m) (hf : ∀ a, CFr o i (f a)) : CFr o i (m >>= f) := by
  constructor
  intro env cur hi
  obtain ⟨h1, h2⟩ := hm.h env cur hi
  rw [cu_bind_run, cu_bind_run, h1]
  cases hmc : m env cur with
  | error e => exact ⟨rfl, nofun⟩
  | ok v => obtain ⟨a, c1⟩ := v; exact (hf a).h env c1 (h2 a c1 hmc)

theorem CFr.get_bind {f : Cur → C β} (hf : ∀ s, s.index = i → CFr o i (f s)) : CFr o i ((get : C Cur) >>= f) :=
  ⟨fun env cur hi => (hf cur hi).h env cur hi⟩

theorem updo_congr {γ : Type} {f : Rd → γ} (h1 : ∀ s t st, f (upd s t st) = f s) (s : Rd) : f (updo o s) = f s := by
  cases o with
  | none => rfl
  | some x => exact h1 s x.1 x.2

theorem CFr.read_bind {f : Rd → C β} (h1 : ∀ s t st, f (upd s t st) = f s) (h2 : ∀ s, CFr o i (f s)) :
    CFr o i ((read : C Rd) >>= f) := by
  constructor
  intro env cur hi
  show f (updo o env) (updo o env) cur = f env env cur ∧ _
  rw [updo_congr h1]; exact (h2 env).h env cur hi

theorem CFr.set {s0 : Cur} (h0 : s0.index = i) : CFr o i (set s0 : C PUnit) := ⟨fun _ _ _ => ⟨rfl, fun _ _ h => by cases h; exact h0⟩⟩
theorem CFr.modify {g : Cur → Cur} (hg : ∀ s, s.index = i → (g s).index = i) : CFr o i (modify g : C PUnit) :=
  ⟨fun _ cur hi => ⟨rfl, fun _ _ h => by cases h; exact hg cur hi⟩⟩

theorem CFr.ite {c : Prop} [Decidable c] {a b : C α} (ha : CFr o i a) (hb : CFr o i b) : CFr o i (if c then a else b) := by
  split
  · exact ha
  · exact hb

theorem Fr.pure (a : α) : Fr o i (pure a : M α) := ⟨fun _ hi => ⟨rfl, fun _ _ h => by cases h; exact hi⟩⟩
theorem Fr.throw (e : LErr) : Fr o i (throw e : M α) := ⟨fun _ _ => ⟨rfl, fun _ _ h => nomatch h⟩⟩
theorem Fr.raise (e : Exc) : Fr o i (Model.Listing.raise e : M α) := Fr.throw _
theorem Fr.liftE (x : Except Exc α) : Fr o i (Model.Listing.liftE x : M α) := by
  cases x with
  | ok v => exact Fr.pure v
  | error e => exact Fr.throw _

theorem Fr.bind {m : M α} {f : α → M β} (hm : Fr o i m) (hf : ∀ a, Fr o i (f a)) : Fr o i (m >>= f) := by
  constructor
  intro s hi
  obtain ⟨h1, h2⟩ := hm.h s hi
  rw [bind_run, bind_run, h1]
  cases hms : m s with
  | error e => exact ⟨rfl, fun _ _ h => nomatch h⟩
  | ok v => obtain ⟨a, s1⟩ := v; exact (hf a).h s1 (h2 a s1 hms)

theorem Fr.get_bind {f : Rd → M β} (h1 : ∀ s t st, f (upd s t st) = f s) (h2 : ∀ s, s.index = i → Fr o i (f s)) :
    Fr o i ((get : M Rd) >>= f) := by
  constructor
  intro s hi
  show f (updo o s) (updo o s) = Except.map _ (f s s) ∧ _
  rw [updo_congr h1]; exact (h2 s hi).h s hi

/-- the continuation `f s` is run from `s`, and `set`s a state computed from `s` -/
theorem Fr.get_bind_pt {f : Rd → M β}
    (h : ∀ s, s.index = i → f (updo o s) (updo o s) = (f s s).map (fun p => (p.1, updo o p.2)) ∧
      ∀ a s', f s s = .ok (a, s') → s'.index = i) : Fr o i ((get : M Rd) >>= f) := ⟨h⟩

theorem Fr.modify {g : Rd → Rd} (h1 : ∀ s t st, g (upd s t st) = upd (g s) t st) (h2 : ∀ s, s.index = i → (g s).index = i) :
    Fr o i (modify g : M PUnit) := by
  constructor
  intro s hi
  refine ⟨?_, fun _ _ h => by cases h; exact h2 s hi⟩
  show Except.ok (PUnit.unit, g (updo o s)) = _
  cases o with
  | none => rfl
  | some x => show Except.ok (PUnit.unit, g (upd s x.1 x.2)) = _; rw [h1]; rfl

theorem Fr.modify_none {g : Rd → Rd} (h2 : ∀ s, s.index = i → (g s).index = i) : Fr none i (_root_.modify g : M PUnit) :=
  ⟨fun s hi => ⟨rfl, fun _ _ h => by cases h; exact h2 s hi⟩⟩

theorem Fr.ite {c : Prop} [Decidable c] {a b : M α} (ha : Fr o i a) (hb : Fr o i b) : Fr o i (if c then a else b) := by
  split
  · exact ha
  · exact hb

theorem Fr.liftC {c : C α} (hc : CFr o i c) : Fr o i (liftC c) := by
  constructor
  intro s hi
  obtain ⟨h1, h2⟩ := hc.h s ⟨s.pos, s.index⟩ hi
  unfold Model.Listing.liftC
  have e : (⟨(updo o s).pos, (updo o s).index⟩ : Cur) = ⟨s.pos, s.index⟩ := by cases o <;> rfl
  rw [e, h1]
  cases hcs : c s ⟨s.pos, s.index⟩ with
  | error e => exact ⟨rfl, fun _ _ h => nomatch h⟩
  | ok v =>
    obtain ⟨a, c1⟩ := v
    refine ⟨?_, fun _ _ h => by cases h; exact h2 a c1 hcs⟩
    cases o <;> rfl

end rules

/-- walks a `do` block with the rules above, splitting every `match`; the facts `hⱼ` close the calls of other functions.
    The judgements are one-field structures so that `intro _` stops at them. -/
macro "fr" " [" hs:term,* "]" : tactic => `(tactic| repeat' (first
  | intro _
  | assumption
  | with_reducible apply CFr.get_bind
  | ((with_reducible apply Fr.get_bind); fr_side)
  | ((with_reducible apply CFr.read_bind); fr_side)
  | with_reducible first
    | apply Fr.bind | apply CFr.bind
    $[| exact $hs]*
    | exact Fr.pure _ | exact CFr.pure _ | exact Fr.throw _ | exact CFr.throw _
    | exact Fr.raise _ | exact CFr.raise _ | exact Fr.liftE _ | exact CFr.liftE _
    | apply Fr.ite | apply CFr.ite
    | apply CFr.set | apply CFr.modify
  | ((with_reducible apply Fr.modify); fr_side)
  | with_reducible apply Fr.modify_none
  | dsimp only
  | split))

section walk
variable (o : Option (FVal × Step)) (i : Int)

theorem fr_cu_readline : CFr o i Cu.readline := by unfold Cu.readline; fr []
theorem fr_cu_tell : CFr o i Cu.tell := by unfold Cu.tell; fr []
theorem fr_cu_seek (p : Pos) : CFr o i (Cu.seek p) := by unfold Cu.seek; fr []
theorem fr_cu_seek0 : CFr o i Cu.seek0 := by unfold Cu.seek0; fr []

theorem fr_cu_skiplines (n : Nat) : CFr o i (Cu.skiplines n) := by
  induction n with
  | zero => exact CFr.pure _
  | succ k ih => exact CFr.bind (fr_cu_readline o i) fun _ => ih

theorem fr_cu_skipto (kws : List Str) (start : Nat) : CFr o i (Cu.skipto kws start) := by unfold Cu.skipto; fr []
theorem fr_cu_skipto1 (kw : String) (start : Nat) : CFr o i (Cu.skipto1 kw start) := fr_cu_skipto o i _ _
theorem fr_cu_skipToNonblank : CFr o i Cu.skipToNonblank := by unfold Cu.skipToNonblank; fr []
theorem fr_cu_skipToBlank : CFr o i Cu.skipToBlank := by unfold Cu.skipToBlank; fr []
theorem fr_cu_readUntil (stop : Str → Bool) (e : Bool) : CFr o i (Cu.readUntil stop e) := by unfold Cu.readUntil; fr []
theorem fr_cu_pastThisResult (p : Pos) : CFr o i (Cu.pastThisResult p) := by unfold Cu.pastThisResult; fr []

theorem fr_cu_tableType (x : List Str) : CFr o i (Cu.tableType x) := by
  unfold Cu.tableType Cu.tableTypeTOUGH2 Cu.tableTypePlus; fr []

theorem fr_cu_nextTableTOUGH2_loop (f : Nat) : CFr o i (Cu.nextTableTOUGH2.loop f) := by
  induction f with
  | zero => exact CFr.throw _
  | succ k ih =>
    unfold Cu.nextTableTOUGH2.loop
    fr [ih, fr_cu_readUntil o i _ _, fr_cu_tell o i, fr_cu_pastThisResult o i _, fr_cu_skipToNonblank o i, fr_cu_readline o i,
      fr_cu_skipto1 o i _ _, fr_cu_seek o i _, fr_cu_tableType o i _]

theorem fr_cu_nextTable : CFr o i Cu.nextTable := by
  unfold Cu.nextTable Cu.nextTableAUTOUGH2 Cu.nextTableTOUGH2 Cu.nextTablePlus
  fr [fr_cu_nextTableTOUGH2_loop o i _, fr_cu_skipto1 o i _ _, fr_cu_readline o i, fr_cu_tell o i, fr_cu_pastThisResult o i _,
    fr_cu_seek o i _, fr_cu_tableType o i _]

theorem fr_readline : Fr o i Model.Listing.readline := .liftC (fr_cu_readline o i)
theorem fr_tell : Fr o i Model.Listing.tell := .liftC (fr_cu_tell o i)
theorem fr_seek (p : Pos) : Fr o i (Model.Listing.seek p) := .liftC (fr_cu_seek o i p)
theorem fr_seek0 : Fr o i Model.Listing.seek0 := .liftC (fr_cu_seek0 o i)
theorem fr_skiplines (n : Nat) : Fr o i (Model.Listing.skiplines n) := .liftC (fr_cu_skiplines o i n)
theorem fr_skipto (kws : List Str) (start : Nat) : Fr o i (Model.Listing.skipto kws start) := .liftC (fr_cu_skipto o i kws start)
theorem fr_skipto1 (kw : String) (start : Nat) : Fr o i (Model.Listing.skipto1 kw start) := .liftC (fr_cu_skipto1 o i kw start)
theorem fr_skipToNonblank : Fr o i Model.Listing.skipToNonblank := .liftC (fr_cu_skipToNonblank o i)
theorem fr_skipToBlank : Fr o i Model.Listing.skipToBlank := .liftC (fr_cu_skipToBlank o i)
theorem fr_readUntil (stop : Str → Bool) (e : Bool) : Fr o i (Model.Listing.readUntil stop e) := .liftC (fr_cu_readUntil o i stop e)
theorem fr_nextTable : Fr o i Model.Listing.nextTable := .liftC (fr_cu_nextTable o i)

theorem fr_getTable (n : String) : Fr o i (Model.Listing.getTable n) := by unfold Model.Listing.getTable; fr []
theorem fr_hasTable (n : String) : Fr o i (Model.Listing.hasTable n) := by unfold Model.Listing.hasTable; fr []
theorem fr_putTable (n : String) (t : Table) : Fr o i (Model.Listing.putTable n t) := by unfold Model.Listing.putTable; fr []
theorem fr_isPlus : Fr o i Model.Listing.isPlus := by unfold Model.Listing.isPlus; fr []
theorem fr_isAutough2 : Fr o i Model.Listing.isAutough2 := by unfold Model.Listing.isAutough2; fr []

theorem fr_readTitle : Fr o i Model.Listing.readTitle := by
  unfold Model.Listing.readTitle; fr [fr_readline o i, fr_seek0 o i, fr_readUntil o i _ _]

theorem fr_skipTable (tn : String) : Fr o i (Model.Listing.skipTable tn) := by
  unfold Model.Listing.skipTable Model.Listing.skipTableAUTOUGH2 Model.Listing.skipTableTOUGH2
  fr [fr_skipToBlank o i, fr_readUntil o i _ _, fr_readline o i, fr_skiplines o i _, fr_isPlus o i, fr_skipto1 o i _ _]

theorem fr_readTableAUTOUGH2_loop (start : Option Int) (kw : Str) (f : Nat) (line : Str) (row : Nat) (t : Table) :
    Fr o i (Model.Listing.readTableAUTOUGH2.loop start kw f line row t) := by
  induction f generalizing line row t with
  | zero => exact Fr.throw _
  | succ k ih => unfold Model.Listing.readTableAUTOUGH2.loop; fr [ih _ _ _, fr_readline o i]

theorem fr_readTableAUTOUGH2 (tn : String) : Fr o i (Model.Listing.readTableAUTOUGH2 tn) := by
  unfold Model.Listing.readTableAUTOUGH2
  fr [fr_getTable o i _, fr_skipToBlank o i, fr_readline o i, fr_skipToNonblank o i, fr_readTableAUTOUGH2_loop o i _ _ _ _ _ _,
    fr_putTable o i _ _]

theorem fr_readTableTOUGH2 (tn : String) : Fr o i (Model.Listing.readTableTOUGH2 tn) := by
  unfold Model.Listing.readTableTOUGH2
  refine Fr.bind (fr_getTable o i _) fun tb => Fr.bind (fr_skiplines o i _) fun _ => Fr.get_bind_pt fun s hi => ?_
  have hpos : (updo o s).pos = s.pos := by cases o <;> rfl
  have hset : ∀ p, ({ updo o s with pos := p } : Rd) = updo o { s with pos := p } := by intro p; cases o <;> rfl
  rw [hpos]
  generalize readRowsL tb.keyPos tb.cols.length tb.numpos tb.skips s.pos.rest tb = r
  cases r with
  | error e => exact ⟨rfl, fun _ _ h => nomatch h⟩
  | ok v =>
    obtain ⟨t', rest'⟩ := v
    dsimp only
    rw [bind_run, bind_run, hset]
    exact (fr_putTable o i tn t').h ({ s with pos := ⟨s.pos.no + (s.pos.rest.length - rest'.length), rest'⟩ } : Rd) hi

theorem fr_readTable (tn : String) : Fr o i (Model.Listing.readTable tn) := by
  unfold Model.Listing.readTable; fr [fr_readTableAUTOUGH2 o i _, fr_readTableTOUGH2 o i _]

theorem fr_readHeaderAUTOUGH2 : Fr none i Model.Listing.readHeaderAUTOUGH2 := by
  unfold Model.Listing.readHeaderAUTOUGH2; fr [fr_readTitle none i, fr_readline none i]

theorem fr_readHeaderTOUGH2 : Fr none i Model.Listing.readHeaderTOUGH2 := by
  unfold Model.Listing.readHeaderTOUGH2
  fr [fr_readline none i, fr_isPlus none i, fr_skipto1 none i _ _, fr_skipToNonblank none i, fr_tell none i, fr_seek none i _]

theorem fr_readHeader : Fr none i Model.Listing.readHeader := by
  unfold Model.Listing.readHeader; fr [fr_readHeaderAUTOUGH2 i, fr_readHeaderTOUGH2 i]

theorem fr_tablesLoop (act : String → M Unit) (hact : ∀ tn, Fr none i (act tn)) (he ce : Bool) (f : Nat) (tn : String) (nelt : Nat) :
    Fr none i (Model.Listing.tablesLoop act he ce f tn nelt) := by
  induction f generalizing tn nelt with
  | zero => exact Fr.throw _
  | succ k ih => unfold Model.Listing.tablesLoop; fr [ih _ _, hact _, fr_readHeader i, fr_nextTable none i]

theorem fr_readTables : Fr none i Model.Listing.readTables := by
  unfold Model.Listing.readTables
  fr [fr_readHeader i]
  all_goals (apply fr_tablesLoop; fr [fr_skipTable none i _, fr_readTable none i _, fr_hasTable none i _])

end walk

theorem m_readTables (i : Int) : MKeepsI i Model.Listing.readTables := (fr_readTables i).keeps
theorem readTables_keeps : MKeeps readTables := fun s a s' hm => (m_readTables s.index).h s a s' rfl hm
theorem m_isAutough2 (i : Int) : MKeepsI i Model.Listing.isAutough2 := (fr_isAutough2 none i).keeps
theorem m_skipto (i : Int) (kws : List Str) (start : Nat) : MKeepsI i (Model.Listing.skipto kws start) := (fr_skipto none i kws start).keeps

theorem ts_liftE {α} (x : Except Exc α) : TS (Model.Listing.liftE x : M α) := Fr.ts fun _ _ _ => Fr.liftE x
theorem ts_readline : TS Model.Listing.readline := Fr.ts fun _ _ i => fr_readline _ i
theorem ts_tell : TS Model.Listing.tell := Fr.ts fun _ _ i => fr_tell _ i
theorem ts_seek (p : Pos) : TS (Model.Listing.seek p) := Fr.ts fun _ _ i => fr_seek _ i p
theorem ts_skipto (kws : List Str) (start : Nat) : TS (Model.Listing.skipto kws start) := Fr.ts fun _ _ i => fr_skipto _ i kws start
theorem ts_nextTable : TS Model.Listing.nextTable := Fr.ts fun _ _ i => fr_nextTable _ i
theorem ts_hasTable (n : String) : TS (Model.Listing.hasTable n) := Fr.ts fun _ _ i => fr_hasTable _ i n
theorem ts_readTitle : TS Model.Listing.readTitle := Fr.ts fun _ _ i => fr_readTitle _ i
theorem ts_skipTable (tn : String) : TS (Model.Listing.skipTable tn) := Fr.ts fun _ _ i => fr_skipTable _ i tn
theorem ts_readTable (tn : String) : TS (Model.Listing.readTable tn) := Fr.ts fun _ _ i => fr_readTable _ i tn

section TSlemmas
variable {α β : Type}

theorem ts_pure (a : α) : TS (pure a : M α) := ⟨fun _ _ _ => rfl⟩
theorem ts_throw (e : LErr) : TS (throw e : M α) := ⟨fun _ _ _ => rfl⟩

theorem ts_bind {m : M α} {f : α → M β} (hm : TS m) (hf : ∀ a, TS (f a)) : TS (m >>= f) := by
  constructor
  intro s t st
  rw [bind_run, bind_run, hm.h]
  cases m s with
  | error e => rfl
  | ok v => obtain ⟨a, s1⟩ := v; exact (hf a).h s1 t st

theorem ts_ite {c : Prop} [Decidable c] {a b : M α} (ha : TS a) (hb : TS b) : TS (if c then a else b) := by
  split
  · exact ha
  · exact hb

theorem abs_throw (e : LErr) : Abs (throw e : M α) := ⟨fun _ _ _ => rfl⟩

theorem abs_modify {f : Rd → Rd} (hf : ∀ s t st, f (upd s t st) = f s) : Abs (modify f : M PUnit) := by
  constructor
  intro s t st
  show Except.ok (PUnit.unit, f (upd s t st)) = _
  rw [hf]; rfl

theorem abs_bind_ts {m : M α} {f : α → M β} (hm : TS m) (hf : ∀ a, Abs (f a)) : Abs (m >>= f) := by
  constructor
  intro s t st
  rw [bind_run, bind_run, hm.h]
  cases m s with
  | error e => rfl
  | ok v => obtain ⟨a, s1⟩ := v; exact (hf a).h s1 t st

theorem abs_bind {m : M α} {f : α → M β} (hm : Abs m) : Abs (m >>= f) := by
  constructor
  intro s t st
  rw [bind_run, bind_run, hm.h]

theorem abs_get_bind {f : Rd → M β} (h1 : ∀ s t st, f (upd s t st) = f s) (h2 : ∀ s, Abs (f s)) : Abs ((get : M Rd) >>= f) := by
  constructor
  intro s t st
  show f (upd s t st) (upd s t st) = f s s
  rw [h1]; exact (h2 s).h s t st

end TSlemmas

theorem ts_tablesLoop (act : String → M Unit) (hact : ∀ tn, TS (act tn)) (ce : Bool) (f : Nat) (tn : String) (nelt : Nat) :
    TS (Model.Listing.tablesLoop act false ce f tn nelt) := by
  induction f generalizing tn nelt with
  | zero => exact ts_throw _
  | succ k ih =>
    unfold Model.Listing.tablesLoop
    rw [if_neg Bool.false_ne_true]
    refine ts_bind (hact _) fun _ => ts_bind ts_nextTable fun r => ?_
    cases r with
    | none => exact ts_pure _
    | some tn' => exact ts_ite (ih _ _) (ih _ _)

/-! `read_header` overwrites time and step before it reads either, and `read_tables` starts with it -/

theorem abs_readHeaderAUTOUGH2 : Abs Model.Listing.readHeaderAUTOUGH2 := by
  unfold Model.Listing.readHeaderAUTOUGH2
  refine abs_bind_ts ts_readTitle fun _ => ?_
  refine abs_bind_ts ts_readline fun line => ?_
  refine abs_bind_ts (ts_liftE _) fun step => ?_
  refine abs_bind_ts (ts_liftE _) fun time => ?_
  exact abs_bind (abs_modify fun s t st => rfl)

theorem abs_readHeaderTOUGH2 : Abs Model.Listing.readHeaderTOUGH2 := by
  unfold Model.Listing.readHeaderTOUGH2
  refine abs_bind_ts ts_readline fun line => ?_
  dsimp only
  split
  · refine abs_bind_ts (ts_liftE _) fun time => ?_
    refine abs_bind_ts (ts_liftE _) fun step => ?_
    exact abs_bind (abs_modify fun s t st => rfl)
  · exact abs_bind (abs_throw _)

theorem abs_readHeader : Abs Model.Listing.readHeader := by
  unfold Model.Listing.readHeader
  refine abs_get_bind (fun s t st => rfl) fun s => ?_
  split
  · exact abs_readHeaderAUTOUGH2
  · exact abs_readHeaderTOUGH2
  · exact abs_throw _

theorem abs_tablesLoop (act : String → M Unit) (ce : Bool) (f : Nat) (tn : String) (nelt : Nat) :
    Abs (Model.Listing.tablesLoop act true ce (f + 1) tn nelt) := by
  unfold Model.Listing.tablesLoop
  rw [if_pos rfl]
  exact abs_bind abs_readHeader

theorem abs_readTables : Abs Model.Listing.readTables := by
  unfold Model.Listing.readTables
  refine abs_get_bind (fun s t st => rfl) fun s => ?_
  refine abs_get_bind (fun s t st => rfl) fun s' => ?_
  split
  · exact abs_tablesLoop _ _ (s'.pos.rest.length + 1) _ _
  · exact abs_bind abs_readHeader
  · exact abs_bind abs_readHeader
  · exact abs_throw _

theorem loadResult_unfold (j : Nat) (s : Rd) :
    loadResult j s = match s.fullpos[j]? with
      | none => .error (.py .indexError)
      | some p => readTables ({ s with pos := p, index := (j : Int) } : Rd) := by
  unfold loadResult
  show (match s.fullpos[j]? with
      | none => Model.Listing.raise .indexError
      | some p => (do Model.Listing.seek p; modify fun (s : Rd) => { s with index := j }; readTables : M Unit)) s = _
  cases s.fullpos[j]? with
  | none => rfl
  | some p => rfl

end Proofs.SeriesNav
