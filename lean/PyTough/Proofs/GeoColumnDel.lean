/-
  `delete_column` preserves the structural invariant: the column's connections are deleted one by one as by
  `delete_connection`; after that no connection touches the column, so its neighbour set is empty and the
  neighbour loop has nothing to do; its nodes forget it; dictionary and list lose it.
-/
import PyTough.Proofs.GeoConnDel
namespace Proofs.Geo
open Model.Geo Model.Geo.Geo Py

/-- the loop at the head of `delete_column` -/
theorem deleteConns_fold : ∀ (ks : List Nat) (g g1 : Geo),
    ks.foldlM (fun (g : Geo) k => g.deleteConnection (g.conKey k)) g = .ok g1 →
    Inv0 g → ks.Nodup → (∀ k ∈ ks, k ∈ g.connlist) →
    Inv0 g1 ∧ g1.columnlist = g.columnlist ∧ g1.columnD = g.columnD ∧ g1.K = g.K ∧
      (∀ k, k ∈ g1.connlist ↔ k ∈ g.connlist ∧ k ∉ ks)
  | [], g, g1, hf, h, _, _ => by
    obtain rfl := foldlM_nil_ok hf
    exact ⟨h, rfl, rfl, rfl, fun k => by simp⟩
  | k :: t, g, g1, hf, h, hnd, hin => by
    obtain ⟨g2, h2, hf'⟩ := foldlM_cons_ok hf
    have hg2 := deleteConnection_inv0 h2 h
    obtain ⟨i, hget, -, he, -⟩ := deleteConnection_spec h2 h
    obtain rfl : k = i :=
      Option.some.inj ((regOK_get? h.cons.reg (hin k List.mem_cons_self)).symm.trans hget)
    rw [delConn_shape] at he
    subst he
    have hnd' := List.nodup_cons.mp hnd
    obtain ⟨ih0, ihcl, ihcd, ihK, ihmem⟩ := deleteConns_fold t _ g1 hf' hg2 hnd'.2
      (fun k' hk' => h.cons.mem_erase.mpr ⟨fun e => hnd'.1 (e ▸ hk'), hin k' (List.mem_cons_of_mem _ hk')⟩)
    refine ⟨ih0, ihcl, ihcd, ihK, fun k' => (ihmem k').trans ?_⟩
    show k' ∈ g.connlist.erase k ∧ k' ∉ t ↔ _
    rw [h.cons.mem_erase, List.mem_cons, not_or]
    exact ⟨fun ⟨⟨a, b⟩, c⟩ => ⟨b, a, c⟩, fun ⟨b, a, c⟩ => ⟨⟨a, b⟩, c⟩⟩

/-- the loop `for node in col.node: node.column.remove(col)` of `delete_column`, when no `remove` raises -/
theorem removeCols_fold (i : Nat) : ∀ (nodes : List Nat) (g g3 : Geo),
    nodes.foldlM (fun (g : Geo) n => do
      let s ← setRemove (g.node n).cols i
      pure (g.updNode n fun nd => { nd with cols := s })) g = .ok g3 →
    g3 = { g with N := nodes.foldl (fun N m => N.modify m fun nd => { nd with cols := setDiscard nd.cols i }) g.N }
  | [], g, g3, hf => foldlM_nil_ok hf
  | m :: t, g, g3, hf => by
    obtain ⟨g2, h2, hf'⟩ := foldlM_cons_ok hf
    obtain ⟨s, hs, h2'⟩ := bind_ok h2
    cases h2'
    obtain rfl : s = setDiscard (g.node m).cols i := by
      unfold setRemove at hs
      split at hs
      · exact (Except.ok.inj hs).symm
      · cases hs
    rw [removeCols_fold i t _ g3 hf', List.foldl_cons]
    unfold updNode
    rw [modify_congr g.N m _ (fun nd => { nd with cols := setDiscard nd.cols i }) fun _ => rfl]

theorem mem_cols_after_remove (i : Nat) (nodes : List Nat) (N : Array Node) (n y : Nat)
    (hb : ∀ m ∈ nodes, m < N.size) :
    y ∈ ((nodes.foldl (fun N m => N.modify m fun nd => { nd with cols := setDiscard nd.cols i }) N)[n]!).cols ↔
      y ∈ (N[n]!).cols ∧ (y ≠ i ∨ n ∉ nodes) := by
  rw [foldl_modify_pred _ (y ∈ ·.cols) (· ∧ y ≠ i) (fun x => mem_setDiscard x.cols i y)
    (fun _ => and_self_right) nodes N hb n]
  by_cases hn : n ∈ nodes
  · simp only [hn, if_true, not_true_eq_false, or_false]
  · simp only [hn, if_false, not_false_eq_true, or_true, and_true]

theorem deleteColumn_inv0 {g g' : Geo} {name : Name} (hd : g.deleteColumn name = .ok g') (h : Inv0 g) : Inv0 g' := by
  unfold deleteColumn at hd
  cases hk : g.columnD.get? name with
  | none => rw [hk] at hd; cases hd
  | some i =>
    rw [hk] at hd
    simp only at hd
    obtain ⟨g1, hf1, hd⟩ := bind_ok hd
    have hil : i ∈ g.columnlist := regOK_mem h.cols.reg hk
    -- step 1: the connections of the column
    obtain ⟨h1, hcl1, hcd1, hK, hmem1⟩ := deleteConns_fold _ g g1 hf1 h
      (h.cons.nodup.sublist List.filter_sublist) (fun k hk' => (List.mem_filter.mp hk').1)
    have hnotouch : ∀ k ∈ g1.connlist, (g1.con k).c0 ≠ i ∧ (g1.con k).c1 ≠ i := by
      intro k hk'
      have := (hmem1 k).mp hk'
      simp only [Geo.con, hK]
      have hnf : ¬((g.con k).c0 = i ∨ (g.con k).c1 = i) := fun hor =>
        this.2 (List.mem_filter.mpr ⟨this.1, by simpa using hor⟩)
      exact ⟨fun e => hnf (Or.inl e), fun e => hnf (Or.inr e)⟩
    have hil1 : i ∈ g1.columnlist := hcl1 ▸ hil
    -- step 2: the neighbour loop has nothing left to do
    have hnbrs : (g1.col i).nbrs = [] :=
      List.eq_nil_iff_forall_not_mem.mpr fun d hdm => not_joined hnotouch d ((h1.nbrs i hil1 d).mp hdm)
    rw [hnbrs] at hd
    simp only [List.foldlM_nil, pure_bind] at hd
    -- step 3: the nodes forget the column
    obtain ⟨g3, hf3, hd⟩ := bind_ok hd
    obtain rfl := removeCols_fold i _ g1 g3 hf3
    -- step 4: dictionary and list
    rw [listRemove_ok_iff.mpr ⟨hil1, rfl⟩] at hd
    cases hd
    have hN := fun {β} (π : Node → β) (hπ : ∀ nd s, π { nd with cols := s } = π nd) =>
      foldl_modify_proj (fun nd : Node => { nd with cols := setDiscard nd.cols i }) π (fun _ => hπ _ _)
        (g1.col i).nodes g1.N
    exact { h1 with
      nodes := h1.nodes.congr (foldl_modify_size _ _ _) fun n _ => hN (·.name) (fun _ _ => rfl) n
      cols := h1.cols.erase (hcd1 ▸ hk)
      colNodes := fun c hc => h1.colNodes c (List.mem_of_mem_erase hc)
      nodeCols := fun n hn => cached_erase (h1.nodeCols n hn) h1.cols.nodup
        (fun y => mem_cols_after_remove i _ g1.N n y fun m hm => h1.nodes.lt m (h1.colNodes i hil1 m hm))
      conEnds := fun k hk' => ⟨h1.cols.mem_erase.mpr ⟨(hnotouch k hk').1, (h1.conEnds k hk').1⟩,
        h1.cols.mem_erase.mpr ⟨(hnotouch k hk').2, (h1.conEnds k hk').2⟩⟩
      colCons := fun c hc => h1.colCons c (List.mem_of_mem_erase hc)
      nbrs := fun c hc => h1.nbrs c (List.mem_of_mem_erase hc)
      orient := by
        intro c hc
        simp only [Geo.polygon, Geo.node, hN (·.pos) fun _ _ => rfl]
        exact h1.orient c (List.mem_of_mem_erase hc) }

end Proofs.Geo
