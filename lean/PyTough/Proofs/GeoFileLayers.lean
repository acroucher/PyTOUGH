/-
  C03 proofs: LAYERS (each layer's default centre depends on the layer read before it; afterwards tops
  and default surfaces are set; names, bottoms and number of the re-read layers) and SURFA (each record
  updates the column it names).
-/
import PyTough.Proofs.GeoFileLines
namespace Proofs.GeoFile
open Py Model Model.GeoFile Proofs

/-! ### LAYERS -/

def layerItems (s : Rat) (l : GLayer) : List Item := [nameItem l.name, coordItem 2 s l.bottom, coordItem 2 s l.centre]

structure LayerOK (LL : Nat) (s : Rat) (l : GLayer) : Prop where
  name : NameShape LL l.name
  b : fitsC 2 s l.bottom = true
  c : fitsC 2 s l.centre = true

theorem layerItems_ok {LL : Nat} {s : Rat} {l : GLayer} (hLL : LL ≤ 3) (h : LayerOK LL s l) : ItemsOK (layerItems s l) :=
  itemsOK_cons (nameItem_ok hLL h.name) (itemsOK_cons (coordItem_ok h.b) (itemsOK_cons (coordItem_ok h.c) itemsOK_nil))

theorem layerLine_eq {LL : Nat} {s : Rat} {l : GLayer} (hLL : LL ≤ 3) (h : LayerOK LL s l) :
    layerLine SP s l = .ok (recText (layerItems s l) ++ ['\n']) :=
  lineOf_items (layerItems s l) rfl rfl (layerItems_ok hLL h)

/-- `layerStep` on the record of `l`, its name not read before -/
def layerAdd (s : Rat) (g : Geo) (l : GLayer) : Geo := { g with layers := g.layers ++ [canonLayerAt s g.layers.getLast? l] }

theorem layerStep_line {LL : Nat} {s : Rat} {l : GLayer} (hLL : LL ≤ 3) (h : LayerOK LL s l) (g : Geo)
    (hfresh : l.name ∉ g.layers.map (·.name)) (tail : Str) :
    layerStep SP LL s g (recText (layerItems s l) ++ tail) = .ok (layerAdd s g l) := by
  unfold layerStep
  rw [parse_items (fs := SP.layer) (layerItems s l) rfl (layerItems_ok hLL h) tail]
  -- `read_layers` inspects the parsed centre itself, so the coordinate items are unfolded here
  simp only [layerItems, coordItem, fItem, List.map_cons, List.map_nil, strOf_nameItem, fltOf_fin, ofFVal_fin, ← roundF.eq_1,
    bind, Except.bind, pure, Except.pure, fixName_ljust h.name, lookupLayer_none hfresh, Option.isNone_some, Option.isSome_none,
    Bool.false_eq_true, if_false]
  unfold layerAdd canonLayerAt defaultCentre canonC
  by_cases ht : (roundF 2 (l.centre.div s)).truthy = true
  · simp only [ht, if_true]
  · simp only [ht, Bool.false_eq_true, if_false]

theorem foldl_layers (s : Rat) (ls : List GLayer) (g : Geo) :
    ls.foldl (layerAdd s) g = { g with layers := g.layers ++ canonLayersAux s g.layers.getLast? ls } := by
  induction ls generalizing g with
  | nil => simp [canonLayersAux]
  | cons l r ih =>
    rw [List.foldl_cons, ih]
    simp only [layerAdd, List.getLast?_concat, canonLayersAux, List.append_assoc, List.singleton_append]

theorem layerTops_map {α : Type} (f : GLayer → α) (hf : ∀ (l : GLayer) (t' : Flt), f { l with top := t' } = f l) :
    ∀ (ls : List GLayer) (t : Flt), (layerTops t ls).map f = ls.map f := by
  intro ls
  induction ls with
  | nil => intro _; rfl
  | cons l r ih => intro t; simp only [layerTops, List.map_cons, hf, ih]

theorem canonLayersAux_name_bottom (s : Rat) : ∀ (ls : List GLayer) (above : Option GLayer),
    (canonLayersAux s above ls).map (fun l => (l.name, l.bottom)) = ls.map (fun l => (l.name, canonC 2 s l.bottom)) := by
  intro ls
  induction ls with
  | nil => intro _; rfl
  | cons l r ih => intro above; simp only [canonLayersAux, List.map_cons, ih]; rfl

theorem canonLayers_cons (s : Rat) (l0 : GLayer) (r : List GLayer) :
    canonLayers s (l0 :: r) = layerTops (canonC 2 s l0.bottom) (canonLayersAux s none (l0 :: r)) := rfl

theorem canonLayers_name_bottom (s : Rat) (ls : List GLayer) :
    (canonLayers s ls).map (fun l => (l.name, l.bottom)) = ls.map (fun l => (l.name, canonC 2 s l.bottom)) := by
  cases ls with
  | nil => rfl
  | cons l0 r => rw [canonLayers_cons, layerTops_map _ (fun _ _ => rfl), canonLayersAux_name_bottom]

/-- lists with the same image correspond pair by pair -/
theorem zip_of_map_eq {α β γ : Type} {f : α → γ} {g : β → γ} : ∀ {as : List α} {bs : List β}, bs.map g = as.map f →
    ∀ p ∈ as.zip bs, g p.2 = f p.1
  | [], _, _ => nofun
  | _ :: _, [], _ => nofun
  | a :: as, b :: bs, h => by
    rw [List.map_cons, List.map_cons, List.cons.injEq] at h
    exact List.forall_mem_cons.mpr ⟨h.1, zip_of_map_eq h.2⟩

theorem zip_canonLayers (s : Rat) (ls : List GLayer) :
    ∀ p ∈ ls.zip (canonLayers s ls), p.2.name = p.1.name ∧ p.2.bottom = canonC 2 s p.1.bottom :=
  fun p hp => Prod.mk.inj (zip_of_map_eq (canonLayers_name_bottom s ls) p hp)

theorem canonLayersAux_names (s : Rat) (ls : List GLayer) (above : Option GLayer) :
    (canonLayersAux s above ls).map (·.name) = ls.map (·.name) := by
  simpa [List.map_map, Function.comp_def] using congrArg (List.map Prod.fst) (canonLayersAux_name_bottom s ls above)

theorem canonLayers_length (s : Rat) (ls : List GLayer) : (canonLayers s ls).length = ls.length := by
  simpa using congrArg List.length (canonLayers_name_bottom s ls)

/-- what `set_default_surface` does to a column, `layers'` being the layers just read -/
def defaultOn (layers' : List GLayer) (c : GColumn) : GColumn :=
  { c with surface := layers'.head?.map (·.bottom), defaultSurface := true, numLayers := (layers'.length : Int) - 1 }

theorem readSection_layer {g : Geo} {L LL : Nat} {s : Rat} (env : Env g L LL s) (ls : List GLayer)
    (hg : g.layers = []) (hne : ls ≠ [])
    (hok : ∀ l ∈ ls, LayerOK LL s l) (hd : (ls.map (·.name)).Nodup) (tail : List Str) :
    readSection SP .layer g (recTextLines (layerItems s) ls ++ ['\n'] :: tail)
      = .ok ({ g with layers := canonLayers s ls, columns := g.columns.map (defaultOn (canonLayers s ls)) }, tail) := by
  obtain ⟨l0, r, hls⟩ := List.exists_cons_of_ne_nil hne
  have haux : canonLayersAux s none ls = canonLayerAt s none l0 :: canonLayersAux s (some (canonLayerAt s none l0)) r := by
    rw [hls]; rfl
  have hcl : canonLayers s ls = layerTops (canonLayerAt s none l0).bottom (canonLayersAux s none ls) :=
    hls ▸ canonLayers_cons s l0 r
  unfold readSection
  simp only [env.cl, env.ll, env.sc, bind, Except.bind]
  have := simpleSection (layerStep SP LL s) (layerAdd s)
    (layerItems s) ls g tail (by
      intro pre a post e
      have ha : LayerOK LL s a := hok a (by rw [e]; simp)
      refine ⟨nonblank_of_name ha.name _, fun extra => ?_⟩
      have hst : (pre.foldl (layerAdd s) g).layers.map (·.name) = pre.map (·.name) := by
        rw [foldl_layers, hg]
        simp only [List.nil_append, canonLayersAux_names]
      apply layerStep_line env.hLL ha
      rw [hst]
      rw [e, List.map_append, List.map_cons] at hd
      exact not_mem_of_nodup_append_cons hd)
  rw [this, foldl_layers, hg]
  simp only [List.nil_append, List.getLast?_nil]
  -- `finishLayers` on the layers just read: tops counted from the first bottom (`hcl`), every column set to the default surface
  unfold finishLayers defaultOn
  simp only [haux]
  rw [hcl, haux]
  rfl

/-! ### SURFA -/

def surfItems (s : Rat) (name : Str) (z : Flt) : List Item := [nameItem name, coordItem 2 s z]

theorem surfItems_ok {L : Nat} {s : Rat} {name : Str} {z : Flt} (hL : L ≤ 3) (hn : NameShape L name)
    (hz : fitsC 2 s z = true) : ItemsOK (surfItems s name z) :=
  itemsOK_cons (nameItem_ok hL hn) (itemsOK_cons (coordItem_ok hz) itemsOK_nil)

theorem surfaceStep_line {L : Nat} {s : Rat} {name : Str} {z : Flt} (hL : L ≤ 3) (hn : NameShape L name)
    (hz : fitsC 2 s z = true) (g : Geo) (hc : (lookupColumn g.columns name).isSome = true) (tail : Str) :
    surfaceStep SP L s g (recText (surfItems s name z) ++ tail) = .ok (setSurface g name (canonC 2 s z)) := by
  unfold surfaceStep
  rw [parse_items (fs := SP.surface) (surfItems s name z) rfl (surfItems_ok hL hn hz) tail]
  simp only [surfItems, List.map_cons, List.map_nil, strOf_nameItem, fltOf_coordItem, bind, Except.bind,
    pure, Except.pure, fixName_ljust hn]
  obtain ⟨c, hl⟩ := Option.isSome_iff_exists.mp hc
  rw [hl]
  rfl

theorem surfaceLine_eq {L : Nat} {s : Rat} {c : GColumn} {z : Flt} (hL : L ≤ 3) (hn : NameShape L c.name)
    (hs : c.surface = some z) (hz : fitsC 2 s z = true) :
    surfaceLine SP s c = .ok (recText (surfItems s c.name z) ++ ['\n']) := by
  unfold surfaceLine
  rw [hs]
  exact lineOf_items (surfItems s c.name z) rfl rfl (surfItems_ok hL hn hz)

/-- what `read_surface` does to the column named in a record -/
def surfUpd (layers : List GLayer) (z : Flt) (c : GColumn) : GColumn :=
  { c with surface := some z, defaultSurface := false, numLayers := columnNumLayers layers z }

def applySurf (layers : List GLayer) (items : List (Str × Flt)) (c : GColumn) : GColumn :=
  match items.lookup c.name with
  | some z => surfUpd layers z c
  | none => c

theorem setSurface_eq (g : Geo) (name : Str) (z : Flt) :
    setSurface g name z = { g with columns := g.columns.map fun c => if c.name = name then surfUpd g.layers z c else c } := rfl

theorem foldl_setSurface : ∀ (items : List (Str × Flt)) (g : Geo), (items.map (·.1)).Nodup →
    items.foldl (fun g nz => setSurface g nz.1 nz.2) g
      = { g with columns := g.columns.map (applySurf g.layers items) } := by
  intro items
  induction items with
  | nil =>
    intro g _
    rw [List.foldl_nil, List.map_id'' (f := applySurf g.layers []) fun _ => rfl]
  | cons nz r ih =>
    intro g hd
    rw [List.map_cons, List.nodup_cons] at hd
    rw [List.foldl_cons, ih _ hd.2, setSurface_eq]
    simp only [List.map_map]
    congr 1
    apply List.map_congr_left
    intro c _
    simp only [Function.comp, applySurf]
    rw [List.lookup_cons]
    by_cases hc : c.name = nz.1
    · -- the column the first record names: no later record names it
      rw [if_pos hc, beq_iff_eq.mpr hc, show (surfUpd g.layers nz.2 c).name = nz.1 from hc,
        lookup_eq_none_of_not_mem hd.1]
    · rw [if_neg hc, beq_false_of_ne hc]

/-- the record `write_surface` writes for a column: none for a default surface -/
def surfPair (c : GColumn) : Option (Str × Flt) :=
  if c.defaultSurface then none else c.surface.map fun z => (c.name, z)

def surfPairs (cs : List GColumn) : List (Str × Flt) := cs.filterMap surfPair

theorem surfPair_eq_some {c : GColumn} {nz : Str × Flt} (h : surfPair c = some nz) :
    c.defaultSurface = false ∧ c.surface = some nz.2 ∧ c.name = nz.1 := by
  unfold surfPair at h
  cases hd : c.defaultSurface with
  | true => rw [hd] at h; cases h
  | false =>
    cases hz : c.surface with
    | none => rw [hd, hz] at h; cases h
    | some z => rw [hd, hz] at h; cases h; exact ⟨rfl, rfl, rfl⟩

theorem surfPairs_nodup {cs : List GColumn} (hd : (cs.map (·.name)).Nodup) : ((surfPairs cs).map (·.1)).Nodup := by
  rw [List.Nodup, List.pairwise_map] at hd ⊢
  refine List.Pairwise.filterMap _ (fun c c' hne nz hnz nz' hnz' => ?_) hd
  rw [← (surfPair_eq_some hnz).2.2, ← (surfPair_eq_some hnz').2.2]
  exact hne

def canonPair (s : Rat) (nz : Str × Flt) : Str × Flt := (nz.1, canonC 2 s nz.2)

def surfTextLines (s : Rat) (cs : List GColumn) : List Str :=
  recTextLines (fun nz => surfItems s nz.1 nz.2) (surfPairs cs)

theorem setSurface_names (g : Geo) (name : Str) (z : Flt) :
    (setSurface g name z).columns.map (·.name) = g.columns.map (·.name) := by
  rw [setSurface_eq]
  simp only [List.map_map]
  apply List.map_congr_left
  intro c _
  simp only [Function.comp]
  split <;> rfl

theorem readSection_surfa {g : Geo} {L LL : Nat} {s : Rat} (env : Env g L LL s) (cs : List GColumn)
    (hok : ∀ nz ∈ surfPairs cs, NameShape L nz.1 ∧ fitsC 2 s nz.2 = true ∧ nz.1 ∈ g.columns.map (·.name))
    (hd : (cs.map (·.name)).Nodup) (tail : List Str) :
    readSection SP .surfa g (surfTextLines s cs ++ ['\n'] :: tail)
      = .ok ({ g with columns := g.columns.map (applySurf g.layers ((surfPairs cs).map (canonPair s))) }, tail) := by
  unfold readSection
  simp only [env.cl, env.ll, env.sc, bind, Except.bind]
  have := simpleSection (surfaceStep SP L s) (fun g nz => setSurface g nz.1 (canonC 2 s nz.2))
    (fun nz => surfItems s nz.1 nz.2) (surfPairs cs) g tail (by
      intro pre a post e
      obtain ⟨h1, h2, h3⟩ := hok a (by rw [e]; simp)
      refine ⟨nonblank_of_name h1 _, fun extra => ?_⟩
      apply surfaceStep_line env.hL h1 h2
      rw [lookupColumn_isSome, foldl_keeps (fun g : Geo => g.columns.map (·.name)) fun g (nz : Str × Flt) =>
        setSurface_names g nz.1 (canonC 2 s nz.2)]
      exact h3)
  unfold surfTextLines
  rw [this]
  have e : (surfPairs cs).foldl (fun g nz => setSurface g nz.1 (canonC 2 s nz.2)) g
      = ((surfPairs cs).map (canonPair s)).foldl (fun g nz => setSurface g nz.1 nz.2) g := by
    rw [List.foldl_map]; rfl
  rw [e, foldl_setSurface]
  rw [List.map_map]
  exact surfPairs_nodup hd

end Proofs.GeoFile
