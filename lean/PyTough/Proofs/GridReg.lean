/-
  A registry: an ordered list of objects and a dictionary keyed by a name function.  The grid has
  three of them (rock types, blocks, connections); what `add_*`, `del`, renaming one object, a
  permutation of the list and rebuilding the dictionary do to a registry is proved here once.
-/
import PyTough.Proofs.GridBasics
namespace Proofs.Grid
open Py Model Model.Grid Model.Grid.World

structure Reg (κ : Type) where
  list : List Nat
  dict : Dict κ Nat

structure RegInv {κ : Type} [DecidableEq κ] (key : Nat → κ) (R : Reg κ) : Prop where
  nodup : R.list.Nodup
  sound : ∀ k x, dget R.dict k = some x → x ∈ R.list ∧ key x = k
  complete : ∀ x ∈ R.list, dget R.dict (key x) = some x

section
variable {κ : Type} [DecidableEq κ] {key key' : Nat → κ} {R : Reg κ}

theorem RegInv.nil (key : Nat → κ) : RegInv key ⟨[], []⟩ :=
  ⟨List.nodup_nil, fun _ _ h => (nomatch h), fun _ h => (nomatch h)⟩

theorem RegInv.key_inj (h : RegInv key R) {x y : Nat}
    (hx : x ∈ R.list) (hy : y ∈ R.list) (e : key x = key y) : x = y := by
  have h1 := h.complete x hx
  rw [e, h.complete y hy] at h1; exact (Option.some.inj h1).symm

theorem RegInv.dget_iff (h : RegInv key R) (k : κ) (x : Nat) : dget R.dict k = some x ↔ x ∈ R.list ∧ key x = k :=
  ⟨h.sound k x, fun ⟨hx, e⟩ => e ▸ h.complete x hx⟩

theorem RegInv.key_eq_iff (h : RegInv key R) {x : Nat} (hx : x ∈ R.list) (k : κ) :
    key x = k ↔ dget R.dict k = some x :=
  ⟨fun e => e ▸ h.complete x hx, fun hd => (h.sound k x hd).2⟩

theorem RegInv.exists_iff (h : RegInv key R) (k : κ) (P : Nat → Prop) :
    (∃ x ∈ R.list, key x = k ∧ P x) ↔ ∃ x, dget R.dict k = some x ∧ P x :=
  ⟨fun ⟨x, hx, e, p⟩ => ⟨x, e ▸ h.complete x hx, p⟩,
   fun ⟨x, hd, p⟩ => ⟨x, (h.sound k x hd).1, (h.sound k x hd).2, p⟩⟩

/-- `l.index(d[k])` -/
theorem RegInv.index_spec (h : RegInv key R) (k : κ) :
    (dget R.dict k = none ∧ ∀ x ∈ R.list, key x ≠ k) ∨
    ∃ x i, dget R.dict k = some x ∧ indexOf? R.list x = some i ∧ R.list[i]? = some x ∧ key x = k := by
  cases hd : dget R.dict k with
  | none =>
    refine Or.inl ⟨rfl, fun x hx e => ?_⟩
    have := h.complete x hx
    rw [e, hd] at this; cases this
  | some x =>
    obtain ⟨i, hi⟩ := indexOf?_of_mem (h.sound k x hd).1
    exact Or.inr ⟨x, i, rfl, hi, indexOf?_some hi, (h.sound k x hd).2⟩

theorem RegInv.congr (h : RegInv key R) (e : ∀ x ∈ R.list, key' x = key x) : RegInv key' R :=
  ⟨h.nodup, fun k x hx => ⟨(h.sound k x hx).1, (e x (h.sound k x hx).1).trans (h.sound k x hx).2⟩,
   fun x hx => by rw [e x hx]; exact h.complete x hx⟩

theorem RegInv.relist (h : RegInv key R) {l : List Nat} (hp : l.Perm R.list) : RegInv key ⟨l, R.dict⟩ :=
  ⟨hp.nodup_iff.mpr h.nodup, fun k x hx => ⟨hp.mem_iff.mpr (h.sound k x hx).1, (h.sound k x hx).2⟩,
   fun x hx => h.complete x (hp.mem_iff.mp hx)⟩

theorem RegInv.dict_ext (h : RegInv key R) {d : Dict κ Nat} (e : ∀ k, dget d k = dget R.dict k) :
    RegInv key ⟨R.list, d⟩ :=
  ⟨h.nodup, fun k x hx => h.sound k x ((e k).symm.trans hx), fun x hx => (e _).trans (h.complete x hx)⟩

/-- `d[key x] = x` -/
theorem RegInv.insert (h : RegInv key R) {x : Nat} {l : List Nat} (hn : l.Nodup)
    (hm : ∀ y, y ∈ l ↔ y = x ∨ (y ∈ R.list ∧ key y ≠ key x)) : RegInv key ⟨l, dset R.dict (key x) x⟩ := by
  refine ⟨hn, fun k y hy => ?_, fun y hy => ?_⟩
  · rw [dget_dset] at hy
    split at hy
    · rename_i hk; cases hy; exact ⟨(hm _).mpr (Or.inl rfl), hk⟩
    · rename_i hk
      have := h.sound k y hy
      exact ⟨(hm y).mpr (Or.inr ⟨this.1, fun e => hk (e.symm.trans this.2)⟩), this.2⟩
  · show dget (dset R.dict (key x) x) (key y) = some y
    rcases (hm y).mp hy with rfl | ⟨hy', hne⟩
    · exact dget_dset_self ..
    · rw [dget_dset_ne _ _ (Ne.symm hne)]; exact h.complete y hy'

/-- `del d[k]; l.remove(d[k])` -/
theorem RegInv.erase (h : RegInv key R) {k : κ} {x : Nat} (hd : dget R.dict k = some x) :
    RegInv key ⟨R.list.erase x, ddel R.dict k⟩ := by
  have hx := h.sound k x hd
  refine ⟨h.nodup.erase _, fun k' y hy => ?_, fun y hy => ?_⟩
  · rw [dget_ddel] at hy
    split at hy
    · cases hy
    · rename_i hne
      have := h.sound k' y hy
      exact ⟨(h.nodup.mem_erase_iff).mpr ⟨fun e => hne (hx.2.symm.trans (e ▸ this.2)), this.1⟩, this.2⟩
  · have hy' := (h.nodup.mem_erase_iff).mp hy
    show dget (ddel R.dict k) (key y) = some y
    rw [dget_ddel_ne _ fun e => hy'.1 (h.key_inj hy'.2 hx.1 (e.symm.trans hx.2.symm))]
    exact h.complete y hy'.2

/-- `del d[a]; d[b] = x` -/
theorem RegInv.rekey (h : RegInv key R) {a b : κ} {x : Nat} (ha : dget R.dict a = some x) (hb : dget R.dict b = none)
    (hx : key' x = b) (he : ∀ y ∈ R.list, y ≠ x → key' y = key y) : RegInv key' ⟨R.list, dset (ddel R.dict a) b x⟩ := by
  have hxa := h.sound a x ha
  refine ⟨h.nodup, fun k y hy => ?_, fun y hy => ?_⟩
  · rw [dget_dset] at hy
    split at hy
    · rename_i hk; cases hy; exact ⟨hxa.1, hx.trans hk⟩
    · rw [dget_ddel] at hy
      split at hy
      · cases hy
      · rename_i hna
        have := h.sound k y hy
        exact ⟨this.1, (he y this.1 fun e => hna (hxa.2.symm.trans (e ▸ this.2))).trans this.2⟩
  · show dget (dset (ddel R.dict a) b x) (key' y) = some y
    by_cases e : y = x
    · subst e; rw [hx]; exact dget_dset_self ..
    · have hy' := h.complete y hy
      have hby : b ≠ key y := fun e2 => by rw [← e2, hb] at hy'; cases hy'
      have hay : a ≠ key y := fun e2 => e (h.key_inj hy hxa.1 (e2.symm.trans hxa.2.symm))
      rw [he y hy e, dget_dset_ne _ _ hby, dget_ddel_ne _ hay]
      exact hy'

/-- `d = {}; for x in l: d[key x] = x` -/
theorem RegInv.build {key : Nat → κ} {l : List Nat} (hn : l.Nodup) (hinj : ∀ x ∈ l, ∀ y ∈ l, key x = key y → x = y) :
    RegInv key ⟨l, l.foldl (fun d x => dset d (key x) x) []⟩ := by
  have hb : ∀ k x, dget (l.foldl (fun d x => dset d (key x) x) []) k = some x ↔ x ∈ l ∧ key x = k := by
    intro k x; refine (dget_build key id l [] hinj k x).trans ?_; simp
  exact ⟨hn, fun k x hx => (hb k x).mp hx, fun x hx => (hb _ x).mpr ⟨hx, rfl⟩⟩

/-- the common shape of `add_rocktype`, `add_block` and the list/dictionary part of `add_connection` -/
def Reg.add (key : Nat → κ) (R : Reg κ) (x : Nat) : Option (Reg κ) :=
  match dget R.dict (key x) with
  | some old =>
    match replaceFirst R.list old x with
    | none => none
    | some l => some ⟨l, dset R.dict (key x) x⟩
  | none => some ⟨R.list ++ [x], dset R.dict (key x) x⟩

theorem Reg.add_fresh {x : Nat} (h : dget R.dict (key x) = none) :
    Reg.add key R x = some ⟨R.list ++ [x], dset R.dict (key x) x⟩ := by
  simp only [Reg.add, h]

theorem Reg.add_spec (h : RegInv key R) {x : Nat} (hx : x ∉ R.list) :
    ∃ l, Reg.add key R x = some ⟨l, dset R.dict (key x) x⟩ ∧ RegInv key ⟨l, dset R.dict (key x) x⟩ ∧
      (∀ y, y ∈ l ↔ y = x ∨ (y ∈ R.list ∧ key y ≠ key x)) ∧
      (dget R.dict (key x) = none → l = R.list ++ [x]) := by
  suffices ∃ l, Reg.add key R x = some ⟨l, dset R.dict (key x) x⟩ ∧ l.Nodup ∧
      (∀ y, y ∈ l ↔ y = x ∨ (y ∈ R.list ∧ dget R.dict (key x) ≠ some y)) ∧
      (dget R.dict (key x) = none → l = R.list ++ [x]) by
    obtain ⟨l, e, hn, hm, ha⟩ := this
    have hm' : ∀ y, y ∈ l ↔ y = x ∨ (y ∈ R.list ∧ key y ≠ key x) := fun y => by
      rw [hm]; exact or_congr_right (and_congr_right fun hy => not_congr (h.key_eq_iff hy _).symm)
    exact ⟨l, e, h.insert hn hm', hm', ha⟩
  unfold Reg.add
  cases hd : dget R.dict (key x) with
  | none =>
    refine ⟨_, rfl, by simpa only [sadd, if_neg hx] using nodup_sadd x h.nodup, fun y => ?_, fun _ => rfl⟩
    simp only [List.mem_append, List.mem_singleton, ne_eq, reduceCtorEq, not_false_eq_true, and_true]
    exact Or.comm
  | some old =>
    obtain ⟨l, e, hn, hm⟩ := replaceFirst_spec h.nodup (h.sound _ _ hd).1 hx
    refine ⟨l, by simp only [e], hn, fun y => ?_, fun e => (nomatch e)⟩
    rw [hm]
    exact or_congr_right (and_congr_right fun _ => not_congr ⟨fun e => e ▸ rfl, fun e => (Option.some.inj e).symm⟩)

theorem Reg.add_again (h : RegInv key R) {x : Nat} (hx : x ∈ R.list) :
    Reg.add key R x = some ⟨R.list, dset R.dict (key x) x⟩ ∧ RegInv key ⟨R.list, dset R.dict (key x) x⟩ := by
  have hd := h.complete x hx
  refine ⟨by simp only [Reg.add, hd, replaceFirst_self hx], h.dict_ext fun k => ?_⟩
  rw [dget_dset]
  split
  · rename_i e; rw [← e, hd]
  · rfl

/-- the loop `for x in l: add(x)` of `__add__` on one registry -/
def Reg.addAll (key : Nat → κ) : Reg κ → List Nat → Option (Reg κ)
  | R, [] => some R
  | R, x :: r =>
    match Reg.add key R x with
    | none => none
    | some R1 => Reg.addAll key R1 r

theorem Reg.addAll_spec (l : List Nat) :
    ∀ {R : Reg κ}, RegInv key R → l.Nodup → (∀ x ∈ l, x ∉ R.list) →
    (∀ x ∈ l, ∀ y ∈ l, key x = key y → x = y) →
    ∃ R', Reg.addAll key R l = some R' ∧ RegInv key R' ∧
      (∀ y, y ∈ R'.list ↔ y ∈ l ∨ (y ∈ R.list ∧ ∀ x ∈ l, key y ≠ key x)) := by
  induction l with
  | nil =>
    intro R h _ _ _
    exact ⟨R, rfl, h, by simp⟩
  | cons a r ih =>
    intro R h hn hdisj hinj
    have ⟨har, hr⟩ := List.nodup_cons.mp hn
    obtain ⟨l1, e1, hI1, hm1, _⟩ := Reg.add_spec h (hdisj a List.mem_cons_self)
    have hdisj1 : ∀ x ∈ r, x ∉ l1 := fun x hx hx1 =>
      ((hm1 x).mp hx1).elim (fun e => har (e ▸ hx)) (fun h2 => hdisj x (List.mem_cons_of_mem _ hx) h2.1)
    obtain ⟨R2, e2, hI2, hm2⟩ := ih hI1 hr hdisj1
      (fun x hx y hy => hinj x (List.mem_cons_of_mem _ hx) y (List.mem_cons_of_mem _ hy))
    refine ⟨R2, by simp only [Reg.addAll, e1, e2], hI2, fun y => ?_⟩
    rw [hm2]
    show y ∈ r ∨ (y ∈ l1 ∧ _) ↔ _
    rw [hm1]
    constructor
    · rintro (hy | ⟨hy | ⟨hy, hne⟩, hall⟩)
      · exact Or.inl (List.mem_cons_of_mem _ hy)
      · exact Or.inl (hy ▸ List.mem_cons_self)
      · exact Or.inr ⟨hy, fun x hx => (List.mem_cons.mp hx).elim (fun e => e ▸ hne) (hall x)⟩
    · rintro (hy | ⟨hy, hall⟩)
      · rcases List.mem_cons.mp hy with e | hy
        · refine Or.inr ⟨Or.inl e, fun x hx e2 => ?_⟩
          have hax : a = x := e.symm.trans (hinj y (e ▸ List.mem_cons_self) x (List.mem_cons_of_mem _ hx) e2)
          exact har (hax ▸ hx)
        · exact Or.inl hy
      · exact Or.inr ⟨Or.inr ⟨hy, hall a List.mem_cons_self⟩, fun x hx => hall x (List.mem_cons_of_mem _ hx)⟩

end
end Proofs.Grid
