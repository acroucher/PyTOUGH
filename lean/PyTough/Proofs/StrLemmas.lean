/-
  Facts about the Python string primitives (`strip`, `replace`, `lower`, slices), the elimination rules
  that reduce a fact about every digit or every letter to a finite check (`isDigit_elim`, `lowerChar_elim`),
  and `parseDecimal` cut into stages (`parseDecimal_eq`).  Core Lean only.
-/
import PyTough.Py.Num
import PyTough.Proofs.ListLemmas
namespace Py

theorem span_loop_eq (p : Char → Bool) (l acc : Str) :
    List.span.loop p l acc = (acc.reverse ++ l.takeWhile p, l.dropWhile p) := by
  induction l generalizing acc with
  | nil => simp [List.span.loop]
  | cons x xs ih =>
    unfold List.span.loop
    cases hx : p x with
    | true => simp [ih, hx]
    | false => simp [hx]

theorem span_eq (p : Char → Bool) (l : Str) : l.span p = (l.takeWhile p, l.dropWhile p) := by
  unfold List.span; rw [span_loop_eq]; simp

theorem mem_takeWhile_imp {p : Char → Bool} {l : Str} {c : Char} (h : c ∈ l.takeWhile p) :
    p c = true :=
  List.all_eq_true.mp List.all_takeWhile c h

theorem mem_dropWhile_of_not {p : Char → Bool} {l : Str} {c : Char} (h : c ∈ l) (hc : p c = false) :
    c ∈ l.dropWhile p := by
  rw [← List.takeWhile_append_dropWhile (p := p) (l := l)] at h
  exact (List.mem_append.mp h).resolve_left fun ht => by rw [mem_takeWhile_imp ht] at hc; cases hc

theorem dropWhile_head {p : Char → Bool} {l : Str} (h : ∀ x r, l = x :: r → p x = false) :
    l.dropWhile p = l := by
  cases l with
  | nil => rfl
  | cons x xs => rw [List.dropWhile_cons]; simp [h x xs rfl]

theorem dropWhile_none {p : Char → Bool} {l : Str} (h : ∀ c ∈ l, p c = false) :
    l.dropWhile p = l :=
  dropWhile_head (fun x r e => h x (by rw [e]; exact List.mem_cons_self))

theorem rstripBy_prefix (p : Char → Bool) (l : Str) : rstripBy p l <+: l := by
  unfold rstripBy
  have h : l.reverse.dropWhile p <:+ l.reverse := List.dropWhile_suffix p
  have := List.reverse_prefix.mpr h
  simpa using this

theorem lstripBy_head (p : Char → Bool) (l : Str) (c : Char) (r : Str)
    (h : lstripBy p l = c :: r) : p c = false := by
  unfold lstripBy at h
  have hne : l.dropWhile p ≠ [] := by rw [h]; simp
  have := List.head_dropWhile_not p hne
  simpa [h] using this

theorem stripBy_head (p : Char → Bool) (l : Str) (c : Char) (r : Str)
    (h : stripBy p l = c :: r) : p c = false := by
  unfold stripBy at h
  have hp := rstripBy_prefix p (lstripBy p l)
  rw [h] at hp
  obtain ⟨t, ht⟩ := hp
  exact lstripBy_head p l c (r ++ t) (by rw [← ht]; simp)

theorem stripBy_sublist (p : Char → Bool) (l : Str) : (stripBy p l).Sublist l := by
  unfold stripBy
  exact ((rstripBy_prefix p _).sublist).trans (List.dropWhile_sublist p)

theorem mem_of_mem_stripBy {p : Char → Bool} {l : Str} {c : Char} (h : c ∈ stripBy p l) : c ∈ l :=
  (stripBy_sublist p l).subset h

theorem mem_stripBy_of_not {p : Char → Bool} {l : Str} {c : Char} (h : c ∈ l) (hc : p c = false) :
    c ∈ stripBy p l := by
  unfold stripBy rstripBy lstripBy
  exact List.mem_reverse.mpr
    (mem_dropWhile_of_not (List.mem_reverse.mpr (mem_dropWhile_of_not h hc)) hc)

theorem stripBy_all (p : Char → Bool) (l : Str) (h : ∀ c ∈ l, p c = true) : stripBy p l = [] := by
  unfold stripBy lstripBy
  rw [Proofs.dropWhile_eq_nil_iff.mpr h]
  rfl

theorem stripBy_none {p : Char → Bool} {l : Str} (h : ∀ c ∈ l, p c = false) : stripBy p l = l := by
  unfold stripBy rstripBy lstripBy
  rw [dropWhile_none h, dropWhile_none (l := l.reverse) (by simpa using h)]; simp

theorem stripBy_decomp (p : Char → Bool) (l : Str) :
    ∃ a b, l = a ++ stripBy p l ++ b ∧ (∀ c ∈ a, p c = true) ∧ (∀ c ∈ b, p c = true) := by
  refine ⟨l.takeWhile p, ((l.dropWhile p).reverse.takeWhile p).reverse, ?_, ?_, ?_⟩
  · unfold stripBy rstripBy lstripBy
    have h1 : (List.dropWhile p (List.dropWhile p l).reverse).reverse ++
        (List.takeWhile p (List.dropWhile p l).reverse).reverse = l.dropWhile p := by
      rw [← List.reverse_append, List.takeWhile_append_dropWhile, List.reverse_reverse]
    rw [List.append_assoc, h1, List.takeWhile_append_dropWhile]
  · intro c hc; exact mem_takeWhile_imp hc
  · intro c hc; exact mem_takeWhile_imp (List.mem_reverse.mp hc)

theorem stripBy_around {p : Char → Bool} {a core b : Str} (ha : ∀ c ∈ a, p c = true) (hb : ∀ c ∈ b, p c = true)
    (hh : ∀ x, core.head? = some x → p x = false) (hl : ∀ x, core.getLast? = some x → p x = false) :
    stripBy p (a ++ core ++ b) = core := by
  cases core with
  | nil =>
    exact stripBy_all p _ fun c hc => by
      rcases List.mem_append.mp hc with hc | hc
      · exact ha c (by simpa using hc)
      · exact hb c hc
  | cons x r =>
    unfold stripBy lstripBy rstripBy
    rw [List.append_assoc, List.dropWhile_append_of_pos ha,
      dropWhile_head (l := x :: r ++ b) (fun y t e => hh y (by rw [(List.cons.inj e).1]; rfl)),
      List.reverse_append, List.dropWhile_append_of_pos (fun c hc => hb c (List.mem_reverse.mp hc))]
    exact Proofs.dropWhile_reverse_of_last hl

theorem spaces_ws (n : Nat) : ∀ c ∈ List.replicate n ' ', isStrWs c = true :=
  List.forall_mem_replicate.mpr (.inr (by decide))

theorem replaceChar_eq_flatMap (c : Char) (t l : Str) :
    replaceChar c t l = l.flatMap fun x => if x = c then t else [x] := by
  induction l with
  | nil => rfl
  | cons x xs ih =>
    rw [replaceChar, ih, List.flatMap_cons]
    split <;> rfl

theorem mem_replaceChar_of_ne {c x : Char} {t l : Str} (h : x ∈ l) (hx : x ≠ c) :
    x ∈ replaceChar c t l := by
  rw [replaceChar_eq_flatMap, List.mem_flatMap]
  exact ⟨x, h, by rw [if_neg hx]; exact List.mem_singleton_self x⟩

theorem mem_replaceChar_self {c y : Char} {t l : Str} (h : c ∈ l) (hy : y ∈ t) :
    y ∈ replaceChar c t l := by
  rw [replaceChar_eq_flatMap, List.mem_flatMap]
  exact ⟨c, h, by rw [if_pos rfl]; exact hy⟩

theorem mem_replaceChar {c x : Char} {t l : Str} (h : x ∈ replaceChar c t l) :
    x ∈ l ∨ x ∈ t := by
  rw [replaceChar_eq_flatMap, List.mem_flatMap] at h
  obtain ⟨y, hy, hx⟩ := h
  split at hx
  · exact Or.inr hx
  · exact Or.inl (List.mem_singleton.mp hx ▸ hy)

theorem replaceChar_append (c : Char) (t a b : Str) :
    replaceChar c t (a ++ b) = replaceChar c t a ++ replaceChar c t b := by
  rw [replaceChar_eq_flatMap, replaceChar_eq_flatMap, replaceChar_eq_flatMap, List.flatMap_append]

theorem replaceChar_of_not_mem {c : Char} {t l : Str} (h : c ∉ l) : replaceChar c t l = l := by
  induction l with
  | nil => simp [replaceChar]
  | cons x xs ih =>
    simp only [List.mem_cons, not_or] at h
    unfold replaceChar
    rw [if_neg (fun e => h.1 e.symm), ih h.2]

theorem replaceChar_at {c : Char} {t a b : Str} (ha : c ∉ a) (hb : c ∉ b) :
    replaceChar c t (a ++ c :: b) = a ++ (t ++ b) := by
  rw [replaceChar_append, replaceChar_of_not_mem ha]
  unfold replaceChar
  rw [if_pos rfl, replaceChar_of_not_mem hb]

theorem replaceChar_nil_eq_filter (c : Char) (l : Str) :
    replaceChar c [] l = l.filter (· != c) := by
  induction l with
  | nil => simp [replaceChar]
  | cons x xs ih =>
    unfold replaceChar
    by_cases hx : x = c
    · simp [hx, ih]
    · simp [hx, ih]

theorem filter_replaceChar {c x : Char} {t : Str} (hcx : c ≠ x) (ht : x ∉ t) (l : Str) :
    (replaceChar c t l).filter (· != x) = replaceChar c t (l.filter (· != x)) := by
  induction l with
  | nil => simp [replaceChar]
  | cons y ys ih =>
    by_cases hy : y = c
    · subst hy
      have : (y != x) = true := by simpa using hcx
      have ht' : t.filter (· != x) = t := by
        rw [List.filter_eq_self]; intro a ha
        have : a ≠ x := fun e => ht (e ▸ ha)
        simpa using this
      simp [replaceChar, this, ih, ht']
    · by_cases hyx : y = x
      · subst hyx
        simp [replaceChar, hy, ih]
      · simp [replaceChar, hy, hyx, ih]

theorem removeUnderscores_mem {c : Char} {l : Str} (h : c ∈ removeUnderscores l) : c ∈ l := by
  unfold removeUnderscores at h
  exact (List.mem_filter.mp h).1

theorem mem_removeUnderscores {c : Char} {l : Str} (h : c ∈ l) (hc : c ≠ '_') : c ∈ removeUnderscores l := by
  unfold removeUnderscores
  exact List.mem_filter.mpr ⟨h, by simpa using hc⟩

theorem filter_blank_self {l : Str} (h : ∀ c ∈ l, c ≠ ' ') : l.filter (· != ' ') = l := by
  rw [List.filter_eq_self]; intro c hc; simpa using h c hc

theorem slice_mid (a s b : Str) : slice (a ++ s ++ b) a.length (a.length + s.length) = s := by
  unfold slice
  rw [List.append_assoc, List.drop_left, Nat.add_sub_cancel_left, List.take_left]

theorem slice_tail (a t : Str) {w : Nat} (h : t.length ≤ w) : slice (a ++ t) a.length (a.length + w) = t := by
  unfold slice
  rw [List.drop_left, Nat.add_sub_cancel_left, List.take_of_length_le h]

theorem slice_past_end {l : Str} {i j : Nat} (h : l.length ≤ i) : slice l i j = [] := by
  unfold slice; rw [List.drop_of_length_le h, List.take_nil]

theorem slice_append_left (a b : Str) (n : Nat) (h : a.length = n) : slice (a ++ b) 0 n = a := by
  subst h
  simpa using slice_mid [] a b

theorem slice_zero_self (s : Str) (n : Nat) (h : s.length = n) : slice s 0 n = s := by
  have := slice_append_left s [] n h
  rwa [List.append_nil] at this

theorem slice_append_right (a b : Str) (n m k : Nat) (ha : a.length = n) (hb : b.length = m) (hk : k = n + m) :
    slice (a ++ b) n k = b := by
  subst ha hb hk
  exact slice_tail a b (Nat.le_refl _)

theorem isDigit_mem {c : Char} (h : isDigit c = true) :
    c ∈ ['0','1','2','3','4','5','6','7','8','9'] := by
  unfold isDigit at h
  simp only [Bool.and_eq_true, decide_eq_true_eq, Char.le_def] at h
  have h1 : 48 ≤ c.toNat := UInt32.le_iff_toNat_le.mp h.1
  have h2 : c.toNat ≤ 57 := UInt32.le_iff_toNat_le.mp h.2
  -- the ten digits are the characters with codes 48 … 57
  have hm : Char.ofNat c.toNat ∈ (List.range' 48 10).map Char.ofNat :=
    List.mem_map_of_mem (List.mem_range'_1.mpr ⟨h1, by omega⟩)
  rw [Char.ofNat_toNat] at hm
  exact hm

/-- to prove a (decidable) fact about every digit, check the ten digits -/
theorem isDigit_elim {c : Char} (h : isDigit c = true) {P : Char → Prop}
    (hP : ∀ d ∈ ['0','1','2','3','4','5','6','7','8','9'], P d) : P c := hP c (isDigit_mem h)

theorem lowerChar_digit {c : Char} (h : isDigit c = true) : lowerChar c = c :=
  isDigit_elim h (P := fun d => lowerChar d = d) (by decide +kernel)

/-- the characters `lowerChar` changes, each with its image -/
def letterPairs : List (Char × Char) :=
  [('A','a'),('B','b'),('C','c'),('D','d'),('E','e'),('F','f'),('G','g'),('H','h'),('I','i'),
   ('J','j'),('K','k'),('L','l'),('M','m'),('N','n'),('O','o'),('P','p'),('Q','q'),('R','r'),
   ('S','s'),('T','t'),('U','u'),('V','v'),('W','w'),('X','x'),('Y','y'),('Z','z')]

theorem lowerChar_cases (c : Char) : lowerChar c = c ∨ (c, lowerChar c) ∈ letterPairs := by
  unfold lowerChar
  split
  all_goals first | exact Or.inr (by decide +kernel) | exact Or.inl rfl

/-- to prove a (decidable) relation between `c` and `lowerChar c`, check it for the characters
    `lowerChar` leaves alone and for the 26 letter pairs -/
theorem lowerChar_elim (c : Char) {P : Char → Char → Prop} (h0 : lowerChar c = c → P c c)
    (h : ∀ p ∈ letterPairs, P p.1 p.2) : P c (lowerChar c) := by
  rcases lowerChar_cases c with hc | hc
  · rw [hc]; exact h0 hc
  · exact h _ hc

theorem lowerChar_idem (c : Char) : lowerChar (lowerChar c) = lowerChar c :=
  lowerChar_elim c (P := fun _ b => lowerChar b = b) id (by decide +kernel)

theorem isNumWs_lowerChar (c : Char) : isNumWs (lowerChar c) = isNumWs c :=
  lowerChar_elim c (P := fun a b => isNumWs b = isNumWs a) (fun _ => rfl) (by decide +kernel)

theorem isStrWs_lowerChar (c : Char) : isStrWs (lowerChar c) = isStrWs c :=
  lowerChar_elim c (P := fun a b => isStrWs b = isStrWs a) (fun _ => rfl) (by decide +kernel)

theorem lowerChar_ne_blank (c : Char) : (lowerChar c != ' ') = (c != ' ') :=
  lowerChar_elim c (P := fun a b => (b != ' ') = (a != ' ')) (fun _ => rfl) (by decide +kernel)

theorem filter_lower (l : Str) : (lower l).filter (· != ' ') = lower (l.filter (· != ' ')) := by
  unfold lower
  rw [List.filter_map]
  congr 1
  apply List.filter_congr
  intro c _
  simp only [Function.comp]
  exact lowerChar_ne_blank c

theorem mem_lower {c : Char} {l : Str} (h : c ∈ l) : lowerChar c ∈ lower l :=
  List.mem_map_of_mem h

theorem lower_fixed {l : Str} (h : ∀ c ∈ l, lowerChar c = c) : lower l = l :=
  (List.map_congr_left h).trans (List.map_id' l)

theorem lower_cons (x : Char) (t : Str) : lower (x :: t) = lowerChar x :: lower t := rfl

theorem lower_append (a b : Str) : lower (a ++ b) = lower a ++ lower b := by
  simp [lower]

theorem takeSign_cases (s : Str) :
    (takeSign s = (true, s.drop 1) ∧ ∃ t, s = '-' :: t) ∨
    (takeSign s = (false, s.drop 1) ∧ ∃ t, s = '+' :: t) ∨
    (takeSign s = (false, s) ∧ ∀ x r, s = x :: r → x ≠ '-' ∧ x ≠ '+') := by
  unfold takeSign
  split
  · left; simp
  · right; left; simp
  · right; right
    refine ⟨rfl, ?_⟩
    intro x r h
    subst h
    rename_i h1 h2
    exact ⟨fun e => h1 r (by rw [e]), fun e => h2 r (by rw [e])⟩

theorem takeSign_nosign {s : Str} (h : ∀ x r, s = x :: r → x ≠ '-' ∧ x ≠ '+') :
    takeSign s = (false, s) := by
  rcases takeSign_cases s with ⟨_, t, rfl⟩ | ⟨_, t, rfl⟩ | ⟨h', _⟩
  · exact absurd rfl (h _ _ rfl).1
  · exact absurd rfl (h _ _ rfl).2
  · exact h'

theorem mem_takeSign {s : Str} {c : Char} (h : c ∈ s) : c = '-' ∨ c = '+' ∨ c ∈ (takeSign s).2 := by
  rcases takeSign_cases s with ⟨h1, t, rfl⟩ | ⟨h1, t, rfl⟩ | ⟨h1, _⟩
  · rcases List.mem_cons.mp h with rfl | h'
    · exact Or.inl rfl
    · exact Or.inr (Or.inr (by rw [h1]; exact h'))
  · rcases List.mem_cons.mp h with rfl | h'
    · exact Or.inr (Or.inl rfl)
    · exact Or.inr (Or.inr (by rw [h1]; exact h'))
  · exact Or.inr (Or.inr (by rw [h1]; exact h))

/-! The four definitions below are proof-side: they name the parts of the one `let` chain of `parseDecimal`. -/

/-- exponent digits after the `e` -/
def parseExpTail (r : Str) : Option Int :=
  let ed := (takeSign r).2.takeWhile isDigit
  let r2 := (takeSign r).2.dropWhile isDigit
  if ed.isEmpty || !r2.isEmpty then none
  else some (if (takeSign r).1 then -(digitsVal ed : Int) else (digitsVal ed : Int))

theorem parseExp_cons (c : Char) (r : Str) :
    parseExp (c :: r) = if c = 'e' || c = 'E' then parseExpTail r else none := by
  unfold parseExp parseExpTail
  simp only [span_eq]

def fracPart (r1 : Str) : Str × Str :=
  match r1 with
  | '.' :: t => t.span isDigit
  | _ => ([], r1)

theorem fracPart_dot (t : Str) : fracPart ('.' :: t) = (t.takeWhile isDigit, t.dropWhile isDigit) := by
  simp [fracPart, span_eq]

theorem fracPart_other {r1 : Str} (h : ∀ x r, r1 = x :: r → x ≠ '.') : fracPart r1 = ([], r1) := by
  unfold fracPart
  split
  · exact absurd rfl (h _ _ rfl)
  · rfl

def parseNum (neg : Bool) (s1 : Str) : Option FVal :=
  let ip := s1.takeWhile isDigit
  let r1 := s1.dropWhile isDigit
  let fp := (fracPart r1).1
  let r2 := (fracPart r1).2
  if ip.isEmpty && fp.isEmpty then none
  else match parseExp r2 with
    | some e => some (.fin neg (digitsVal (ip ++ fp)) (e - fp.length))
    | none => none

def parseBody (neg : Bool) (s1 : Str) : Option FVal :=
  if lower s1 = ['i','n','f'] || lower s1 = ['i','n','f','i','n','i','t','y'] then some (.inf neg)
  else if lower s1 = ['n','a','n'] then some .nan
  else parseNum neg s1

theorem parseDecimal_eq (s : Str) :
    parseDecimal s = parseBody (takeSign s).1 (takeSign s).2 := by
  unfold parseDecimal parseBody parseNum fracPart
  simp only [span_eq]
  rfl

end Py
