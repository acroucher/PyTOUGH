/-
  Viscosity is positive; the region 2/3 boundary `b23p`, `b23t` in closed form, and how nearly the two are inverse.
-/
import PyTough.Proofs.ThermoIapws
namespace Proofs.Iapws
open Gen.Iapws Model.Thermo Proofs.Thermo

/-- `last` is the slot of index `−1` (`1/x`), outside the slice `[0:4]` that `visc` reads -/
theorem ticv_array (x : ℝ) : ∃ last, powerArray x ticv = [1, x, x * x, x * x * x, last] := by
  refine ⟨if le x (ofInt 0 : ℝ) && le (ofInt 0 : ℝ) x then (ofInt 1 : ℝ) / ofInt 0 else ofInt 1 / x, ?_⟩
  simp [powerArray, ticv, chainNpos, chainNneg, chainStep, PArr.set, PArr.get, pyPos, tf_ofInt, tf_mul,
    List.replicate]

/-- the dilute-gas sum `Σ h⁰ᵢ xⁱ` of `visc`, `x = T_c / T`, is positive: the cubic term, the only negative one, is outweighed
    by the quadratic one for `x ≤ 2.6` -/
theorem visc_s0_pos (x : ℝ) (h0 : 0 < x) (h1 : x ≤ 13 / 5) : 0 < pyDot (h0v : List ℝ) (PArr.slice (powerArray x ticv) 0 4) := by
  obtain ⟨last, h⟩ := ticv_array x
  have e : pyDot (h0v : List ℝ) (PArr.slice (powerArray x ticv) 0 4)
      = 3777439223453277 / 2251799813685248 + 4964362905246771 / 2251799813685248 * x
        + x * x * ((5734491051606083 / 9007199254740992 : ℝ) + (-(8704737503766789 : ℝ) / 36028797018963968) * x) := by
    rw [h]
    simp [pyDot, PArr.slice, h0v, tf_lit, tf_fma]
    ring
  have a : 0 ≤ (5734491051606083 / 9007199254740992 : ℝ) + (-(8704737503766789 : ℝ) / 36028797018963968) * x := by linarith only [h1]
  rw [e]
  exact add_pos_of_pos_of_nonneg (add_pos (by norm_num) (mul_pos (by norm_num) h0)) (mul_nonneg (mul_nonneg (le_of_lt h0) (le_of_lt h0)) a)

theorem visc_pos (d t : ℝ) (ht0 : 0 ≤ t) : ∃ μ, visc d t = Ret.num μ ∧ 0 < μ := by
  have hT := tk_pos t ht0
  have hTc : (0 : ℝ) < tcriticalk ∧ (tcriticalk : ℝ) ≤ 648 := by unfold tcriticalk; rw [tf_lit]; norm_num
  have htau : 0 < (t + tc_k) / tcriticalk := div_pos hT hTc.1
  set x : ℝ := 1 / ((t + tc_k) / tcriticalk) with hx
  have hx0 : 0 < x := by rw [hx]; exact one_div_pos.mpr htau
  have hx1 : x ≤ 13 / 5 := by
    rw [hx, one_div_div, div_le_iff₀ hT]
    linarith only [hTc.2, ht0, tc_k_bounds.1]
  have hmu : (0 : ℝ) < mustar := by unfold mustar; rw [tf_lit]; norm_num
  refine ⟨_, rfl, ?_⟩
  simp only [tf_add, tf_sub, tf_mul, tf_exp, tf_sqrt, tf_lit]
  norm_num only []
  rw [← hx]
  have hs0 := visc_s0_pos x hx0 hx1
  have hsq : 0 < Real.sqrt ((t + tc_k) / tcriticalk) := Real.sqrt_pos.mpr htau
  exact mul_pos (mul_pos hmu (div_pos (mul_pos (by norm_num) hsq) hs0)) (Real.exp_pos _)

theorem b23p_eq (t : ℝ) : b23p t = Ret.num (1000000 * (nr23_0 + (t + tc_k) * (nr23_1 + (t + tc_k) * nr23_2))) := by
  unfold b23p
  simp only [tf_add, tf_mul, tf_lit]
  norm_num only []

theorem b23t_eq (p : ℝ) : b23t p = Ret.num (nr23_3 + Real.sqrt ((p / 1000000 - nr23_4) / nr23_2) - tc_k) := by
  unfold b23t
  simp only [tf_add, tf_sub, tf_sqrt, tf_lit]
  norm_num only []

theorem sqrt_sq_add_near (w δ ε : ℝ) (hw : 0 ≤ w) (hε : 0 ≤ ε) (h0 : 0 ≤ δ) (h1 : δ ≤ 2 * w * ε) :
    0 ≤ Real.sqrt (w ^ 2 + δ) - w ∧ Real.sqrt (w ^ 2 + δ) - w ≤ ε := by
  rw [sub_nonneg, sub_le_iff_le_add']
  constructor
  · exact Real.le_sqrt_of_sq_le (le_add_of_nonneg_right h0)
  · rw [Real.sqrt_le_left (add_nonneg hw hε)]
    have e : (w + ε) ^ 2 = w ^ 2 + 2 * w * ε + ε ^ 2 := by ring
    have := sq_nonneg ε
    linarith only [e, this, h1]

/-- What the two near-inverse theorems use of the coefficients: `nr23_1 / nr23_2 = −2 nr23_3` and `(nr23_0 − nr23_4) / nr23_2 = nr23_3²`,
    which would make the two forms exactly inverse, hold only to 11 digits. -/
theorem nr23_facts : (1 / 1000 : ℝ) ≤ nr23_2 ∧ (nr23_2 : ℝ) ≤ 103 / 100000 ∧ (572 : ℝ) ≤ nr23_3 ∧ (nr23_3 : ℝ) ≤ 573 ∧ (13 : ℝ) ≤ nr23_4 ∧ (nr23_4 : ℝ) ≤ 14 ∧
    (0 : ℝ) ≤ nr23_1 / nr23_2 + 2 * nr23_3 ∧ (nr23_1 / nr23_2 + 2 * nr23_3 : ℝ) ≤ 3 / 100000000000 ∧
    (0 : ℝ) ≤ (nr23_0 - nr23_4) / nr23_2 - nr23_3 ^ 2 ∧ ((nr23_0 - nr23_4) / nr23_2 - nr23_3 ^ 2 : ℝ) ≤ 1 / 1000000000 := by
  unfold nr23_0 nr23_1 nr23_2 nr23_3 nr23_4
  simp only [tf_lit]
  norm_num

/-- the temperature form with the coefficients as variables: the argument of the square root is `(T − n)² + δ`, `δ = A T + B`
    (`n = nr23_3 ≤ 573`; `623 … 865` K contains 350 … 590 degC) -/
theorem b23_near_t (A B n T : ℝ) (hA0 : 0 ≤ A) (hA1 : A ≤ 3 / 100000000000) (hB0 : 0 ≤ B) (hB1 : B ≤ 1 / 1000000000)
    (hn : n ≤ 573) (hT0 : 623 ≤ T) (hT1 : T ≤ 865) :
    0 ≤ n + Real.sqrt ((T - n) ^ 2 + (A * T + B)) - T ∧ n + Real.sqrt ((T - n) ^ 2 + (A * T + B)) - T ≤ 1 / 1000000000 := by
  have hT : 0 ≤ T := le_trans (by norm_num) hT0
  have m1 : A * T ≤ 3 / 100000000000 * 865 := mul_le_mul hA1 hT1 hT (by norm_num)
  have e : n + Real.sqrt ((T - n) ^ 2 + (A * T + B)) - T = Real.sqrt ((T - n) ^ 2 + (A * T + B)) - (T - n) := by ring
  rw [e]
  exact sqrt_sq_add_near (T - n) (A * T + B) (1 / 1000000000) (sub_nonneg.mpr (le_trans hn (le_trans (by norm_num) hT0))) (by norm_num)
    (add_nonneg (mul_nonneg hA0 hT) hB0) (by linarith only [m1, hB1, hn, hT0])

theorem b23_near_inverse (t : ℝ) (h0 : 350 ≤ t) (h1 : t ≤ 590) :
    ∃ p t', b23p t = Ret.num p ∧ b23t p = Ret.num t' ∧ 0 ≤ t' - t ∧ t' - t ≤ 1 / 1000000000 := by
  refine ⟨_, _, b23p_eq t, b23t_eq _, ?_⟩
  obtain ⟨hn2, _, _, hn3, _, _, hA0, hA1, hB0, hB1⟩ := nr23_facts
  have hn2' : (nr23_2 : ℝ) ≠ 0 := ne_of_gt (lt_of_lt_of_le (by norm_num) hn2)
  have hq : (1000000 * (nr23_0 + (t + tc_k) * (nr23_1 + (t + tc_k) * nr23_2)) / 1000000 - nr23_4) / nr23_2
      = (t + tc_k - nr23_3) ^ 2
        + ((nr23_1 / nr23_2 + 2 * nr23_3) * (t + tc_k) + ((nr23_0 - nr23_4) / nr23_2 - nr23_3 ^ 2)) := by
    field_simp
    ring
  have e : nr23_3 + Real.sqrt ((t + tc_k - nr23_3) ^ 2
        + ((nr23_1 / nr23_2 + 2 * nr23_3) * (t + tc_k) + ((nr23_0 - nr23_4) / nr23_2 - nr23_3 ^ 2))) - tc_k - t
      = nr23_3 + Real.sqrt ((t + tc_k - nr23_3) ^ 2
        + ((nr23_1 / nr23_2 + 2 * nr23_3) * (t + tc_k) + ((nr23_0 - nr23_4) / nr23_2 - nr23_3 ^ 2))) - (t + tc_k) := by
    ring
  rw [hq, e]
  exact b23_near_t _ _ _ _ hA0 hA1 hB0 hB1 hn3 (by linarith only [h0, tc_k_bounds.1]) (by linarith only [h1, tc_k_bounds.2])

/-- the pressure form with the coefficients as variables: with `T' = n3 + s` the value `b23p (b23t p)` is `p + 1e6 n2 (B + A T')` -/
theorem b23_near_p (A B n2 n3 s : ℝ) (hA0 : 0 ≤ A) (hA1 : A ≤ 3 / 100000000000) (hB0 : 0 ≤ B) (hB1 : B ≤ 1 / 1000000000)
    (h2 : 0 ≤ n2) (h2u : n2 ≤ 103 / 100000) (h3 : n3 ≤ 573) (hT : 0 ≤ n3 + s) (hs : s ≤ 300) :
    |1000000 * (n2 * (B + A * (n3 + s)))| ≤ 1 / 10000 := by
  have m0 : 0 ≤ B + A * (n3 + s) := add_nonneg hB0 (mul_nonneg hA0 hT)
  have m1 : A * (n3 + s) ≤ 3 / 100000000000 * 873 := mul_le_mul hA1 ((add_le_add h3 hs).trans (by norm_num)) hT (by norm_num)
  have k0 : 0 ≤ n2 * (B + A * (n3 + s)) := mul_nonneg h2 m0
  have k1 : n2 * (B + A * (n3 + s)) ≤ 103 / 100000 * (1 / 1000000000 + 3 / 100000000000 * 873) :=
    mul_le_mul h2u (add_le_add hB1 m1) m0 (by norm_num)
  rw [abs_of_nonneg (mul_nonneg (by norm_num) k0)]
  linarith only [k1]

end Proofs.Iapws
