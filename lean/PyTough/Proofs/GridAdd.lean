/-
  Grid addition (`__add__`): the sum of two consistent grids over the same heap; and `embed`, which
  adds a sub-grid, connects it and takes its volume out of the host block.  While the
  operands' objects are being added, blocks already carry connection records whose connections
  are not listed yet, so the intermediate states are not consistent; the three registries are
  followed separately (`Reg.addAll`) and the invariant is assembled at the end.
-/
import PyTough.Model.GridPhys
import PyTough.Proofs.GridStep
namespace Proofs.Grid
open Py Model Model.Grid Model.Grid.World

theorem connAdd_noop (w : World) (b : Nat) (k : CName) (hk : k ∈ (w.bk b).conn) : w.connAdd b k = w := by
  unfold World.connAdd sadd
  simp only [hk, if_true]
  show w.setBlk b (w.bk b) = w
  unfold World.setBlk World.bk
  rw [set_getD_self]

/-- `h0`, `h1`: the situation of a connection that comes from another consistent grid -/
theorem addConnection_of_reg {w : World} {c : Nat} {R : Reg CName}
    (h0 : w.ckey c ∈ (w.bk (w.cn c).b0).conn) (h1 : w.ckey c ∈ (w.bk (w.cn c).b1).conn)
    (h : Reg.add w.ckey ⟨w.connectionlist, w.connection⟩ c = some R) :
    addConnection w c = .ok { w with connectionlist := R.list, connection := R.dict } := by
  rw [addConnection_eq, h]
  dsimp only
  -- `by exact`: the world is read off the goal (`{ w with … }`, whose `bk` is `w.bk`), not off `h0`
  rw [connAdd_noop _ (w.cn c).b0 _ (by exact h0), connAdd_noop _ _ _ (by exact h1)]

theorem foldR_addAll {κ : Type} [DecidableEq κ] (f : World → Nat → R) (key : Nat → κ) (put : Reg κ → World) (l : List Nat)
    (hf : ∀ R, ∀ x ∈ l, ∀ R1, Reg.add key R x = some R1 → f (put R) x = .ok (put R1)) :
    ∀ {R R' : Reg κ}, Reg.addAll key R l = some R' → foldR f (put R) l = .ok (put R') := by
  induction l with
  | nil => intro R R' h; simp only [Reg.addAll, Option.some.injEq] at h; subst h; rfl
  | cons x r ih =>
    intro R R' h
    simp only [Reg.addAll] at h
    cases h1 : Reg.add key R x with
    | none => rw [h1] at h; cases h
    | some R1 =>
      rw [h1] at h
      simp only [foldR, hf R x List.mem_cons_self R1 h1]
      exact ih (fun R y hy => hf R y (List.mem_cons_of_mem _ hy)) h

theorem foldR_addRocktype (l : List Nat) {w : World} {R' : Reg Name}
    (h : Reg.addAll w.rname ⟨w.rocktypelist, w.rocktype⟩ l = some R') :
    foldR addRocktype w l = .ok { w with rocktypelist := R'.list, rocktype := R'.dict } :=
  foldR_addAll addRocktype w.rname (fun R => { w with rocktypelist := R.list, rocktype := R.dict }) l
    (fun R _ _ _ h1 => addRocktype_of_reg (w := { w with rocktypelist := R.list, rocktype := R.dict }) h1) h

theorem foldR_addBlock (l : List Nat) {w : World} {R' : Reg Name}
    (h : Reg.addAll w.bname ⟨w.blocklist, w.block⟩ l = some R') :
    foldR addBlock w l = .ok { w with blocklist := R'.list, block := R'.dict } :=
  foldR_addAll addBlock w.bname (fun R => { w with blocklist := R.list, block := R.dict }) l
    (fun R _ _ _ h1 => addBlock_of_reg (w := { w with blocklist := R.list, block := R.dict }) h1) h

theorem foldR_addConnection (l : List Nat) {w : World} {R' : Reg CName}
    (hk : ∀ c ∈ l, w.ckey c ∈ (w.bk (w.cn c).b0).conn ∧ w.ckey c ∈ (w.bk (w.cn c).b1).conn)
    (h : Reg.addAll w.ckey ⟨w.connectionlist, w.connection⟩ l = some R') :
    foldR addConnection w l = .ok { w with connectionlist := R'.list, connection := R'.dict } :=
  foldR_addAll addConnection w.ckey (fun R => { w with connectionlist := R.list, connection := R.dict }) l
    (fun R x hx _ h1 =>
      addConnection_of_reg (w := { w with connectionlist := R.list, connection := R.dict }) (hk x hx).1 (hk x hx).2 h1) h

/-- one round of `__add__` (`for rt in grid.rocktypelist: …; for blk …; for con …`) -/
theorem addFrom_spec {w : World} {g : Grid}
    (hR : RegInv w.rname ⟨w.rocktypelist, w.rocktype⟩)
    (hB : RegInv w.bname ⟨w.blocklist, w.block⟩)
    (hC : RegInv w.ckey ⟨w.connectionlist, w.connection⟩)
    (hg : Grid.Inv (w.withGrid g))
    (dR : ∀ x ∈ g.rocktypelist, x ∉ w.rocktypelist) (dB : ∀ x ∈ g.blocklist, x ∉ w.blocklist)
    (dC : ∀ x ∈ g.connectionlist, x ∉ w.connectionlist) :
    ∃ RR RB RC, addFrom w g = .ok { w with rocktypelist := RR.list, rocktype := RR.dict, blocklist := RB.list, block := RB.dict, connectionlist := RC.list, connection := RC.dict } ∧
      RegInv w.rname RR ∧ RegInv w.bname RB ∧ RegInv w.ckey RC ∧
      (∀ y, y ∈ RR.list ↔ y ∈ g.rocktypelist ∨ (y ∈ w.rocktypelist ∧ ∀ x ∈ g.rocktypelist, w.rname y ≠ w.rname x)) ∧
      (∀ y, y ∈ RB.list ↔ y ∈ g.blocklist ∨ (y ∈ w.blocklist ∧ ∀ x ∈ g.blocklist, w.bname y ≠ w.bname x)) ∧
      (∀ y, y ∈ RC.list ↔ y ∈ g.connectionlist ∨ (y ∈ w.connectionlist ∧ ∀ x ∈ g.connectionlist, w.ckey y ≠ w.ckey x)) := by
  obtain ⟨RR, eR, iR, mR⟩ := Reg.addAll_spec (key := w.rname) g.rocktypelist hR hg.rl_nodup dR
    (fun x hx y hy e => hg.rockReg.key_inj hx hy e)
  obtain ⟨RB, eB, iB, mB⟩ := Reg.addAll_spec (key := w.bname) g.blocklist hB hg.bl_nodup dB
    (fun x hx y hy e => hg.blockReg.key_inj hx hy e)
  obtain ⟨RC, eC, iC, mC⟩ := Reg.addAll_spec (key := w.ckey) g.connectionlist hC hg.cl_nodup dC
    (fun x hx y hy e => hg.conReg.key_inj hx hy e)
  refine ⟨RR, RB, RC, ?_, iR, iB, iC, mR, mB, mC⟩
  unfold addFrom
  rw [foldR_addRocktype g.rocktypelist eR]
  simp only []
  rw [foldR_addBlock g.blocklist (w := { w with rocktypelist := RR.list, rocktype := RR.dict }) eB]
  simp only []
  rw [foldR_addConnection g.connectionlist
        (w := { w with rocktypelist := RR.list, rocktype := RR.dict, blocklist := RB.list, block := RB.dict }) ?_ eC]
  exact fun c hc => key_mem_conn_ends hg (hg.cd_complete c hc)

/-- `g1 + g2`.  Without `nR` (a rock type of `g1` whose name also occurs in `g2` is used by no block of `g1`):
    known finding F2. -/
theorem addGrids_inv {w : World} {g1 g2 : Grid}
    (h1 : Grid.Inv (w.withGrid g1)) (h2 : Grid.Inv (w.withGrid g2))
    (oR : ∀ x ∈ g1.rocktypelist, x ∉ g2.rocktypelist) (oB : ∀ x ∈ g1.blocklist, x ∉ g2.blocklist)
    (oC : ∀ x ∈ g1.connectionlist, x ∉ g2.connectionlist)
    (nB : ∀ x ∈ g1.blocklist, ∀ y ∈ g2.blocklist, w.bname x ≠ w.bname y)
    (nR : ∀ x ∈ g1.rocktypelist, ∀ y ∈ g2.rocktypelist, w.rname x = w.rname y → ∀ b ∈ g1.blocklist, (w.bk b).rock ≠ x) :
    ∃ g : Grid, addGrids w g1 g2 = .ok (w.withGrid g) ∧ Grid.Inv (w.withGrid g) ∧
      (∀ y, y ∈ g.blocklist ↔ y ∈ g1.blocklist ∨ y ∈ g2.blocklist) ∧ g.blocklist.Nodup ∧
      (∀ y, y ∈ g.connectionlist ↔ y ∈ g1.connectionlist ∨ y ∈ g2.connectionlist) := by
  -- first operand into the empty grid, second into the result; the heap, hence every name, is that of `w`
  obtain ⟨RR1, RB1, RC1, eA, iR1, iB1, iC1, mR1, mB1, mC1⟩ :=
    addFrom_spec (w := w.withGrid ⟨[], [], [], [], [], []⟩) (g := g1) (.nil _) (.nil _) (.nil _) h1
      (fun _ _ h => nomatch h) (fun _ _ h => nomatch h) (fun _ _ h => nomatch h)
  simp only [World.withGrid, List.not_mem_nil, false_and, or_false] at mR1 mB1 mC1
  obtain ⟨RR2, RB2, RC2, eB, iR2, iB2, iC2, mR2, mB2, mC2⟩ :=
    addFrom_spec (w := { w with rocktypelist := RR1.list, rocktype := RR1.dict, blocklist := RB1.list, block := RB1.dict,
                                connectionlist := RC1.list, connection := RC1.dict }) (g := g2) iR1 iB1 iC1 h2
      (fun x hx hx' => oR x ((mR1 x).mp hx') hx) (fun x hx hx' => oB x ((mB1 x).mp hx') hx)
      (fun x hx hx' => oC x ((mC1 x).mp hx') hx)
  have mR2 : ∀ y, y ∈ RR2.list ↔ y ∈ g2.rocktypelist ∨ (y ∈ g1.rocktypelist ∧ ∀ x ∈ g2.rocktypelist, w.rname y ≠ w.rname x) :=
    fun y => (mR2 y).trans (or_congr_right (and_congr_left fun _ => mR1 y))
  -- blocks of different operands have different names, hence so have their connections
  have memB : ∀ y, y ∈ RB2.list ↔ y ∈ g1.blocklist ∨ y ∈ g2.blocklist := fun y => by
    rw [mB2 y, mB1 y]
    exact ⟨fun h => h.elim Or.inr (fun h => Or.inl h.1), fun h => h.elim (fun h => Or.inr ⟨h, nB y h⟩) Or.inl⟩
  have memC : ∀ y, y ∈ RC2.list ↔ y ∈ g1.connectionlist ∨ y ∈ g2.connectionlist := fun y => by
    rw [mC2 y, mC1 y]
    refine ⟨fun h => h.elim Or.inr (fun h => Or.inl h.1), fun h => h.elim (fun h => Or.inr ⟨h, fun x hx e => ?_⟩) Or.inl⟩
    exact nB _ (h1.c_ends y h).1 _ (h2.c_ends x hx).1 (congrArg Prod.fst e)
  refine ⟨⟨RR2.list, RR2.dict, RB2.list, RB2.dict, RC2.list, RC2.dict⟩, by unfold addGrids; rw [eA]; exact eB, ?_,
    memB, iB2.nodup, memC⟩
  exact
    { rl_lt := fun x hx => ((mR2 x).mp hx).elim (h2.rl_lt x) (fun h => h1.rl_lt x h.1)
      bl_lt := fun x hx => ((memB x).mp hx).elim (h1.bl_lt x) (h2.bl_lt x)
      cl_lt := fun x hx => ((memC x).mp hx).elim (h1.cl_lt x) (h2.cl_lt x)
      rl_nodup := iR2.nodup, rd_sound := iR2.sound, rd_complete := iR2.complete
      bl_nodup := iB2.nodup, bd_sound := iB2.sound, bd_complete := iB2.complete
      cl_nodup := iC2.nodup, cd_sound := iC2.sound, cd_complete := iC2.complete
      b_rock := fun b hb => (mR2 _).mpr (((memB b).mp hb).elim
        (fun h => Or.inr ⟨h1.b_rock b h, fun x hx e => nR _ (h1.b_rock b h) x hx e b h rfl⟩) (fun h => Or.inl (h2.b_rock b h)))
      c_ends := fun x hx => ((memC x).mp hx).elim
        (fun h => ⟨(memB _).mpr (Or.inl (h1.c_ends x h).1), (memB _).mpr (Or.inl (h1.c_ends x h).2.1), (h1.c_ends x h).2.2⟩)
        (fun h => ⟨(memB _).mpr (Or.inr (h2.c_ends x h).1), (memB _).mpr (Or.inr (h2.c_ends x h).2.1), (h2.c_ends x h).2.2⟩)
      conn_nodup := fun b hb => ((memB b).mp hb).elim (h1.conn_nodup b) (h2.conn_nodup b)
      conn_iff := fun b hb k => by
        -- a block's connections are those of its own operand: the other operand's join other blocks
        have own : ∀ {g g' : Grid} (hg : Grid.Inv (w.withGrid g)) (hg' : Grid.Inv (w.withGrid g')), b ∈ g.blocklist →
            (∀ x ∈ g.blocklist, x ∉ g'.blocklist) → (∀ c, c ∈ RC2.list ↔ c ∈ g.connectionlist ∨ c ∈ g'.connectionlist) →
            (k ∈ (w.bk b).conn ↔ ∃ c ∈ RC2.list, w.ckey c = k ∧ ((w.cn c).b0 = b ∨ (w.cn c).b1 = b)) := by
          intro g g' hg hg' h o m
          refine (hg.conn_iff b h k).trans ⟨fun ⟨c, hc, e⟩ => ⟨c, (m c).mpr (Or.inl hc), e⟩, fun ⟨c, hc, e, hm⟩ => ?_⟩
          refine ((m c).mp hc).elim (fun hc => ⟨c, hc, e, hm⟩) fun hc => ?_
          exact absurd (hm.elim (· ▸ (hg'.c_ends c hc).1) (· ▸ (hg'.c_ends c hc).2.1)) (o b h)
        exact ((memB b).mp hb).elim (fun h => own h1 h2 h oB memC)
          (fun h => own h2 h1 h (fun x hx hx' => oB x hx' hx) fun c => (memC c).trans Or.comm) }

/-- **embed.**  Host grid = the world's current grid, `sub` a second consistent grid over the same
    heap (no common object; a host rock type whose name occurs in `sub` is unused — else known
    finding F2), `c` a new connection object whose first block is *named* like a host block `x0` and
    whose second block is named like a block `x1` of `sub` (the blocks themselves may be the grids'
    own objects or equal-named foreign ones: `embed` re-points the connection by name).  `embed`
    does not raise; whatever it returns, the current grid is consistent; and when it returns a
    grid, the total volume of that grid equals the total volume of the host grid before. -/
theorem embed_spec {w : World} {sub : Grid} {c x0 x1 : Nat}
    (h1 : Grid.Inv w) (h2 : Grid.Inv (w.withGrid sub))
    (oR : ∀ x ∈ w.rocktypelist, x ∉ sub.rocktypelist) (oB : ∀ x ∈ w.blocklist, x ∉ sub.blocklist)
    (oC : ∀ x ∈ w.connectionlist, x ∉ sub.connectionlist)
    (nR : ∀ x ∈ w.rocktypelist, ∀ y ∈ sub.rocktypelist, w.rname x = w.rname y → ∀ b ∈ w.blocklist, (w.bk b).rock ≠ x)
    (hc : c < w.cons.length) (hc1 : c ∉ w.connectionlist) (hc2 : c ∉ sub.connectionlist)
    (hx0 : dget w.block (w.bname (w.cn c).b0) = some x0) (hx1 : dget sub.block (w.bname (w.cn c).b1) = some x1) :
    ∃ w' fl, embed w sub c = .ok (w', fl) ∧ Grid.Inv w' ∧
      (fl = true → totalVolume w' = totalVolume w) ∧ (fl = false → w' = w) := by
  unfold embed
  simp only []
  by_cases hvol : sumRat (sub.blocklist.map fun b => (w.bk b).volume) < (w.bk (w.cn c).b0).volume
  case neg => rw [if_neg hvol]; exact ⟨w, false, rfl, h1, (fun h => by cases h), fun _ => rfl⟩
  rw [if_pos hvol]
  by_cases hdup : ((w.blocklist.map w.bname).filter fun n => decide (n ∈ sub.blocklist.map w.bname)).isEmpty = true
  case neg => rw [if_neg hdup]; exact ⟨w, false, rfl, h1, (fun h => by cases h), fun _ => rfl⟩
  rw [if_pos hdup]
  have nB : ∀ x ∈ w.blocklist, ∀ y ∈ sub.blocklist, w.bname x ≠ w.bname y := by
    intro x hx y hy e
    rw [List.isEmpty_iff, List.filter_eq_nil_iff] at hdup
    have := hdup (w.bname x) (List.mem_map.mpr ⟨x, hx, rfl⟩)
    simp only [decide_eq_true_eq] at this
    exact this (List.mem_map.mpr ⟨y, hy, e.symm⟩)
  -- the sum `g` of the two grids, over the same heap
  obtain ⟨g, e1, hI1, memB, ndB, memC⟩ := addGrids_inv (w := w) (g1 := w.grid) (g2 := sub) h1 h2 oR oB oC nB nR
  rw [e1]
  simp only []
  have hx0' := h1.bd_sound _ _ hx0
  have hx1' : x1 ∈ sub.blocklist ∧ w.bname x1 = w.bname (w.cn c).b1 := h2.bd_sound _ _ hx1
  have hx0in : x0 ∈ g.blocklist := (memB _).mpr (Or.inl hx0'.1)
  have hx1in : x1 ∈ g.blocklist := (memB _).mpr (Or.inr hx1'.1)
  have hne : x0 ≠ x1 := fun e => oB x0 hx0'.1 (e ▸ hx1'.1)
  have d0 : dget g.block (w.bname (w.cn c).b0) = some x0 := hx0'.2 ▸ hI1.bd_complete x0 hx0in
  have d1 : dget g.block (w.bname (w.cn c).b1) = some x1 := hx1'.2 ▸ hI1.bd_complete x1 hx1in
  rw [show dget (w.withGrid g).block ((w.withGrid g).bname ((w.withGrid g).cn c).b0) = some x0 from d0,
      show dget (w.withGrid g).block ((w.withGrid g).bname ((w.withGrid g).cn c).b1) = some x1 from d1]
  simp only []
  -- the connection re-pointed at the sum's own blocks, and added
  have hc1' : c ∉ g.connectionlist := fun h => ((memC c).mp h).elim hc1 hc2
  generalize hw2 : (w.withGrid g).setCon c { (w.withGrid g).cn c with b0 := x0, b1 := x1 } = w2
  have hI2 : Grid.Inv w2 := hw2 ▸ setCon_unlisted_inv hI1 hc1' _
  have k_cn : w2.cn c = { w.cn c with b0 := x0, b1 := x1 } := by
    rw [← hw2, cn_setCon, if_pos ⟨rfl, hc⟩]; rfl
  have k_bk : ∀ x, w2.bk x = w.bk x := fun x => by rw [← hw2]; rfl
  have k_bl : w2.blocklist = g.blocklist := by rw [← hw2]; rfl
  have k_bd : w2.block = g.block := by rw [← hw2]; rfl
  obtain ⟨l, e3, hI3, _, _⟩ := addConnection_spec hI2 (c := c) (by rw [← hw2, setCon_cons_length]; exact hc) (by rw [← hw2]; exact hc1')
    (by rw [k_cn, k_bl]; exact hx0in) (by rw [k_cn, k_bl]; exact hx1in) (by rw [k_cn]; exact hne)
  rw [e3]
  simp only []
  generalize hw3 : conWorld w2 w2.cons (w2.cn c).b0 (w2.cn c).b1 (sadd · (w2.ckey c)) l
    (dset w2.connection (w2.ckey c) c) = w3 at hI3 ⊢
  -- block records keep everything but their connection records
  have g_bk : ∀ x, { w3.bk x with conn := [] } = { w.bk x with conn := [] } := fun x => by
    rw [← hw3, ← k_bk x]; exact bk_conWorld ..
  have g_bl : w3.blocklist = g.blocklist := by rw [← hw3]; exact k_bl
  have g_bname : ∀ x, w3.bname x = w.bname x := fun x => (congrArg Blk.name (g_bk x) :)
  have g_vol : ∀ x, (w3.bk x).volume = (w.bk x).volume := fun x => (congrArg Blk.volume (g_bk x) :)
  have d3 : dget w3.block (w3.bname (w.cn c).b0) = some x0 := by
    rw [g_bname, ← hw3]; show dget w2.block _ = _; rw [k_bd]; exact d0
  rw [d3]
  simp only []
  refine ⟨_, true, rfl, setBlk_payload_inv hI3 x0 _ rfl rfl (fun h => hI3.b_rock x0 h), fun _ => ?_, (fun h => by cases h)⟩
  -- total volume: the blocks are those of both grids, one block has lost the sub-grid's volume
  have hlt : x0 < w3.blks.length := hI3.bl_lt x0 (g_bl ▸ hx0in)
  generalize hsv : sumRat (sub.blocklist.map fun b => (w.bk b).volume) = subvol at *
  have hperm : g.blocklist.Perm (w.blocklist ++ sub.blocklist) := by
    refine (List.perm_ext_iff_of_nodup ndB ?_).mpr fun y => by rw [memB, List.mem_append]; rfl
    exact List.nodup_append.mpr ⟨h1.bl_nodup, h2.bl_nodup, fun a ha b hb e => oB a ha (e ▸ hb)⟩
  unfold totalVolume
  show sumRat ((w3.blocklist).map fun b => ((w3.setBlk x0 { w3.bk x0 with volume := (w3.bk x0).volume - subvol }).bk b).volume) = _
  rw [g_bl, sumRat_map_update g.blocklist ndB (fun b => (w.bk b).volume) _ x0 hx0in
        (by intro x hx; simp only [bk_setBlk, Ne.symm hx, false_and, if_false]; exact g_vol x)]
  simp only [bk_setBlk, hlt, and_self, if_true, g_vol]
  rw [sumRat_perm ((hperm.map fun b => (w.bk b).volume)), List.map_append, sumRat_append, hsv]
  exact add_sub_add_sub_cancel _ _ _

end Proofs.Grid
