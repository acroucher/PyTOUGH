/-
  The two tactic abbreviations that several groups of proofs share.

  `decide_lits`, for closed facts that mention string literals.  A `String` is a UTF-8 byte array: `decide` and the kernel both
  evaluate `"lit".toList` by decoding the bytes through well-founded recursion, which is slow to check and is done again at every
  occurrence of the literal.  Rewriting with
  `String.toList_ofList` first turns every literal into the list of its characters (a literal unifies with
  `String.ofList _` by the literal rule of definitional equality, which is cheap for the elaborator and for the kernel);
  what is left is evaluated by the kernel.  `simp only` does not see a literal as `String.ofList _`; `rewrite` does.
-/

/-- `decide +kernel` after every string literal under a `.toList` has been replaced by its characters -/
macro "decide_lits" : tactic => `(tactic| ((repeat rewrite [String.toList_ofList]); decide +kernel))

/-- On `h : (match f x with | .error e => .error e | .ok a => …) = .ok r`: closes each failing arm and leaves `f x = .ok a` (unnamed)
    in the context, step after step, down to `.ok _ = .ok r`, which it substitutes.  Before an `if` or a match whose first arm does
    not fail it stops, but only after splitting it once in vain, which is slow on a large `h`: there the steps are written out.
    Callers pick the unnamed facts up by `‹_›` under `with_reducible` (plain `assumption` unfolds the `f`s to compare them). -/
macro "ok_inv" h:ident : tactic =>
  `(tactic| ((repeat (split at $h:ident; (· cases $h:ident))); try cases $h:ident))
