/-
  Block names (C17): `block_name` has length 5 and `column_name` / `layer_name` invert it on names
  on which `fix_blockname` cannot fire; the names the generators return are of that kind, which is
  part of what `genSpec_column` and `genSpec_layer` say of them.
-/
import PyTough.Proofs.NamesGen
import PyTough.Proofs.NamesFix
import Mathlib.Data.List.Basic
namespace Proofs.Names
open Py Model.Names

/-- a column name on which `fix_blockname` cannot fire (it fires on block characters 3–5 reading digit,
    blank, digit): conventions 0 and 3 put the column name first, so block character 3 is `col[2]`;
    convention 2 puts the two-character layer name first, so block characters 3–5 are the column name -/
structure ColSafe (conv : Nat) (col : Str) : Prop where
  len : col.length = colnameLength conv
  last : conv = 0 ∨ conv = 3 → isDigit (col.getD 2 ' ') = false
  shape : conv = 2 → ¬ (isDigit (col.getD 0 ' ') = true ∧ col.getD 1 ' ' = ' ' ∧ isDigit (col.getD 2 ' ') = true)

/-- under convention 1 the three-character layer name comes first: block character 3 is `lay[2]` -/
structure LaySafe (conv : Nat) (lay : Str) : Prop where
  len : lay.length = layernameLength conv
  last : conv = 1 → isDigit (lay.getD 2 ' ') = false

/-- What the proofs use of row `conv` of the generated tables.  `fix_blockname` cannot fire on generated names because
    the name that supplies block character 3 is alphabetic (the column under conventions 0 and 3, the layer under 1),
    and under convention 2 block characters 3–5 are a right-justified decimal column name.  `atm` and `surf`: the convention's
    two fixed names, for the atmosphere blocks and the surface layer in `blockNameList_spec` and `rectangular_spec`. -/
structure ConvShape (conv : Nat) : Prop where
  colPos : 0 < colnameLength conv
  layPos : 0 < layernameLength conv
  atm : ColSafe conv (atmosphereColumnName conv)
  surf : LaySafe conv (surfaceLayerName conv)
  col03 : conv = 0 ∨ conv = 3 → colAlpha conv = true
  col2 : conv = 2 → colAlpha conv = false
  lay1 : conv = 1 → layNum conv = false

theorem conv_cases {conv : Nat} (h : conv < 4) : conv = 0 ∨ conv = 1 ∨ conv = 2 ∨ conv = 3 := by omega

theorem conv_shapes {conv : Nat} (h : conv < 4) : ConvShape conv := by
  rcases conv_cases h with rfl | rfl | rfl | rfl <;>
    exact ⟨by decide, by decide, ⟨by decide, by decide, by decide⟩, ⟨by decide, by decide⟩, by decide, by decide, by decide⟩

theorem blockName_inv {conv : Nat} (hconv : conv < 4) {lay col : Str} (hl : LaySafe conv lay) (hc : ColSafe conv col) :
    blockName conv lay col = .ok (rawBlockName conv lay col) ∧ (rawBlockName conv lay col).length = 5 ∧
    columnName conv (rawBlockName conv lay col) = some col ∧ layerName conv (rawBlockName conv lay col) = some lay := by
  -- `fix_blockname` keeps a five-character name that does not read digit, blank, digit from the third character on
  have keep : ∀ a b c d e, rawBlockName conv lay col = [a, b, c, d, e] →
      ¬ (isDigit c = true ∧ isDigit e = true ∧ d = ' ') → blockName conv lay col = .ok (rawBlockName conv lay col) := by
    intro a b c d e hr hd
    unfold blockName
    rw [hr, fix5]
    simp [hd, SDict.get?]
  rcases conv_cases hconv with rfl | rfl | rfl | rfl
  · obtain ⟨c0, c1, c2, rfl⟩ := List.length_eq_three.mp hc.len
    obtain ⟨l0, l1, rfl⟩ := List.length_eq_two.mp hl.len
    exact ⟨keep c0 c1 c2 l0 l1 rfl fun h => Bool.false_ne_true ((hc.last (Or.inl rfl)).symm.trans h.1), rfl, rfl, rfl⟩
  · obtain ⟨c0, c1, rfl⟩ := List.length_eq_two.mp hc.len
    obtain ⟨l0, l1, l2, rfl⟩ := List.length_eq_three.mp hl.len
    exact ⟨keep l0 l1 l2 c0 c1 rfl fun h => Bool.false_ne_true ((hl.last rfl).symm.trans h.1), rfl, rfl, rfl⟩
  · obtain ⟨c0, c1, c2, rfl⟩ := List.length_eq_three.mp hc.len
    obtain ⟨l0, l1, rfl⟩ := List.length_eq_two.mp hl.len
    exact ⟨keep l0 l1 c0 c1 c2 rfl fun ⟨a, b, c⟩ => hc.shape rfl ⟨a, c, b⟩, rfl, rfl, rfl⟩
  · obtain ⟨c0, c1, c2, rfl⟩ := List.length_eq_three.mp hc.len
    obtain ⟨l0, l1, rfl⟩ := List.length_eq_two.mp hl.len
    exact ⟨keep c0 c1 c2 l0 l1 rfl fun h => Bool.false_ne_true ((hc.last (Or.inr rfl)).symm.trans h.1), rfl, rfl, rfl⟩

theorem rawBlockName_inj {conv : Nat} (hconv : conv < 4) {lay col lay' col' : Str}
    (hl : LaySafe conv lay) (hc : ColSafe conv col) (hl' : LaySafe conv lay') (hc' : ColSafe conv col')
    (e : rawBlockName conv lay col = rawBlockName conv lay' col') : lay = lay' ∧ col = col' := by
  obtain ⟨-, -, c1, l1⟩ := blockName_inv hconv hl hc
  obtain ⟨-, -, c2, l2⟩ := blockName_inv hconv hl' hc'
  rw [e] at c1 l1
  exact ⟨Option.some.inj (l1.symm.trans l2), Option.some.inj (c1.symm.trans c2)⟩

theorem not_digit_of_alpha {chars : Str} {spaces : Bool} (h : AlphabetOK chars spaces) {name : Str}
    (hn : ∀ c ∈ name, c ∈ chars ∨ c = ' ') (k : Nat) : isDigit (name.getD k ' ') = false := by
  by_cases hk : k < name.length
  · rw [← List.getElem_eq_getD (h := hk)]
    rcases hn _ (List.getElem_mem hk) with hc | hc
    · exact (h.clean _ hc).2
    · rw [hc]; decide
  · simp [List.getD, hk]; decide

/-- `str(k).rjust(L)`: a digit is never followed by a blank and then a digit -/
theorem numName_shape (L k i : Nat) :
    ¬ (isDigit ((numName false L k).getD i ' ') = true ∧ (numName false L k).getD (i + 1) ' ' = ' ' ∧
        isDigit ((numName false L k).getD (i + 2) ' ') = true) := by
  -- position `j` holds a digit if it lies in `str(k)`, a blank otherwise
  have key : ∀ j, if L - (natStr k).length ≤ j ∧ j < L - (natStr k).length + (natStr k).length
      then (numName false L k).getD j ' ' ≠ ' ' else (numName false L k).getD j ' ' = ' ' := by
    intro j
    unfold numName just rjust
    simp only [Bool.false_eq_true, if_false, List.getD_eq_getElem?_getD, List.getElem?_append, List.getElem?_replicate,
      List.length_replicate]
    split
    · rename_i hj
      rw [if_neg (by omega), List.getElem?_eq_getElem (by omega)]
      exact (mem_natStr k _ (List.getElem_mem _)).1
    · split
      · rfl
      · rw [List.getElem?_eq_none (by omega)]; rfl
  rintro ⟨h0, h1, h2⟩
  have k0 := key i; have k1 := key (i + 1); have k2 := key (i + 2)
  split at k0
  · split at k2
    · rw [if_pos (by omega)] at k1; exact k1 h1
    · rw [k2] at h2; cases h2
  · rw [k0] at h0; cases h0

/-- what the generators say of a column name `n`: its characters, and that `block_name` can take it -/
structure ColWF (conv : Nat) (chars : Str) (n : Str) : Prop where
  chars : ∀ c ∈ n, NameChar chars c
  safe : ColSafe conv n

structure LayWF (conv : Nat) (chars : Str) (n : Str) : Prop where
  chars : ∀ c ∈ n, NameChar chars c
  safe : LaySafe conv n

theorem genSpec_column {conv : Nat} (hconv : conv < 4) {chars : Str} {spaces : Bool} (h : AlphabetOK chars spaces) (left : Bool) :
    GenSpec (fun k => columnNameFromNumber conv k left chars spaces) (columnCapacity conv chars.length spaces)
      (columnNm conv chars spaces left) (ColWF conv chars) := by
  have hs := conv_shapes hconv
  rw [funext fun k => columnNameFromNumber_eq h conv k left]
  refine GenSpec.ite (fun ha => ?_) (fun ha => ?_)
  · -- alphabetic: no digit at all
    exact genSpec_limited (alphaName_length h left _) (decodeA_alphaName h left _) fun k hk =>
      ⟨fun c hc => (alphaName_chars h left _ k c hc).imp_right Or.inl,
       (alphaName_length h left _ k).1 hk,
       fun _ => not_digit_of_alpha h (alphaName_chars h left _ k) 2,
       fun h2 => absurd ((hs.col2 h2).symm.trans ha) Bool.false_ne_true⟩
  · -- decimal
    have hlen := numName_length false hs.colPos
    exact genSpec_limited hlen (decodeN_numName false _) fun k hk =>
      ⟨fun c hc => Or.inr (numName_chars false _ k c hc).symm, (hlen k).1 hk,
       fun h03 => absurd (hs.col03 h03) ha, fun _ => numName_shape _ k 0⟩

theorem genSpec_layer {conv : Nat} (hconv : conv < 4) {chars : Str} {spaces : Bool} (h : AlphabetOK chars spaces) (left : Bool) :
    GenSpec (fun k => layerNameFromNumber conv k left chars spaces) (layerCapacity conv chars.length spaces)
      (layerNm conv chars spaces left) (LayWF conv chars) := by
  have hs := conv_shapes hconv
  rw [funext fun k => layerNameFromNumber_eq h conv k left]
  refine GenSpec.ite (fun ha => ?_) (fun ha => ?_)
  · -- decimal
    have hlen := numName_length left hs.layPos
    exact genSpec_limited hlen (decodeN_numName left _) fun k hk =>
      ⟨fun c hc => Or.inr (numName_chars left _ k c hc).symm, (hlen k).1 hk,
       fun h1 => absurd ((hs.lay1 h1).symm.trans ha) Bool.false_ne_true⟩
  · -- alphabetic: no digit at all
    exact genSpec_limited (alphaName_length h left _) (decodeA_alphaName h left _) fun k hk =>
      ⟨fun c hc => (alphaName_chars h left _ k c hc).imp_right Or.inl,
       (alphaName_length h left _ k).1 hk,
       fun _ => not_digit_of_alpha h (alphaName_chars h left _ k) 2⟩

end Proofs.Names
