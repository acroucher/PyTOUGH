/-
  The saturation line: `sat` and `tsat` solve the same implicit equation (IAPWS-IF97 eq. 29), and
  `tsat` inverts `sat` wherever `tsat`'s range test accepts the pressure and the branch conditions hold.
  `sat` goes `T ↦ ϑ ↦ β ↦ p`, `tsat` goes `p ↦ β ↦ ϑ ↦ T`; every step is a root formula of a quadratic, and for every step there is a
  lemma "the formula yields a root" (`satPoly_satBeta`, `satPoly_tsTheta`, `tsT_root`) and a lemma "on the branch taken the formula
  yields the root one started from" (`satBeta_eq`, `tsTheta_eq`, `tsT_thetaOf`); `sat_tsat_inverse` composes `satPoly_satBeta`, `tsTheta_eq` and `tsT_thetaOf`
  (`satBeta_eq` serves the other direction, `tsat_sat_inverse_partial` of `Props/C14.lean`).
-/
import PyTough.Proofs.ThermoIapws

namespace Proofs.Iapws
open Gen.Iapws Model.Thermo Proofs.Thermo

/-- the implicit saturation equation in `β = (p/p*)^¼` and `ϑ = T + n₉/(T − n₁₀)` -/
noncomputable def satPoly (β ϑ : ℝ) : ℝ :=
  β ^ 2 * ϑ ^ 2 + nr4_0 * β ^ 2 * ϑ + nr4_1 * β ^ 2 + nr4_2 * β * ϑ ^ 2 + nr4_3 * β * ϑ + nr4_4 * β
    + nr4_5 * ϑ ^ 2 + nr4_6 * ϑ + nr4_7

noncomputable def thetaOf (T : ℝ) : ℝ := T + nr4_8 / (T - nr4_9)
noncomputable def satA (ϑ : ℝ) : ℝ := ϑ * ϑ + nr4_0 * ϑ + nr4_1
noncomputable def satB (ϑ : ℝ) : ℝ := nr4_2 * (ϑ * ϑ) + nr4_3 * ϑ + nr4_4
noncomputable def satC (ϑ : ℝ) : ℝ := nr4_5 * (ϑ * ϑ) + nr4_6 * ϑ + nr4_7
noncomputable def satDisc (ϑ : ℝ) : ℝ := satB ϑ * satB ϑ - 4 * satA ϑ * satC ϑ
noncomputable def satDen (ϑ : ℝ) : ℝ := -(satB ϑ) + Real.sqrt (satDisc ϑ)
/-- the root `β` of `A β² + B β + C = 0` that `sat` takes -/
noncomputable def satBeta (ϑ : ℝ) : ℝ := 2 * satC ϑ / satDen ϑ

theorem sat_eq (t : ℝ) (h0 : 0 ≤ t) (h1 : t ≤ tcritical) :
    sat t = Ret.num (pstar4 * (satBeta (thetaOf (t + tc_k)) * satBeta (thetaOf (t + tc_k)))
      * (satBeta (thetaOf (t + tc_k)) * satBeta (thetaOf (t + tc_k)))) := by
  unfold sat satBeta satDen satDisc satA satB satC thetaOf
  simp only [tf_add, tf_sub, tf_mul, tf_neg, tf_le', tf_sqrt, tf_lit, Bool.and_eq_true, decide_eq_true_eq]
  norm_num only []
  rw [if_pos ⟨h0, h1⟩]

theorem sat_toK (t : ℝ) (h0 : 0 ≤ t) (h1 : t ≤ tcritical) :
    (sat t).toK = pstar4 * (satBeta (thetaOf (t + tc_k)) * satBeta (thetaOf (t + tc_k)))
      * (satBeta (thetaOf (t + tc_k)) * satBeta (thetaOf (t + tc_k))) := by
  rw [sat_eq t h0 h1]; rfl

/-- with `s² = B² − 4AC` (so `s = ±√Δ`), `2C / (−B + s)` is a root of `A x² + B x + C` -/
theorem quad_root_form (A B C s : ℝ) (hs : s * s = B * B - 4 * A * C) (hd : -B + s ≠ 0) :
    A * (2 * C / (-B + s)) ^ 2 + B * (2 * C / (-B + s)) + C = 0 := by
  field_simp
  linear_combination C * hs

theorem quad_root_slope (A B C s : ℝ) (hs : s * s = B * B - 4 * A * C) (hd : -B + s ≠ 0) :
    2 * A * (2 * C / (-B + s)) + B = -s := by
  field_simp
  linear_combination hs

theorem satPoly_quadratic_in_beta (β ϑ : ℝ) : satPoly β ϑ = satA ϑ * β ^ 2 + satB ϑ * β + satC ϑ := by
  unfold satPoly satA satB satC; ring

theorem satPoly_satBeta (ϑ : ℝ) (hΔ : 0 ≤ satDisc ϑ) (hD : satDen ϑ ≠ 0) : satPoly (satBeta ϑ) ϑ = 0 := by
  rw [satPoly_quadratic_in_beta]
  exact quad_root_form _ _ _ _ (Real.mul_self_sqrt hΔ) hD

/- `tsat` uses both `beta2 = sqrt(p/p*)` and `beta = sqrt(beta2)` (IAPWS97.py); in the theorems `b2 = b * b` -/
noncomputable def tsE (b2 b : ℝ) : ℝ := b2 + nr4_2 * b + nr4_5
noncomputable def tsF (b2 b : ℝ) : ℝ := nr4_0 * b2 + nr4_3 * b + nr4_6
noncomputable def tsG (b2 b : ℝ) : ℝ := nr4_1 * b2 + nr4_4 * b + nr4_7
noncomputable def tsDisc (b2 b : ℝ) : ℝ := tsF b2 b * tsF b2 b - 4 * tsE b2 b * tsG b2 b
noncomputable def tsDen (b2 b : ℝ) : ℝ := -(tsF b2 b) - Real.sqrt (tsDisc b2 b)
/-- the root `ϑ` of `E ϑ² + F ϑ + G = 0` that `tsat` takes -/
noncomputable def tsTheta (b2 b : ℝ) : ℝ := 2 * tsG b2 b / tsDen b2 b
noncomputable def tsDisc2 (ϑ : ℝ) : ℝ := (nr4_9 + ϑ) * (nr4_9 + ϑ) - 4 * (nr4_8 + nr4_9 * ϑ)
/-- the root `T` of `T² − (n₁₀ + ϑ) T + n₉ + n₁₀ ϑ = 0` that `tsat` takes -/
noncomputable def tsT (ϑ : ℝ) : ℝ := 1 / 2 * (nr4_9 + ϑ - Real.sqrt (tsDisc2 ϑ))
/-- lower limit of `tsat` (the double nearest 611.213) -/
noncomputable def pmin : ℝ := 2688143202191409 / 4398046511104
theorem pmin_pos : 0 < pmin := by unfold pmin; norm_num

theorem tsat_unfold (p : ℝ) : tsat p =
    if pmin ≤ p ∧ p ≤ pcritical then Ret.num (tsT (tsTheta (Real.sqrt (p / pstar4)) (Real.sqrt (Real.sqrt (p / pstar4)))) - tc_k)
    else Ret.none := by
  unfold tsat tsT tsDisc2 tsTheta tsDen tsDisc tsE tsF tsG pmin
  simp only [tf_add, tf_sub, tf_mul, tf_neg, tf_le', tf_sqrt, tf_lit, Bool.and_eq_true, decide_eq_true_eq]
  norm_num only []

theorem tsat_eq (p : ℝ) (h0 : pmin ≤ p) (h1 : p ≤ pcritical) :
    tsat p = Ret.num (tsT (tsTheta (Real.sqrt (p / pstar4)) (Real.sqrt (Real.sqrt (p / pstar4)))) - tc_k) := by
  rw [tsat_unfold, if_pos ⟨h0, h1⟩]

theorem tsat_none (p : ℝ) (h : ¬(pmin ≤ p ∧ p ≤ pcritical)) : tsat p = Ret.none := by
  rw [tsat_unfold, if_neg h]

theorem satPoly_quadratic_in_theta (β ϑ : ℝ) :
    satPoly β ϑ = tsE (β * β) β * ϑ ^ 2 + tsF (β * β) β * ϑ + tsG (β * β) β := by
  unfold satPoly tsE tsF tsG; ring

theorem satPoly_tsTheta (β : ℝ) (hΔ : 0 ≤ tsDisc (β * β) β) (hD : tsDen (β * β) β ≠ 0) :
    satPoly β (tsTheta (β * β) β) = 0 := by
  rw [satPoly_quadratic_in_theta]
  unfold tsTheta
  unfold tsDen at hD ⊢
  rw [sub_eq_add_neg] at hD ⊢
  exact quad_root_form _ _ _ _ (by rw [neg_mul_neg]; exact Real.mul_self_sqrt hΔ) hD

/-- the temperature `tsat` returns satisfies `ϑ = T + n₉ / (T − n₁₀)` in cleared form -/
theorem tsT_root (ϑ : ℝ) (h : 0 ≤ tsDisc2 ϑ) :
    tsT ϑ * tsT ϑ - (nr4_9 + ϑ) * tsT ϑ + (nr4_8 + nr4_9 * ϑ) = 0 := by
  have hs := Real.mul_self_sqrt h
  unfold tsT
  unfold tsDisc2 at hs ⊢
  linear_combination (1 / 4 : ℝ) * hs

theorem thetaOf_of_root (T ϑ : ℝ) (hT : T - nr4_9 ≠ 0)
    (h : T * T - (nr4_9 + ϑ) * T + (nr4_8 + nr4_9 * ϑ) = 0) : ϑ = thetaOf T := by
  unfold thetaOf
  field_simp
  linear_combination (-1 : ℝ) * h

theorem nr4_8_neg : (nr4_8 : ℝ) < 0 := by unfold nr4_8; rw [tf_lit]; norm_num
theorem pstar4_pos : (0 : ℝ) < pstar4 := by rw [pstar4_eq]; norm_num

theorem quartic_strictMono : StrictMonoOn (fun β : ℝ => pstar4 * (β * β) * (β * β)) (Set.Ici 0) := by
  intro a ha b _ hab
  have h2 : a * a < b * b := mul_self_lt_mul_self ha hab
  have h4 : a * a * (a * a) < b * b * (b * b) := mul_self_lt_mul_self (mul_self_nonneg a) h2
  show pstar4 * (a * a) * (a * a) < pstar4 * (b * b) * (b * b)
  rw [mul_assoc pstar4, mul_assoc pstar4]
  exact mul_lt_mul_of_pos_left h4 pstar4_pos

theorem sqrt_pstar4_quartic (β : ℝ) : Real.sqrt (pstar4 * (β * β) * (β * β) / pstar4) = β * β := by
  have e : pstar4 * (β * β) * (β * β) / pstar4 = (β * β) * (β * β) := by
    have := pstar4_pos
    field_simp
  rw [e]
  exact Real.sqrt_mul_self (mul_self_nonneg β)

/-- the last square root of `tsat` never fails: its argument is `(ϑ − n₁₀)² − 4 n₉` with `n₉ < 0` -/
theorem tsDisc2_nonneg (ϑ : ℝ) : 0 ≤ tsDisc2 ϑ := by
  have h := nr4_8_neg
  have e : tsDisc2 ϑ = (ϑ - nr4_9) ^ 2 + (-4) * nr4_8 := by unfold tsDisc2; ring
  rw [e]
  exact add_nonneg (sq_nonneg _) (mul_nonneg_of_nonpos_of_nonpos (by norm_num) h.le)

theorem T_lt_nr4_9 (t : ℝ) (h1 : t ≤ tcritical) : t + tc_k - nr4_9 < 0 := by
  have h9 : (650 : ℝ) < nr4_9 := by unfold nr4_9; rw [tf_lit]; norm_num
  linarith only [h1, tcritical_bounds.2, tc_k_bounds.2, h9]

/-- both signs of the root formula: `s = −(2Ax + B)` is `+√Δ` on the branch `2Ax + B ≤ 0` (`quad_root_plus`, `sat`) and `−√Δ` on
    `0 ≤ 2Ax + B` (`quad_root_minus`, `tsat`) -/
theorem quad_root_taken (A B C x : ℝ) (root : A * x ^ 2 + B * x + C = 0) (hne : A * x + B ≠ 0) :
    B * B - 4 * A * C = (2 * A * x + B) ^ 2 ∧ -B + -(2 * A * x + B) ≠ 0 ∧ 2 * C / (-B + -(2 * A * x + B)) = x := by
  have hden : -B + -(2 * A * x + B) ≠ 0 := by
    intro h; apply hne; linear_combination (-1 / 2 : ℝ) * h
  rw [div_eq_iff hden]
  exact ⟨by linear_combination (-4 * A) * root, hden, by linear_combination (2 : ℝ) * root⟩

theorem quad_root_plus (A B C x : ℝ) (root : A * x ^ 2 + B * x + C = 0) (hbr : 2 * A * x + B ≤ 0) (hne : A * x + B ≠ 0) :
    0 ≤ B * B - 4 * A * C ∧ -B + Real.sqrt (B * B - 4 * A * C) ≠ 0 ∧ 2 * C / (-B + Real.sqrt (B * B - 4 * A * C)) = x := by
  obtain ⟨hd, h⟩ := quad_root_taken A B C x root hne
  rw [hd, ← neg_sq, Real.sqrt_sq (neg_nonneg.mpr hbr)]
  exact ⟨sq_nonneg _, h⟩

theorem quad_root_minus (A B C x : ℝ) (root : A * x ^ 2 + B * x + C = 0) (hbr : 0 ≤ 2 * A * x + B) (hne : A * x + B ≠ 0) :
    0 ≤ B * B - 4 * A * C ∧ -B - Real.sqrt (B * B - 4 * A * C) ≠ 0 ∧ 2 * C / (-B - Real.sqrt (B * B - 4 * A * C)) = x := by
  obtain ⟨hd, h⟩ := quad_root_taken A B C x root hne
  rw [hd, Real.sqrt_sq hbr, sub_eq_add_neg]
  exact ⟨sq_nonneg _, h⟩

theorem tsTheta_eq (β ϑ : ℝ) (root : satPoly β ϑ = 0) (hbr : 0 ≤ 2 * tsE (β * β) β * ϑ + tsF (β * β) β)
    (hne : tsE (β * β) β * ϑ + tsF (β * β) β ≠ 0) : 0 ≤ tsDisc (β * β) β ∧ tsDen (β * β) β ≠ 0 ∧ tsTheta (β * β) β = ϑ :=
  quad_root_minus _ _ _ ϑ ((satPoly_quadratic_in_theta β ϑ).symm.trans root) hbr hne

theorem satBeta_eq (β ϑ : ℝ) (root : satPoly β ϑ = 0) (hbr : 2 * satA ϑ * β + satB ϑ ≤ 0) (hne : satA ϑ * β + satB ϑ ≠ 0) :
    satBeta ϑ = β :=
  (quad_root_plus _ _ _ β ((satPoly_quadratic_in_beta β ϑ).symm.trans root) hbr hne).2.2

theorem tsT_thetaOf (T : ℝ) (hw : T - nr4_9 < 0) : tsT (thetaOf T) = T := by
  have hwne : T - nr4_9 ≠ 0 := ne_of_lt hw
  have hquad : T * T - (nr4_9 + thetaOf T) * T + (nr4_8 + nr4_9 * thetaOf T) = 0 := by
    unfold thetaOf; field_simp; ring
  have hd2 : tsDisc2 (thetaOf T) = (nr4_9 + thetaOf T - 2 * T) ^ 2 := by
    unfold tsDisc2; linear_combination (-4 : ℝ) * hquad
  have hpos : 0 ≤ nr4_9 + thetaOf T - 2 * T := by
    have : nr4_9 + thetaOf T - 2 * T = -(T - nr4_9) + nr4_8 / (T - nr4_9) := by unfold thetaOf; ring
    rw [this]
    exact add_nonneg (neg_pos.mpr hw).le (div_pos_of_neg_of_neg nr4_8_neg hw).le
  unfold tsT
  rw [hd2, Real.sqrt_sq hpos]; ring

theorem satBeta_branch (ϑ : ℝ) (hΔ : 0 ≤ satDisc ϑ) (hD : satDen ϑ ≠ 0) :
    2 * satA ϑ * satBeta ϑ + satB ϑ = -Real.sqrt (satDisc ϑ) :=
  quad_root_slope _ _ _ _ (Real.mul_self_sqrt hΔ) hD

/-- `hΔ hD hβ`: discriminant, denominator and root of `sat`; `hbr hne`: `ϑ` is the root `tsat` takes (`tsTheta_eq`); `hg`: `tsat`'s range
    test, false within 1.2e-9 K of the critical temperature -/
theorem sat_tsat_inverse (t : ℝ) (h0 : 0 ≤ t) (h1 : t ≤ tcritical)
    (hΔ : 0 ≤ satDisc (thetaOf (t + tc_k))) (hD : satDen (thetaOf (t + tc_k)) ≠ 0)
    (hβ : 0 ≤ satBeta (thetaOf (t + tc_k)))
    (hbr : 0 ≤ 2 * tsE (satBeta (thetaOf (t + tc_k)) * satBeta (thetaOf (t + tc_k))) (satBeta (thetaOf (t + tc_k))) * thetaOf (t + tc_k)
      + tsF (satBeta (thetaOf (t + tc_k)) * satBeta (thetaOf (t + tc_k))) (satBeta (thetaOf (t + tc_k))))
    (hne : tsE (satBeta (thetaOf (t + tc_k)) * satBeta (thetaOf (t + tc_k))) (satBeta (thetaOf (t + tc_k))) * thetaOf (t + tc_k)
      + tsF (satBeta (thetaOf (t + tc_k)) * satBeta (thetaOf (t + tc_k))) (satBeta (thetaOf (t + tc_k))) ≠ 0)
    (hg : pmin ≤ (sat t).toK ∧ (sat t).toK ≤ pcritical) :
    tsat (sat t).toK = Ret.num t := by
  rw [sat_toK t h0 h1] at hg ⊢
  set ϑ := thetaOf (t + tc_k) with hϑ
  set β := satBeta ϑ
  rw [tsat_eq _ hg.1 hg.2, sqrt_pstar4_quartic, Real.sqrt_mul_self hβ,
    (tsTheta_eq β ϑ (satPoly_satBeta ϑ hΔ hD) hbr hne).2.2, hϑ, tsT_thetaOf _ (T_lt_nr4_9 t h1)]
  congr 1; ring

noncomputable def thC : ℝ := thetaOf (tcritical + tc_k)
/-- a rational strictly between `(pcritical/p*)^¼ = 2.16731013659529…` and the `β` that `sat` computes at
    the critical temperature, `2.16731013660316…` -/
noncomputable def rC : ℝ := 21673101366 / 10000000000

/-- for `sat_critical_exceeds`: `√Δ < 2C / rC + B` (squared) gives `β > rC`, and `p* rC⁴ ≥ pcritical` -/
theorem crit_facts : satB thC < 0 ∧ 0 < 2 * satC thC / rC + satB thC ∧
    satDisc thC < (2 * satC thC / rC + satB thC) ^ 2 ∧ (pcritical : ℝ) ≤ pstar4 * (rC * rC) * (rC * rC) := by
  unfold satDisc satA satC satB thC rC thetaOf tcritical tc_k pcritical pstar4 nr4_8 nr4_9 nr4_0 nr4_1 nr4_2 nr4_3 nr4_4 nr4_5 nr4_6 nr4_7
  simp only [tf_lit]
  norm_num

/-- **The critical end.**  Over the reals (exact arithmetic on the code's constants) the saturation
    pressure at the code's critical temperature exceeds the code's critical pressure (so `tsat` rejects it: `tsat_none`). -/
theorem sat_critical_exceeds : (pcritical : ℝ) < (sat (tcritical : ℝ)).toK := by
  rw [sat_toK tcritical (le_trans (by norm_num) tcritical_bounds.1.le) (le_refl _), ← thC]
  obtain ⟨hB, hpos, hΔ, hp⟩ := crit_facts
  have hr : (0 : ℝ) < rC := by unfold rC; norm_num
  have hsq : Real.sqrt (satDisc thC) < 2 * satC thC / rC + satB thC := (Real.sqrt_lt' hpos).mpr hΔ
  have hden0 : 0 < satDen thC := add_pos_of_pos_of_nonneg (neg_pos.mpr hB) (Real.sqrt_nonneg _)
  have hden1 : satDen thC < 2 * satC thC / rC := by unfold satDen; linarith only [hsq]
  have hβ : rC < satBeta thC := by
    unfold satBeta
    rw [lt_div_iff₀ hden0]
    have e : rC * (2 * satC thC / rC) = 2 * satC thC := by field_simp
    exact lt_of_lt_of_eq (mul_lt_mul_of_pos_left hden1 hr) e
  exact hp.trans_lt (quartic_strictMono hr.le (hr.le.trans hβ.le) hβ)

end Proofs.Iapws
