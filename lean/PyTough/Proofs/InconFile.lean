/-
  C13: the blocks of the file.  One turn of the block loop of `read` consumes exactly the lines
  `write` produced for one block and yields the block as it is read back (`canonBlock`);
  `readBlocks_body` iterates it.  `LayoutOK` is what the reader relies on in the format table,
  `BlockWF` in a block.
-/
import PyTough.Proofs.InconLines
import PyTough.Proofs.InconNames
namespace Proofs.Incon
open Py Model Model.Incon Model.Names Proofs

/-- not a line end -/
abbrev Plain (c : Char) : Prop := c ≠ '\n' ∧ c ≠ '\r'

/-- what a field may be asked to hold in an initial-conditions file (text without line ends: only `InconClean`
    uses that; reading back needs no more than the type letter, `Kind.typ`) -/
def Kind (f : FieldSpec) (v : Val) : Prop :=
  (f.typ = 's' ∧ ∃ t, v = .str t ∧ ∀ c ∈ t, Plain c) ∨ (f.typ = 'd' ∧ IsIntOrNone v) ∨ (f.typ = 'e' ∧ IsRealOrNone v)

theorem kind_intOrNone {f : FieldSpec} (ht : f.typ = 'd') {v : Val} (hv : IsIntOrNone v) : Kind f v := Or.inr (Or.inl ⟨ht, hv⟩)
theorem kind_realOrNone {f : FieldSpec} (ht : f.typ = 'e') {v : Val} (hv : IsRealOrNone v) : Kind f v := Or.inr (Or.inr ⟨ht, hv⟩)
theorem kind_real {f : FieldSpec} (ht : f.typ = 'e') {v : Val} (hv : IsReal v) : Kind f v := Or.inr (Or.inr ⟨ht, Or.inr hv⟩)
theorem kind_str {f : FieldSpec} (ht : f.typ = 's') {t : Str} (hp : ∀ c ∈ t, Plain c) : Kind f (.str t) := Or.inl ⟨ht, t, rfl, hp⟩

theorem Kind.typ {f : FieldSpec} {v : Val} (h : Kind f v) :
    f.typ = 's' ∨ f.typ = 'd' ∨ f.typ = 'e' ∨ f.typ = 'f' ∨ f.typ = 'g' ∨ f.typ = 'x' := by
  rcases h with ⟨ht, _⟩ | ⟨ht, _⟩ | ⟨ht, _⟩ <;> simp [ht]

theorem chunks4_spec {α : Type} : ∀ (fuel : Nat) (l : List α), l.length ≤ fuel →
    (chunks4 fuel l).flatten = l ∧ ∀ c ∈ chunks4 fuel l, c ≠ [] ∧ c.length ≤ 4 := by
  intro fuel
  induction fuel with
  | zero =>
    intro l hl
    have : l = [] := List.eq_nil_of_length_eq_zero (by omega)
    subst this
    exact ⟨rfl, fun c hc => by simp [chunks4] at hc⟩
  | succ fuel ih =>
    intro l hl
    cases l with
    | nil => exact ⟨rfl, fun c hc => by simp [chunks4] at hc⟩
    | cons a r =>
      have hlen : ((a :: r).drop 4).length ≤ fuel := by
        rw [List.length_drop]; simp only [List.length_cons] at hl ⊢; omega
      obtain ⟨h1, h2⟩ := ih ((a :: r).drop 4) hlen
      simp only [chunks4]
      refine ⟨?_, ?_⟩
      · rw [List.flatten_cons, h1, List.take_append_drop]
      · intro c hc
        rcases List.mem_cons.mp hc with rfl | hc
        · exact ⟨by simp, by rw [List.length_take]; omega⟩
        · exact h2 c hc

theorem chunks4_flatten {α : Type} (l : List α) : (chunks4 l.length l).flatten = l :=
  (chunks4_spec l.length l (Nat.le_refl _)).1

theorem chunks4_bounds {α : Type} {l c : List α} (hc : c ∈ chunks4 l.length l) : c ≠ [] ∧ c.length ≤ 4 :=
  (chunks4_spec l.length l (Nat.le_refl _)).2 c hc

theorem chunks4_subset {α : Type} {l c : List α} (hc : c ∈ chunks4 l.length l) {x : α} (hx : x ∈ c) : x ∈ l := by
  rw [← chunks4_flatten l]
  exact List.mem_flatten.mpr ⟨c, hc, hx⟩

theorem chunks4_single {α : Type} (l : List α) (hne : l ≠ []) (h4 : l.length ≤ 4) :
    chunks4 l.length l = [l] := by
  cases l with
  | nil => exact absurd rfl hne
  | cons a r =>
    simp only [List.length_cons, chunks4]
    rw [List.take_of_length_le (by simpa using h4), List.drop_of_length_le (by simpa using h4)]
    cases r.length <;> rfl

theorem popNones_append_nones (a : List PVal) (k : Nat) (ha : ∀ x, a.getLast? = some x → x ≠ .none) :
    popNones (a ++ List.replicate k PVal.none) = a := by
  unfold popNones
  rw [List.reverse_append, List.reverse_replicate,
    List.dropWhile_append_of_pos (List.forall_mem_replicate.mpr (.inr (by decide)))]
  exact dropWhile_reverse_of_last (fun x hx => by simpa using ha x hx)

theorem vals_kinds {f : FieldSpec} (hf : f.typ = 'e') {c : List Val} (hreal : ∀ x ∈ c, IsReal x) :
    ∀ vf ∈ c.zip [f, f, f, f], Kind vf.2 vf.1 := fun vf hvf => by
  obtain ⟨e1, e2⟩ := mem_zip_const (v := f) (by simp) hvf
  rw [e1]; exact kind_real hf (hreal _ e2)

theorem value_line (rf : ReadFn) {f : FieldSpec} (hf : f.typ = 'e') {c : List Val}
    (h4 : c.length ≤ 4) (hreal : ∀ x ∈ c, IsReal x) {l : Str} (h : writeLine [f, f, f, f] c = .ok l) :
    ∃ vals, parseString rf [f, f, f, f] l = .ok vals ∧ popNones vals = c.map (reparse rf f) := by
  have hfs : ∀ g ∈ [f, f, f, f], g = f := by simp
  have hnum : ∀ g ∈ [f, f, f, f].drop c.length, NumericTyp g.typ := fun g hg => by
    rw [hfs g (List.mem_of_mem_drop hg)]; exact numeric_of_e hf
  have hp := line_roundtrip rf [f, f, f, f] c hnum (fun vf h => (vals_kinds hf hreal vf h).typ) h [] (by simp)
  rw [List.append_nil, zip_map_const (reparse rf) f c [f, f, f, f] h4 hfs, List.map_const'] at hp
  refine ⟨_, hp, ?_⟩
  apply popNones_append_nones
  -- the last value was written, and a real that was written does not read back as `None`
  intro x hx
  obtain ⟨y, hy, rfl⟩ := List.mem_map.mp (List.mem_of_getLast? hx)
  obtain ⟨g, hvf⟩ := exists_zip_left c [f, f, f, f] h4 y hy
  obtain ⟨s, hs⟩ := written_each h (y, g) hvf
  rw [(mem_zip_const hfs hvf).1] at hs
  exact reparse_real_ne_none rf hf (hreal y hy) hs

theorem readVals_chunks (rf : ReadFn) (S : Specs) {f : FieldSpec} (hS : S.incon2 = [f, f, f, f])
    (hf : f.typ = 'e') (nvars : Option Nat) {cs : List (List Val)} {ls : List Str}
    (hall : All2 (fun c l => writeLine S.incon2 c = .ok l) cs ls) (hne : cs ≠ [])
    (hcs : ∀ c ∈ cs, c ≠ [] ∧ c.length ≤ 4 ∧ ∀ x ∈ c, IsReal x) :
    ∀ (acc : List PVal) (rest : List Str) (fuel : Nat), ls.length ≤ fuel →
    -- `NvarsOK` in the middle of a block: without `num_variables` one line is read; with it, the lines hold
    -- exactly what is still missing
    (match nvars with | none => cs.length = 1 | some n => n = acc.length + cs.flatten.length) →
    readVals rf S nvars fuel (ls ++ rest) acc = .ok (acc ++ cs.flatten.map (reparse rf f), rest) := by
  induction hall with
  | nil => exact absurd rfl hne
  | cons hcl t ih =>
    rename_i c l cs' ls'
    intro acc rest fuel hfuel hn
    obtain ⟨hc1, hc2, hc3⟩ := hcs c (by simp)
    rw [hS] at hcl
    obtain ⟨vals, hp, hpop⟩ := value_line rf hf hc2 hc3 hcl
    cases fuel with
    | zero => simp at hfuel
    | succ fuel =>
      unfold readVals
      simp only [readline, List.cons_append, hS, hp, hpop, bind, Except.bind]
      cases nvars with
      | none =>
        simp only at hn ⊢
        have : cs' = [] := List.eq_nil_of_length_eq_zero (by simpa using hn)
        subst this
        cases t
        simp [pure, Except.pure]
      | some n =>
        simp only at hn ⊢
        by_cases hcs' : cs' = []
        · subst hcs'
          cases t
          have : ¬ (acc ++ c.map (reparse rf f)).length < n := by
            rw [hn]; simp
          rw [if_neg this]
          simp [pure, Except.pure]
        · have hpos := Nat.lt_of_lt_of_le (List.length_pos_iff.mpr hcs')
            (flatten_length_ge cs' fun c' hc' => (hcs c' (List.mem_cons_of_mem _ hc')).1)
          have : (acc ++ c.map (reparse rf f)).length < n := by
            rw [hn]; simp only [List.length_append, List.length_map, List.flatten_cons]; omega
          rw [if_pos this]
          have := ih hcs' (fun c' hc' => hcs c' (List.mem_cons_of_mem _ hc')) (acc ++ c.map (reparse rf f)) rest fuel
            (by simpa using hfuel)
            (by simp only [hn, List.length_append, List.length_map, List.flatten_cons]; omega)
          rw [this]
          simp [List.append_assoc]

/-- the fields of the block record and of a value line -/
structure Layout where
  name : FieldSpec
  nseq : FieldSpec
  nadd : FieldSpec
  por : FieldSpec
  k1 : FieldSpec
  k2 : FieldSpec
  k3 : FieldSpec
  v : FieldSpec

/-- what the reader relies on in `t2incon_format_specification` (decided on the generated table) -/
structure LayoutOK (S : Specs) (L : Layout) : Prop where
  incon1 : S.incon1 = [L.name, L.nseq, L.nadd, L.por]
  incon1Tr : S.incon1Tr = [L.name, L.nseq, L.nadd, L.por, L.k1, L.k2, L.k3]
  incon2 : S.incon2 = [L.v, L.v, L.v, L.v]
  name_s : L.name.typ = 's'
  name_prec : L.name.prec = none
  name_w : L.name.width = 5
  nseq_d : L.nseq.typ = 'd'
  nadd_d : L.nadd.typ = 'd'
  por_e : L.por.typ = 'e'
  k1_e : L.k1.typ = 'e'
  k2_e : L.k2.typ = 'e'
  k3_e : L.k3.typ = 'e'
  v_e : L.v.typ = 'e'

instance (S : Specs) (L : Layout) : Decidable (LayoutOK S L) :=
  decidable_of_iff (_ ∧ _ ∧ _ ∧ _ ∧ _ ∧ _ ∧ _ ∧ _ ∧ _ ∧ _ ∧ _ ∧ _ ∧ _)
    ⟨fun ⟨a, b, c, d, e, f, g, h, i, j, k, l, m⟩ => ⟨a, b, c, d, e, f, g, h, i, j, k, l, m⟩,
     fun ⟨a, b, c, d, e, f, g, h, i, j, k, l, m⟩ => ⟨a, b, c, d, e, f, g, h, i, j, k, l, m⟩⟩

/-- the blocks the property quantifies over (`valid` is asked for whether or not the reader checks
    names: it also tells that the name ends in a digit and holds no line end; `valid` and `noplus`
    speak of `unfixBlockname b.block`, the name as the file holds it) -/
structure BlockWF (b : Block Val) : Prop where
  name5 : b.block.length = 5
  canonical : Canonical b.block
  valid : validBlockname (unfixBlockname b.block) = .ok true
  noplus : (unfixBlockname b.block).take 3 ≠ ['+', '+', '+']
  vars_ne : b.vars ≠ []
  vars_real : ∀ x ∈ b.vars, IsReal x
  por : IsRealOrNone b.porosity
  nseq : IsIntOrNone b.nseq
  nadd : IsIntOrNone b.nadd
  perm : ∀ k, b.permeability = some k → IsReal k.1 ∧ IsReal k.2.1 ∧ IsReal k.2.2

/-- is the permeability triple written (and hence read back)? -/
def permWritten (sim : Str) (b : Block Val) : Bool := decide (sim = TOUGHREACT) && b.permeability.isSome

/-- the block as it is read back -/
def canonBlock (rf : ReadFn) (L : Layout) (sim : Str) (b : Block Val) : Block PVal :=
  { block := b.block, vars := b.vars.map (reparse rf L.v), porosity := reparse rf L.por b.porosity,
    permeability := if sim = TOUGHREACT then
        b.permeability.map (fun k => (reparse rf L.k1 k.1, reparse rf L.k2 k.2.1, reparse rf L.k3 k.2.2))
      else none,
    nseq := reparse rf L.nseq b.nseq, nadd := reparse rf L.nadd b.nadd }

theorem canonBlock_perm (rf : ReadFn) (L : Layout) (sim : Str) (b : Block Val) :
    (canonBlock rf L sim b).permeability = if permWritten sim b then
      b.permeability.map (fun k => (reparse rf L.k1 k.1, reparse rf L.k2 k.2.1, reparse rf L.k3 k.2.2)) else none := by
  unfold canonBlock permWritten
  by_cases hs : sim = TOUGHREACT <;> cases b.permeability <;> simp [hs]

theorem valid_name_tables {a b c d e : Char} (hv : validBlockname [a, b, c, d, e] = .ok true) :
    (∀ x ∈ [a, b, c], x ∈ Gen.Conventions.validFirst3) ∧ d ∈ Gen.Conventions.validFourth ∧
      e ∈ Gen.Conventions.validFifth := by
  unfold validBlockname at hv
  have hs : slice [a, b, c, d, e] 0 3 = [a, b, c] := rfl
  have g3 : getIdx [a, b, c, d, e] 3 = .ok d := rfl
  have g4 : getIdx [a, b, c, d, e] 4 = .ok e := rfl
  rw [hs, g3, g4] at hv
  simp only at hv
  by_cases h123 : ([a, b, c].all fun c => Gen.Conventions.validFirst3.contains c) = true
  · rw [if_pos h123] at hv
    by_cases h4 : Gen.Conventions.validFourth.contains d = true
    · rw [if_pos h4] at hv
      exact ⟨fun x hx => List.contains_iff_mem.mp (List.all_eq_true.mp h123 x hx),
        List.contains_iff_mem.mp h4, List.contains_iff_mem.mp (Except.ok.inj hv)⟩
    · rw [if_neg h4] at hv; cases hv
  · rw [if_neg h123] at hv; cases hv

theorem valid_last_digit {n : Str} (h5 : n.length = 5) (hv : validBlockname n = .ok true) :
    ∃ a b c d e, n = [a, b, c, d, e] ∧ isDigit e = true := by
  obtain ⟨a, b, c, d, e, rfl⟩ := Proofs.Names.len5 h5
  have t5 : ∀ c ∈ Gen.Conventions.validFifth, isDigit c = true := by decide +kernel
  exact ⟨a, b, c, d, e, rfl, t5 e (valid_name_tables hv).2.2⟩

theorem valid_name_plain {n : Str} (h5 : n.length = 5) (hv : validBlockname n = .ok true) : ∀ c ∈ n, Plain c := by
  obtain ⟨a, b, c, d, e, rfl⟩ := Proofs.Names.len5 h5
  have t1 : ∀ c ∈ Gen.Conventions.validFirst3, Plain c := by decide +kernel
  have t4 : ∀ c ∈ Gen.Conventions.validFourth, Plain c := by decide +kernel
  have t5 : ∀ c ∈ Gen.Conventions.validFifth, Plain c := by decide +kernel
  obtain ⟨h123, h4, h5⟩ := valid_name_tables hv
  intro x hx
  simp only [List.mem_cons, List.not_mem_nil, or_false] at hx
  rcases hx with rfl | rfl | rfl | rfl | rfl
  · exact t1 _ (h123 _ (by simp))
  · exact t1 _ (h123 _ (by simp))
  · exact t1 _ (h123 _ (by simp))
  · exact t4 _ h4
  · exact t5 _ h5

theorem BlockWF.unfix_length {b : Block Val} (hwf : BlockWF b) : (unfixBlockname b.block).length = 5 :=
  Proofs.Names.unfix_length hwf.name5

theorem BlockWF.name_plain {b : Block Val} (hwf : BlockWF b) : ∀ c ∈ unfixBlockname b.block, Plain c :=
  valid_name_plain hwf.unfix_length hwf.valid

/-- the values `write` puts in the block record (the first line of a block) -/
def blockRecVals (sim : Str) (b : Block Val) : List Val :=
  match decide (sim = TOUGHREACT), b.permeability with
  | true, some (k1, k2, k3) => [.str (unfixBlockname b.block), b.nseq, b.nadd, b.porosity, k1, k2, k3]
  | _, _ => [.str (unfixBlockname b.block), b.nseq, b.nadd, b.porosity]

theorem writeBlock_eq {S : Specs} {L : Layout} (hL : LayoutOK S L) (sim : Str) (b : Block Val) :
    writeBlock S sim b = (do
      let l1 ← writeLine S.incon1Tr (blockRecVals sim b)
      let ls ← (chunks4 b.vars.length b.vars).mapM (writeLine S.incon2)
      pure (l1 :: ls)) := by
  -- `incon1` is the first four fields of `incon1Tr`, and `zip` stops after the four values
  have hpre : ∀ v1 v2 v3 v4, writeLine S.incon1 [v1, v2, v3, v4] = writeLine S.incon1Tr [v1, v2, v3, v4] := by
    intro v1 v2 v3 v4; unfold writeLine writeValues; rw [hL.incon1, hL.incon1Tr]; rfl
  unfold writeBlock blockRecVals
  -- only a TOUGHREACT object with permeabilities writes the long record
  cases hd : decide (sim = TOUGHREACT) with
  | false => cases hp : b.permeability <;> (simp only; rw [hpre])
  | true =>
    cases hp : b.permeability with
    | none => simp only; rw [hpre]
    | some k => rfl

theorem writeBlock_ok_iff {S : Specs} {L : Layout} (hL : LayoutOK S L) {sim : Str} {b : Block Val}
    {lines : List Str} : writeBlock S sim b = .ok lines ↔
      ∃ l1, writeLine S.incon1Tr (blockRecVals sim b) = .ok l1 ∧
        ∃ ls, (chunks4 b.vars.length b.vars).mapM (writeLine S.incon2) = .ok ls ∧ l1 :: ls = lines := by
  rw [writeBlock_eq hL]
  simp only [bind_ok_iff, pure, Except.pure, Except.ok.injEq]

theorem blockRecVals_eq (sim : Str) (b : Block Val) :
    (permWritten sim b = false ∧ blockRecVals sim b = [.str (unfixBlockname b.block), b.nseq, b.nadd, b.porosity]) ∨
    (∃ k, b.permeability = some k ∧ permWritten sim b = true ∧
      blockRecVals sim b = [.str (unfixBlockname b.block), b.nseq, b.nadd, b.porosity, k.1, k.2.1, k.2.2]) := by
  unfold blockRecVals permWritten
  by_cases hs : sim = TOUGHREACT
  · cases hp : b.permeability with
    | none => left; simp [hs]
    | some k => right; exact ⟨k, rfl, by simp [hs], by simp [hs]⟩
  · left; simp [hs]

theorem blockRec_forall {S : Specs} {L : Layout} (hL : LayoutOK S L) (sim : Str) (b : Block Val)
    {P : FieldSpec → Val → Prop} (hn : P L.name (.str (unfixBlockname b.block))) (hs : P L.nseq b.nseq)
    (ha : P L.nadd b.nadd) (hp : P L.por b.porosity)
    (hk : ∀ k, b.permeability = some k → P L.k1 k.1 ∧ P L.k2 k.2.1 ∧ P L.k3 k.2.2) :
    ∀ vf ∈ (blockRecVals sim b).zip S.incon1Tr, P vf.2 vf.1 := by
  intro vf hvf
  rw [hL.incon1Tr] at hvf
  rcases blockRecVals_eq sim b with ⟨_, e⟩ | ⟨k, hk', _, e⟩
  · rw [e] at hvf
    simp only [List.zip_cons_cons, List.zip_nil_left, List.mem_cons, List.not_mem_nil, or_false] at hvf
    rcases hvf with rfl | rfl | rfl | rfl <;> assumption
  · rw [e] at hvf
    obtain ⟨h1, h2, h3⟩ := hk k hk'
    simp only [List.zip_cons_cons, List.zip_nil_left, List.mem_cons, List.not_mem_nil, or_false] at hvf
    rcases hvf with rfl | rfl | rfl | rfl | rfl | rfl | rfl <;> assumption

theorem blockRec_kinds {S : Specs} {L : Layout} (hL : LayoutOK S L) (sim : Str) {b : Block Val} (hwf : BlockWF b) :
    ∀ vf ∈ (blockRecVals sim b).zip S.incon1Tr, Kind vf.2 vf.1 :=
  blockRec_forall hL sim b (P := Kind) (kind_str hL.name_s hwf.name_plain)
    (kind_intOrNone hL.nseq_d hwf.nseq) (kind_intOrNone hL.nadd_d hwf.nadd) (kind_realOrNone hL.por_e hwf.por)
    (fun k hk => ⟨kind_real hL.k1_e (hwf.perm k hk).1, kind_real hL.k2_e (hwf.perm k hk).2.1,
      kind_real hL.k3_e (hwf.perm k hk).2.2⟩)

theorem blockRec_rest_numeric {S : Specs} {L : Layout} (hL : LayoutOK S L) (sim : Str) (b : Block Val) :
    ∀ f ∈ S.incon1Tr.drop (blockRecVals sim b).length, NumericTyp f.typ := by
  intro f hf
  rw [hL.incon1Tr] at hf
  rcases blockRecVals_eq sim b with ⟨_, e⟩ | ⟨k, _, _, e⟩
  · rw [e] at hf
    simp only [List.length_cons, List.length_nil, List.drop_succ_cons, List.drop_zero, List.mem_cons,
      List.not_mem_nil, or_false] at hf
    rcases hf with rfl | rfl | rfl
    · exact numeric_of_e hL.k1_e
    · exact numeric_of_e hL.k2_e
    · exact numeric_of_e hL.k3_e
  · rw [e] at hf
    simp at hf

theorem writeField_blockname {S : Specs} {L : Layout} (hL : LayoutOK S L) {b : Block Val} (hwf : BlockWF b) :
    writeField L.name (.str (unfixBlockname b.block)) = .ok (unfixBlockname b.block) :=
  writeField_str_full hL.name_s hL.name_prec (hwf.unfix_length.trans hL.name_w.symm)

theorem reparse_blockname (rf : ReadFn) {S : Specs} {L : Layout} (hL : LayoutOK S L) {b : Block Val} (hwf : BlockWF b) :
    reparse rf L.name (.str (unfixBlockname b.block)) = .str (unfixBlockname b.block) :=
  (reparse_name rf hL.name_s hL.name_prec (hwf.unfix_length.trans hL.name_w.symm)
    fun h => (hwf.name_plain _ h).1 rfl).2

/-- the block record as the block loop sees it: the seven values, and what the loop computes from the
    last three is the permeability of `canonBlock` and the flavour switch of `permWritten` -/
theorem blockRec_line (rf : ReadFn) {S : Specs} {L : Layout} (hL : LayoutOK S L) (sim : Str) {b : Block Val}
    (hwf : BlockWF b) {l1 : Str} (h : writeLine S.incon1Tr (blockRecVals sim b) = .ok l1) :
    ∃ k1 k2 k3, parseString rf S.incon1Tr (padstring l1) =
        .ok [.str (unfixBlockname b.block), reparse rf L.nseq b.nseq, reparse rf L.nadd b.nadd,
             reparse rf L.por b.porosity, k1, k2, k3] ∧
      (if k1 = PVal.none ∨ k2 = PVal.none ∨ k3 = PVal.none then none else some (k1, k2, k3)) =
        (canonBlock rf L sim b).permeability ∧
      ∀ s : Str, (if k1 = PVal.none ∨ k2 = PVal.none ∨ k3 = PVal.none then s else TOUGHREACT) =
        if permWritten sim b then TOUGHREACT else s := by
  have hname := reparse_blockname rf hL hwf
  rw [padded_roundtrip rf S.incon1Tr _ (blockRec_rest_numeric hL sim b)
    (fun vf hvf => (blockRec_kinds hL sim hwf vf hvf).typ) h, hL.incon1Tr]
  rcases blockRecVals_eq sim b with ⟨hpw, e⟩ | ⟨k, hk, hpw, e⟩
  · -- no permeabilities in the record: the three fields read as `None`
    exact ⟨.none, .none, .none, by rw [e]; simp [hname], by rw [canonBlock_perm, hpw]; rfl, fun s => by simp [hpw]⟩
  · -- all three permeabilities were written, so none of them reads back as `None`
    obtain ⟨hk1, hk2, hk3⟩ := hwf.perm k hk
    have hz := written_each h
    rw [e, hL.incon1Tr] at hz
    obtain ⟨s1, hs1⟩ := hz (k.1, L.k1) (by simp)
    obtain ⟨s2, hs2⟩ := hz (k.2.1, L.k2) (by simp)
    obtain ⟨s3, hs3⟩ := hz (k.2.2, L.k3) (by simp)
    have n1 := reparse_real_ne_none rf hL.k1_e hk1 hs1
    have n2 := reparse_real_ne_none rf hL.k2_e hk2 hs2
    have n3 := reparse_real_ne_none rf hL.k3_e hk3 hs3
    refine ⟨reparse rf L.k1 k.1, reparse rf L.k2 k.2.1, reparse rf L.k3 k.2.2, ?_, ?_, fun s => ?_⟩
    · rw [e]; simp [hname]
    · simp [n1, n2, n3, canonBlock_perm, hpw, hk]
    · simp [n1, n2, n3, hpw]

/-- the name ends in a digit and is not `+++`: the loop takes the line for neither the blank terminator
    nor the timing marker -/
theorem blockRec_starts {S : Specs} {L : Layout} (hL : LayoutOK S L) (sim : Str) {b : Block Val}
    (hwf : BlockWF b) {l1 : Str} (h : writeLine S.incon1Tr (blockRecVals sim b) = .ok l1) :
    (strip l1).isEmpty = false ∧ l1.take 3 ≠ ['+', '+', '+'] := by
  obtain ⟨rec, hw, rfl⟩ := writeLine_ok h
  obtain ⟨vs, hvs⟩ : ∃ vs, blockRecVals sim b = Val.str (unfixBlockname b.block) :: vs := by
    rcases blockRecVals_eq sim b with ⟨_, e⟩ | ⟨k, _, _, e⟩ <;> exact ⟨_, e⟩
  -- the record is the text of its first field, the name itself, followed by the others
  rw [hvs, hL.incon1Tr] at hw
  obtain ⟨_, r, e, _, rfl⟩ := writeValues_cons_ok hw
  rw [writeField_blockname hL hwf] at e
  cases e
  obtain ⟨a, b', c', d', e', hn, he⟩ := valid_last_digit hwf.unfix_length hwf.valid
  constructor
  · apply strip_ne_nil (c := e')
    · rw [hn]; simp
    · exact isDigit_elim he (P := fun c => isStrWs c = false) (by decide +kernel)
  · rw [List.append_assoc, List.take_append_of_le_length (by rw [hwf.unfix_length]; omega)]
    exact hwf.noplus

/-- `num_variables` fits the block: given, it is the number of values; absent, the values are on one line -/
def NvarsOK (nvars : Option Nat) (b : Block Val) : Prop :=
  match nvars with
  | none => b.vars.length ≤ 4
  | some n => n = b.vars.length

theorem readVals_block (rf : ReadFn) {S : Specs} {L : Layout} (hL : LayoutOK S L) (nvars : Option Nat)
    {b : Block Val} (hwf : BlockWF b) (hnv : NvarsOK nvars b) {ls : List Str}
    (hls : (chunks4 b.vars.length b.vars).mapM (writeLine S.incon2) = .ok ls) (rest : List Str) :
    readVals rf S nvars ((ls ++ rest).length + 1) (ls ++ rest) [] = .ok (b.vars.map (reparse rf L.v), rest) := by
  have hflat := chunks4_flatten b.vars
  have hcsne : chunks4 b.vars.length b.vars ≠ [] := by
    intro e; rw [e] at hflat; exact hwf.vars_ne hflat.symm
  have hvals := readVals_chunks rf S hL.incon2 hL.v_e nvars ((mapM_ok_iff _ _ _).mp hls) hcsne
    (fun c hc => ⟨(chunks4_bounds hc).1, (chunks4_bounds hc).2, fun x hx => hwf.vars_real x (chunks4_subset hc hx)⟩)
    [] rest ((ls ++ rest).length + 1) (by simp; omega)
    (by
      cases nvars with
      | none => simp only [NvarsOK] at hnv ⊢; rw [chunks4_single _ hwf.vars_ne hnv]; rfl
      | some n => simp only [NvarsOK] at hnv ⊢; rw [hflat, hnv]; simp)
  rwa [hflat, List.nil_append] at hvals

theorem readBlocks_step (rf : ReadFn) {S : Specs} {L : Layout} (hL : LayoutOK S L) (nvars : Option Nat)
    (check : Bool) (xsim : Str) {b : Block Val} (hwf : BlockWF b) (hnv : NvarsOK nvars b)
    {lines : List Str} (hw : writeBlock S xsim b = .ok lines) (sim : Str) (bs : List (Block PVal))
    (rest : List Str) (fuel : Nat) :
    readBlocks rf S nvars check (fuel + 1) (lines ++ rest) sim bs =
      readBlocks rf S nvars check fuel rest (if permWritten xsim b then TOUGHREACT else sim)
        (addIncon bs (canonBlock rf L xsim b)) := by
  obtain ⟨l1, h1, ls, hls, rfl⟩ := (writeBlock_ok_iff hL).mp hw
  obtain ⟨hstrip, htake⟩ := blockRec_starts hL xsim hwf h1
  obtain ⟨k1, k2, k3, hpl, hperm, hflav⟩ := blockRec_line rf hL xsim hwf h1
  have hvalid : (if check = true then validBlockname (unfixBlockname b.block) else Except.ok true) = .ok true := by
    cases check <;> simp [hwf.valid]
  conv => lhs; unfold readBlocks
  simp only [readline, List.cons_append, hstrip, Bool.false_eq_true, if_false, if_neg htake, hpl, hvalid,
    fix_unfix_canonical b.block hwf.canonical, readVals_block rf hL nvars hwf hnv hls rest]
  rw [hperm, hflav sim]
  rfl

/-- the reader's flavour after the block loop, entered with `sim`, over the lines of `blocks` written from an object
    of flavour `xsim`: TOUGHREACT as soon as one block carried permeabilities -/
def simAfter (xsim : Str) (sim : Str) (blocks : List (Block Val)) : Str :=
  if blocks.any (permWritten xsim) then TOUGHREACT else sim

theorem simAfter_cons (xsim sim : Str) (b : Block Val) (bl : List (Block Val)) :
    simAfter xsim (if permWritten xsim b then TOUGHREACT else sim) bl = simAfter xsim sim (b :: bl) := by
  unfold simAfter
  cases h : permWritten xsim b <;> simp [h]

theorem readBlocks_body (rf : ReadFn) {S : Specs} {L : Layout} (hL : LayoutOK S L) (nvars : Option Nat)
    (check : Bool) (xsim : Str) : ∀ (blocks : List (Block Val)) (body : List (List Str)),
    (∀ b ∈ blocks, BlockWF b ∧ NvarsOK nvars b) → blocks.mapM (writeBlock S xsim) = .ok body →
    ∀ (sim : Str) (bs : List (Block PVal)) (rest : List Str) (fuel : Nat),
    readBlocks rf S nvars check (blocks.length + fuel) (body.flatten ++ rest) sim bs =
      readBlocks rf S nvars check fuel rest (simAfter xsim sim blocks)
        ((blocks.map (canonBlock rf L xsim)).foldl addIncon bs) := by
  intro blocks
  induction blocks with
  | nil =>
    intro body _ hm sim bs rest fuel
    rw [List.mapM_nil] at hm; cases hm
    simp [simAfter]
  | cons b bl ih =>
    intro body hwf hm sim bs rest fuel
    obtain ⟨lines, body', h1, h2, rfl⟩ := mapM_cons_ok _ b bl body hm
    obtain ⟨hb, hnvb⟩ := hwf b (by simp)
    rw [List.flatten_cons, List.append_assoc, List.length_cons, Nat.add_right_comm,
      readBlocks_step rf hL nvars check xsim hb hnvb h1,
      ih body' (fun b' hb' => hwf b' (List.mem_cons_of_mem _ hb')) h2, simAfter_cons]
    rfl

end Proofs.Incon
