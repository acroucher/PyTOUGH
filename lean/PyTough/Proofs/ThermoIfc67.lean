/-
  The decision logic of the IFC-67 routines of `t2thermo.py` over the reals: a routine with range checking is
  `if ok then body else none`, so each checked routine is the unchecked one inside the range its test decides; the separated
  steam fraction is a clamped affine function of the enthalpy; the region classifier as nested conditions on real numbers, and the
  band between two cut points on which two such classifiers differ (`band_differ`, for the comparison with IAPWS-97 in `Props/C15.lean`).
-/
import PyTough.Proofs.ThermoReal
import PyTough.Gen.Ifc67
open Model.Thermo Proofs.Thermo
namespace Proofs.Ifc67
open Gen.Ifc67

/-- the double nearest 0.01 (equal to `Proofs.Iapws.tmin` by `rfl`) -/
noncomputable def tmin : ℝ := 5764607523034235 / 576460752303423488
/-- IFC-67 saturation pressure and B23 pressure as numbers -/
noncomputable def sat67 (t : ℝ) : ℝ := (sat t false).toK
noncomputable def b23p67 (t : ℝ) : ℝ := (b23p t).toK
/-- the critical temperature of IFC-67 in degC as the module computes it (`Tc1 - tc_k` in double) -/
noncomputable def tc1C : ℝ := (Tc1_C : ℝ)

/-- The checked routines have the form `if ok then body else dflt` (`dflt` a `Ret.none…`), where the flag `ok` is the range test `g` with checking on
    and `true` with it off: the checked routine is the unchecked one inside the range `C` that `g` decides.  The left side is what
    `unfold cowat` leaves at the literal flag `true`, so that `refine guard_eq …` matches as it stands. -/
theorem guard_eq {α : Type} (g : Bool) (C : Prop) [Decidable C] (body dflt : α) (h : g = true ↔ C) :
    (if (if true = true then g else true) = true then body else dflt)
      = if C then (if (if false = true then g else true) = true then body else dflt) else dflt := by
  by_cases hC : C
  · rw [if_pos hC, if_pos rfl, if_pos (h.mpr hC), if_neg Bool.false_ne_true, if_pos rfl]
  · rw [if_neg hC, if_pos rfl, if_neg (fun hg => hC (h.mp hg))]

theorem unchecked_eq {α : Type} (g : Bool) (body dflt : α) :
    (if (if false = true then g else true) = true then body else dflt) = body := by
  rw [if_neg Bool.false_ne_true, if_pos rfl]

theorem guarded_none_iff {α : Type} {C : Prop} [Decidable C] (x dflt : α) : (if C then x else dflt) = dflt ↔ ¬C ∨ x = dflt :=
  ite_eq_right_iff.trans imp_iff_not_or

theorem cowat_guard (t p : ℝ) : cowat t p true =
    if tmin ≤ t ∧ t ≤ 350 ∧ p ≤ 100000000 ∧ sat67 t ≤ p then cowat t p false else Ret.nonePair := by
  unfold cowat
  refine guard_eq _ _ _ _ ?_
  unfold sat67 tmin
  simp only [tf_le', tf_lit, Bool.and_eq_true, decide_eq_true_eq, Bool.if_false_right]
  norm_num only [and_assoc]

theorem supst_guard (t p : ℝ) : supst t p true =
    if tmin ≤ t ∧ t ≤ 800 ∧ 0 ≤ p ∧
        ((t ≤ tc1C ∧ p ≤ sat67 t) ∨ (¬ t ≤ tc1C ∧ t ≤ 590 ∧ p ≤ b23p67 t) ∨ (¬ t ≤ tc1C ∧ ¬ t ≤ 590 ∧ p ≤ 100000000))
    then supst t p false else Ret.nonePair := by
  unfold supst
  refine guard_eq _ _ _ _ ?_
  unfold sat67 b23p67 tmin tc1C
  simp only [tf_le', tf_ofInt, tf_lit, Bool.and_eq_true, decide_eq_true_eq, Bool.if_false_right, Bool.ite_eq_true_distrib,
    ite_prop_iff_or, and_or_left]
  norm_num only [and_assoc]

theorem supst_unchecked (t p : ℝ) : ∃ d u, supst t p false = Ret.pair d u := by
  unfold supst
  exact ⟨_, _, unchecked_eq _ _ _⟩

/-- reduced temperature `(t + 273.15) / 647.3` as written in `cowat` -/
noncomputable def tkr (t : ℝ) : ℝ := (t + 2402652809016115 / 8796093022208) / (2846855506637619 / 4398046511104)
noncomputable def cowatY (t : ℝ) : ℝ :=
  1 - cowat_sa_1 * (tkr t * tkr t) - cowat_sa_2 / (tkr t * tkr t * (tkr t * tkr t) * (tkr t * tkr t))
/-- the quantity `ZP` whose sign `cowat` tests before taking its square root -/
noncomputable def cowatZP (t p : ℝ) : ℝ :=
  cowat_sa_3 * cowatY t * cowatY t - 2 * cowat_sa_4 * tkr t + 2 * cowat_sa_5 * (p / 22120000)

theorem cowat_false_eq (t p : ℝ) : ∃ d u, cowat t p false = if 0 ≤ cowatZP t p then Ret.pair d u else Ret.nonePair := by
  unfold cowat
  refine ⟨_, _, (unchecked_eq _ _ _).trans (if_congr ?_ rfl rfl)⟩
  rw [tf_le]
  unfold cowatZP cowatY tkr
  simp only [tf_lit]
  norm_num only []

theorem cowat_unchecked (t p : ℝ) : cowat t p false = Ret.nonePair ↔ cowatZP t p < 0 := by
  obtain ⟨d, u, e⟩ := cowat_false_eq t p
  rw [e, guarded_none_iff, not_le]
  exact or_iff_left fun h => nomatch h

theorem cowat_unchecked_shape (t p : ℝ) : cowat t p false = Ret.nonePair ∨ ∃ d u, cowat t p false = Ret.pair d u := by
  obtain ⟨d, u, e⟩ := cowat_false_eq t p
  exact (ite_eq_or_eq _ _ _).symm.imp e.trans fun h => ⟨d, u, e.trans h⟩

theorem sat_guard (t : ℝ) : sat t true = if tmin ≤ t ∧ t ≤ tc1C then sat t false else Ret.none := by
  unfold sat
  refine guard_eq _ _ _ _ ?_
  unfold tmin tc1C
  simp only [tf_le', tf_lit, Bool.and_eq_true, decide_eq_true_eq]
  norm_num only []

theorem sat_false_eq (t : ℝ) : ∃ s, sat t false = if tmin ≤ t ∧ t ≤ 500 then Ret.num s else Ret.none := by
  unfold sat
  refine ⟨_, (unchecked_eq _ _ _).trans (if_congr ?_ rfl rfl)⟩
  unfold tmin
  simp only [tf_le', tf_lit, Bool.and_eq_true, decide_eq_true_eq]
  norm_num only []

theorem sat_unchecked (t : ℝ) : (sat t false = Ret.none ↔ ¬(tmin ≤ t ∧ t ≤ 500)) ∧
    (tmin ≤ t ∧ t ≤ 500 → ∃ s, sat t false = Ret.num s) := by
  obtain ⟨s, e⟩ := sat_false_eq t
  refine ⟨?_, fun h => ⟨s, e.trans (if_pos h)⟩⟩
  rw [e, guarded_none_iff]
  exact or_iff_left fun h => nomatch h

theorem tc1C_le_500 : tc1C ≤ 500 := by
  unfold tc1C Tc1_C; rw [tf_lit]; norm_num

theorem tc1C_gt_350 : (350 : ℝ) < tc1C := by
  unfold tc1C Tc1_C; rw [tf_lit]; norm_num

theorem tmin_nonneg : (0 : ℝ) ≤ tmin := by unfold tmin; norm_num

theorem bounds_sat (t : ℝ) : sat t true = Ret.none ↔ ¬(tmin ≤ t ∧ t ≤ tc1C) := by
  rw [sat_guard, guarded_none_iff, (sat_unchecked t).1]
  exact ⟨fun o => o.elim id fun h c => h ⟨c.1, c.2.trans tc1C_le_500⟩, Or.inl⟩

theorem bounds_tsat (p : ℝ) : (tsat_ok p true = true ↔ sat67 tmin ≤ p ∧ p ≤ (Pc1 : ℝ)) ∧ tsat_ok p false = true := by
  unfold tsat_ok sat67 tmin
  simp only [tf_le', tf_lit, Bool.and_eq_true, decide_eq_true_eq, if_true, Bool.false_eq_true, if_false, and_true]
  norm_num only []

theorem ssf_eq (h hl1 hs1 hl2 hs2 : ℝ) (one : Bool) : ssf h one hl1 hs1 hl2 hs2 =
    max (min ((if one then 1 / (hs1 - hl1) else (hs2 - hl1) / ((hs1 - hl1) * (hs2 - hl2))) * h +
      (if one then (-hl1) / (hs1 - hl1) else (hs1 * (hl1 - hl2) - hl1 * (hs2 - hl2)) / ((hs1 - hl1) * (hs2 - hl2)))) 1) 0 := by
  unfold ssf
  cases one
  · simp only [Bool.false_eq_true, if_false, pyMax_eq, pyMin_eq, tf_lit, Int.cast_one, Int.cast_zero, Nat.cast_one, div_one]
  · simp only [if_true, pyMax_eq, pyMin_eq, tf_lit, Int.cast_one, Int.cast_zero, Nat.cast_one, div_one]

theorem ssf_mono (h h' hl1 hs1 hl2 hs2 : ℝ) (one : Bool) (hh : h ≤ h')
    (hc : 0 ≤ (if one then 1 / (hs1 - hl1) else (hs2 - hl1) / ((hs1 - hl1) * (hs2 - hl2)))) :
    ssf h one hl1 hs1 hl2 hs2 ≤ ssf h' one hl1 hs1 hl2 hs2 := by
  rw [ssf_eq, ssf_eq]
  apply max_le_max _ (le_refl _)
  apply min_le_min _ (le_refl _)
  exact add_le_add (mul_le_mul_of_nonneg_left hh hc) (le_refl _)

theorem ssf_coeff_nonneg (hl1 hs1 hl2 hs2 : ℝ) (one : Bool) (h1 : hl1 < hs1) (h2 : one = false → hl2 < hs2 ∧ hl1 ≤ hs2) :
    0 ≤ (if one then 1 / (hs1 - hl1) else (hs2 - hl1) / ((hs1 - hl1) * (hs2 - hl2))) := by
  cases one
  · obtain ⟨a, b⟩ := h2 rfl
    simp only [Bool.false_eq_true, if_false]
    exact div_nonneg (sub_nonneg.mpr b) (le_of_lt (mul_pos (sub_pos.mpr h1) (sub_pos.mpr a)))
  · simp only [if_true]
    exact div_nonneg zero_le_one (sub_pos.mpr h1).le

theorem region67_unfold (t p : ℝ) : region t p =
    if tmin ≤ t ∧ t ≤ 800 ∧ 0 ≤ p ∧ p ≤ 100000000 then
      if t ≤ 350 then (if p < sat67 t then Ret.int 2 else Ret.int 1)
      else if t ≤ tc1C then (if p ≤ b23p67 t then Ret.int 2 else if p < sat67 t then Ret.int 3 else Ret.int 4)
      else if t ≤ 590 then (if p < b23p67 t then Ret.int 2 else Ret.int 3)
      else Ret.int 2
    else Ret.none := by
  unfold region sat67 b23p67 tmin tc1C
  simp only [tf_le', tf_lt', tf_lit, Bool.and_eq_true, decide_eq_true_eq]
  norm_num only []
  simp only [and_assoc]

/-- two classifiers cut the pressure axis at `a` and `b`, one counting its cut point up, the other down: they differ exactly between the cuts -/
theorem band_differ {α : Type} {x y : α} (hxy : x ≠ y) {a b p : ℝ} :
    (if p < a then y else x) ≠ (if b < p then x else y) ↔ (b < p ∧ p < a) ∨ (a ≤ p ∧ p ≤ b) := by
  by_cases h1 : p < a <;> by_cases h2 : b < p
  · simp [h1, h2, hxy.symm]
  · simp [h1, h2, not_le.mpr h1]
  · simp [h1, h2, not_le.mpr h2]
  · simp [h1, h2, hxy, not_lt.mp h1, not_lt.mp h2]

theorem band_agree {α : Type} {x y : α} {a b p : ℝ} (h : (p < b ∧ p < a) ∨ (b < p ∧ a < p)) :
    (if p < a then y else x) = (if b < p then x else y) := by
  rcases h with ⟨hb, ha⟩ | ⟨hb, ha⟩
  · rw [if_pos ha, if_neg (not_lt.mpr hb.le)]
  · rw [if_neg (not_lt.mpr ha.le), if_pos hb]

end Proofs.Ifc67
