/-
  The second grid of `grid + other` / `grid.embed(sub, …)` is built from a recipe by
  constructor-and-add steps in the shared heap.  This file shows that building it leaves the
  current grid's objects alone and yields a consistent grid of new objects, and derives
  the step lemmas of the `.addGrid`, `.embed` and `.embedStandalone` operations.
-/
import PyTough.Proofs.GridAdd
namespace Proofs.Grid
open Py Model Model.Grid Model.Grid.World

theorem Fresh.start (w : World) : Fresh w (w.withGrid ⟨[], [], [], [], [], []⟩) :=
  { inv := inv_emptyGrid w
    lr := Nat.le_refl _, lb := Nat.le_refl _, lc := Nat.le_refl _
    nr := fun _ h => (nomatch h), nb := fun _ h => (nomatch h), nc := fun _ h => (nomatch h)
    er := fun _ _ => rfl, eb := fun _ _ => rfl, ec := fun _ _ => rfl }

theorem inv_withGrid_of_fresh {w v : World} (hI : Grid.Inv w) (h : Fresh w v) : Grid.Inv (v.withGrid w.grid) :=
  hI.frame rfl h.lr h.lb h.lc (fun r hr => congrArg Rock.name (h.er r (hI.rl_lt r hr)))
    (fun b hb => by
      have e : (v.withGrid w.grid).bk b = w.bk b := h.eb b (hI.bl_lt b hb)
      exact ⟨congrArg Blk.name e, congrArg Blk.conn e, by rw [e]; exact hI.b_rock b hb⟩)
    (fun c hc => h.ec c (hI.cl_lt c hc))

theorem buildSpec_spec {w : World} (hI : Grid.Inv w) (s : GridSpec)
    (hpre : preAllBasic (w.withGrid ⟨[], [], [], [], [], []⟩) (specOps s) = true) :
    ∃ v, buildSpec w s = (v.withGrid w.grid, v.grid) ∧ Grid.Inv (v.withGrid w.grid) ∧ Grid.Inv v ∧
      (∀ x ∈ w.rocktypelist, x ∉ v.rocktypelist) ∧ (∀ x ∈ w.blocklist, x ∉ v.blocklist) ∧
      (∀ x ∈ w.connectionlist, x ∉ v.connectionlist) := by
  have hF := runBasic_fresh (.start w) (specOps s) hpre
  exact ⟨_, rfl, inv_withGrid_of_fresh hI hF, hF.inv,
    fun x hx hx' => Nat.lt_irrefl _ (Nat.lt_of_lt_of_le (hI.rl_lt x hx) (hF.nr x hx')),
    fun x hx hx' => Nat.lt_irrefl _ (Nat.lt_of_lt_of_le (hI.bl_lt x hx) (hF.nb x hx')),
    fun x hx hx' => Nat.lt_irrefl _ (Nat.lt_of_lt_of_le (hI.cl_lt x hx) (hF.nc x hx'))⟩

theorem all_rockUsedIn_eq_true {w : World} {g1 g2 : Grid}
    (h : (g1.rocktypelist.all fun x => g2.rocktypelist.all fun y => w.rname x != w.rname y || !rockUsedIn w g1 x) = true) :
    ∀ x ∈ g1.rocktypelist, ∀ y ∈ g2.rocktypelist, w.rname x = w.rname y → ∀ b ∈ g1.blocklist, (w.bk b).rock ≠ x := by
  simp only [List.all_eq_true, bne_iff_ne, ne_eq, Bool.or_eq_true, Bool.not_eq_true'] at h
  exact fun x hx y hy e => (h x hx y hy).elim (absurd e) rockUsedIn_eq_false

theorem sumOK_eq_true {w : World} {g1 g2 : Grid} (h : sumOK w g1 g2 = true) :
    (∀ x ∈ g1.blocklist, ∀ y ∈ g2.blocklist, w.bname x ≠ w.bname y) ∧
    (∀ x ∈ g1.rocktypelist, ∀ y ∈ g2.rocktypelist, w.rname x = w.rname y → ∀ b ∈ g1.blocklist, (w.bk b).rock ≠ x) := by
  simp only [sumOK, Bool.and_eq_true] at h
  refine ⟨?_, all_rockUsedIn_eq_true h.2⟩
  simpa only [List.all_eq_true, bne_iff_ne, ne_eq] using h.1

theorem step_addGrid_inv {w : World} (hI : Grid.Inv w) (s : GridSpec) (left : Bool)
    (hpre : pre w (.addGrid s left) = true) : Grid.Inv (step w (.addGrid s left)).w := by
  simp only [pre, Bool.and_eq_true] at hpre
  obtain ⟨⟨_, hall⟩, hsum⟩ := hpre
  obtain ⟨v, e, hI1, hI2, oR, oB, oC⟩ := buildSpec_spec hI s hall
  simp only [step]
  rw [e] at hsum ⊢
  cases left with
  | true =>
    obtain ⟨nB, nR⟩ := sumOK_eq_true hsum
    obtain ⟨g, e, hI', _⟩ := addGrids_inv (w := v.withGrid w.grid) (g1 := w.grid) (g2 := v.grid) hI1 hI2 oR oB oC nB nR
    simp only [if_true]
    rw [grid_withGrid, e]; exact hI'
  | false =>
    obtain ⟨nB, nR⟩ := sumOK_eq_true hsum
    obtain ⟨g, e, hI', _⟩ := addGrids_inv (w := v.withGrid w.grid) (g1 := v.grid) (g2 := w.grid) hI2 hI1
      (fun x hx hx' => oR x hx' hx) (fun x hx hx' => oB x hx' hx) (fun x hx hx' => oC x hx' hx) nB nR
    simp only [Bool.false_eq_true, if_false]
    rw [grid_withGrid, e]; exact hI'

theorem newCon_embed_inv {w : World} {other : Grid} (hI1 : Grid.Inv w) (hI2 : Grid.Inv (w.withGrid other))
    (oR : ∀ x ∈ w.rocktypelist, x ∉ other.rocktypelist) (oB : ∀ x ∈ w.blocklist, x ∉ other.blocklist)
    (oC : ∀ x ∈ w.connectionlist, x ∉ other.connectionlist)
    (nR : ∀ x ∈ w.rocktypelist, ∀ y ∈ other.rocktypelist, w.rname x = w.rname y → ∀ b ∈ w.blocklist, (w.bk b).rock ≠ x)
    (cv : Con) {x0 x1 : Nat} (hx0 : dget w.block (w.bname cv.b0) = some x0) (hx1 : dget other.block (w.bname cv.b1) = some x1) :
    ∃ w' fl, embed (w.newCon cv).2 other (w.newCon cv).1 = .ok (w', fl) ∧ Grid.Inv w' := by
  have hcn : (w.newCon cv).2.cn (w.newCon cv).1 = cv := cn_newCon_new w cv
  obtain ⟨w', fl, e, hI', _⟩ := embed_spec (w := (w.newCon cv).2) (sub := other) (c := (w.newCon cv).1)
    (newCon_inv hI1 cv) (newCon_inv hI2 cv) oR oB oC nR (by simp [World.newCon])
    (fun h => Nat.lt_irrefl _ (hI1.cl_lt _ h)) (fun h => Nat.lt_irrefl _ (hI2.cl_lt _ h))
    (by rw [hcn]; exact hx0) (by rw [hcn]; exact hx1)
  exact ⟨w', fl, e, hI'⟩

theorem step_embed_inv {w : World} (hI : Grid.Inv w) (s : GridSpec) (host sub : Name) (p : ConPay)
    (hpre : pre w (.embed s host sub p) = true) : Grid.Inv (step w (.embed s host sub p)).w := by
  simp only [pre, Bool.and_eq_true, Option.isSome_iff_exists] at hpre
  obtain ⟨⟨⟨⟨_, hall⟩, ⟨hb, hhost⟩⟩, ⟨sb, hsub⟩⟩, hrocks⟩ := hpre
  obtain ⟨v, e, hI1, hI2, oR, oB, oC⟩ := buildSpec_spec hI s hall
  simp only [step]
  rw [e] at hsub hrocks ⊢
  simp only [World.blockOrFresh, show dget (v.withGrid w.grid).block host = some hb from hhost, hsub]
  obtain ⟨w5, fl, e5, hI5⟩ := newCon_embed_inv (other := v.grid) hI1 hI2 oR oB oC (all_rockUsedIn_eq_true hrocks) (mkCon hb sb p)
    (x0 := hb) (x1 := sb) (hI1.bd_complete hb (hI1.bd_sound _ _ hhost).1) (hI2.bd_complete sb (hI2.bd_sound _ _ hsub).1)
  rw [e5]; exact hI5

theorem step_embedStandalone_inv {w : World} (hI : Grid.Inv w) (s : GridSpec) (host sub : Name) (p : ConPay) (hostvol : Rat)
    (hpre : pre w (.embedStandalone s host sub p hostvol) = true) :
    Grid.Inv (step w (.embedStandalone s host sub p hostvol)).w := by
  simp only [pre, Bool.and_eq_true, Option.isSome_iff_exists] at hpre
  obtain ⟨⟨⟨⟨_, hall⟩, ⟨x0, hhost⟩⟩, ⟨sb, hsub⟩⟩, hrocks⟩ := hpre
  obtain ⟨v, e, hI1, hI2, oR, oB, oC⟩ := buildSpec_spec hI s hall
  simp only [step]
  rw [e] at hsub hrocks ⊢
  simp only [hsub]
  -- the standalone host block and its rock type: two more objects in the heap
  generalize hrv : ({ name := ['d','f','a','l','t'], tag := 0 } : Rock) = rv
  generalize hbv : ({ name := host, volume := hostvol, rock := ((v.withGrid w.grid).newRock rv).1, centre := none, conn := [] } : Blk) = bv
  have hI3 := newBlk_inv (newRock_inv hI1 rv) bv
  have hI3' : Grid.Inv ((((v.withGrid w.grid).newRock rv).2.newBlk bv).2.withGrid v.grid) := newBlk_inv (newRock_inv hI2 rv) bv
  have hbk : ∀ b, b < v.blks.length → (((v.withGrid w.grid).newRock rv).2.newBlk bv).2.bk b = v.bk b := fun b hb =>
    bk_newBlk_old bv hb
  have hrn : ∀ x, x < v.rocks.length → (((v.withGrid w.grid).newRock rv).2.newBlk bv).2.rname x = v.rname x := fun x hx =>
    congrArg Rock.name (rk_newRock_old rv hx)
  have hhb : (((v.withGrid w.grid).newRock rv).2.newBlk bv).2.bname v.blks.length = host :=
    (congrArg Blk.name (bk_newBlk_new _ bv)).trans (congrArg Blk.name hbv.symm)
  have hsb := hI2.bd_sound _ _ hsub
  have hnR := all_rockUsedIn_eq_true hrocks
  obtain ⟨w6, fl, e6, hI6⟩ := newCon_embed_inv (other := v.grid) hI3 hI3' oR oB oC
    (fun x hx y hy e b hb => by
      rw [hbk b (hI1.bl_lt b hb)]
      rw [hrn x (hI1.rl_lt x hx), hrn y (hI2.rl_lt y hy)] at e
      exact hnR x hx y hy e b hb)
    (mkCon v.blks.length sb p) (x0 := x0) (x1 := sb) (hhb.symm ▸ hhost)
    (by simp only [World.bname, mkCon, hbk sb (hI2.bl_lt sb hsb.1)]; rw [← hsb.2] at hsub; exact hsub)
  rw [show (((v.withGrid w.grid).newRock rv).2.newBlk bv).1 = v.blks.length from rfl, e6]; exact hI6

end Proofs.Grid
