/-
  Proofs about the model of column_track (continued): the duplicate-merging rule of
  line_polygon_intersections (two crossings rounded to the same value are close, and `np.unique` keeps a
  representative of every rounded value); the crossing of an edge listed the other way round
  (`solve2_reverse_edge`, for `track_abut_at_shared_edge`) and the crossings of the reversed line.
-/
import PyTough.Proofs.LocateTrack
import PyTough.Proofs.Locate

namespace Proofs.Track
open Model.Locate Model.Track Proofs.Locate

/-- `roundSqrt D = k` puts `√D` in `[k − ½, k + ½]` -/
theorem roundSqrt_bounds {D : Rat} {k : Nat} (hD : 0 ≤ D) (h : roundSqrt D = .ok k) :
    D ≤ ((k : Rat) + 1 / 2) * ((k : Rat) + 1 / 2) ∧ (k = 0 ∨ ((k : Rat) - 1 / 2) * ((k : Rat) - 1 / 2) ≤ D) := by
  -- with `n = ⌊D⌋` and `m = ⌊√n⌋` : `m² ≤ n ≤ D < n + 1 ≤ (m + 1)²`
  have hn : ((D.floor.toNat : Nat) : Int) = D.floor :=
    Int.toNat_of_nonneg (Rat.le_floor_iff.mpr (by simpa using hD))
  have h1 : ((D.floor.toNat : Nat) : Rat) ≤ D := by
    have := Rat.floor_le D
    rw [← hn] at this
    exact_mod_cast this
  have h2 : D < ((D.floor.toNat : Nat) : Rat) + 1 := by
    have := Rat.lt_floor_add_one D
    rw [← hn] at this
    exact_mod_cast this
  have c1 : ((Nat.sqrt D.floor.toNat : Nat) : Rat) * (Nat.sqrt D.floor.toNat : Nat) ≤ (D.floor.toNat : Nat) := by
    exact_mod_cast Nat.sqrt_le D.floor.toNat
  have c2 : ((D.floor.toNat : Nat) : Rat) + 1 ≤ ((Nat.sqrt D.floor.toNat : Nat) + 1) * ((Nat.sqrt D.floor.toNat : Nat) + 1) := by
    exact_mod_cast Nat.succ_le_of_lt (Nat.lt_succ_sqrt D.floor.toNat)
  unfold roundSqrt at h
  simp only at h
  generalize Nat.sqrt D.floor.toNat = m at h c1 c2
  have hm0 : (0 : Rat) ≤ m := Nat.cast_nonneg m
  split_ifs at h with _ hlt
  · injection h with h; subst h
    refine ⟨hlt.le, ?_⟩
    rcases Nat.eq_zero_or_pos m with hz | hp
    · exact Or.inl hz
    · have : (1 : Rat) ≤ m := by exact_mod_cast hp
      -- `(m − ½)² ≤ m² ≤ n ≤ D`
      exact Or.inr (((mul_self_le_mul_self (sub_nonneg.mpr (le_trans (by norm_num) this))
        (sub_le_self _ (by norm_num))).trans c1).trans h1)
  · injection h with h; subst h
    push_cast
    -- `D < n + 1 ≤ (m + 1)² ≤ (m + 1 + ½)²`, and `(m + 1 − ½)² = (m + ½)² ≤ D`
    refine ⟨(h2.le.trans c2).trans (mul_self_le_mul_self (add_nonneg hm0 zero_le_one) (le_add_of_nonneg_right (by norm_num))),
      Or.inr ?_⟩
    rw [show (m : Rat) + 1 - 1 / 2 = m + 1 / 2 by ring]
    exact not_lt.mp hlt

/-- `A ≤ s` and `s + d ≤ A + 1` give `d ≤ 1`, stated for the squares `p = s²`, `q = d²` (and `x = s·d`)
    so that no square root is needed -/
theorem gap_le_one {A p q x : Rat} (hA : 0 ≤ A) (hx : 0 ≤ x) (hxx : x * x = p * q)
    (lo : A * A ≤ p) (hi : p + 2 * x + q ≤ (A + 1) * (A + 1)) : q ≤ 1 := by
  by_contra hq
  have hq : 1 < q := not_le.mp hq
  have hp : 0 ≤ p := le_trans (mul_self_nonneg A) lo
  have hAx : A ≤ x := by
    apply (mul_self_le_mul_self_iff hA hx).mpr
    rw [hxx]
    exact le_trans lo (le_mul_of_one_le_right hp hq.le)
  linarith only [lo, hAx, hq, hi]

/-- two values in the same bucket differ by at most 1 (in units of the bucket width) -/
theorem same_bucket_close {u1 u2 Q : Rat} {k : Nat} (h1 : 0 ≤ u1) (h2 : 0 ≤ u2) (hQ : 0 ≤ Q)
    (r1 : roundSqrt (u1 * u1 * Q) = .ok k) (r2 : roundSqrt (u2 * u2 * Q) = .ok k) :
    (u1 - u2) * (u1 - u2) * Q ≤ 1 := by
  wlog hle : u2 ≤ u1 generalizing u1 u2
  · rw [show (u1 - u2) * (u1 - u2) = (u2 - u1) * (u2 - u1) by ring]
    exact this h2 h1 r2 r1 (le_of_not_ge hle)
  have hp : 0 ≤ u2 * u2 * Q := mul_nonneg (mul_self_nonneg u2) hQ
  have hi := (roundSqrt_bounds (mul_nonneg (mul_self_nonneg u1) hQ) r1).1
  have lo := (roundSqrt_bounds hp r2).2
  -- `A` : the lower end of the bucket, `√(u₂²Q) ≥ A` and `√(u₁²Q) ≤ A + 1`
  obtain ⟨A, hA, hlo, hhi⟩ : ∃ A : Rat, 0 ≤ A ∧ A * A ≤ u2 * u2 * Q ∧ u1 * u1 * Q ≤ (A + 1) * (A + 1) := by
    rcases Nat.eq_zero_or_pos k with rfl | hk
    · rw [Nat.cast_zero] at hi
      exact ⟨0, le_refl 0, by rw [zero_mul]; exact hp, hi.trans (by norm_num)⟩
    · have : (1 : Rat) ≤ k := by exact_mod_cast hk
      refine ⟨k - 1 / 2, sub_nonneg.mpr (le_trans (by norm_num) this), lo.resolve_left (Nat.ne_of_gt hk), ?_⟩
      rw [show (k : Rat) - 1 / 2 + 1 = k + 1 / 2 by ring]
      exact hi
  refine gap_le_one (x := u2 * (u1 - u2) * Q) hA (mul_nonneg (mul_nonneg h2 (sub_nonneg.mpr hle)) hQ) (by ring) hlo ?_
  rw [show u2 * u2 * Q + 2 * (u2 * (u1 - u2) * Q) + (u1 - u2) * (u1 - u2) * Q = u1 * u1 * Q by ring]
  exact hhi

theorem tMin_le (c0 : Cross) (cs : List Cross) : ∀ c ∈ c0 :: cs, tMin c0 (c0 :: cs) ≤ c.t.abs :=
  fun _ hc => le_minList_iff.mp le_rfl _ (List.mem_cons_of_mem _ (List.mem_map_of_mem hc))

theorem distSq_nonneg (a b : Pt) : 0 ≤ distSq a b := by
  unfold distSq
  exact add_nonneg (mul_self_nonneg _) (mul_self_nonneg _)

/-- two crossings that are rounded to the same value are closer than 1e-3 × (longest side):
    `(|t| − |t'|)²·‖line‖² ≤ 10⁻⁶·(longest side)²` -/
theorem same_rounding_close {L2 S2 tmin : Rat} {c c' : Cross} {k : Nat} (hL : 0 ≤ L2) (hS : 0 < S2)
    (hc : tmin ≤ c.t.abs) (hc' : tmin ≤ c'.t.abs)
    (r : roundSqrt (nondimSq L2 S2 tmin c) = .ok k) (r' : roundSqrt (nondimSq L2 S2 tmin c') = .ok k) :
    (c.t.abs - c'.t.abs) * (c.t.abs - c'.t.abs) * L2 * 1000000 ≤ S2 := by
  unfold nondimSq at r r'
  rw [if_pos hS] at r r'
  have hQ : 0 ≤ L2 / S2 * 1000000 := mul_nonneg (div_nonneg hL hS.le) (by norm_num)
  have e : ∀ u : Rat, u * u * L2 / S2 * 1000000 = u * u * (L2 / S2 * 1000000) := fun u => by ring
  rw [e] at r r'
  have := same_bucket_close (sub_nonneg.mpr hc) (sub_nonneg.mpr hc') hQ r r'
  have e' : (c.t.abs - c'.t.abs) * (c.t.abs - c'.t.abs) * (L2 / S2 * 1000000)
      = ((c.t.abs - c'.t.abs) * (c.t.abs - c'.t.abs) * L2 * 1000000) / S2 := by ring
  rw [sub_sub_sub_cancel_right, e', div_le_one hS] at this
  exact this

theorem insertUnique_spec (k i : Nat) : ∀ (l : List (Nat × Nat)),
    (∀ x ∈ insertUnique k i l, x ∈ l ∨ x = (k, i)) ∧ (∀ x ∈ l, x ∈ insertUnique k i l) ∧
    ∃ x ∈ insertUnique k i l, x.1 = k := by
  intro l
  induction l with
  | nil => exact ⟨fun x h => Or.inr (List.mem_singleton.mp h), fun x h => (nomatch h), (k, i), List.mem_singleton_self _, rfl⟩
  | cons y t ih =>
    obtain ⟨k', i'⟩ := y
    obtain ⟨ih1, ih2, x, hx, hk⟩ := ih
    simp only [insertUnique]
    split
    · refine ⟨fun x h => ?_, fun x h => List.mem_cons_of_mem _ h, (k, i), List.mem_cons_self, rfl⟩
      rcases List.mem_cons.mp h with h | h
      · exact Or.inr h
      · exact Or.inl h
    · split
      · rename_i h
        exact ⟨fun x h => Or.inl h, fun x h => h, (k', i'), List.mem_cons_self, h.symm⟩
      · refine ⟨fun z h => ?_, fun z h => ?_, x, List.mem_cons_of_mem _ hx, hk⟩
        · rcases List.mem_cons.mp h with h | h
          · exact Or.inl (h ▸ List.mem_cons_self)
          · exact (ih1 z h).imp_left (List.mem_cons_of_mem _)
        · rcases List.mem_cons.mp h with h | h
          · exact h ▸ List.mem_cons_self
          · exact List.mem_cons_of_mem _ (ih2 z h)

/-- invariant of `roundAll` over the crossings `cs`: every entry of `acc` points to a crossing with
    that rounded value, and every crossing already seen has its rounded value in `acc` -/
def RInv (D : Cross → Rat) (cs : List Cross) (i : Nat) (acc : List (Nat × Nat)) : Prop :=
  (∀ x ∈ acc, ∃ c, cs[x.2]? = some c ∧ roundSqrt (D c) = .ok x.1) ∧
  (∀ j, j < i → ∀ c, cs[j]? = some c → ∃ x ∈ acc, roundSqrt (D c) = .ok x.1)

theorem roundAll_inv {D : Cross → Rat} {cs : List Cross} : ∀ (l : List Cross) (i : Nat) (acc uniq : List (Nat × Nat)),
    l = cs.drop i → RInv D cs i acc → roundAll D i l acc = .ok uniq → RInv D cs cs.length uniq := by
  intro l
  induction l with
  | nil =>
    intro i acc uniq hl hinv h
    simp only [roundAll] at h
    cases h
    have hi : cs.length ≤ i := List.drop_eq_nil_iff.mp hl.symm
    exact ⟨hinv.1, fun j hj c hc => hinv.2 j (lt_of_lt_of_le (List.getElem?_eq_some_iff.mp hc).1 hi) c hc⟩
  | cons c r ih =>
    intro i acc uniq hl hinv h
    simp only [roundAll] at h
    split at h
    · rename_i k hk
      have hci : cs[i]? = some c := by
        rw [← Nat.add_zero i, ← List.getElem?_drop, ← hl]; rfl
      have hr : r = cs.drop (i + 1) := by
        rw [← List.tail_drop, ← hl]; rfl
      obtain ⟨s1, s2, x, hx, hxk⟩ := insertUnique_spec k i acc
      apply ih (i + 1) _ uniq hr _ h
      constructor
      · intro x hx
        rcases s1 x hx with hx | rfl
        · exact hinv.1 x hx
        · exact ⟨c, hci, hk⟩
      · intro j hj c' hc'
        by_cases hji : j = i
        · subst hji
          rw [hci] at hc'; cases hc'
          exact ⟨x, hx, by rw [hxk]; exact hk⟩
        · obtain ⟨x, hx, hxr⟩ := hinv.2 j (by omega) c' hc'
          exact ⟨x, s2 x hx, hxr⟩
    · cases h

/-- **duplicate merging**: every crossing of the line with a polygon (longest side > 0) is
    either reported by `line_polygon_intersections` or lies within 1e-3 × (longest side) of a
    reported one — measured along the line: `(|t| − |t'|)²·‖line‖²·10⁶ ≤ (longest side)²`,
    whatever the distance of the crossing from the line start. -/
theorem every_crossing_represented {poly : Poly} {a b : Pt} {pts : List Cross}
    (hS : 0 < maxSideSq poly) (h : linePolygonIntersectionsT poly a b = .ok pts) :
    ∀ c ∈ crossings poly a b, ∃ c' ∈ pts,
      (c.t.abs - c'.t.abs) * (c.t.abs - c'.t.abs) * distSq a b * 1000000 ≤ maxSideSq poly := by
  unfold linePolygonIntersectionsT at h
  split at h
  · rename_i hcs; intro c hc; rw [hcs] at hc; cases hc
  · rename_i c0 cs hcs
    split at h
    · cases h
    · rename_i uniq hu
      cases h
      have inv := roundAll_inv (cs := c0 :: cs) (c0 :: cs) 0 [] uniq (by simp)
        ⟨(fun x hx => nomatch hx), fun j hj => (by omega)⟩ hu
      intro c hc
      rw [hcs] at hc
      obtain ⟨j, hj⟩ := List.mem_iff_getElem?.mp hc
      have hjlt : j < (c0 :: cs).length := (List.getElem?_eq_some_iff.mp hj).1
      obtain ⟨x, hx, hxr⟩ := inv.2 j hjlt c hj
      obtain ⟨c', hc', hr'⟩ := inv.1 x hx
      refine ⟨c', List.mem_filterMap.mpr ⟨x, hx, hc'⟩, ?_⟩
      exact same_rounding_close (distSq_nonneg a b) hS (tMin_le c0 cs c hc)
        (tMin_le c0 cs c' (List.mem_of_getElem? hc')) hxr hr'

/-- the same crossing seen from the other end of the line -/
def Cross.rev (c : Model.Track.Cross) : Model.Track.Cross := ⟨c.pt, 1 - c.t⟩

/-- `x ↦ 1 − x` maps the accepted parameter range onto itself -/
theorem inTol_one_sub (x : Rat) :
    (decide (-lpiTol ≤ 1 - x) && decide (1 - x ≤ 1 + lpiTol)) = (decide (-lpiTol ≤ x) && decide (x ≤ 1 + lpiTol)) := by
  have d1 : decide (-lpiTol ≤ 1 - x) = decide (x ≤ 1 + lpiTol) :=
    decide_eq_decide.mpr ⟨fun h => by linarith only [h], fun h => by linarith only [h]⟩
  have d2 : decide (1 - x ≤ 1 + lpiTol) = decide (-lpiTol ≤ x) :=
    decide_eq_decide.mpr ⟨fun h => by linarith only [h], fun h => by linarith only [h]⟩
  rw [d1, d2, Bool.and_comm]

theorem solve2_reverse_edge (a w p q : Pt) :
    solve2 (Pt.sub p q) w (Pt.sub a q) = (solve2 (Pt.sub q p) w (Pt.sub a p)).map fun x => (1 - x.1, x.2) := by
  have hdet : det2 (Pt.sub p q) w = - det2 (Pt.sub q p) w := by simp only [det2, Pt.sub]; ring
  by_cases h : det2 (Pt.sub q p) w = 0
  · rw [solve2_none h, solve2_none (by rw [hdet, h, neg_zero])]; rfl
  · have h' : det2 (Pt.sub p q) w ≠ 0 := by rw [hdet]; exact neg_ne_zero.mpr h
    rw [solve2_some h, solve2_some h']
    simp only [Option.map_some, Option.some.injEq, Prod.mk.injEq]
    constructor
    · rw [div_eq_iff h', sub_mul, one_mul, div_mul_eq_mul_div, hdet, mul_neg, neg_div, mul_div_assoc, div_self h, mul_one]
      simp only [det2, Pt.sub]; ring
    · rw [div_eq_div_iff h' h]; simp only [det2, Pt.sub]; ring

theorem solve2_reverse_line (u a b p : Pt) :
    solve2 u (Pt.sub b a) (Pt.sub b p) = (solve2 u (Pt.sub a b) (Pt.sub a p)).map fun x => (x.1, 1 - x.2) := by
  have hdet : det2 u (Pt.sub b a) = - det2 u (Pt.sub a b) := by simp only [det2, Pt.sub]; ring
  by_cases h : det2 u (Pt.sub a b) = 0
  · rw [solve2_none h, solve2_none (by rw [hdet, h, neg_zero])]; rfl
  · have h' : det2 u (Pt.sub b a) ≠ 0 := by rw [hdet]; exact neg_ne_zero.mpr h
    rw [solve2_some h, solve2_some h']
    simp only [Option.map_some, Option.some.injEq, Prod.mk.injEq]
    constructor
    · rw [div_eq_div_iff h' h]; simp only [det2, Pt.sub]; ring
    · rw [div_eq_iff h', sub_mul, one_mul, div_mul_eq_mul_div, hdet, mul_neg, neg_div, mul_div_assoc, div_self h, mul_one]
      simp only [det2, Pt.sub]; ring

theorem edgeCross_reverse_line (a b : Pt) (e : Pt × Pt) :
    edgeCross b a e = (edgeCross a b e).map Cross.rev := by
  unfold edgeCross
  simp only
  rw [solve2_reverse_line]
  cases solve2 (Pt.sub e.2 e.1) (Pt.sub a b) (Pt.sub a e.1) with
  | none => rfl
  | some x =>
    simp only [Option.map_some, inTol_one_sub]
    split
    · rfl
    · rfl

theorem crossStep_reverse (a b : Pt) (acc : List Cross) (e : Pt × Pt) :
    crossStep b a (acc.map Cross.rev) e = (crossStep a b acc e).map Cross.rev := by
  unfold crossStep
  rw [edgeCross_reverse_line]
  cases edgeCross a b e with
  | none => rfl
  | some c =>
    simp only [Option.map_some]
    have : (acc.map Cross.rev).any (fun x => x.pt == (Cross.rev c).pt) = acc.any (fun x => x.pt == c.pt) := by
      rw [List.any_map]; rfl
    rw [this]
    split
    · rfl
    · simp [List.map_append]

/-- the crossings of the reversed line with a polygon are the same points, in the same order, with
    parameters `1 − t` -/
theorem crossings_reverse (poly : Poly) (a b : Pt) :
    crossings poly b a = (crossings poly a b).map Cross.rev :=
  List.foldl_hom (List.map Cross.rev) (init := []) (crossStep_reverse a b)

end Proofs.Track
