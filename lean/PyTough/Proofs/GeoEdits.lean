/-
  The primitive edits of nodes, layers and wells: add_well, delete_well, add_layer, delete_layer, add_node and
  delete_node (of a node no column uses) keep the structural invariant; each touches one registry and, for
  nodes, the node/column cross-references. Deleting unused nodes one after the other (`deleteNodes_fold`, the loop
  of `delete_orphans`) keeps the whole invariant.
-/
import PyTough.Proofs.GeoInv0
namespace Proofs.Geo
open Model.Geo Model.Geo.Geo Py

variable {g g' : Geo}

theorem addWell_inv0 (w : Well) (h : Inv0 g) : Inv0 (g.addWell w) := by
  unfold addWell
  split
  · exact h
  · rename_i hf
    exact { h with wells := h.wells.push w (by simpa using hf) }

/-- only the structural invariant: `add_layer` does not refresh the columns' layer counts or the name lists
    (known findings `num_layers:mismatch@add_layer`, `namelists:*@add_layer`) -/
theorem addLayer_inv0 (l : Layer) (h : Inv0 g) : Inv0 (g.addLayer l) := by
  unfold addLayer
  split
  · exact h
  · rename_i hf
    exact { h with lays := h.lays.push l (by simpa using hf) }

/-- `del d[name]; list.remove(obj)`, as `delete_node`, `delete_layer` and `delete_well` do it (give `mk` explicitly) -/
theorem delete_spec {name : Name} {d : Dict Name} {l : List Nat} {mk : Dict Name → List Nat → Geo}
    (hd : (match Dict.get? d name with
      | none => Except.error Exc.keyError
      | some i => do let l' ← listRemove l i; pure (mk (Dict.del d name) l')) = .ok g') :
    ∃ i, Dict.get? d name = some i ∧ g' = mk (Dict.del d name) (l.erase i) := by
  cases hk : Dict.get? d name with
  | none => rw [hk] at hd; cases hd
  | some i =>
    rw [hk] at hd
    obtain ⟨l', hl, hd⟩ := bind_ok hd
    rw [← (listRemove_ok_iff.mp hl).2] at hd
    exact ⟨i, rfl, (Except.ok.inj hd).symm⟩

theorem deleteWell_spec {name : Name} (hd : g.deleteWell name = .ok g') :
    ∃ i, g.wellD.get? name = some i ∧ g' = { g with wellD := g.wellD.del name, welllist := g.welllist.erase i } :=
  delete_spec (mk := fun d l => { g with wellD := d, welllist := l }) hd

theorem deleteNode_spec {name : Name} (hd : g.deleteNode name = .ok g') :
    ∃ i, g.nodeD.get? name = some i ∧ g' = { g with nodeD := g.nodeD.del name, nodelist := g.nodelist.erase i } :=
  delete_spec (mk := fun d l => { g with nodeD := d, nodelist := l }) hd

theorem deleteWell_inv0 {name : Name} (hd : g.deleteWell name = .ok g') (h : Inv0 g) : Inv0 g' := by
  obtain ⟨i, hk, rfl⟩ := deleteWell_spec hd
  exact { h with wells := h.wells.erase hk }

theorem deleteLayer_inv0 {name : Name} (hd : g.deleteLayer name = .ok g') (h : Inv0 g) : Inv0 g' := by
  obtain ⟨i, hk, rfl⟩ := delete_spec (mk := fun d l => { g with layerD := d, layerlist := l }) hd
  exact { h with lays := h.lays.erase hk }

theorem addNode_inv0 (name : Name) (pos : Pt) (h : Inv0 g) : Inv0 (g.addNode name pos) := by
  unfold addNode
  split
  · exact h
  · rename_i hf
    have hold : ∀ j ∈ g.nodelist, (g.N.push { name, pos, cols := [] })[j]! = g.node j := fun j hj =>
      getElem!_push_lt _ _ _ (h.nodes.lt j hj)
    exact { h with
      nodes := h.nodes.push _ (by simpa using hf)
      colNodes := fun c hc n hn => List.mem_append_left _ (h.colNodes c hc n hn)
      nodeCols := by
        intro n hn c
        rcases List.mem_append.mp hn with hn | hn
        · exact (congrArg (c ∈ ·.cols) (hold n hn)).to_iff.trans (h.nodeCols n hn c)
        · rw [List.mem_singleton.mp hn]
          show c ∈ (g.N.push { name, pos, cols := [] })[g.N.size]!.cols ↔ _
          rw [getElem!_push_eq]
          exact ⟨nofun, fun hm => absurd (h.colNodes c hm.1 _ hm.2) h.nodes.fresh⟩
      orient := by
        intro c hc
        have : ({ g with N := g.N.push { name, pos, cols := [] } } : Geo).polygon (g.col c).nodes =
            g.polygon (g.col c).nodes :=
          List.map_congr_left fun n hn => congrArg Node.pos (hold n (h.colNodes c hc n hn))
        exact this ▸ h.orient c hc }

theorem deleteNode_inv0 {name : Name} (hd : g.deleteNode name = .ok g')
    (hunused : ∀ i, g.nodeD.get? name = some i → ∀ c ∈ g.columnlist, i ∉ (g.col c).nodes) (h : Inv0 g) :
    Inv0 g' := by
  obtain ⟨i, hk, rfl⟩ := deleteNode_spec hd
  exact { h with
    nodes := h.nodes.erase hk
    colNodes := fun c hc n hn =>
      (List.mem_erase_of_ne fun e : n = i => hunused i hk c hc (e ▸ hn)).mpr (h.colNodes c hc n hn)
    nodeCols := fun n hn => h.nodeCols n (List.mem_of_mem_erase hn) }

/-- the layer counts and the name lists do not depend on nodes -/
theorem deleteNode_geoInv {name : Name} (hd : g.deleteNode name = .ok g')
    (hunused : ∀ i, g.nodeD.get? name = some i → ∀ c ∈ g.columnlist, i ∉ (g.col c).nodes)
    (h : g.geoInv = true) : g'.geoInv = true := by
  obtain ⟨i, -, rfl⟩ := deleteNode_spec hd
  exact geoInv_lift (deleteNode_inv0 hd hunused) rfl rfl h

theorem deleteNodes_fold : ∀ (ns : List Nat) (g g' : Geo),
    ns.foldlM (fun (g : Geo) n => g.deleteNode (g.node n).name) g = .ok g' → g.geoInv = true → ns.Nodup →
    (∀ n ∈ ns, n ∈ g.nodelist ∧ ∀ c ∈ g.columnlist, n ∉ (g.col c).nodes) → g'.geoInv = true
  | [], g, g', hf, h, _, _ => foldlM_nil_ok hf ▸ h
  | n :: t, g, g', hf, h, hnd, hin => by
    obtain ⟨g2, h2, hf'⟩ := foldlM_cons_ok hf
    have hget := regOK_get? (inv0_of_geoInv h).nodes.reg (hin n List.mem_cons_self).1
    have hg2 := deleteNode_geoInv h2 (by
      intro i hi c hc
      rw [hget] at hi; cases hi
      exact (hin n List.mem_cons_self).2 c hc) h
    have hnd' := List.nodup_cons.mp hnd
    obtain ⟨i, hi, rfl⟩ := deleteNode_spec h2
    obtain rfl : n = i := Option.some.inj (hget.symm.trans hi)
    refine deleteNodes_fold t _ g' hf' hg2 hnd'.2 fun m hm => ?_
    have := hin m (List.mem_cons_of_mem _ hm)
    exact ⟨(List.mem_erase_of_ne fun e : m = n => hnd'.1 (e ▸ hm)).mpr this.1, this.2⟩

end Proofs.Geo
