/-
  The plane primitives of `Model.Geo`: sums of rationals, the cyclic edge list `cyc` (it is the zip of the list with
  its rotation, `cyc_cons`), sums of an edge functional, and the shoelace sum, which telescoping makes invariant under
  translation, scales by `cos² + sin²` under rotation and changes sign under reversal.
  No Mathlib: `grind` serves as the ring normaliser.
-/
import PyTough.Model.Geo
namespace Proofs.Refine
open Model.Geo

theorem sumRat_nil : sumRat [] = 0 := rfl
theorem sumRat_cons (a : Rat) (l : List Rat) : sumRat (a :: l) = a + sumRat l := rfl

-- `sumRat l` unfolds to the library's `l.sum`
theorem sumRat_append (l₁ l₂ : List Rat) : sumRat (l₁ ++ l₂) = sumRat l₁ + sumRat l₂ := List.sum_append

theorem sumRat_perm {l₁ l₂ : List Rat} (h : l₁.Perm l₂) : sumRat l₁ = sumRat l₂ := by
  induction h with
  | nil => rfl
  | cons a _ ih => simp only [sumRat_cons, ih]
  | swap a b l => simp only [sumRat_cons]; grind
  | trans _ _ ih₁ ih₂ => exact ih₁.trans ih₂

theorem sumRat_flatMap {α} (f : α → List Rat) (l : List α) :
    sumRat (l.flatMap f) = sumRat (l.map fun a => sumRat (f a)) := by
  induction l with
  | nil => rfl
  | cons a t ih => simp only [List.flatMap_cons, List.map_cons, sumRat_append, sumRat_cons, ih]

theorem sumRat_replicate (n : Nat) (x : Rat) : sumRat (List.replicate n x) = n * x := by
  induction n with
  | zero => simp [sumRat]
  | succ k ih => simp only [List.replicate_succ, sumRat_cons, ih]; push_cast; grind

theorem sumRat_map_add {α} (f g : α → Rat) (l : List α) :
    sumRat (l.map fun a => f a + g a) = sumRat (l.map f) + sumRat (l.map g) := by
  induction l with
  | nil => simp only [List.map_nil, sumRat_nil]; grind
  | cons a t ih => simp only [List.map_cons, sumRat_cons, ih]; grind

theorem sumRat_map_mul {α} (k : Rat) (f : α → Rat) (l : List α) :
    sumRat (l.map fun a => k * f a) = k * sumRat (l.map f) := by
  induction l with
  | nil => simp [sumRat]
  | cons a t ih => simp only [List.map_cons, sumRat_cons, ih]; grind

theorem sumRat_map_sub {α} (f g : α → Rat) (l : List α) :
    sumRat (l.map fun a => f a - g a) = sumRat (l.map f) - sumRat (l.map g) := by
  induction l with
  | nil => simp only [List.map_nil, sumRat_nil]; grind
  | cons a t ih => simp only [List.map_cons, sumRat_cons, ih]; grind

/-- sum of an edge functional over a list of directed edges -/
def esum {α} (f : α × α → Rat) (l : List (α × α)) : Rat := sumRat (l.map f)

theorem esum_cons {α} (f : α × α → Rat) (e) (l : List (α × α)) : esum f (e :: l) = f e + esum f l := rfl

theorem esum_append {α} (f : α × α → Rat) (l₁ l₂ : List (α × α)) :
    esum f (l₁ ++ l₂) = esum f l₁ + esum f l₂ := by
  simp only [esum, List.map_append, sumRat_append]

theorem esum_perm {α} (f : α × α → Rat) {l₁ l₂ : List (α × α)} (h : l₁.Perm l₂) :
    esum f l₁ = esum f l₂ := sumRat_perm (h.map f)

theorem esum_erase {α} [DecidableEq α] (f : α × α → Rat) (e : α × α) (l : List (α × α)) (h : e ∈ l) :
    esum f (l.erase e) + f e = esum f l := by
  have := esum_perm f (List.perm_cons_erase h)
  rw [esum_cons] at this
  rw [this]; grind

theorem cycGo_eq_zip {α} (first : α) : ∀ (l : List α) (a : α), cycGo first (a :: l) = (a :: l).zip (l ++ [first])
  | [], _ => rfl
  | b :: r, a => by rw [cycGo, cycGo_eq_zip first r b]; rfl

theorem cyc_cons {α} (a : α) (t : List α) : cyc (a :: t) = (a :: t).zip (t ++ [a]) := cycGo_eq_zip a t a

theorem cyc_map {α β} (g : α → β) : ∀ l : List α, cyc (l.map g) = (cyc l).map (fun e => (g e.1, g e.2))
  | [] => rfl
  | a :: t => by
    rw [List.map_cons, cyc_cons, cyc_cons, ← List.map_singleton (f := g), ← List.map_append, ← List.map_cons,
      List.zip_map]
    rfl

theorem cyc_rotate {α} (a : α) : ∀ m : List α, (cyc (m ++ [a])).Perm (cyc (a :: m))
  | [] => .refl _
  | b :: s => by
    rw [cyc_cons a, List.cons_append, cyc_cons b, List.zip_cons_cons, ← List.cons_append, List.zip_append (by simp)]
    exact List.perm_append_comm

/-- the cyclic edges of the reversed list are the reversed edges, rearranged -/
theorem cyc_reverse {α} : ∀ l : List α, (cyc l.reverse).Perm ((cyc l).map Prod.swap)
  | [] => .refl _
  | a :: t => by
    rw [List.reverse_cons]
    refine (cyc_rotate a t.reverse).trans ?_
    have e : cyc (a :: t.reverse) = ((cyc (a :: t)).map Prod.swap).reverse := by
      rw [cyc_cons, cyc_cons, List.zip_eq_zipWith, List.zip_eq_zipWith, List.map_zipWith, List.reverse_zipWith (by simp),
        List.zipWith_comm, List.reverse_cons, List.reverse_append, List.reverse_singleton]
      rfl
    rw [e]
    exact List.reverse_perm _

theorem cyc_range (n : Nat) : cyc (List.range n) = (List.range n).map (fun i => (i, (i + 1) % n)) := by
  cases n with
  | zero => rfl
  | succ m =>
    have h : (List.range m).map Nat.succ ++ [0] = (List.range (m + 1)).map fun i => (i + 1) % (m + 1) := by
      rw [List.range_succ, List.map_append, List.map_singleton, Nat.mod_self]
      exact congrArg (· ++ [0]) (List.map_congr_left fun i hi => (Nat.mod_eq_of_lt (by simpa using hi)).symm)
    rw [List.map_prod_left_eq_zip, ← h, List.range_succ_eq_map, cyc_cons]

theorem telescope_cycGo {α} (g : α → Rat) (first : α) : ∀ (l : List α) (a : α),
    sumRat ((cycGo first (a :: l)).map (fun e => g e.2 - g e.1)) = g first - g a
  | [], a => by simp only [cycGo, List.map_cons, List.map_nil, sumRat_cons, sumRat_nil]; grind
  | b :: r, a => by
    have ih := telescope_cycGo g first r b
    simp only [cycGo, List.map_cons, sumRat_cons] at ih ⊢
    rw [ih]; grind

theorem telescope_cyc {α} (g : α → Rat) (l : List α) :
    sumRat ((cyc l).map (fun e => g e.2 - g e.1)) = 0 := by
  cases l with
  | nil => rfl
  | cons a t => simp only [cyc]; rw [telescope_cycGo]; grind

end Proofs.Refine

namespace Proofs.Geo
open Model.Geo Model.Geo.Geo Proofs.Refine

theorem shoelace2_map (f : Pt → Pt) (p : List Pt) :
    shoelace2 (p.map f) = sumRat ((cyc p).map fun e => Pt.cross (f e.1) (f e.2)) := by
  simp only [shoelace2, cyc_map, List.map_map]; rfl

theorem shoelace2_translate (p : List Pt) (d : Pt) : shoelace2 (p.map (Pt.add · d)) = shoelace2 p := by
  rw [shoelace2_map]
  have h : (fun e : Pt × Pt => Pt.cross (Pt.add e.1 d) (Pt.add e.2 d)) =
      fun e => Pt.cross e.1 e.2 - (Pt.cross e.2 d - Pt.cross e.1 d) := by
    funext e; simp only [Pt.cross, Pt.add]; grind
  rw [h, sumRat_map_sub, telescope_cyc (fun x => Pt.cross x d) p]
  simp only [shoelace2]; grind

theorem shoelace2_sub (p : List Pt) (d : Pt) : shoelace2 (p.map (Pt.sub · d)) = shoelace2 p := by
  have : (fun x : Pt => Pt.sub x d) = fun x => Pt.add x (-d.1, -d.2) := by
    funext x; simp only [Pt.sub, Pt.add]; grind
  rw [this, shoelace2_translate]

/-- `polygon_area` (which shifts by the first vertex) is half the plain shoelace sum -/
theorem polygonArea_eq (p : List Pt) : polygonArea p = (1/2) * shoelace2 p := by
  cases p with
  | nil => simp [polygonArea, shoelace2, cyc, sumRat]
  | cons a t => simp only [polygonArea]; rw [shoelace2_sub]

theorem shoelace2_rot (cs sn : Rat) (c : Pt) (p : List Pt) :
    shoelace2 (p.map (rot cs sn c)) = (cs * cs + sn * sn) * shoelace2 p := by
  have h1 : p.map (rot cs sn c) = ((p.map (Pt.sub · c)).map fun d => (cs * d.1 + sn * d.2, -sn * d.1 + cs * d.2)).map (Pt.add · c) := by
    simp only [List.map_map]; apply List.map_congr_left; intro x _
    simp only [rot, Function.comp, Pt.add, Pt.sub]
  rw [h1, shoelace2_translate, shoelace2_map]
  have h2 : (fun e : Pt × Pt => Pt.cross (cs * e.1.1 + sn * e.1.2, -sn * e.1.1 + cs * e.1.2)
        (cs * e.2.1 + sn * e.2.2, -sn * e.2.1 + cs * e.2.2)) =
      fun e => (cs * cs + sn * sn) * Pt.cross e.1 e.2 := by
    funext e; simp only [Pt.cross]; grind
  rw [h2, sumRat_map_mul]
  exact congrArg (_ * ·) (shoelace2_sub p c)

theorem shoelace2_reverse (p : List Pt) : shoelace2 p.reverse = - shoelace2 p := by
  have h := esum_perm (fun e : Pt × Pt => Pt.cross e.1 e.2) (cyc_reverse p)
  have e : (fun e : Pt × Pt => Pt.cross e.1 e.2) ∘ Prod.swap = fun e => (-1 : Rat) * Pt.cross e.1 e.2 := by
    funext e; simp only [Function.comp, Prod.swap, Pt.cross]; grind
  rw [esum, esum, List.map_map, e, sumRat_map_mul] at h
  simp only [shoelace2, h]; grind

end Proofs.Geo
