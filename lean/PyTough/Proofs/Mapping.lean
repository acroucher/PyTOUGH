/-
  Helper lemmas for C19 (Model/Mapping.lean): `mapE`, `foldE`, the insertion-ordered dict,
  string slices and block names.
-/
import PyTough.Model.Mapping
import PyTough.Proofs.StrLemmas
import PyTough.Proofs.ListLemmas
namespace Proofs.Mapping
open Py Model.Mapping

theorem mapE_eq_mapM {α β : Type} (f : α → Except Exc β) (l : List α) : mapE f l = l.mapM f := by
  induction l with
  | nil => rfl
  | cons a as ih =>
    rw [List.mapM_cons, mapE, ih]
    cases f a with
    | error e => rfl
    | ok b => cases as.mapM f <;> rfl

theorem foldE_eq_foldlM {α β : Type} (f : β → α → Except Exc β) (b : β) (l : List α) : foldE f b l = l.foldlM f b := by
  induction l generalizing b with
  | nil => rfl
  | cons a as ih =>
    rw [List.foldlM_cons, foldE]
    cases f b a with
    | error e => rfl
    | ok b' => exact ih b'

theorem mapE_all2 {α β : Type} {f : α → Except Exc β} {l : List α} {bs : List β}
    (h : mapE f l = .ok bs) : All2 (fun a b => f a = .ok b) l bs :=
  (mapM_ok_iff f l bs).mp (mapE_eq_mapM f l ▸ h)

theorem mapE_length {α β : Type} {f : α → Except Exc β} {l : List α} {bs : List β}
    (h : mapE f l = .ok bs) : bs.length = l.length :=
  (mapE_all2 h).length_eq.symm

theorem mapE_getElem {α β : Type} {f : α → Except Exc β} {l : List α} {bs : List β}
    (h : mapE f l = .ok bs) (i : Nat) (a : α) (ha : l[i]? = some a) :
    ∃ b, bs[i]? = some b ∧ f a = .ok b := by
  have := congrArg (·[i]?) (mapM_eq_ok.mp (mapE_eq_mapM f l ▸ h))
  simp only [List.getElem?_map, ha, Option.map_some] at this
  cases hb : bs[i]? with
  | none => simp [hb] at this
  | some b => exact ⟨b, rfl, by simpa [hb] using this⟩

theorem mapE_mem_left {α β : Type} {f : α → Except Exc β} {l : List α} {bs : List β}
    (h : mapE f l = .ok bs) : ∀ a ∈ l, ∃ b ∈ bs, f a = .ok b :=
  (mapE_all2 h).left

theorem mapE_mem_right {α β : Type} {f : α → Except Exc β} {l : List α} {bs : List β}
    (h : mapE f l = .ok bs) : ∀ b ∈ bs, ∃ a ∈ l, f a = .ok b :=
  (mapE_all2 h).right

theorem mapE_ok_of_forall {α β : Type} (f : α → Except Exc β) (g : α → β) (l : List α)
    (h : ∀ a ∈ l, f a = .ok (g a)) : mapE f l = .ok (l.map g) :=
  (mapE_eq_mapM f l).trans (mapM_pure_map f g l h)

theorem mapE_zip {α β : Type} {f : α → Except Exc β} {l : List α} {bs : List β}
    (h : mapE f l = .ok bs) : ∀ p ∈ l.zip bs, f p.1 = .ok p.2 :=
  (mapE_all2 h).zip

theorem mapE_error {α β : Type} {f : α → Except Exc β} {l : List α} {e : Exc}
    (h : mapE f l = .error e) : ∃ a ∈ l, f a = .error e :=
  mapM_error (mapE_eq_mapM f l ▸ h)

theorem mapE_ok_of_each {α β : Type} (f : α → Except Exc β) (l : List α)
    (h : ∀ a ∈ l, ∃ b, f a = .ok b) : ∃ bs, mapE f l = .ok bs :=
  mapE_eq_mapM f l ▸ mapM_ok_of_each h

theorem mapE_cons_ok {α β : Type} {f : α → Except Exc β} {a : α} {as : List α} {bs : List β}
    (h : mapE f (a :: as) = .ok bs) : ∃ b bs', bs = b :: bs' ∧ f a = .ok b ∧ mapE f as = .ok bs' := by
  cases mapE_all2 h with
  | cons ha ht => exact ⟨_, _, rfl, ha, mapE_eq_mapM f as ▸ (mapM_ok_iff f as _).mpr ht⟩

theorem mapE_map {α β γ : Type} (f : β → Except Exc γ) (g : α → β) (l : List α) :
    mapE f (l.map g) = mapE (fun a => f (g a)) l := by
  rw [mapE_eq_mapM, mapE_eq_mapM, List.mapM_map]
  rfl

theorem dget_nil {β : Type} (k : Str) : dget ([] : Dict β) k = .error .keyError := rfl

/-! The dict is an association list read by `List.lookup` (`dget_eq`) and written by `Proofs.upsert` (`dset_eq`). -/

theorem dget_eq {β : Type} (d : Dict β) (k : Str) : dget d k = (d.lookup k).elim (.error .keyError) .ok := by
  unfold dget
  induction d with
  | nil => rfl
  | cons p r ih =>
    rw [List.find?_cons, lookup_cons_ite]
    by_cases h : p.1 = k
    · rw [(by simpa using h : (p.1 == k) = true), if_pos h.symm]; rfl
    · rw [(by simpa using h : (p.1 == k) = false), if_neg (Ne.symm h)]; exact ih

theorem dset_eq {β : Type} (d : Dict β) (k : Str) (v : β) : dset d k v = upsert (·.1) d (k, v) := by
  unfold dset upsert
  simp only [Bool.beq_eq_decide_eq, decide_eq_true_eq]

theorem dget_dset {β : Type} (d : Dict β) (k' : Str) (v : β) (k : Str) :
    dget (dset d k' v) k = if k' = k then .ok v else dget d k := by
  rw [dget_eq, dset_eq, lookup_upsert, dget_eq]
  by_cases h : k' = k
  · rw [if_pos h, if_pos h.symm]; rfl
  · rw [if_neg h, if_neg (Ne.symm h)]

theorem mem_dset {β : Type} (d : Dict β) (k : Str) (v : β) (p : Str × β) (hp : p ∈ dset d k v) :
    p ∈ d ∨ p = (k, v) := mem_upsert (dset_eq d k v ▸ hp)

theorem dset_map {β γ : Type} (g : β → γ) (d : Dict β) (k : Str) (v : β) :
    (dset d k v).map (fun p => (p.1, g p.2)) = dset (d.map (fun p => (p.1, g p.2))) k (g v) := by
  unfold dset
  have hany : (d.map (fun p => (p.1, g p.2))).any (fun p => p.1 == k) = d.any (fun p => p.1 == k) := by
    rw [List.any_map]; rfl
  rw [hany]
  split
  · rw [List.map_map, List.map_map]
    apply List.map_congr_left
    intro p _
    simp only [Function.comp_apply]
    split <;> rfl
  · simp

theorem dget_mem {β : Type} (d : Dict β) (k : Str) (v : β) (hd : dget d k = .ok v) : (k, v) ∈ d := by
  rw [dget_eq] at hd
  cases h : d.lookup k with
  | none => rw [h] at hd; cases hd
  | some x =>
    rw [h] at hd; cases hd
    exact mem_of_lookup h

theorem dset_pair_eq {β : Type} : (fun (d : Dict β) p => dset d p.1 p.2) = upsert (·.1) :=
  funext fun d => funext fun p => dset_eq d p.1 p.2

theorem dget_foldl_none {β : Type} (ps : List (Str × β)) (d : Dict β) (k : Str) (h : ∀ p ∈ ps, p.1 ≠ k) :
    dget (ps.foldl (fun d p => dset d p.1 p.2) d) k = dget d k := by
  rw [dget_eq, dget_eq, dset_pair_eq, lookup_foldl_upsert_of_not_mem h]

theorem dget_foldl_mem {β : Type} (ps : List (Str × β)) (d : Dict β) (k : Str) (hex : ∃ p ∈ ps, p.1 = k) :
    ∃ p ∈ ps, p.1 = k ∧ dget (ps.foldl (fun d p => dset d p.1 p.2) d) k = .ok p.2 := by
  obtain ⟨p, hp, hk, e⟩ := lookup_foldl_upsert_of_mem (d := d) hex
  exact ⟨p, hp, hk, by rw [dget_eq, dset_pair_eq, e]; rfl⟩

theorem dget_foldl_fun {β : Type} (ps : List (Str × β)) (d : Dict β) (k : Str) (v : β)
    (hex : ∃ p ∈ ps, p.1 = k) (hfun : ∀ p ∈ ps, p.1 = k → p.2 = v) :
    dget (ps.foldl (fun d p => dset d p.1 p.2) d) k = .ok v := by
  obtain ⟨p, hp, hk, e⟩ := dget_foldl_mem ps d k hex
  rw [e, hfun p hp hk]

theorem dget_dictOf_fun {β : Type} (ps : List (Str × β)) (k : Str) (v : β)
    (hex : ∃ p ∈ ps, p.1 = k) (hfun : ∀ p ∈ ps, p.1 = k → p.2 = v) :
    dget (dictOf ps) k = .ok v :=
  dget_foldl_fun ps [] k v hex hfun

theorem dget_dictOf_mem {β : Type} (ps : List (Str × β)) (k : Str) (hex : ∃ p ∈ ps, p.1 = k) :
    ∃ p ∈ ps, p.1 = k ∧ dget (dictOf ps) k = .ok p.2 :=
  dget_foldl_mem ps [] k hex

theorem dget_dictOf_none {β : Type} (ps : List (Str × β)) (k : Str) (h : ∀ p ∈ ps, p.1 ≠ k) :
    dget (dictOf ps) k = .error .keyError :=
  dget_foldl_none ps [] k h

/-- a dict `d0` updated with the pairs `f` returns for the elements of `xs`, when the key of an element's pair is
    `key` of the element and `key` is injective on `xs`: under an element's key stands that element's value -/
theorem dget_foldl_mapE {α β : Type} {f : α → Except Exc (Str × β)} {xs : List α} {ps : List (Str × β)}
    (hps : mapE f xs = .ok ps) (key : α → Str) (hkey : ∀ x ∈ xs, ∀ p, f x = .ok p → p.1 = key x)
    (hinj : ∀ x ∈ xs, ∀ y ∈ xs, key x = key y → x = y) (d0 : Dict β)
    {x : α} (hx : x ∈ xs) {p : Str × β} (hf : f x = .ok p) :
    dget (ps.foldl (fun d p => dset d p.1 p.2) d0) (key x) = .ok p.2 := by
  apply dget_foldl_fun
  · obtain ⟨b, hb, hfb⟩ := mapE_mem_left hps x hx
    rw [hf] at hfb; cases hfb
    exact ⟨p, hb, hkey x hx p hf⟩
  · intro p' hp' hk
    obtain ⟨y, hy, hfy⟩ := mapE_mem_right hps p' hp'
    rw [hkey y hy p' hfy] at hk
    have := hinj y hy x hx hk
    subst this
    rw [hf] at hfy
    exact congrArg Prod.snd (Except.ok.inj hfy).symm

theorem slice_append_left (a b : Str) (n : Nat) (h : a.length = n) : slice (a ++ b) 0 n = a :=
  Py.slice_append_left a b n h

theorem rawName_eq (cv : Conv) (l c : Str) (hl : l.length = layLen cv) (hc : c.length = colLen cv) :
    rawName cv l c = (match cv with | .c0 => c ++ l | .c3 => c ++ l | .c1 => l ++ c | .c2 => l ++ c) := by
  cases cv <;> simp only [rawName] <;>
    rw [slice_zero_self l _ (by simpa [layLen] using hl), slice_zero_self c _ (by simpa [colLen] using hc)]

theorem rawName_length (cv : Conv) (l c : Str) (hl : l.length = layLen cv) (hc : c.length = colLen cv) :
    (rawName cv l c).length = 5 := by
  rw [rawName_eq cv l c hl hc]
  cases cv <;> simp only [layLen, colLen] at hl hc <;> simp [hl, hc]

theorem columnName_rawName (cv : Conv) (l c : Str) (hl : l.length = layLen cv) (hc : c.length = colLen cv) :
    columnName cv (rawName cv l c) = c := by
  rw [rawName_eq cv l c hl hc]
  cases cv <;> simp only [columnName]
  · exact slice_append_left c l 3 hc
  · exact slice_append_right l c 3 2 5 hl hc rfl
  · exact slice_append_right l c 2 3 5 hl hc rfl
  · exact slice_append_left c l 3 hc

theorem layerName_rawName (cv : Conv) (l c : Str) (hl : l.length = layLen cv) (hc : c.length = colLen cv) :
    layerName cv (rawName cv l c) = l := by
  rw [rawName_eq cv l c hl hc]
  cases cv <;> simp only [layerName]
  · exact slice_append_right c l 3 2 5 hc hl rfl
  · exact slice_append_left l c 3 hl
  · exact slice_append_left l c 2 hl
  · exact slice_append_right c l 3 2 5 hc hl rfl

theorem fixBlockname_ok (n : Str) (h : 5 ≤ n.length) : ∃ m, fixBlockname n = .ok m := by
  unfold fixBlockname
  rw [List.getElem?_eq_getElem (by omega : 2 < n.length), List.getElem?_eq_getElem (by omega : 4 < n.length),
    List.getElem?_eq_getElem (by omega : 3 < n.length)]
  -- the three characters exist, and every branch that is left returns
  dsimp only
  split
  · exact ⟨_, rfl⟩
  · split
    · exact ⟨_, rfl⟩
    · split <;> exact ⟨_, rfl⟩

theorem blockName_ok (cv : Conv) (l c : Str) (hl : l.length = layLen cv) (hc : c.length = colLen cv) :
    ∃ m, blockName cv l c = .ok m :=
  fixBlockname_ok _ (Nat.le_of_eq (rawName_length cv l c hl hc).symm)

theorem blockName_inert (cv : Conv) (l c : Str) (h : fixInert (rawName cv l c) = true) :
    blockName cv l c = .ok (rawName cv l c) := by
  unfold blockName
  simpa [fixInert] using h

end Proofs.Mapping
