/-
  The real-number instance of the carrier class of the thermodynamic routines, and the
  rewriting lemmas that turn the generated (carrier-generic) definitions of
  `Gen/Iapws.lean`, `Gen/Ifc67.lean` into ordinary real-number expressions.
-/
import Mathlib.Analysis.SpecialFunctions.Pow.Real
import PyTough.Model.Thermo

namespace Proofs.Thermo
open Model.Thermo

/-- the same expression trees, read over ℝ: literals are the exact rationals of the doubles,
    `sqrt`, `exp`, `**` are the real functions, comparisons are the real order.
    Trap: the class extends `Div`, and in every file that imports this one a `/` between reals (the `1 / 100 ≤ t` of
    `sat_tsat_inverse_on`) resolves to `ThermoField.toDiv instTFReal`, not to Mathlib's division (`pp.explicit` shows it; `+ - *` stay Mathlib's).
    It unfolds to Mathlib's at instance transparency (`tf_div`), so lemmas and tactics apply to it as they stand. -/
noncomputable instance instTFReal : ThermoField ℝ where
  add a b := a + b
  sub a b := a - b
  mul a b := a * b
  div a b := a / b
  neg a := -a
  sqrt := Real.sqrt
  exp := Real.exp
  pow a b := a ^ b
  lit _ n d := (n : ℝ) / (d : ℝ)
  ofInt i := (i : ℝ)
  le a b := decide (a ≤ b)
  lt a b := decide (a < b)
  bad := 0
  fma a b c := a * b + c

-- a generated routine `f` is read over ℝ by `unfold f; simp only [tf_add, …, tf_lit, Bool.and_eq_true, decide_eq_true_eq]; norm_num only []`
-- (operations, comparisons, `tf_ofInt`, functions, then `tf_lit` and the Booleans)
theorem tf_add (a b : ℝ) : @HAdd.hAdd ℝ ℝ ℝ (@instHAdd ℝ ThermoField.toAdd) a b = a + b := rfl
theorem tf_sub (a b : ℝ) : @HSub.hSub ℝ ℝ ℝ (@instHSub ℝ ThermoField.toSub) a b = a - b := rfl
theorem tf_mul (a b : ℝ) : @HMul.hMul ℝ ℝ ℝ (@instHMul ℝ ThermoField.toMul) a b = a * b := rfl
theorem tf_div (a b : ℝ) : @HDiv.hDiv ℝ ℝ ℝ (@instHDiv ℝ ThermoField.toDiv) a b = a / b := rfl
theorem tf_neg (a : ℝ) : @Neg.neg ℝ ThermoField.toNeg a = -a := rfl
theorem tf_sqrt (a : ℝ) : ThermoField.sqrt a = Real.sqrt a := rfl
theorem tf_exp (a : ℝ) : ThermoField.exp a = Real.exp a := rfl
theorem tf_pow (a b : ℝ) : ThermoField.pow a b = a ^ b := rfl
theorem tf_lit (b : UInt64) (n : Int) (d : Nat) : (ThermoField.lit b n d : ℝ) = (n : ℝ) / (d : ℝ) := rfl
theorem tf_ofInt (i : Int) : (ThermoField.ofInt i : ℝ) = (i : ℝ) := rfl
theorem tf_fma (a b c : ℝ) : ThermoField.fma a b c = a * b + c := rfl
theorem tf_bad : (ThermoField.bad : ℝ) = 0 := rfl
theorem tf_le (a b : ℝ) : (ThermoField.le a b = true) ↔ a ≤ b := by simp [ThermoField.le]
theorem tf_lt (a b : ℝ) : (ThermoField.lt a b = true) ↔ a < b := by simp [ThermoField.lt]
theorem tf_le' (a b : ℝ) : ThermoField.le a b = decide (a ≤ b) := rfl
theorem tf_lt' (a b : ℝ) : ThermoField.lt a b = decide (a < b) := rfl

/-- The literals read over ℚ: enough of the carrier class to evaluate the generated constants and coefficient tables
    by rational arithmetic (`sqrt`, `exp`, `**` have no rational reading and are `0`; what is evaluated over ℚ uses none of them).
    Not an instance: it is passed explicitly, `@nr4_0 ℚ ratLits`. -/
@[reducible] def ratLits : ThermoField ℚ where
  add a b := a + b
  sub a b := a - b
  mul a b := a * b
  div a b := a / b
  neg a := -a
  sqrt _ := 0
  exp _ := 0
  pow _ _ := 0
  lit _ n d := mkRat n d
  ofInt i := (i : ℚ)
  le a b := decide (a ≤ b)
  lt a b := decide (a < b)
  bad := 0
  fma a b c := a * b + c

theorem ratLits_lit (b : UInt64) (n : Int) (d : Nat) : ((@ThermoField.lit ℚ ratLits b n d : ℚ) : ℝ) = ThermoField.lit b n d := by
  show ((mkRat n d : ℚ) : ℝ) = (n : ℝ) / (d : ℝ)
  rw [Rat.mkRat_eq_div, Rat.cast_div, Rat.cast_intCast, Rat.cast_natCast]

theorem pySum_eq (xs : List ℝ) : pySum xs = xs.sum := by
  unfold pySum
  rw [tf_ofInt, Int.cast_zero, List.sum_eq_foldl]

theorem pyMin_eq (a b : ℝ) : pyMin a b = min a b := by
  unfold pyMin
  rw [tf_lt']
  by_cases h : b < a
  · simp [h, min_eq_right (le_of_lt h)]
  · simp [h, min_eq_left (not_lt.mp h)]

theorem pyMax_eq (a b : ℝ) : pyMax a b = max a b := by
  unfold pyMax
  rw [tf_lt']
  by_cases h : a < b
  · simp [h, max_eq_right (le_of_lt h)]
  · simp [h, max_eq_left (not_lt.mp h)]

end Proofs.Thermo
