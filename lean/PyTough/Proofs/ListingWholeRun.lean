/-
  Run equations of the whole-file reader (Model/ListingFile.lean).  A method of the reader is a function of the reader
  state (`M`), a line primitive a function of the reader and the cursor (`C`).  The lemmas here say what each
  primitive returns and which state it leaves, so that a proof about a method goes through its statements one by one
  (`rw [bind_ok (…_run …)]`) and never unfolds the monads.  In this file `…_run` gives the result on every input, `…_ok`
  the successful result under a hypothesis on the lines, `cu_…` is the `C` form of the `M` lemma; the `…_run` lemmas of
  the files built on this one are about whole methods and hold on the lines their hypotheses describe.  Core Lean only.
-/
import PyTough.Model.ListingFile
import PyTough.Proofs.ListLemmas
namespace Proofs.Whole
open Py Model Model.Listing

theorem bind_run {α β : Type} (m : M α) (f : α → M β) (s : Rd) :
    (m >>= f) s = match m s with | .ok (a, s1) => f a s1 | .error e => .error e := by
  show (m s >>= fun p => f p.1 p.2) = _
  cases m s <;> rfl

theorem bind_ok {α β : Type} {x : M α} {f : α → M β} {s s' : Rd} {a : α} (h : x s = .ok (a, s')) :
    (x >>= f) s = f a s' := by
  rw [bind_run, h]

theorem get_bind {β : Type} (f : Rd → M β) (s : Rd) : (get >>= f) s = f s s := rfl

theorem pure_run {α : Type} (a : α) (s : Rd) : (pure a : M α) s = .ok (a, s) := rfl

theorem pure_unit_run (s : Rd) : (pure () : M Unit) s = .ok ((), s) := pure_run () s

theorem liftE_ok {α : Type} (v : α) (s : Rd) : (liftE (.ok v) : M α) s = .ok (v, s) := rfl

theorem modify_run (f : Rd → Rd) (s : Rd) : (modify f : M Unit) s = .ok ((), f s) := rfl

theorem set_run (s' s : Rd) : (set s' : M Unit) s = .ok ((), s') := rfl

theorem cu_bind_run {α β : Type} (m : C α) (f : α → C β) (env : Rd) (c : Cur) :
    (m >>= f) env c = match m env c with | .ok (a, c1) => f a env c1 | .error e => .error e := by
  show (m env c >>= fun p => f p.1 env p.2) = _
  cases m env c <;> rfl

theorem cu_bind_ok {α β : Type} {x : C α} {f : α → C β} {env : Rd} {c c' : Cur} {a : α} (h : x env c = .ok (a, c')) :
    (x >>= f) env c = f a env c' := by
  rw [cu_bind_run, h]

theorem cu_get_bind {β : Type} (f : Cur → C β) (env : Rd) (c : Cur) : (get >>= f) env c = f c env c := rfl

theorem cu_read_bind {β : Type} (f : Rd → C β) (env : Rd) (c : Cur) : (read >>= f) env c = f env env c := rfl

theorem liftC_ok {α : Type} (x : C α) (s : Rd) (a : α) (cur : Cur) (h : x s ⟨s.pos, s.index⟩ = .ok (a, cur)) :
    liftC x s = .ok (a, { s with pos := cur.pos, index := cur.index }) := by
  unfold liftC; rw [h]

theorem rd_pos_eta (s : Rd) (n : Nat) (rest : List Str) (hn : n = s.pos.no) (hr : s.pos.rest = rest) :
    { s with pos := ⟨n, rest⟩ } = s := by
  cases s with | mk _ _ pos => cases pos; simp_all

theorem cu_modify_run (g : Cur → Cur) (env : Rd) (c : Cur) : (modify g : C PUnit) env c = .ok (⟨⟩, g c) := rfl

theorem cu_getTable_run (n : String) (env : Rd) (c : Cur) :
    Cu.getTable n env c = match env.tables.lookup n with | some t => .ok (t, c) | none => .error (.py .keyError) := by
  unfold Cu.getTable
  rw [cu_read_bind]
  cases env.tables.lookup n <;> rfl

/-- what `Cu.tableExpectedFloats` returns on a non-empty column list -/
def expectedT (tn : String) (cols : List Str) : Int :=
  let n : Int := if tn = "generation" then 1 else cols.length
  if cols.head? = some ['I'] then n - 1 else n

theorem cu_tableExpectedFloats_run (tn : String) (cols : List Str) (env : Rd) (c : Cur) :
    Cu.tableExpectedFloats tn cols env c = match cols with
      | [] => .error (.py .indexError)
      | _ :: _ => .ok (expectedT tn cols, c) := by
  unfold Cu.tableExpectedFloats expectedT
  cases cols with
  | nil => rfl
  | cons c0 cs =>
    simp only [List.head?_cons, Option.some.injEq]
    rfl

theorem cu_tell_run (env : Rd) (c : Cur) : Cu.tell env c = .ok (c.pos, c) := rfl

theorem cu_seek_run (p : Pos) (env : Rd) (c : Cur) : Cu.seek p env c = .ok ((), { c with pos := p }) := rfl

theorem cu_readline_cons (env : Rd) (c : Cur) (l : Str) (r : List Str) (h : c.pos.rest = l :: r) :
    Cu.readline env c = .ok (l, { c with pos := ⟨c.pos.no + 1, r⟩ }) := by
  unfold Cu.readline
  rw [cu_get_bind]
  simp only [h]
  rfl

theorem cu_readline_any (env : Rd) (c : Cur) :
    Cu.readline env c = .ok (c.pos.rest.headD [], { c with pos := ⟨c.pos.no + min 1 c.pos.rest.length, c.pos.rest.drop 1⟩ }) := by
  cases hr : c.pos.rest with
  | nil =>
    unfold Cu.readline
    rw [cu_get_bind]
    simp only [hr]
    have : c = { c with pos := ⟨c.pos.no + min 1 ([] : List Str).length, ([] : List Str).drop 1⟩ } := by
      cases c with | mk pos _ => cases pos; simp_all
    rw [← this]; rfl
  | cons l r =>
    rw [cu_readline_cons env c l r hr]
    simp only [List.headD_cons, List.length_cons, List.drop_succ_cons, List.drop_zero]
    have : min 1 (r.length + 1) = 1 := by omega
    rw [this]

theorem cu_skiplines_run (n : Nat) (env : Rd) (c : Cur) :
    Cu.skiplines n env c = .ok ((), { c with pos := ⟨c.pos.no + min n c.pos.rest.length, c.pos.rest.drop n⟩ }) := by
  induction n generalizing c with
  | zero => rfl
  | succ k ih =>
    unfold Cu.skiplines
    rw [cu_bind_ok (cu_readline_any env c), ih]
    simp only [List.drop_drop, List.length_drop]
    have e1 : c.pos.no + min 1 c.pos.rest.length + min k (c.pos.rest.length - 1) = c.pos.no + min (k + 1) c.pos.rest.length := by
      omega
    rw [e1, Nat.add_comm 1 k]

theorem cu_readUntil_ok (stop : Str → Bool) (eof : Bool) (env : Rd) (c : Cur) (l : Str) (p : Pos)
    (h : readUntilL stop eof c.pos.rest c.pos.no = some (l, p)) :
    Cu.readUntil stop eof env c = .ok (l, { c with pos := p }) := by
  unfold Cu.readUntil
  rw [cu_get_bind]
  simp only [h]
  rfl

theorem cu_skipToNonblank_run (env : Rd) (c : Cur) :
    Cu.skipToNonblank env c = match skipToNonblankL c.pos.rest c.pos.no with
      | none => .error .diverges
      | some p => .ok ((), { c with pos := p }) := by
  show (match skipToNonblankL c.pos.rest c.pos.no with
    | none => (throw LErr.diverges : C Unit) | some p => set { c with pos := p }) env c = _
  cases skipToNonblankL c.pos.rest c.pos.no <;> rfl

theorem cu_skipToNonblank_ok (env : Rd) (c : Cur) (p : Pos) (h : skipToNonblankL c.pos.rest c.pos.no = some p) :
    Cu.skipToNonblank env c = .ok ((), { c with pos := p }) := by
  rw [cu_skipToNonblank_run, h]

theorem cu_skipToResultsLine_run (e : Int) (env : Rd) (c : Cur) :
    Cu.skipToResultsLine e env c = match skipToResultsLineL e c.pos.rest c.pos.no 1 with
      | none => .error .diverges
      | some r => .ok (r.1, { c with pos := r.2 }) := by
  show (match skipToResultsLineL e c.pos.rest c.pos.no 1 with
    | none => (throw LErr.diverges : C Nat)
    | some (k, p) => (do set { c with pos := p }; return k : C Nat)) env c = _
  cases skipToResultsLineL e c.pos.rest c.pos.no 1 <;> rfl

theorem tell_run (s : Rd) : tell s = .ok (s.pos, s) := rfl

theorem seek_run (p : Pos) (s : Rd) : seek p s = .ok ((), { s with pos := p }) := rfl

theorem isPlus_run (s : Rd) : isPlus s = .ok (s.fam == .toughplus, s) := rfl

theorem skipto1_run (kw : String) (start : Nat) (s : Rd) :
    skipto1 kw start s = .ok ((skipToL [kw.toList] start s.pos.rest s.pos.no).1,
                            { s with pos := (skipToL [kw.toList] start s.pos.rest s.pos.no).2 }) := rfl

theorem readline_cons (s : Rd) (l : Str) (r : List Str) (h : s.pos.rest = l :: r) :
    readline s = .ok (l, { s with pos := ⟨s.pos.no + 1, r⟩ }) :=
  liftC_ok _ s _ _ (cu_readline_cons s ⟨s.pos, s.index⟩ l r h)

theorem readline_any (s : Rd) :
    readline s = .ok (s.pos.rest.headD [], { s with pos := ⟨s.pos.no + min 1 s.pos.rest.length, s.pos.rest.drop 1⟩ }) :=
  liftC_ok _ s _ _ (cu_readline_any s ⟨s.pos, s.index⟩)

theorem readline_headD (s : Rd) (L tail : List Str) (hne : L ≠ []) (h : s.pos.rest = L ++ tail) :
    readline s = .ok (L.headD [], { s with pos := ⟨s.pos.no + 1, L.tail ++ tail⟩ }) := by
  cases L with
  | nil => exact absurd rfl hne
  | cons l r => exact readline_cons s l (r ++ tail) h

theorem skiplines_run (n : Nat) (s : Rd) :
    skiplines n s = .ok ((), { s with pos := ⟨s.pos.no + min n s.pos.rest.length, s.pos.rest.drop n⟩ }) :=
  liftC_ok _ s _ _ (cu_skiplines_run n s ⟨s.pos, s.index⟩)

theorem skipToBlank_run (s : Rd) : skipToBlank s = .ok ((), { s with pos := skipToBlankL s.pos.rest s.pos.no }) := rfl

theorem skipToNonblank_ok (s : Rd) (p : Pos) (h : skipToNonblankL s.pos.rest s.pos.no = some p) :
    skipToNonblank s = .ok ((), { s with pos := p }) :=
  liftC_ok _ s _ _ (cu_skipToNonblank_ok s ⟨s.pos, s.index⟩ p h)

theorem readUntil_ok (stop : Str → Bool) (eof : Bool) (s : Rd) (l : Str) (p : Pos)
    (h : readUntilL stop eof s.pos.rest s.pos.no = some (l, p)) :
    readUntil stop eof s = .ok (l, { s with pos := p }) :=
  liftC_ok _ s _ _ (cu_readUntil_ok stop eof s ⟨s.pos, s.index⟩ l p h)

theorem tableExpectedFloats_run (tn : String) (c : Str) (cs : List Str) (s : Rd) :
    tableExpectedFloats tn (c :: cs) s = .ok (expectedT tn (c :: cs), s) :=
  liftC_ok _ s _ _ (cu_tableExpectedFloats_run tn (c :: cs) s ⟨s.pos, s.index⟩)

theorem skipToResultsLine_ok (expected : Int) (s : Rd) (k : Nat) (p : Pos)
    (h : skipToResultsLineL expected s.pos.rest s.pos.no 1 = some (k, p)) :
    skipToResultsLine expected s = .ok (k, { s with pos := p }) := by
  unfold skipToResultsLine
  refine liftC_ok _ s k ⟨p, s.index⟩ ?_
  rw [cu_skipToResultsLine_run, h]

theorem getTable_ok (tn : String) (t : Table) (s : Rd) (h : s.tables.lookup tn = some t) :
    getTable tn s = .ok (t, s) := by
  unfold getTable
  rw [get_bind]
  simp only [h]
  rfl

theorem hasTable_run (tn : String) (s : Rd) : hasTable tn s = .ok ((s.tables.lookup tn).isSome, s) := rfl

theorem setIndex_seek (s : Rd) (i : Int) (jn : Nat) (p : Pos)
    (hj : (if i < 0 then i + (s.fullpos.size : Int) else i) = (jn : Int)) (hjn : jn < s.fullpos.size)
    (hp : s.fullpos[jn]! = p) :
    setIndex i s = readTables { s with pos := p, index := if i < 0 then i + (s.fulltimes.size : Int) else i } := by
  unfold setIndex
  rw [get_bind]
  simp only [hj]
  have hc : ¬ ((jn : Int) < 0 ∨ (jn : Int) ≥ (s.fullpos.size : Int)) := by omega
  rw [if_neg hc]
  have ht : ((jn : Int)).toNat = jn := by omega
  rw [ht, hp]
  rw [bind_ok (seek_run p s)]
  rw [bind_ok (modify_run _ _)]

/-! The line scanners of the model split the remaining lines at the first line that passes their test: what they return
  is read off `takeWhile` (the lines passed over, counted) and `dropWhile` (the lines from the stopping line on). -/

theorem skipToBlankL_eq (rest : List Str) (n : Nat) :
    skipToBlankL rest n = ⟨n + (rest.takeWhile (!isBlank ·)).length, rest.dropWhile (!isBlank ·)⟩ := by
  induction rest generalizing n with
  | nil => rfl
  | cons l r ih =>
    rw [skipToBlankL, ih, List.takeWhile_cons, List.dropWhile_cons]
    cases isBlank l
    · simp [Nat.add_assoc, Nat.add_comm 1]
    · rfl

theorem skipToNonblankL_eq (rest : List Str) (n : Nat) :
    skipToNonblankL rest n =
      if rest.dropWhile isBlank = [] then none else some ⟨n + (rest.takeWhile isBlank).length, rest.dropWhile isBlank⟩ := by
  induction rest generalizing n with
  | nil => rfl
  | cons l r ih =>
    rw [skipToNonblankL, ih, List.takeWhile_cons, List.dropWhile_cons]
    cases isBlank l
    · rfl
    · simp [Nat.add_assoc, Nat.add_comm 1]

theorem readUntilL_eq (stop : Str → Bool) (eof : Bool) (rest : List Str) (n : Nat) :
    readUntilL stop eof rest n = match rest.dropWhile (!stop ·) with
      | [] => if eof || stop [] then some ([], ⟨n + rest.length, []⟩) else none
      | l :: r => some (l, ⟨n + (rest.takeWhile (!stop ·)).length + 1, r⟩) := by
  induction rest generalizing n with
  | nil => rfl
  | cons l r ih =>
    rw [readUntilL, ih, List.takeWhile_cons, List.dropWhile_cons]
    cases stop l
    · simp [Nat.add_assoc, Nat.add_comm 1]
    · rfl

/-- the keyword of `kws` that line `l` carries at column `start`: the test of `skipto` -/
abbrev kwAt (kws : List Str) (start : Nat) (l : Str) : Option Str := kws.find? fun kw => startsWith (l.drop start) kw

theorem skipToL_eq (kws : List Str) (start : Nat) (rest : List Str) (n : Nat) :
    skipToL kws start rest n = match rest.dropWhile (kwAt kws start · |>.isNone) with
      | [] => (none, ⟨n + rest.length, []⟩)
      | l :: r => (kwAt kws start l, ⟨n + (rest.takeWhile (kwAt kws start · |>.isNone)).length + 1, r⟩) := by
  induction rest generalizing n with
  | nil => rfl
  | cons l r ih =>
    rw [skipToL, ih, List.takeWhile_cons, List.dropWhile_cons]
    cases h : kwAt kws start l
    · simp only [kwAt] at h; simp [h, Nat.add_assoc, Nat.add_comm 1]
    · simp only [kwAt] at h; simp [h]

theorem skipToResultsLineL_eq (e : Int) (rest : List Str) (n k : Nat) :
    skipToResultsLineL e rest n k =
      let H := rest.takeWhile fun l => !isResultsLine (strip l) e
      let r := rest.dropWhile fun l => !isResultsLine (strip l) e
      if r = [] ∧ isResultsLine [] e = false then none else some (k + H.length, ⟨n + H.length, r⟩) := by
  induction rest generalizing n k with
  | nil => simp only [skipToResultsLineL]; cases isResultsLine [] e <;> rfl
  | cons l r ih =>
    rw [skipToResultsLineL, ih, List.takeWhile_cons, List.dropWhile_cons]
    cases isResultsLine (strip l) e
    · simp [Nat.add_assoc, Nat.add_comm 1]
    · simp

theorem skipToBlankL_app (A : List Str) (b : Str) (r : List Str) (n : Nat)
    (hA : ∀ l ∈ A, isBlank l = false) (hb : isBlank b = true) :
    skipToBlankL (A ++ b :: r) n = ⟨n + A.length, b :: r⟩ := by
  simp +contextual [skipToBlankL_eq, List.takeWhile_append_of_pos, List.dropWhile_append_of_pos, hA, hb]

theorem skipToNonblankL_app (Bl : List Str) (l : Str) (r : List Str) (n : Nat)
    (hB : ∀ x ∈ Bl, isBlank x = true) (hl : isBlank l = false) :
    skipToNonblankL (Bl ++ l :: r) n = some ⟨n + Bl.length, l :: r⟩ := by
  simp [skipToNonblankL_eq, List.takeWhile_append_of_pos hB, List.dropWhile_append_of_pos hB, hl]

theorem readUntilL_app (stop : Str → Bool) (eof : Bool) (X : List Str) (term : Str) (tail : List Str) (n : Nat)
    (hX : ∀ x ∈ X, stop x = false) (ht : stop term = true) :
    readUntilL stop eof (X ++ term :: tail) n = some (term, ⟨n + X.length + 1, tail⟩) := by
  simp +contextual [readUntilL_eq, List.takeWhile_append_of_pos, List.dropWhile_append_of_pos, hX, ht]

theorem readUntilL_eof (stop : Str → Bool) (E : List Str) (n : Nat) (hE : ∀ x ∈ E, stop x = false) :
    readUntilL stop true E n = some ([], ⟨n + E.length, []⟩) := by
  rw [readUntilL_eq, dropWhile_eq_nil_iff.mpr (by simpa using hE)]
  rfl

theorem skipToL_app (kw : Str) (start : Nat) (R : List Str) (l : Str) (after : List Str) (n : Nat)
    (hR : ∀ x ∈ R, startsWith (x.drop start) kw = false) (hl : startsWith (l.drop start) kw = true) :
    skipToL [kw] start (R ++ l :: after) n = (some kw, ⟨n + R.length + 1, after⟩) := by
  simp +contextual [skipToL_eq, List.takeWhile_append_of_pos, List.dropWhile_append_of_pos, hR, hl]

theorem skipToResultsLineL_app (expected : Int) (H : List Str) (d0 : Str) (rest : List Str) (n k : Nat)
    (hH : ∀ l ∈ H, isResultsLine (strip l) expected = false) (hd : isResultsLine (strip d0) expected = true) :
    skipToResultsLineL expected (H ++ d0 :: rest) n k = some (k + H.length, ⟨n + H.length, d0 :: rest⟩) := by
  simp +contextual [skipToResultsLineL_eq, List.takeWhile_append_of_pos, List.dropWhile_append_of_pos, hH, hd]

/-- `self._table[name] = t` is `upsert` on the names: the model tests by look-up and writes the overwriting function as a
    pattern match -/
theorem putTable_run (tn : String) (t : Table) (s : Rd) :
    putTable tn t s = .ok ((), { s with tables := upsert (·.1) s.tables (tn, t) }) := by
  have hf : (fun e : String × Table => match e with | (n, x) => if n = tn then (n, t) else (n, x)) =
      fun e => if e.1 = tn then (tn, t) else e := by
    funext ⟨n, x⟩
    by_cases hn : n = tn
    · simp [hn]
    · simp [hn]
  unfold putTable
  rw [modify_run, upsert_fst, hf]
  split <;> rfl

end Proofs.Whole
