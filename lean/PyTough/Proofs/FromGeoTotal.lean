/-
  Proofs for C04: `fromgeo` returns on every well-formed geometry — every lookup of the two
  connection loops finds the block `add_blocks` built for the announced name.
-/
import PyTough.Proofs.FromGeoOrigin
import PyTough.Proofs.FromGeoArith
namespace Proofs.FromGeo
open Py Model.FromGeo

theorem addBlocks_total (g : Geo) (m : BlockMap) (hf : Fresh g) (hp : parseOk g = true) (hatm : g.atmType ≤ 2) :
    ∃ bs, addBlocks g m = .ok bs := by
  obtain ⟨a, u, _, F⟩ := fresh_names hf
  have ha := F.atm
  rw [atmNames_eq] at ha
  obtain ⟨bs0, hb0⟩ : ∃ bs0, addAtmosphereBlocks g m [] = .ok bs0 := by
    rw [addAtmosphereBlocks_eq]
    apply loopE_of_steps
    intro p hp
    obtain ⟨_, hbs⟩ := flatMapE_ok_iff.1 ⟨a, ha⟩ p hp
    obtain ⟨n, hn, _⟩ := oneE_ok hbs
    simp only [atmBlock, blockName_map_ok m hn, oneE]
    exact ⟨_, rfl⟩
  have hn : numAtmBlocks g = .ok (atmCols g).length := by rw [numAtmBlocks_eq, if_pos hatm]
  unfold addBlocks
  rw [hb0, hn]
  simp only
  rw [F.names, ← flatMapE_one_length ha, List.drop_left, addUnderground_eq]
  apply loopE_of_steps
  intro nm hnm
  obtain ⟨lay, hlay, c, hc, hbn⟩ := F.mem_iff.1 hnm
  obtain ⟨nm', hnm', hl, hcol⟩ := parseOk_spec hp hlay (mem_layerCols.1 hc).1
  cases blockName_det hbn hnm'
  simp only [underBlock, hl, hcol, oneE]
  exact ⟨_, rfl⟩

section
variable {g : Geo} {m : BlockMap} {bs : List Block} (hf : Fresh g) (hn : (g.blockNames.map (applyMap m)).Nodup)
  (hp : parseOk g = true) (hwf : LayersWF g) (hbs : addBlocks g m = .ok bs)
include hf hn hp hwf hbs

theorem underground_block_found {lay : Layer} (hlay : lay ∈ g.layers) {col : Column} (hc : col ∈ layerCols g lay) :
    ∃ nm blk c, blockName g.convention lay.name col.name = .ok nm ∧ findBlock bs (applyMap m nm) = .ok blk ∧
      blk.centre = some c := by
  obtain ⟨hcm, hcb⟩ := mem_layerCols.1 hc
  obtain ⟨nm, hnm, _, _⟩ := parseOk_spec hp hlay hcm
  obtain ⟨c, hcz⟩ := blockCentre_some (layer_name_ne0 hwf hlay) hcb
  exact ⟨nm, _, c, hnm, addBlocks_data hf hn hp hbs hlay hc hnm, hcz⟩

theorem vertConn_total {pre : List Layer} {above lay : Layer} {post : List Layer}
    (hll : g.layerlist = pre ++ above :: lay :: post) {col : Column} (hc : col ∈ layerCols g lay) :
    ∃ o, vertConn g m bs (decide (pre = [])) above lay col = .ok o := by
  obtain ⟨hadj, hpos, hlay, _⟩ := adjacent_layers hwf hll
  obtain ⟨hcm, hcb⟩ := mem_layerCols.1 hc
  obtain ⟨nm, blk, cz, hnm, hfb, hcz⟩ := underground_block_found hf hn hp hwf hbs hlay hc
  unfold vertConn
  simp only [blockName_map_ok m hnm, hfb]
  by_cases hcond : (decide (pre = []) = true ∨ col.surface ≤ lay.top)
  · simp only [hcond, if_true, centreZ, hcz]
    by_cases h0 : g.atmType = 0
    · simp only [h0, if_true]
      -- `bs` is not empty: `blk` was found in it
      have hmem := findBlock_mem hfb
      cases bs with
      | nil => cases hmem
      | cons b0 _ => exact ⟨_, rfl⟩
    · by_cases h1 : g.atmType = 1
      · simp only [h1, if_true, if_false, Nat.one_ne_zero]
        -- the atmosphere block over the column is announced, hence in the grid
        obtain ⟨a, u, _, F⟩ := fresh_names hf
        have ha := F.atm
        rw [atmNames, if_neg h0, if_pos h1] at ha
        obtain ⟨n, hna, hbn⟩ := layerBlockNames_col ha hcm
        obtain ⟨b, hb⟩ := findBlock_of_mem_names (bs := bs) (n := applyMap m n)
          (by rw [addBlocks_names hf hn hbs, F.names]; exact List.mem_map.2 ⟨n, List.mem_append_left _ hna, rfl⟩)
        simp only [blockName_map_ok m hbn, hb]
        exact ⟨_, rfl⟩
      · simp only [h0, h1, if_false]
        exact ⟨_, rfl⟩
  · simp only [hcond, if_false]
    have hne : pre ≠ [] := fun h => hcond (Or.inl (by simp [h]))
    have htop : lay.top < col.surface := not_le.1 (fun h => hcond (Or.inr h))
    obtain ⟨nm2, blk2, cz2, hnm2, hfb2, hcz2⟩ := underground_block_found hf hn hp hwf hbs
      (above_mem_layers hll hne) (mem_layerCols.2 ⟨hcm, by rw [← hadj]; exact htop⟩)
    simp only [blockName_map_ok m hnm2, hfb2, centreZ, hcz2]
    exact ⟨_, rfl⟩

theorem horizConn_total {lay : Layer} (hlay : lay ∈ g.layers) {k : Conn} (hk : k ∈ layerConns g (layerCols g lay)) :
    ∃ c, horizConn g m bs lay k = .ok c := by
  obtain ⟨_, hk0, hk1⟩ := mem_layerConns.1 hk
  obtain ⟨nm0, b0, c0, hnm0, hf0, hc0⟩ := underground_block_found hf hn hp hwf hbs hlay hk0
  obtain ⟨nm1, b1, c1, hnm1, hf1, hc1⟩ := underground_block_found hf hn hp hwf hbs hlay hk1
  have hs0 := blockSurface_blockTop hwf hlay (mem_layerCols.1 hk0).2
  have hs1 := blockSurface_blockTop hwf hlay (mem_layerCols.1 hk1).2
  unfold horizConn
  simp only [blockName_map_ok m hnm0, hf0, blockName_map_ok m hnm1, hf1, connectionParams, hs0, hs1, centre3, hc0, hc1]
  exact ⟨_, rfl⟩

theorem addConnsFrom_total {pre : List Layer} {above : Layer} {ls : List Layer} {first : Bool}
    (A : LoopAt g pre above ls first) (cs : List TConn) : ∃ cs', addConnsFrom g m bs first above cs ls = .ok cs' := by
  induction ls generalizing pre above first cs with
  | nil => exact ⟨cs, rfl⟩
  | cons lay ls ih =>
    obtain ⟨_, _, hlay, _⟩ := adjacent_layers hwf A.layers
    obtain ⟨cs1, h1⟩ := loopE_of_steps (key := TConn.names) (acc := cs)
      (f := fun c => optE (vertConn g m bs first above lay c)) (l := layerCols g lay) fun col hc => by
        obtain ⟨o, ho⟩ := vertConn_total hf hn hp hwf hbs A.layers hc
        exact ⟨_, by rw [A.flag, ho]; rfl⟩
    obtain ⟨cs2, h2⟩ := loopE_of_steps (key := TConn.names) (acc := cs1)
      (f := fun k => oneE (horizConn g m bs lay k)) (l := layerConns g (layerCols g lay)) fun k hk => by
        obtain ⟨c, hc⟩ := horizConn_total hf hn hp hwf hbs hlay hk
        exact ⟨_, by rw [hc]; rfl⟩
    obtain ⟨cs', h3⟩ := ih A.next cs2
    exact ⟨cs', addConnsFrom_cons_iff.2 ⟨cs1, cs2, h1, h2, h3⟩⟩

end

end Proofs.FromGeo
