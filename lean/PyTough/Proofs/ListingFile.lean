/-
  Facts about single functions of the whole-file reader (Model/ListingFile.lean, Model/ListingHistory.lean): what a
  history() call can change (frame lemmas), the row dictionary of setup_table_TOUGH2 (one row per printed index, in index
  order), and when the line loops fail to return.  Core Lean only.
-/
import PyTough.Model.ListingHistory
import PyTough.Proofs.ListingWholeRun
namespace Proofs.File
open Py Model Model.Listing

theorem liftC_inv {α : Type} {c : C α} {s s' : Rd} {a : α} (h : (liftC c).run s = .ok (a, s')) :
    ∃ cur : Cur, c s ⟨s.pos, s.index⟩ = .ok (a, cur) ∧ s' = { s with pos := cur.pos, index := cur.index } := by
  simp only [StateT.run, liftC] at h
  split at h
  · rename_i a' cur hc
    cases h
    exact ⟨cur, hc, rfl⟩
  · cases h

theorem liftC_frame {α : Type} (c : C α) (s s' : Rd) (a : α) (h : (liftC c).run s = .ok (a, s')) :
    ∃ cur : Cur, s' = { s with pos := cur.pos, index := cur.index } := by
  obtain ⟨cur, _, h⟩ := liftC_inv h
  exact ⟨cur, h⟩

/-- history() brackets its loop with `old_index = self.index … self._index = old_index` -/
theorem historyC_index (items : List Item) (short : Bool) (env : Rd) (c c' : Cur) (r : Option (List (Bool × List FVal)))
    (h : historyC items short env c = .ok (r, c')) : c'.index = c.index := by
  unfold historyC at h
  split at h
  · cases h
  · split at h
    · cases h; rfl
    · split at h
      · cases h
      · cases h; rfl

/-- Only the file position differs after a history() call, and every later action seeks first. -/
theorem history_frame (items : List Item) (short : Bool) (s s' : Rd) (r : Option (List (Bool × List FVal)))
    (h : (history items short).run s = .ok (r, s')) : s' = { s with pos := s'.pos } := by
  obtain ⟨cur, hc, rfl⟩ := liftC_inv h
  rw [historyC_index items short s _ cur r hc]

abbrev RowEntry := Int × Nat × Key

theorem insertSorted_perm (e : RowEntry) (l : List RowEntry) : (insertSorted e l).Perm (e :: l) := by
  induction l with
  | nil => exact List.Perm.refl _
  | cons x r ih =>
    unfold insertSorted
    split
    · exact List.Perm.refl _
    · exact (List.Perm.cons x ih).trans (List.Perm.swap e x r)

theorem sortByIndex_perm (d : List RowEntry) : (sortByIndex d).Perm d := by
  induction d with
  | nil => exact List.Perm.refl _
  | cons x r ih =>
    have : sortByIndex (x :: r) = insertSorted x (sortByIndex r) := rfl
    rw [this]
    exact (insertSorted_perm x _).trans (List.Perm.cons x ih)

def Ascending : List RowEntry → Prop
  | a :: b :: r => a.1 ≤ b.1 ∧ Ascending (b :: r)
  | _ => True

theorem insertSorted_ascending (e : RowEntry) (l : List RowEntry) (h : Ascending l) : Ascending (insertSorted e l) := by
  induction l with
  | nil => trivial
  | cons x r ih =>
    unfold insertSorted
    split
    · rename_i hle; exact ⟨hle, h⟩
    · rename_i hnle
      cases r with
      | nil => exact ⟨by omega, trivial⟩
      | cons y r' =>
        have ih' := ih h.2
        unfold insertSorted at ih' ⊢
        split
        · rename_i hey; exact ⟨by omega, hey, h.2⟩
        · rename_i hney
          rw [if_neg hney] at ih'
          exact ⟨h.1, ih'⟩

theorem sortByIndex_ascending (d : List RowEntry) : Ascending (sortByIndex d) := by
  induction d with
  | nil => trivial
  | cons x r ih => exact insertSorted_ascending x _ ih

/-- `rowdict[index] = …` overwrites like `upsert`; a new index goes in front -/
theorem dictSet_eq (d : List RowEntry) (i : Int) (v : Nat × Key) :
    dictSet d i v = if d.any (·.1 = i) then upsert (·.1) d (i, v) else (i, v) :: d := by
  unfold dictSet upsert
  split <;> rfl

theorem lookup_dictSet (d : List RowEntry) (i j : Int) (v : Nat × Key) :
    (dictSet d i v).lookup j = if j = i then some v else d.lookup j := by
  rw [dictSet_eq]
  split
  · exact lookup_upsert d i j v
  · exact lookup_cons_ite i j v d

theorem dictSet_keys_nodup (d : List RowEntry) (i : Int) (v : Nat × Key) (h : (d.map (·.1)).Nodup) :
    ((dictSet d i v).map (·.1)).Nodup := by
  rw [dictSet_eq]
  split
  · rename_i hi
    rw [keys_upsert, if_pos (any_key_iff.mp hi)]
    exact h
  · rename_i hn
    exact List.nodup_cons.mpr ⟨mt any_key_iff.mpr hn, h⟩

theorem skipToNonblank_spins_iff (rest : List Str) (n : Nat) :
    skipToNonblankL rest n = none ↔ ∀ l ∈ rest, isBlank l = true := by
  rw [Proofs.Whole.skipToNonblankL_eq, ← dropWhile_eq_nil_iff]
  split <;> simp [*]

/-- a `while not <condition on the line read>` loop that does not test for end of file does not return exactly when
    no remaining line (and not the empty string read at end of file) satisfies the condition -/
theorem readUntil_spins_iff (stop : Str → Bool) (eofStops : Bool) (rest : List Str) (n : Nat) :
    readUntilL stop eofStops rest n = none ↔ (eofStops = false ∧ stop [] = false ∧ ∀ l ∈ rest, stop l = false) := by
  have hnil := @dropWhile_eq_nil_iff _ (!stop ·) rest
  simp only [Bool.not_eq_true'] at hnil
  rw [Proofs.Whole.readUntilL_eq, ← hnil, ← and_assoc, ← Bool.or_eq_false_iff]
  cases List.dropWhile (!stop ·) rest with
  | nil => simp
  | cons l r => exact ⟨nofun, fun h => nomatch h.2⟩

/-- `skipto` tests for end of file, so `skipToL` always returns; while a line is left it moves on -/
theorem skipTo_progress (kws : List Str) (start : Nat) (l : Str) (r : List Str) (n : Nat) :
    (skipToL kws start (l :: r) n).2.no > n := by
  rw [Proofs.Whole.skipToL_eq]
  split
  · exact Nat.lt_add_of_pos_right (Nat.succ_pos _)
  · exact Nat.lt_succ_of_le (Nat.le_add_right _ _)

theorem skiplines_pos (n : Nat) (env : Rd) (c : Cur) :
    ∃ c', Cu.skiplines n env c = .ok ((), c') ∧ c'.pos.rest = c.pos.rest.drop n ∧ c'.index = c.index :=
  ⟨_, Proofs.Whole.cu_skiplines_run n env c, rfl, rfl⟩

end Proofs.File
