/-
  Operations that rewrite connection records: add_connection, delete_connection, delete_block.
  They (and the reversal in `reorder`) all leave a state of one shape, `conWorld`: the
  `connection_name` sets of the two blocks of one connection rewritten, the connection containers
  replaced.  `conWorld_inv` says when such a state is consistent.
-/
import PyTough.Proofs.GridOps
namespace Proofs.Grid
open Py Model Model.Grid Model.Grid.World

/-- `f` applied to the `connection_name` of the blocks `b0` and `b1`; other connection records
    `cons'`, connection list `l` and dictionary `d`.  For `b0 = b1` `f` is applied once only. -/
def conWorld (w : World) (cons' : List Con) (b0 b1 : Nat) (f : List CName → List CName)
    (l : List Nat) (d : Dict CName Nat) : World :=
  { w with cons := cons',
           blks := (w.blks.set b0 { w.bk b0 with conn := f (w.bk b0).conn }).set b1
                      { w.bk b1 with conn := f (w.bk b1).conn },
           connectionlist := l, connection := d }

section
variable (w : World) (cons' : List Con) (b0 b1 : Nat) (f : List CName → List CName) (l : List Nat) (d : Dict CName Nat)

theorem conWorld_blks_length : (conWorld w cons' b0 b1 f l d).blks.length = w.blks.length := by
  simp only [conWorld, List.length_set]

/-- `{ · with conn := [] } = { · with conn := [] }` says: equal in every field but `conn`; a field is read
    off with `congrArg Blk.name (h x)` -/
theorem bk_conWorld (x : Nat) : { (conWorld w cons' b0 b1 f l d).bk x with conn := [] } = { w.bk x with conn := [] } := by
  simp only [conWorld, World.bk, getD_set]
  split
  · rename_i h; rw [← h.1]
  · split
    · rename_i h; rw [← h.1]
    · rfl

theorem bk_conWorld_ne {x : Nat} (h0 : x ≠ b0) (h1 : x ≠ b1) : (conWorld w cons' b0 b1 f l d).bk x = w.bk x := by
  simp only [conWorld, World.bk, getD_set, Ne.symm h0, Ne.symm h1, false_and, if_false]

theorem bname_conWorld (x : Nat) : (conWorld w cons' b0 b1 f l d).bname x = w.bname x :=
  (congrArg Blk.name (bk_conWorld w cons' b0 b1 f l d x) :)

theorem ckey_conWorld (c : Nat) : (conWorld w cons' b0 b1 f l d).ckey c =
    (w.bname (cons'.getD c default).b0, w.bname (cons'.getD c default).b1) := by
  simp only [World.ckey, bname_conWorld]; rfl

theorem ckey_conWorld_same : (conWorld w w.cons b0 b1 f l d).ckey = w.ckey :=
  funext fun c => ckey_conWorld w w.cons b0 b1 f l d c

variable {b0 b1} in
theorem conn_conWorld (h0 : b0 < w.blks.length) (h1 : b1 < w.blks.length) (x : Nat) :
    ((conWorld w cons' b0 b1 f l d).bk x).conn = if x = b0 ∨ x = b1 then f (w.bk x).conn else (w.bk x).conn := by
  simp only [conWorld, World.bk, getD_set, List.length_set]
  by_cases e1 : b1 = x
  · subst e1; simp [h1]
  · by_cases e0 : b0 = x
    · subst e0; simp [e1, h0]
    · simp [e0, e1, Ne.symm e0, Ne.symm e1]

end

/-- `Inv.conn_iff` with the connection found through the dictionary; for a listed connection: `ckey_mem_conn_iff`, by the
    block's name: `conn_iff_by_name` -/
theorem conn_iff_dict {w : World} (hI : Grid.Inv w) {x : Nat} (hx : x ∈ w.blocklist) (k : CName) :
    k ∈ (w.bk x).conn ↔ ∃ c, dget w.connection k = some c ∧ ((w.cn c).b0 = x ∨ (w.cn c).b1 = x) :=
  (hI.conn_iff x hx k).trans (hI.conReg.exists_iff k _)

theorem conn_iff_by_name {w : World} (hI : Grid.Inv w) {b : Nat} (hb : b ∈ w.blocklist) (k : CName) :
    k ∈ (w.bk b).conn ↔ (∃ c, dget w.connection k = some c) ∧ (k.1 = w.bname b ∨ k.2 = w.bname b) := by
  rw [conn_iff_dict hI hb k]
  constructor
  · rintro ⟨c, hd, hm⟩
    obtain ⟨_, rfl⟩ := hI.cd_sound k c hd
    exact ⟨⟨c, hd⟩, hm.imp (congrArg w.bname) (congrArg w.bname)⟩
  · rintro ⟨⟨c, hd⟩, hm⟩
    obtain ⟨hc, rfl⟩ := hI.cd_sound k c hd
    have ends := hI.c_ends c hc
    exact ⟨c, hd, hm.imp (hI.blockReg.key_inj ends.1 hb) (hI.blockReg.key_inj ends.2.1 hb)⟩

theorem conWorld_inv {w : World} (hI : Grid.Inv w) {cons' : List Con} {b0 b1 : Nat} {f : List CName → List CName}
    {l : List Nat} {d : Dict CName Nat}
    (h0 : b0 ∈ w.blocklist) (h1 : b1 ∈ w.blocklist)
    (hf : ∀ s : List CName, s.Nodup → (f s).Nodup)
    (hlt : ∀ c ∈ l, c < cons'.length)
    (hR : RegInv (conWorld w cons' b0 b1 f l d).ckey ⟨l, d⟩)
    (hends : ∀ c ∈ l, (cons'.getD c default).b0 ∈ w.blocklist ∧ (cons'.getD c default).b1 ∈ w.blocklist ∧
      (cons'.getD c default).b0 ≠ (cons'.getD c default).b1)
    (hlink : ∀ x ∈ w.blocklist, ∀ k, k ∈ (if x = b0 ∨ x = b1 then f (w.bk x).conn else (w.bk x).conn) ↔
      ∃ c, dget d k = some c ∧ ((cons'.getD c default).b0 = x ∨ (cons'.getD c default).b1 = x)) :
    Grid.Inv (conWorld w cons' b0 b1 f l d) := by
  have hbk := bk_conWorld w cons' b0 b1 f l d
  have hconn := conn_conWorld w cons' f l d (hI.bl_lt _ h0) (hI.bl_lt _ h1)
  have hB := hI.blockReg.congr fun x _ => bname_conWorld w cons' b0 b1 f l d x
  exact { hI with
    bl_lt := fun b hb => (conWorld_blks_length w cons' b0 b1 f l d).symm ▸ hI.bl_lt b hb
    bd_sound := hB.sound, bd_complete := hB.complete
    b_rock := fun b hb => by rw [show ((conWorld w cons' b0 b1 f l d).bk b).rock = _ from (congrArg Blk.rock (hbk b) :)]; exact hI.b_rock b hb
    cl_lt := hlt, cl_nodup := hR.nodup, cd_sound := hR.sound, cd_complete := hR.complete
    c_ends := hends
    conn_nodup := fun b hb => by
      rw [hconn]; split
      · exact hf _ (hI.conn_nodup b hb)
      · exact hI.conn_nodup b hb
    conn_iff := fun b hb k => by rw [hconn, hlink b hb k]; exact (hR.exists_iff k _).symm }

/-- `w'` differs from `w` at most in the connection containers and in the blocks' `connection_name` -/
structure ConFrame (w w' : World) : Prop where
  cons : w'.cons = w.cons
  rocks : w'.rocks = w.rocks
  rocktypelist : w'.rocktypelist = w.rocktypelist
  rocktype : w'.rocktype = w.rocktype
  blocklist : w'.blocklist = w.blocklist
  block : w'.block = w.block
  bk : ∀ x, { w'.bk x with conn := [] } = { w.bk x with conn := [] }

theorem ConFrame.refl (w : World) : ConFrame w w := ⟨rfl, rfl, rfl, rfl, rfl, rfl, fun _ => rfl⟩

theorem ConFrame.trans {w1 w2 w3 : World} (h : ConFrame w1 w2) (h' : ConFrame w2 w3) : ConFrame w1 w3 :=
  ⟨h'.cons.trans h.cons, h'.rocks.trans h.rocks, h'.rocktypelist.trans h.rocktypelist, h'.rocktype.trans h.rocktype,
   h'.blocklist.trans h.blocklist, h'.block.trans h.block, fun x => (h'.bk x).trans (h.bk x)⟩

theorem ConFrame.of_conWorld (w : World) (b0 b1 : Nat) (f : List CName → List CName) (l : List Nat) (d : Dict CName Nat) :
    ConFrame w (conWorld w w.cons b0 b1 f l d) :=
  ⟨rfl, rfl, rfl, rfl, rfl, rfl, bk_conWorld w w.cons b0 b1 f l d⟩

theorem ConFrame.ckey {w w' : World} (h : ConFrame w w') (c : Nat) : w'.ckey c = w.ckey c := by
  have hn : ∀ x, w'.bname x = w.bname x := fun x => (congrArg Blk.name (h.bk x) :)
  simp only [World.ckey, World.cn, h.cons, hn]

/-- `w'` is `w` without the connections whose key is in `gone`: they have left the connection list,
    the connection dictionary and every block's `connection_name`; nothing else differs -/
structure Deleted (w w' : World) (gone : CName → Prop) [DecidablePred gone] : Prop where
  inv : Grid.Inv w'
  frame : ConFrame w w'
  connectionlist : w'.connectionlist = w.connectionlist.filter fun c => decide (¬ gone (w.ckey c))
  connection : ∀ k, dget w'.connection k = if gone k then none else dget w.connection k
  conn : ∀ x ∈ w.blocklist, ∀ k, k ∈ (w'.bk x).conn ↔ k ∈ (w.bk x).conn ∧ ¬ gone k

theorem addConnection_eq (w : World) (c : Nat) :
    addConnection w c = match Reg.add w.ckey ⟨w.connectionlist, w.connection⟩ c with
      | none => .error (.valueError, w)
      | some R => .ok (({ w with connectionlist := R.list, connection := R.dict }.connAdd (w.cn c).b0 (w.ckey c)).connAdd
          (w.cn c).b1 (w.ckey c)) := by
  unfold addConnection Reg.add
  dsimp only
  cases dget w.connection (w.ckey c) with
  | none => rfl
  | some old => dsimp only; cases replaceFirst w.connectionlist old c <;> rfl

theorem connAdd_connAdd (w : World) {b0 b1 : Nat} (hne : b0 ≠ b1) (k : CName) (l : List Nat) (d : Dict CName Nat) :
    ({ w with connectionlist := l, connection := d }.connAdd b0 k).connAdd b1 k = conWorld w w.cons b0 b1 (sadd · k) l d := by
  simp only [World.connAdd, bk_setBlk, hne, false_and, if_false]
  rfl

theorem addConnection_spec {w : World} (hI : Grid.Inv w) {c : Nat} (hc : c < w.cons.length) (hnew : c ∉ w.connectionlist)
    (h0 : (w.cn c).b0 ∈ w.blocklist) (h1 : (w.cn c).b1 ∈ w.blocklist) (hne : (w.cn c).b0 ≠ (w.cn c).b1) :
    ∃ l, addConnection w c = .ok
        (conWorld w w.cons (w.cn c).b0 (w.cn c).b1 (sadd · (w.ckey c)) l (dset w.connection (w.ckey c) c)) ∧
      Grid.Inv (conWorld w w.cons (w.cn c).b0 (w.cn c).b1 (sadd · (w.ckey c)) l (dset w.connection (w.ckey c) c)) ∧
      (∀ y, y ∈ l ↔ y = c ∨ (y ∈ w.connectionlist ∧ w.ckey y ≠ w.ckey c)) ∧
      (dget w.connection (w.ckey c) = none → l = w.connectionlist ++ [c]) := by
  obtain ⟨l, e, hR, hm, hfresh⟩ := Reg.add_spec hI.conReg hnew
  refine ⟨l, by rw [addConnection_eq, e]; exact congrArg _ (connAdd_connAdd w hne ..), ?_, hm, hfresh⟩
  refine conWorld_inv hI h0 h1 (fun s h => nodup_sadd _ h) (fun x hx => ?_) (by rw [ckey_conWorld_same]; exact hR)
    (fun x hx => ?_) (fun x hx k' => ?_)
  · exact ((hm x).mp hx).elim (fun e => e ▸ hc) (fun h => hI.cl_lt x h.1)
  · exact ((hm x).mp hx).elim (fun e => e ▸ ⟨h0, h1, hne⟩) (fun h => hI.c_ends x h.1)
  · refine Iff.trans ?_ (cached_dset (conn_iff_dict hI hx) (s := x = (w.cn c).b0 ∨ x = (w.cn c).b1)
      (or_congr eq_comm eq_comm) (fun hk => ?_) k')
    · split <;> simp only [mem_sadd, *, and_true, and_false, false_or]
    · -- a block that records the key of `c` carries one of its two names
      exact ((conn_iff_by_name hI hx _).mp hk).2.imp (fun e => hI.blockReg.key_inj hx h0 e.symm)
        fun e => hI.blockReg.key_inj hx h1 e.symm

/-- `add_connection(t2connection(…))`: the object is constructed and added -/
theorem addConnection_new_spec {w : World} (hI : Grid.Inv w) (v : Con) (h0 : v.b0 ∈ w.blocklist) (h1 : v.b1 ∈ w.blocklist)
    (hne : v.b0 ≠ v.b1) :
    ∃ l, addConnection (w.newCon v).2 (w.newCon v).1 = .ok (conWorld w (w.cons ++ [v]) v.b0 v.b1
        (sadd · (w.bname v.b0, w.bname v.b1)) l (dset w.connection (w.bname v.b0, w.bname v.b1) w.cons.length)) ∧
      Grid.Inv (conWorld w (w.cons ++ [v]) v.b0 v.b1
        (sadd · (w.bname v.b0, w.bname v.b1)) l (dset w.connection (w.bname v.b0, w.bname v.b1) w.cons.length)) ∧
      (∀ y ∈ l, y = w.cons.length ∨ y ∈ w.connectionlist) ∧
      (dget w.connection (w.bname v.b0, w.bname v.b1) = none → l = w.connectionlist ++ [w.cons.length]) := by
  have hcn : (w.newCon v).2.cn w.cons.length = v := cn_newCon_new w v
  have hkey : (w.newCon v).2.ckey w.cons.length = (w.bname v.b0, w.bname v.b1) := by
    unfold World.ckey; rw [hcn]; rfl
  obtain ⟨l, e, hI', hm, hf⟩ := addConnection_spec (newCon_inv hI v) (c := w.cons.length) (by simp [World.newCon])
    (fun h => Nat.lt_irrefl _ (hI.cl_lt _ h)) (by rw [hcn]; exact h0) (by rw [hcn]; exact h1) (by rw [hcn]; exact hne)
  rw [hcn, hkey] at e hI'
  rw [hkey] at hf
  exact ⟨l, e, hI', fun y hy => ((hm y).mp hy).imp_right And.left, hf⟩

theorem deleteConnection_ok {w : World} (hI : Grid.Inv w) {k : CName} {c : Nat} (hd : dget w.connection k = some c) :
    deleteConnection w k = .ok (conWorld w w.cons (w.cn c).b0 (w.cn c).b1 (·.erase k)
      (w.connectionlist.erase c) (ddel w.connection k)) := by
  have hc := hI.cd_sound k c hd
  have ends := hI.c_ends c hc.1
  obtain ⟨hk0, hk1⟩ := key_mem_conn_ends hI hd
  simp only [deleteConnection, hd, connRemove, hk0, if_true, bk_setBlk, ends.2.2, false_and, if_false, hk1]
  simp only [World.setBlk, hc.1, if_true, conWorld]

theorem deleteConnection_exact {w : World} (hI : Grid.Inv w) (k : CName) :
    ∃ w', deleteConnection w k = .ok w' ∧ Deleted w w' (· = k) := by
  cases hd : dget w.connection k with
  | none =>
    refine ⟨w, by simp only [deleteConnection, hd], hI, .refl w, ?_, fun k' => ?_, fun x hx k' => ?_⟩
    · refine (List.filter_eq_self.mpr fun c hc => ?_).symm
      simp only [decide_eq_true_eq]
      intro e
      have := hI.cd_complete c hc
      rw [e, hd] at this; cases this
    · split
      · rename_i e; exact e ▸ hd
      · rfl
    · refine ⟨fun h => ⟨h, fun e => ?_⟩, And.left⟩
      obtain ⟨c, hc, _⟩ := (conn_iff_dict hI hx k).mp (e ▸ h)
      rw [hd] at hc; cases hc
  | some c =>
    have hc := hI.cd_sound k c hd
    have ends := hI.c_ends c hc.1
    -- the records afterwards: `k` goes, from the two ends, and no other block had it
    have hex : ∀ x ∈ w.blocklist, ∀ k', k' ∈ (if x = (w.cn c).b0 ∨ x = (w.cn c).b1 then (w.bk x).conn.erase k
        else (w.bk x).conn) ↔ k' ∈ (w.bk x).conn ∧ k' ≠ k := fun x hx k' => by
      split
      · rw [(hI.conn_nodup x hx).mem_erase_iff]; exact and_comm
      · rename_i hx01
        refine ⟨fun h => ⟨h, fun e => hx01 ?_⟩, And.left⟩
        exact ((ckey_mem_conn_iff hI hx hc.1).mp (hc.2 ▸ e ▸ h)).imp Eq.symm Eq.symm
    refine ⟨_, deleteConnection_ok hI hd, ?_, .of_conWorld w _ _ _ _ _, ?_, fun k' => ?_, fun x hx k' => ?_⟩
    · refine conWorld_inv hI ends.1 ends.2.1 (fun s h => h.erase k)
        (fun x hx => hI.cl_lt x (List.mem_of_mem_erase hx)) (by rw [ckey_conWorld_same]; exact hI.conReg.erase hd)
        (fun x hx => hI.c_ends x (List.mem_of_mem_erase hx)) (fun x hx k' => ?_)
      exact (hex x hx k').trans (cached_ddel (conn_iff_dict hI hx) k k')
    · show w.connectionlist.erase c = _
      rw [hI.cl_nodup.erase_eq_filter]
      refine List.filter_congr fun c' hc' => ?_
      by_cases e : c' = c
      · subst e; simp [hc.2]
      · have : w.ckey c' ≠ k := fun e2 => e (hI.conReg.key_inj hc' hc.1 (e2.trans hc.2.symm))
        simp [e, this]
    · exact (dget_ddel _ _ _).trans (ite_congr (propext eq_comm) (fun _ => rfl) fun _ => rfl)
    · rw [conn_conWorld w _ _ _ _ (hI.bl_lt _ ends.1) (hI.bl_lt _ ends.2.1)]
      exact hex x hx k'

theorem deleteConnection_inv {w : World} (hI : Grid.Inv w) (k : CName) :
    Grid.Inv (worldOf (deleteConnection w k)) := by
  obtain ⟨w', e, d⟩ := deleteConnection_exact hI k
  rw [e]; exact d.inv

/-- the loop of `delete_block` -/
theorem deleteConnections_exact {w : World} (hI : Grid.Inv w) (l : List CName) :
    ∃ w', deleteConnections w l = .ok w' ∧ Deleted w w' (· ∈ l) := by
  induction l generalizing w with
  | nil =>
    refine ⟨w, rfl, hI, .refl w, ?_, fun _ => rfl, fun _ _ _ => ?_⟩
    · exact (List.filter_eq_self.mpr (by simp)).symm
    · simp
  | cons k r ih =>
    obtain ⟨w1, h1, d1⟩ := deleteConnection_exact hI k
    obtain ⟨w2, h2, d2⟩ := ih d1.inv
    refine ⟨w2, by simp only [deleteConnections, h1, h2], d2.inv, d1.frame.trans d2.frame, ?_, fun k' => ?_, fun x hx k' => ?_⟩
    · rw [d2.connectionlist, d1.connectionlist, List.filter_filter]
      refine List.filter_congr fun c _ => ?_
      rw [d1.frame.ckey c]
      simp only [List.mem_cons, not_or, Bool.decide_and, Bool.and_comm]
    · rw [d2.connection, d1.connection]
      by_cases e1 : k' = k
      · subst e1; simp
      · simp only [List.mem_cons, e1, false_or, if_false]
    · rw [d2.conn x (d1.frame.blocklist ▸ hx) k', d1.conn x hx k']
      simp only [List.mem_cons, not_or, and_assoc]

theorem inv_of_block_erase {w : World} (hI : Grid.Inv w) {nm : Name} {b : Nat} (hd : dget w.block nm = some b)
    (hconn : (w.bk b).conn = []) :
    Grid.Inv { w with block := ddel w.block nm, blocklist := w.blocklist.erase b } := by
  have hnm := no_mention_of_conn_nil hI (hI.bd_sound _ _ hd).1 hconn
  refine inv_of_block_change hI (fun x hx => hI.bl_lt x (List.mem_of_mem_erase hx)) (hI.blockReg.erase hd)
    (fun c hc => ?_) (fun x hx => Or.inl (List.mem_of_mem_erase hx))
  exact ⟨(hI.bl_nodup.mem_erase_iff).mpr ⟨(hnm c hc).1, (hI.c_ends c hc).1⟩,
         (hI.bl_nodup.mem_erase_iff).mpr ⟨(hnm c hc).2, (hI.c_ends c hc).2.1⟩⟩

theorem deleteBlock_exact {w : World} (hI : Grid.Inv w) {nm : Name} {b : Nat} (hd : dget w.block nm = some b) :
    ∃ w1, deleteBlock w nm = .ok { w1 with block := ddel w.block nm, blocklist := w.blocklist.erase b } ∧
      Grid.Inv { w1 with block := ddel w.block nm, blocklist := w.blocklist.erase b } ∧
      Deleted w w1 (· ∈ (w.bk b).conn) := by
  have hb := (hI.bd_sound _ _ hd).1
  obtain ⟨w1, h1, d⟩ := deleteConnections_exact hI (w.bk b).conn
  have hnil : (w1.bk b).conn = [] := List.eq_nil_iff_forall_not_mem.mpr fun k hk =>
    ((d.conn b hb k).mp hk).2 ((d.conn b hb k).mp hk).1
  have hI2 := inv_of_block_erase d.inv (d.frame.block ▸ hd) hnil
  rw [d.frame.block, d.frame.blocklist] at hI2
  exact ⟨w1, by simp only [deleteBlock, hd, h1, d.frame.block, d.frame.blocklist, hb, if_true], hI2, d⟩

theorem filter_ckey_not_mem_conn {w : World} (hI : Grid.Inv w) {b : Nat} (hb : b ∈ w.blocklist) :
    w.connectionlist.filter (fun c => decide (w.ckey c ∉ (w.bk b).conn)) =
      w.connectionlist.filter fun c => (w.cn c).b0 != b && (w.cn c).b1 != b := by
  refine List.filter_congr fun c hc => ?_
  have := ckey_mem_conn_iff hI hb hc
  by_cases e : w.ckey c ∈ (w.bk b).conn
  · rcases this.mp e with m | m <;> simp [e, m]
  · have hm : ¬ ((w.cn c).b0 = b ∨ (w.cn c).b1 = b) := fun m => e (this.mpr m)
    simp only [not_or] at hm
    simp [e, hm.1, hm.2]

theorem deleteBlock_inv {w : World} (hI : Grid.Inv w) (nm : Name) : Grid.Inv (worldOf (deleteBlock w nm)) := by
  cases hd : dget w.block nm with
  | none => simp only [deleteBlock, hd, worldOf_ok]; exact hI
  | some b =>
    obtain ⟨w1, e, hI', _⟩ := deleteBlock_exact hI hd
    rw [e]; exact hI'

end Proofs.Grid
