/-
  `fortran_float` and `fortran_int` on every text (C16; the readers of `FixedFmt` and of the listing values rest on it).
  What one call of `fortran_float` can do is said once (`fortranFloat_cases`; as an equation: `fortranFloat_err`).  `FReal` describes every way Fortran prints a real; each of the
  three texts `fortran_float` tries is again the rendering of an `FReal` with the same mantissa, which
  `float()` reads or rejects by its exponent part alone (`pyFloat_mantEx`), whence `fortranFloat_reads`.
-/
import PyTough.Model.Fortran
import PyTough.Proofs.StrLemmas
namespace Proofs
open Py Model

/-- characters that can occur in text `fortran_float` reads as a number (besides whitespace): those of `float()`, and `d` -/
def floatAlpha (c : Char) : Bool :=
  ['0','1','2','3','4','5','6','7','8','9','+','-','.','_','e','d','i','n','f','t','y','a'].contains (lowerChar c)

/-- characters that can occur in text accepted by `int()` (besides whitespace) -/
def intAlpha (c : Char) : Bool :=
  ['0','1','2','3','4','5','6','7','8','9','+','-','_'].contains c

inductive Sign where | none | plus | minus
  deriving DecidableEq, Repr

def Sign.chars : Sign → Str
  | .none => [] | .plus => ['+'] | .minus => ['-']

/-- the exponent part of a printed real -/
inductive ExpForm where
  | absent
  | letter (l : Char) (sg : Sign) (ds : Str)   -- `E+05`, `D-05`, `e05`
  | bare (neg : Bool) (ds : Str)               -- `+100`, `-100`: the letter dropped
  deriving Repr

structure FReal where
  sign : Sign
  ip : Str          -- integer digits
  point : Bool
  fp : Str          -- fraction digits
  ex : ExpForm
  deriving Repr

def ExpForm.chars : ExpForm → Str
  | .absent => []
  | .letter l sg ds => l :: sg.chars ++ ds
  | .bare neg ds => (if neg then '-' else '+') :: ds

def ExpForm.val : ExpForm → Int
  | .absent => 0
  | .letter _ sg ds => if sg = .minus then -(digitsVal ds : Int) else digitsVal ds
  | .bare neg ds => if neg then -(digitsVal ds : Int) else digitsVal ds

def ExpForm.WF : ExpForm → Prop
  | .absent => True
  | .letter l _ ds => (l = 'E' ∨ l = 'e' ∨ l = 'D' ∨ l = 'd') ∧ ds ≠ [] ∧ ∀ c ∈ ds, isDigit c = true
  | .bare _ ds => ds ≠ [] ∧ ∀ c ∈ ds, isDigit c = true

def FReal.render (r : FReal) : Str :=
  r.sign.chars ++ r.ip ++ (if r.point then ['.'] else []) ++ r.fp ++ r.ex.chars

/-- the exact decimal printed -/
def FReal.value (r : FReal) : FVal :=
  .fin (r.sign = .minus) (digitsVal (r.ip ++ r.fp)) (r.ex.val - r.fp.length)

def FReal.WF (r : FReal) : Prop :=
  (∀ c ∈ r.ip, isDigit c = true) ∧ (∀ c ∈ r.fp, isDigit c = true) ∧
  ¬ (r.ip = [] ∧ r.fp = []) ∧ (r.fp ≠ [] → r.point = true) ∧ r.ex.WF

-- non-vacuity: a concrete printed real meets WF
example : (FReal.mk .minus ['1'] true ['0'] (.bare true ['1','0','0'])).WF := by
  refine ⟨?_, ?_, ?_, ?_, ?_, ?_⟩ <;> simp [isDigit] <;> decide +kernel

theorem FReal.WF.ex {r : FReal} (h : r.WF) : r.ex.WF := h.2.2.2.2

theorem floatAlpha_lowerChar (c : Char) : floatAlpha (lowerChar c) = floatAlpha c := by
  unfold floatAlpha; rw [lowerChar_idem]

theorem floatAlpha_digit {c : Char} (h : isDigit c = true) : floatAlpha c = true :=
  isDigit_elim h (P := fun d => floatAlpha d = true) (by decide +kernel)

theorem floatAlpha_of_lower {c : Char} {s1 L : Str} (hc : c ∈ s1) (hL : lower s1 = L)
    (hall : ∀ x ∈ L, floatAlpha x = true) : floatAlpha c = true := by
  rw [← floatAlpha_lowerChar]
  exact hall _ (hL ▸ mem_lower hc)

theorem parseExpTail_alpha {r : Str} {e : Int} (h : parseExpTail r = some e) :
    ∀ c ∈ r, isDigit c = true ∨ c = '-' ∨ c = '+' := by
  unfold parseExpTail at h
  simp only at h
  by_cases hc : (((takeSign r).2.takeWhile isDigit).isEmpty || !((takeSign r).2.dropWhile isDigit).isEmpty) = true
  · rw [if_pos hc] at h; cases h
  · simp only [Bool.or_eq_true, Bool.not_eq_true', not_or, Bool.not_eq_true, Bool.not_eq_false] at hc
    -- nothing follows the digits, so the text after the sign is digits throughout
    have hd := dropWhile_eq_nil_iff.mp (List.isEmpty_iff.mp hc.2)
    intro c hcr
    rcases mem_takeSign hcr with rfl | rfl | h'
    · exact Or.inr (Or.inl rfl)
    · exact Or.inr (Or.inr rfl)
    · exact Or.inl (hd c h')

theorem parseExp_alpha {r : Str} {e : Int} (h : parseExp r = some e) :
    ∀ c ∈ r, floatAlpha c = true := by
  cases r with
  | nil => intro c hc; cases hc
  | cons x xs =>
    rw [parseExp_cons] at h
    by_cases hx : (decide (x = 'e') || decide (x = 'E')) = true
    · rw [if_pos hx] at h
      intro c hc
      rcases List.mem_cons.mp hc with rfl | h'
      · simp only [Bool.or_eq_true, decide_eq_true_eq] at hx
        rcases hx with rfl | rfl <;> decide +kernel
      · rcases parseExpTail_alpha h c h' with hd | rfl | rfl
        · exact floatAlpha_digit hd
        · decide +kernel
        · decide +kernel
    · rw [if_neg hx] at h; cases h

theorem fracPart_mem (r1 : Str) :
    ∀ c ∈ r1, c = '.' ∨ isDigit c = true ∨ c ∈ (fracPart r1).2 := by
  intro c hc
  by_cases h : ∃ t, r1 = '.' :: t
  · obtain ⟨t, rfl⟩ := h
    rw [fracPart_dot]
    rcases List.mem_cons.mp hc with rfl | h'
    · simp
    · rw [← List.takeWhile_append_dropWhile (p := isDigit) (l := t)] at h'
      rcases List.mem_append.mp h' with h'' | h''
      · exact Or.inr (Or.inl (mem_takeWhile_imp h''))
      · exact Or.inr (Or.inr h'')
  · rw [fracPart_other]
    · exact Or.inr (Or.inr hc)
    · intro x r hr hx; exact h ⟨r, by rw [hr, hx]⟩

theorem parseNum_alpha {neg : Bool} {s1 : Str} {v : FVal} (h : parseNum neg s1 = some v) :
    ∀ c ∈ s1, floatAlpha c = true := by
  unfold parseNum at h
  simp only at h
  by_cases h0 : ((s1.takeWhile isDigit).isEmpty && (fracPart (s1.dropWhile isDigit)).1.isEmpty) = true
  · rw [if_pos h0] at h; cases h
  · rw [if_neg h0] at h
    cases he : parseExp (fracPart (s1.dropWhile isDigit)).2 with
    | none => rw [he] at h; cases h
    | some e =>
      intro c hc
      rw [← List.takeWhile_append_dropWhile (p := isDigit) (l := s1)] at hc
      rcases List.mem_append.mp hc with h' | h'
      · exact floatAlpha_digit (mem_takeWhile_imp h')
      · rcases fracPart_mem _ c h' with rfl | hd | h''
        · decide +kernel
        · exact floatAlpha_digit hd
        · exact parseExp_alpha he c h''

theorem parseBody_alpha {neg : Bool} {s1 : Str} {v : FVal} (h : parseBody neg s1 = some v) :
    ∀ c ∈ s1, floatAlpha c = true := by
  unfold parseBody at h
  by_cases h1 : (decide (lower s1 = ['i','n','f']) || decide (lower s1 = ['i','n','f','i','n','i','t','y'])) = true
  · simp only [Bool.or_eq_true, decide_eq_true_eq] at h1
    intro c hc
    rcases h1 with hl | hl
    · exact floatAlpha_of_lower hc hl (by decide +kernel)
    · exact floatAlpha_of_lower hc hl (by decide +kernel)
  · rw [if_neg h1] at h
    by_cases h2 : lower s1 = ['n','a','n']
    · intro c hc
      exact floatAlpha_of_lower hc h2 (by decide +kernel)
    · rw [if_neg h2] at h
      exact parseNum_alpha h

theorem parseDecimal_alpha {u : Str} {v : FVal} (h : parseDecimal u = some v) :
    ∀ c ∈ u, floatAlpha c = true := by
  rw [parseDecimal_eq] at h
  have hb := parseBody_alpha h
  intro c hc
  rcases mem_takeSign hc with rfl | rfl | h'
  · decide +kernel
  · decide +kernel
  · exact hb c h'

theorem pyFloat_error {s : Str} {e : Exc} (h : pyFloat s = .error e) : e = .valueError := by
  unfold pyFloat at h
  simp only at h
  split at h
  · cases h; rfl
  · split at h
    · cases h
    · cases h; rfl

theorem pyFloat_ok_alpha {s : Str} {v : FVal} (h : pyFloat s = .ok v) :
    ∀ c ∈ stripBy isNumWs s, floatAlpha c = true := by
  unfold pyFloat at h
  simp only at h
  split at h
  · cases h
  · rename_i u hu
    split at h
    · rename_i v' hv
      have ha := parseDecimal_alpha hv
      intro c hc
      split at hu
      · split at hu
        · cases hu
          by_cases hcu : c = '_'
          · subst hcu; decide +kernel
          · exact ha c (mem_removeUnderscores hc hcu)
        · cases hu
      · cases hu
        exact ha c hc
    · cases h

theorem pyFloat_bad {s : Str} {c : Char} (hc : c ∈ s) (hws : isNumWs c = false)
    (hbad : floatAlpha c = false) : pyFloat s = .error .valueError := by
  cases h : pyFloat s with
  | ok v =>
    have := pyFloat_ok_alpha h c (mem_stripBy_of_not hc hws)
    rw [hbad] at this; cases this
  | error e => rw [pyFloat_error h]

theorem pyFloat_strip {s u : Str} (hs : stripBy isNumWs s = u) (hws : ∀ c ∈ u, isNumWs c = false) :
    pyFloat s = pyFloat u := by
  unfold pyFloat
  rw [hs, stripBy_none hws]

theorem pyFloat_clean {u : Str} (hws : ∀ c ∈ u, isNumWs c = false) (hu : '_' ∉ u) :
    pyFloat u = match parseDecimal u with
      | some v => .ok v
      | none => .error .valueError := by
  unfold pyFloat
  simp only
  rw [stripBy_none hws, show u.contains '_' = false by simpa using hu]
  rfl

/-- `s` as `fortran_float` normalises it after `float(s)` has failed -/
def ffS2 (s : Str) : Str := replaceChar ' ' [] (replaceChar 'd' ['e'] (lower (strip s)))

theorem fortranFloat_ok {s : Str} {v : FVal} (h : pyFloat s = .ok v) :
    fortranFloat s = .ok (.val v) := by
  unfold fortranFloat; rw [h]

/-- the value of the first text that `float()` reads; `nan` when it reads none -/
def firstFloat (ts : List Str) : FVal :=
  ts.foldr (fun t rest => match pyFloat t with | .ok v => v | .error _ => rest) .nan

theorem firstFloat_ok {t : Str} {v : FVal} (h : pyFloat t = .ok v) (ts : List Str) : firstFloat (t :: ts) = v := by
  rw [firstFloat, List.foldr_cons, h]

theorem firstFloat_err {t : Str} {e : Exc} (h : pyFloat t = .error e) (ts : List Str) :
    firstFloat (t :: ts) = firstFloat ts := by
  rw [firstFloat, List.foldr_cons, h]; rfl

theorem firstFloat_bad {c : Char} (hws : isNumWs c = false) (hbad : floatAlpha c = false) {ts : List Str}
    (h : ∀ t ∈ ts, c ∈ t) : firstFloat ts = .nan := by
  induction ts with
  | nil => rfl
  | cons t ts ih =>
    rw [firstFloat_err (pyFloat_bad (h t List.mem_cons_self) hws hbad)]
    exact ih (fun t' ht' => h t' (List.mem_cons_of_mem _ ht'))

/-- the texts `fortran_float` tries on the normalised text `a :: tl`, in order -/
def ffTexts (a : Char) (tl : Str) : List Str :=
  [a :: tl, a :: replaceChar '-' ['e','-'] tl, a :: replaceChar '+' ['e'] tl]

theorem headReplace_cons (h : Char) (tl : Str) (c : Char) (t : Str) :
    headReplace (h :: tl) c t = .ok (h :: replaceChar c t tl) := rfl

/-- only an empty normalised text could let the `IndexError` of `s[0]` escape -/
theorem fortranFloat_err {s : Str} {e : Exc} (h : pyFloat s = .error e) :
    fortranFloat s = if (strip s).isEmpty then .ok .blank else
      match ffS2 s with
      | [] => .error .indexError
      | a :: tl => .ok (.val (firstFloat (ffTexts a tl))) := by
  cases pyFloat_error h
  unfold fortranFloat ffS2
  rw [h]
  dsimp only
  generalize replaceChar ' ' [] (replaceChar 'd' ['e'] (lower (strip s))) = s2
  cases s2 with
  | nil => rfl
  | cons a tl =>
    unfold ffTexts
    rw [headReplace_cons, headReplace_cons, ok_bind, ok_bind]
    dsimp only
    -- every failure of `float` is a `ValueError`, so no level lets an exception through
    cases h1 : pyFloat (a :: tl) with
    | ok v => rw [firstFloat_ok h1]
    | error e1 =>
      rw [firstFloat_err h1]
      dsimp only
      cases h2 : pyFloat (a :: replaceChar '-' ['e','-'] tl) with
      | ok v => rw [firstFloat_ok h2]
      | error e2 =>
        rw [firstFloat_err h2, pyFloat_error h2]
        dsimp only
        cases h3 : pyFloat (a :: replaceChar '+' ['e'] tl) with
        | ok v => rw [firstFloat_ok h3]
        | error e3 => rw [firstFloat_err h3, pyFloat_error h3]; rfl

theorem mem_ffS2 {s : Str} {c : Char} (hc : c ∈ s) (hws : isStrWs c = false)
    (hd : lowerChar c ≠ 'd') : lowerChar c ∈ ffS2 s := by
  unfold ffS2
  apply mem_replaceChar_of_ne
  · apply mem_replaceChar_of_ne _ hd
    exact mem_lower (mem_stripBy_of_not hc hws)
  · exact ne_of_apply_ne isStrWs (by rw [isStrWs_lowerChar, hws]; decide)

theorem isNumWs_of_isStrWs_false {c : Char} (h : isStrWs c = false) : isNumWs c = false := by
  unfold isStrWs at h
  simp only [Bool.or_eq_false_iff] at h
  exact h.1.1.1.1

theorem strip_ne_nil {s : Str} {c : Char} (hc : c ∈ s) (hws : isStrWs c = false) :
    (strip s).isEmpty = false :=
  List.isEmpty_eq_false_iff.mpr (List.ne_nil_of_mem (mem_stripBy_of_not hc hws))

theorem ffS2_ne_nil {s : Str} (h : strip s ≠ []) : ffS2 s ≠ [] := by
  cases hs : strip s with
  | nil => exact absurd hs h
  | cons x xs =>
    have hx : isStrWs x = false := stripBy_head isStrWs s x xs hs
    have hxs : x ∈ s := mem_of_mem_stripBy (p := isStrWs) (by unfold strip at hs; rw [hs]; simp)
    by_cases hd : lowerChar x = 'd'
    · have hm : 'd' ∈ lower (strip s) := hd ▸ mem_lower (mem_stripBy_of_not hxs hx)
      exact List.ne_nil_of_mem
        (mem_replaceChar_of_ne (mem_replaceChar_self hm (List.mem_cons_self (a := 'e'))) (by decide +kernel))
    · exact List.ne_nil_of_mem (mem_ffS2 hxs hx hd)

theorem fortranFloat_cases (s : Str) :
    (∃ v, pyFloat s = .ok v ∧ fortranFloat s = .ok (.val v)) ∨
    (pyFloat s = .error .valueError ∧
      ((strip s = [] ∧ fortranFloat s = .ok .blank) ∨
       (∃ a tl, ffS2 s = a :: tl ∧ fortranFloat s = .ok (.val (firstFloat (ffTexts a tl)))))) := by
  cases h : pyFloat s with
  | ok v => exact Or.inl ⟨v, rfl, fortranFloat_ok h⟩
  | error e =>
    cases pyFloat_error h
    refine Or.inr ⟨rfl, ?_⟩
    rw [fortranFloat_err h]
    cases hs : strip s with
    | nil => exact Or.inl ⟨rfl, rfl⟩
    | cons x xs =>
      right
      cases h2 : ffS2 s with
      | nil => exact absurd h2 (ffS2_ne_nil (by rw [hs]; simp))
      | cons a tl => exact ⟨a, tl, rfl, rfl⟩

theorem fortranFloat_total (s : Str) : ∃ o, fortranFloat s = .ok o := by
  rcases fortranFloat_cases s with ⟨_, _, h⟩ | ⟨_, ⟨_, h⟩ | ⟨_, _, _, h⟩⟩ <;> exact ⟨_, h⟩

/-- the characters `strip()` removes -/
def strWs : Str := [' ','\t','\n','\x0b','\x0c','\r','\x1c','\x1d','\x1e','\x1f']

theorem isStrWs_mem {c : Char} (h : isStrWs c = true) : c ∈ strWs := by
  unfold isStrWs isNumWs at h
  simp only [Bool.or_eq_true, decide_eq_true_eq, or_assoc] at h
  simp only [strWs, List.mem_cons, List.not_mem_nil, or_false]
  exact h

/-- `float()` and `int()` strip less than `strip()` does; still nothing of a whitespace-only text is
    left if what is left is written in an alphabet `A` without whitespace characters -/
theorem stripNum_blank {A : Char → Bool} (hA : ∀ d ∈ strWs, A d = false)
    {s : Str} (h : ∀ c ∈ s, isStrWs c = true) (ha : ∀ c ∈ stripBy isNumWs s, A c = true) :
    stripBy isNumWs s = [] := by
  cases ht : stripBy isNumWs s with
  | nil => rfl
  | cons x xs =>
    have hx : x ∈ stripBy isNumWs s := by rw [ht]; exact List.mem_cons_self
    have := hA x (isStrWs_mem (h x (mem_of_mem_stripBy hx)))
    rw [ha x hx] at this; cases this

theorem pyFloat_ws {s : Str} (h : ∀ c ∈ s, isStrWs c = true) : pyFloat s = .error .valueError := by
  cases hp : pyFloat s with
  | error e => rw [pyFloat_error hp]
  | ok v =>
    have := pyFloat_strip (stripNum_blank (by decide +kernel) h (pyFloat_ok_alpha hp)) fun _ h => nomatch h
    rw [hp, show pyFloat [] = .error .valueError by decide +kernel] at this
    cases this

theorem fortranFloat_blank (s : Str) (h : ∀ c ∈ s, isStrWs c = true) :
    fortranFloat s = .ok .blank := by
  rw [fortranFloat_err (pyFloat_ws h), show strip s = [] from stripBy_all isStrWs s h]; rfl

theorem intAlpha_digit {c : Char} (h : isDigit c = true) : intAlpha c = true :=
  isDigit_elim h (P := fun d => intAlpha d = true) (by decide +kernel)

/-- `int()` after the surrounding whitespace has been removed -/
def pyIntCore (t : Str) : Except Exc Int :=
  if (takeSign t).2.isEmpty then .error .valueError
  else if !(underscoresOk '\x00' (takeSign t).2) then .error .valueError
  else
    if (removeUnderscores (takeSign t).2).isEmpty || !((removeUnderscores (takeSign t).2).all isDigit)
    then .error .valueError
    else .ok (if (takeSign t).1 then -(digitsVal (removeUnderscores (takeSign t).2) : Int)
              else (digitsVal (removeUnderscores (takeSign t).2) : Int))

theorem pyInt_eq (s : Str) : pyInt s = pyIntCore (stripBy isNumWs s) := rfl

theorem pyIntCore_cases (t : Str) : pyIntCore t = .error .valueError ∨
    ((removeUnderscores (takeSign t).2).all isDigit = true ∧ ∃ v, pyIntCore t = .ok v) := by
  unfold pyIntCore
  generalize takeSign t = p
  by_cases h1 : p.2.isEmpty = true
  · rw [if_pos h1]; exact Or.inl rfl
  · by_cases h2 : (!underscoresOk '\x00' p.2) = true
    · rw [if_neg h1, if_pos h2]; exact Or.inl rfl
    · by_cases h3 : ((removeUnderscores p.2).isEmpty || !(removeUnderscores p.2).all isDigit) = true
      · rw [if_neg h1, if_neg h2, if_pos h3]; exact Or.inl rfl
      · rw [if_neg h1, if_neg h2, if_neg h3]
        simp only [Bool.or_eq_true, Bool.not_eq_true', not_or, Bool.not_eq_true,
          Bool.not_eq_false] at h3
        exact Or.inr ⟨h3.2, _, rfl⟩

theorem pyInt_error {s : Str} {e : Exc} (h : pyInt s = .error e) : e = .valueError := by
  rcases pyIntCore_cases (stripBy isNumWs s) with h' | ⟨_, v, h'⟩
  · rw [pyInt_eq, h'] at h; cases h; rfl
  · rw [pyInt_eq, h'] at h; cases h

theorem pyIntCore_ok_alpha {t : Str} {v : Int} (h : pyIntCore t = .ok v) :
    ∀ c ∈ t, intAlpha c = true := by
  rcases pyIntCore_cases t with h' | ⟨hall, _⟩
  · rw [h'] at h; cases h
  · intro c hct
    rcases mem_takeSign hct with rfl | rfl | h'
    · decide +kernel
    · decide +kernel
    · by_cases hcu : c = '_'
      · subst hcu; decide +kernel
      · exact intAlpha_digit (List.all_eq_true.mp hall c (mem_removeUnderscores h' hcu))

theorem pyInt_bad {s : Str} {c : Char} (hc : c ∈ s) (hws : isNumWs c = false)
    (hbad : intAlpha c = false) : pyInt s = .error .valueError := by
  cases h : pyInt s with
  | ok v =>
    rw [pyInt_eq] at h
    have := pyIntCore_ok_alpha h c (mem_stripBy_of_not hc hws)
    rw [hbad] at this; cases this
  | error e => rw [pyInt_error h]

theorem fortranInt_ok {s : Str} {v : Int} (h : pyInt s = .ok v) :
    fortranInt s = .ok (.val (some v)) := by
  unfold fortranInt; rw [h]

theorem fortranInt_err {s : Str} {e : Exc} (h : pyInt s = .error e) :
    fortranInt s = if (strip s).isEmpty then .ok .blank else
      match pyInt (replaceChar ' ' [] (strip s)) with
      | .ok v => .ok (.val (some v))
      | .error _ => .ok (.val none) := by
  cases pyInt_error h
  unfold fortranInt
  rw [h]
  dsimp only
  generalize pyInt (replaceChar ' ' [] (strip s)) = x
  rfl

theorem fortranInt_total (s : Str) : ∃ o, fortranInt s = .ok o := by
  cases h : pyInt s with
  | ok v => exact ⟨_, fortranInt_ok h⟩
  | error e =>
    rw [fortranInt_err h]
    split
    · exact ⟨_, rfl⟩
    · split <;> exact ⟨_, rfl⟩

theorem pyInt_ws {s : Str} (h : ∀ c ∈ s, isStrWs c = true) : pyInt s = .error .valueError := by
  cases hp : pyInt s with
  | error e => rw [pyInt_error hp]
  | ok v =>
    rw [pyInt_eq] at hp
    have ht := stripNum_blank (by decide +kernel) h (pyIntCore_ok_alpha hp)
    rw [ht, show pyIntCore [] = .error .valueError by decide +kernel] at hp
    cases hp

theorem fortranInt_blank (s : Str) (h : ∀ c ∈ s, isStrWs c = true) :
    fortranInt s = .ok .blank := by
  rw [fortranInt_err (pyInt_ws h), show strip s = [] from stripBy_all isStrWs s h]; rfl

theorem filter_stripBy {p : Char → Bool} {s : Str} (h : ∀ c ∈ s, c = ' ' ∨ p c = false) :
    (stripBy p s).filter (· != ' ') = s.filter (· != ' ') := by
  obtain ⟨a, b, hs, ha, hb⟩ := stripBy_decomp p s
  have hblank : ∀ (l : Str), (∀ c ∈ l, c ∈ s) → (∀ c ∈ l, p c = true) →
      l.filter (· != ' ') = [] := by
    intro l hl hp
    rw [List.filter_eq_nil_iff]
    intro c hc
    rcases h c (hl c hc) with rfl | h'
    · simp
    · rw [hp c hc] at h'; cases h'
  have has : ∀ c ∈ a, c ∈ s := fun c hc => by rw [hs]; simp [hc]
  have hbs : ∀ c ∈ b, c ∈ s := fun c hc => by rw [hs]; simp [hc]
  have e := congrArg (List.filter (· != ' ')) hs
  rw [List.filter_append, List.filter_append, hblank a has ha, hblank b hbs hb] at e
  simpa using e.symm

theorem blank_or_of_filter_eq {s u : Str} (hs : s.filter (· != ' ') = u) {c : Char} (hc : c ∈ s) :
    c = ' ' ∨ c ∈ u := by
  by_cases h : c = ' '
  · exact Or.inl h
  · right; rw [← hs]; exact List.mem_filter.mpr ⟨hc, by simpa using h⟩

/-- `s` is `u` with blanks put in anywhere, and `u` has no whitespace: `strip()` and the removal of
    the blanks give `u` back -/
theorem filter_strip_of_filter {s u : Str} (hs : s.filter (· != ' ') = u) (hu : ∀ c ∈ u, isStrWs c = false) :
    (strip s).filter (· != ' ') = u := by
  unfold strip
  rw [filter_stripBy (fun c hc => (blank_or_of_filter_eq hs hc).imp id (hu c)), hs]

theorem strip_isEmpty_of_filter {s u : Str} (hs : s.filter (· != ' ') = u) (hu : ∀ c ∈ u, isStrWs c = false)
    (hne : u ≠ []) : (strip s).isEmpty = false := by
  have := filter_strip_of_filter hs hu
  exact List.isEmpty_eq_false_iff.mpr fun h => hne (by rw [h] at this; exact this.symm)

/-- for such `s` and `u` the stripping of `float()` / `int()` alone gives `u` back, if what it leaves is
    written in an alphabet `A` without the blank -/
theorem stripNum_of_filter {A : Char → Bool} (hA : A ' ' = false) {s u : Str} (hs : s.filter (· != ' ') = u)
    (hu : ∀ c ∈ u, isStrWs c = false) (ha : ∀ c ∈ stripBy isNumWs s, A c = true) : stripBy isNumWs s = u := by
  rw [← hs, ← filter_stripBy (fun c hc => (blank_or_of_filter_eq hs hc).imp id
    (fun h => isNumWs_of_isStrWs_false (hu c h))), filter_blank_self]
  intro c hc e
  have := ha c hc
  rw [e, hA] at this
  cases this

theorem underscoresOk_digits {ds : Str} (hd : ∀ c ∈ ds, isDigit c = true) :
    ∀ prev, prev ≠ '_' → underscoresOk prev ds = true := by
  induction ds with
  | nil => intro prev hp; simpa [underscoresOk] using hp
  | cons x xs ih =>
    intro prev hp
    have hx : isDigit x = true := hd x (by simp)
    have hxu : x ≠ '_' := ne_of_apply_ne isDigit (by rw [hx]; decide)
    unfold underscoresOk
    rw [if_neg hxu, ih (fun c hc => hd c (List.mem_cons_of_mem _ hc)) x hxu]
    simp [hx]

theorem removeUnderscores_digits {ds : Str} (hd : ∀ c ∈ ds, isDigit c = true) :
    removeUnderscores ds = ds := by
  unfold removeUnderscores
  rw [List.filter_eq_self]
  intro c hc
  simpa using ne_of_apply_ne isDigit (by rw [hd c hc]; decide : isDigit c ≠ isDigit '_')

/-- a digit is no sign, and does not begin `inf` or `nan` -/
theorem digit_facts {c : Char} (h : isDigit c = true) : (c ≠ '-' ∧ c ≠ '+') ∧ (c ≠ 'i' ∧ c ≠ 'n') :=
  isDigit_elim h (P := fun c => (c ≠ '-' ∧ c ≠ '+') ∧ (c ≠ 'i' ∧ c ≠ 'n')) (by decide +kernel)

theorem digit_not_sign {ds : Str} (hd : ∀ c ∈ ds, isDigit c = true) :
    ∀ x r, ds = x :: r → x ≠ '-' ∧ x ≠ '+' := by
  intro x r h
  exact (digit_facts (hd x (by rw [h]; simp))).1

/-- a Fortran integer as printed: sign (`+` optional), then the digits -/
def renderInt (neg plus : Bool) (ds : Str) : Str :=
  (if neg then ['-'] else if plus then ['+'] else []) ++ ds

theorem takeSign_renderInt (neg plus : Bool) {ds : Str} (hd : ∀ c ∈ ds, isDigit c = true) :
    takeSign (renderInt neg plus ds) = (neg, ds) := by
  unfold renderInt
  cases neg
  · cases plus
    · simpa using takeSign_nosign (digit_not_sign hd)
    · rfl
  · rfl

theorem pyIntCore_renderInt (neg plus : Bool) {ds : Str} (hne : ds ≠ [])
    (hd : ∀ c ∈ ds, isDigit c = true) :
    pyIntCore (renderInt neg plus ds) =
      .ok (if neg then -(digitsVal ds : Int) else digitsVal ds) := by
  unfold pyIntCore
  rw [takeSign_renderInt neg plus hd]
  simp only
  have h1 : ds.isEmpty = false := List.isEmpty_eq_false_iff.mpr hne
  have h2 : ds.all isDigit = true := List.all_eq_true.mpr hd
  rw [removeUnderscores_digits hd, underscoresOk_digits hd _ (by decide +kernel), h1, h2]
  simp

theorem renderInt_mem {neg plus : Bool} {ds : Str} (hd : ∀ c ∈ ds, isDigit c = true) :
    ∀ c ∈ renderInt neg plus ds, isStrWs c = false ∧ c ≠ ' ' := by
  have hdig : ∀ c, isDigit c = true → isStrWs c = false ∧ c ≠ ' ' := fun c h =>
    isDigit_elim h (P := fun d => isStrWs d = false ∧ d ≠ ' ') (by decide +kernel)
  intro c hc
  unfold renderInt at hc
  rcases List.mem_append.mp hc with h | h
  · cases neg <;> cases plus <;> simp at h <;> subst h <;> decide +kernel
  · exact hdig c (hd c h)

theorem fortranInt_reads (neg plus : Bool) (ds : Str) (hne : ds ≠ []) (hd : ∀ c ∈ ds, isDigit c = true)
    (s : Str) (hs : s.filter (· != ' ') = renderInt neg plus ds) :
    fortranInt s = .ok (.val (some (if neg then -(digitsVal ds : Int) else digitsVal ds))) := by
  have hu : ∀ c ∈ renderInt neg plus ds, isStrWs c = false := fun c hc => (renderInt_mem hd c hc).1
  cases h1 : pyInt s with
  | ok v =>
    rw [fortranInt_ok h1]
    rw [pyInt_eq] at h1
    have ht := stripNum_of_filter (A := intAlpha) (by decide +kernel) hs hu (pyIntCore_ok_alpha h1)
    rw [ht, pyIntCore_renderInt neg plus hne hd] at h1
    cases h1; rfl
  | error e =>
    rw [fortranInt_err h1,
      strip_isEmpty_of_filter hs hu (fun e => hne (List.append_eq_nil_iff.mp e).2)]
    simp only [Bool.false_eq_true, if_false]
    rw [replaceChar_nil_eq_filter, filter_strip_of_filter hs hu, pyInt_eq,
      stripBy_none (fun c hc => isNumWs_of_isStrWs_false (hu c hc)), pyIntCore_renderInt neg plus hne hd]

def plainChar (c : Char) : Bool := isDigit c || c == '.' || c == '+' || c == '-'

theorem plainChar_mem {c : Char} (h : plainChar c = true) :
    c ∈ ['0','1','2','3','4','5','6','7','8','9','.','+','-'] := by
  unfold plainChar at h
  simp only [Bool.or_eq_true, beq_iff_eq] at h
  rcases h with ((h | rfl) | rfl) | rfl
  · exact List.mem_append_left ['.','+','-'] (isDigit_mem h)
  · decide +kernel
  · decide +kernel
  · decide +kernel

theorem plainChar_digit {c : Char} (h : isDigit c = true) : plainChar c = true := by
  unfold plainChar; simp [h]

/-- `.lower().replace('d','e')` leaves such a character alone; `strip` keeps it, and it is no underscore -/
theorem plainChar_facts {c : Char} (h : plainChar c = true) :
    lowerChar c = c ∧ c ≠ 'd' ∧ isStrWs c = false ∧ c ≠ '_' :=
  (by decide +kernel : ∀ d ∈ ['0','1','2','3','4','5','6','7','8','9','.','+','-'],
    lowerChar d = d ∧ d ≠ 'd' ∧ isStrWs d = false ∧ d ≠ '_') c (plainChar_mem h)

theorem Sign_chars_plain (sg : Sign) : ∀ c ∈ sg.chars, plainChar c = true := by
  cases sg <;> simp [Sign.chars] <;> decide +kernel

theorem span_append_stop {p : Char → Bool} {ds rest : Str} (hd : ∀ c ∈ ds, p c = true)
    (hr : ∀ x r, rest = x :: r → p x = false) :
    (ds ++ rest).takeWhile p = ds ∧ (ds ++ rest).dropWhile p = rest := by
  rw [List.takeWhile_append_of_pos hd, List.dropWhile_append_of_pos hd, dropWhile_head hr]
  cases rest with
  | nil => simp
  | cons x xs => rw [List.takeWhile_cons]; simp [hr x xs rfl]

theorem parseNum_of {neg : Bool} {s1 ip r1 fp r2 : Str} (h1 : s1.takeWhile isDigit = ip)
    (h2 : s1.dropWhile isDigit = r1) (h3 : fracPart r1 = (fp, r2))
    (hne : (ip.isEmpty && fp.isEmpty) = false) :
    parseNum neg s1 = match parseExp r2 with
      | some e => some (.fin neg (digitsVal (ip ++ fp)) (e - fp.length))
      | none => none := by
  unfold parseNum
  simp only [h1, h2, h3, hne]
  rfl

theorem parseBody_of_head {neg : Bool} {x : Char} {t : Str} (hx : isDigit x = true ∨ x = '.') :
    parseBody neg (x :: t) = parseNum neg (x :: t) := by
  have hl : lowerChar x = x := by
    rcases hx with h | rfl
    · exact lowerChar_digit h
    · decide +kernel
  have hi : x ≠ 'i' ∧ x ≠ 'n' := by
    rcases hx with h | rfl
    · exact (digit_facts h).2
    · decide +kernel
  unfold parseBody
  rw [lower_cons, hl]
  simp [hi.1, hi.2]

/-- the unsigned mantissa `ip [.] fp` followed by `rest` -/
theorem parseNum_mantDigits {neg : Bool} {ip fp rest : Str} {point : Bool}
    (hip : ∀ c ∈ ip, isDigit c = true) (hfp : ∀ c ∈ fp, isDigit c = true)
    (hne : ¬ (ip = [] ∧ fp = [])) (hpt : fp ≠ [] → point = true)
    (hrest : ∀ x t, rest = x :: t → isDigit x = false ∧ x ≠ '.') :
    parseNum neg (ip ++ ((if point then ['.'] else []) ++ (fp ++ rest))) =
      match parseExp rest with
      | some e => some (.fin neg (digitsVal (ip ++ fp)) (e - fp.length))
      | none => none := by
  have hr1 : ∀ x t, rest = x :: t → isDigit x = false := fun x t h => (hrest x t h).1
  cases point with
  | true =>
    simp only [if_true, List.cons_append, List.nil_append]
    obtain ⟨h1, h2⟩ := span_append_stop (rest := '.' :: (fp ++ rest)) hip (by intro x r h; cases h; decide +kernel)
    obtain ⟨h3, h4⟩ := span_append_stop hfp hr1
    exact parseNum_of h1 h2 (by rw [fracPart_dot, h3, h4])
      (by simpa [List.isEmpty_iff, List.isEmpty_eq_false_iff] using hne)
  | false =>
    have hfp0 : fp = [] := by
      cases fp with
      | nil => rfl
      | cons a b => have := hpt (by simp); cases this
    subst hfp0
    simp only [Bool.false_eq_true, if_false, List.nil_append]
    obtain ⟨h1, h2⟩ := span_append_stop hip hr1
    exact parseNum_of h1 h2 (fracPart_other fun x t h => (hrest x t h).2) (by simpa [List.isEmpty_iff] using hne)

theorem mantDigits_cons {ip fp : Str} {point : Bool}
    (hip : ∀ c ∈ ip, isDigit c = true) (hfp : ∀ c ∈ fp, isDigit c = true)
    (hne : ¬ (ip = [] ∧ fp = [])) :
    ∃ x t, ip ++ ((if point then ['.'] else []) ++ fp) = x :: t ∧
      (isDigit x = true ∨ x = '.') ∧ ∀ c ∈ t, isDigit c = true ∨ c = '.' := by
  have hall : ∀ c ∈ ip ++ ((if point then ['.'] else []) ++ fp), isDigit c = true ∨ c = '.' := by
    intro c hc
    rcases List.mem_append.mp hc with h | h
    · exact Or.inl (hip c h)
    · rcases List.mem_append.mp h with h | h
      · cases point <;> simp at h
        exact Or.inr h
      · exact Or.inl (hfp c h)
  cases hum : ip ++ ((if point then ['.'] else []) ++ fp) with
  | nil =>
    simp only [List.append_eq_nil_iff] at hum
    exact absurd ⟨hum.1, hum.2.2⟩ hne
  | cons x t =>
    rw [hum] at hall
    exact ⟨x, t, rfl, hall x (by simp), fun c hc => hall c (List.mem_cons_of_mem _ hc)⟩

/-- the text before the exponent part -/
def FReal.mant (r : FReal) : Str :=
  r.sign.chars ++ (r.ip ++ ((if r.point then ['.'] else []) ++ r.fp))

theorem render_eq (r : FReal) : r.render = r.mant ++ r.ex.chars := by
  simp [FReal.render, FReal.mant, List.append_assoc]

theorem mant_cons (r : FReal) (hr : r.WF) :
    ∃ h m', r.mant = h :: m' ∧ ∀ c ∈ m', isDigit c = true ∨ c = '.' := by
  obtain ⟨sg, ip, point, fp, ex⟩ := r
  obtain ⟨hip, hfp, hne, hpt, _⟩ := hr
  simp only at hip hfp hne hpt
  obtain ⟨x, t, hum, hx, ht⟩ := mantDigits_cons (point := point) hip hfp hne
  simp only [FReal.mant]
  rw [hum]
  cases sg with
  | none => exact ⟨x, t, rfl, ht⟩
  | plus | minus => exact ⟨_, x :: t, rfl, List.forall_mem_cons.mpr ⟨hx, ht⟩⟩

theorem mant_plain (r : FReal) (hr : r.WF) : ∀ c ∈ r.mant, plainChar c = true := by
  obtain ⟨hip, hfp, _, _, _⟩ := hr
  intro c hc
  unfold FReal.mant at hc
  rcases List.mem_append.mp hc with h | h
  · exact Sign_chars_plain _ c h
  · rcases List.mem_append.mp h with h | h
    · exact plainChar_digit (hip c h)
    · rcases List.mem_append.mp h with h | h
      · cases hp : r.point <;> rw [hp] at h <;> simp at h
        subst h; decide +kernel
      · exact plainChar_digit (hfp c h)

theorem takeSign_sign (sg : Sign) {t : Str} (h : ∀ x r, t = x :: r → x ≠ '-' ∧ x ≠ '+') :
    takeSign (sg.chars ++ t) = (decide (sg = .minus), t) := by
  cases sg with
  | none => simpa [Sign.chars] using takeSign_nosign h
  | plus => rfl
  | minus => rfl

theorem parseDecimal_mant (r : FReal) (hr : r.WF) (rest : Str)
    (hrest : ∀ x t, rest = x :: t → isDigit x = false ∧ x ≠ '.') :
    parseDecimal (r.mant ++ rest) =
      match parseExp rest with
      | some e => some (.fin (decide (r.sign = .minus)) (digitsVal (r.ip ++ r.fp)) (e - r.fp.length))
      | none => none := by
  obtain ⟨sg, ip, point, fp, ex⟩ := r
  obtain ⟨hip, hfp, hne, hpt, _⟩ := hr
  simp only at hip hfp hne hpt
  simp only [FReal.mant, List.append_assoc]
  obtain ⟨x, t, hum, hx, _⟩ := mantDigits_cons (point := point) hip hfp hne
  have hum' : ip ++ ((if point then ['.'] else []) ++ (fp ++ rest)) = x :: (t ++ rest) := by
    have := congrArg (· ++ rest) hum
    simpa [List.append_assoc] using this
  have hts := takeSign_sign sg (t := ip ++ ((if point then ['.'] else []) ++ (fp ++ rest))) (by
    rw [hum']
    intro y r h
    cases h
    rcases hx with h | rfl
    · exact (digit_facts h).1
    · decide +kernel)
  rw [parseDecimal_eq, hts]
  simp only
  rw [hum', parseBody_of_head hx, ← hum']
  exact parseNum_mantDigits hip hfp hne hpt hrest

theorem parseExp_letter {l : Char} (sg : Sign) {ds : Str} (hl : l = 'E' ∨ l = 'e')
    (hne : ds ≠ []) (hd : ∀ c ∈ ds, isDigit c = true) :
    parseExp (l :: (sg.chars ++ ds)) =
      some (if sg = .minus then -(digitsVal ds : Int) else digitsVal ds) := by
  rw [parseExp_cons]
  have : (decide (l = 'e') || decide (l = 'E')) = true := by
    rcases hl with rfl | rfl <;> decide +kernel
  rw [if_pos this]
  unfold parseExpTail
  rw [takeSign_sign sg (digit_not_sign hd)]
  simp only
  obtain ⟨h1, h2⟩ := span_append_stop (rest := []) hd nofun
  rw [List.append_nil] at h1 h2
  rw [h1, h2]
  have h1 : ds.isEmpty = false := List.isEmpty_eq_false_iff.mpr hne
  simp [h1]

theorem parseExp_none {l : Char} (rest : Str) (hl : l ≠ 'e' ∧ l ≠ 'E') :
    parseExp (l :: rest) = none := by
  rw [parseExp_cons]
  simp [hl.1, hl.2]

theorem plain_lower {l : Str} (h : ∀ c ∈ l, plainChar c = true) : lower l = l :=
  lower_fixed (fun c hc => (plainChar_facts (h c hc)).1)

theorem plain_no_d {l : Str} (h : ∀ c ∈ l, plainChar c = true) :
    replaceChar 'd' ['e'] l = l :=
  replaceChar_of_not_mem (fun hd => (plainChar_facts (h _ hd)).2.1 rfl)

theorem signDigits_plain (sg : Sign) {ds : Str} (hd : ∀ c ∈ ds, isDigit c = true) :
    ∀ c ∈ sg.chars ++ ds, plainChar c = true := by
  intro c hc
  rcases List.mem_append.mp hc with h | h
  · exact Sign_chars_plain sg c h
  · exact plainChar_digit (hd c h)

/-- the exponent part after `.lower().replace('d','e')` -/
def normEx : ExpForm → Str
  | .absent => []
  | .letter _ sg ds => 'e' :: (sg.chars ++ ds)
  | .bare neg ds => (if neg then '-' else '+') :: ds

theorem normEx_eq (ex : ExpForm) (hex : ex.WF) :
    replaceChar 'd' ['e'] (lower ex.chars) = normEx ex := by
  cases ex with
  | absent => rfl
  | letter l sg ds =>
    obtain ⟨hl, _, hd⟩ := hex
    have hp := signDigits_plain sg hd
    simp only [ExpForm.chars, normEx, List.cons_append]
    rw [lower_cons, plain_lower hp]
    unfold replaceChar
    rw [plain_no_d hp]
    rcases hl with rfl | rfl | rfl | rfl <;> rfl
  | bare neg ds =>
    obtain ⟨_, hd⟩ := hex
    have hp : ∀ c ∈ ExpForm.chars (.bare neg ds), plainChar c = true := by
      intro c hc
      simp only [ExpForm.chars] at hc
      rcases List.mem_cons.mp hc with rfl | h
      · cases neg <;> decide +kernel
      · exact plainChar_digit (hd c h)
    rw [plain_lower hp, plain_no_d hp]
    rfl

theorem exChars_shape (ex : ExpForm) (hex : ex.WF) :
    ex.chars = [] ∨ ∃ x t, ex.chars = x :: t ∧ x ∈ ['E','e','D','d','+','-'] ∧ ∀ c ∈ t, plainChar c = true := by
  cases ex with
  | absent => exact Or.inl rfl
  | letter l sg ds =>
    refine Or.inr ⟨l, _, rfl, ?_, signDigits_plain sg hex.2.2⟩
    rcases hex.1 with rfl | rfl | rfl | rfl <;> decide +kernel
  | bare neg ds =>
    refine Or.inr ⟨_, _, rfl, ?_, fun c hc => plainChar_digit (hex.2 c hc)⟩
    cases neg <;> decide +kernel

theorem exChars_facts (ex : ExpForm) (hex : ex.WF) :
    ∀ c ∈ ex.chars, isStrWs c = false ∧ c ≠ '_' := by
  intro c hc
  rcases exChars_shape ex hex with h | ⟨x, t, h, hx, ht⟩
  · rw [h] at hc; cases hc
  · rw [h] at hc
    rcases List.mem_cons.mp hc with rfl | hc
    · exact (by decide +kernel : ∀ y ∈ ['E','e','D','d','+','-'], isStrWs y = false ∧ y ≠ '_') _ hx
    · exact (plainChar_facts (ht c hc)).2.2

theorem mantEx_facts (r : FReal) (hr : r.WF) (ex : ExpForm) (hex : ex.WF) :
    ∀ c ∈ r.mant ++ ex.chars, isStrWs c = false ∧ c ≠ '_' := by
  intro c hc
  rcases List.mem_append.mp hc with h | h
  · exact (plainChar_facts (mant_plain r hr c h)).2.2
  · exact exChars_facts ex hex c h

theorem render_facts (r : FReal) (hr : r.WF) :
    ∀ c ∈ r.render, isStrWs c = false ∧ c ≠ '_' := by
  rw [render_eq]; exact mantEx_facts r hr r.ex hr.ex

theorem ffS2_eq (r : FReal) (hr : r.WF) (s : Str) (hs : s.filter (· != ' ') = r.render) :
    ffS2 s = r.mant ++ normEx r.ex := by
  have hm := mant_plain r hr
  unfold ffS2
  rw [replaceChar_nil_eq_filter, filter_replaceChar (by decide +kernel) (by decide +kernel), filter_lower,
    filter_strip_of_filter hs (fun c hc => (render_facts r hr c hc).1), render_eq, lower_append,
    replaceChar_append, plain_lower hm, plain_no_d hm, normEx_eq r.ex hr.ex]

theorem exChars_head (ex : ExpForm) (hex : ex.WF) :
    ∀ x t, ex.chars = x :: t → isDigit x = false ∧ x ≠ '.' := by
  intro x t h
  rcases exChars_shape ex hex with h0 | ⟨y, u, h1, hy, _⟩
  · rw [h0] at h; cases h
  · rw [h1] at h; cases h
    exact (by decide +kernel : ∀ y ∈ ['E','e','D','d','+','-'], isDigit y = false ∧ y ≠ '.') _ hy

/-- whether Python's own `float()` understands the exponent part: written with `e`/`E`, or absent -/
def ExpForm.pyReads : ExpForm → Bool
  | .absent => true
  | .letter l _ _ => l == 'e' || l == 'E'
  | .bare _ _ => false

theorem parseExp_exChars (ex : ExpForm) (hex : ex.WF) :
    parseExp ex.chars = if ex.pyReads then some ex.val else none := by
  cases ex with
  | absent => rfl
  | letter l sg ds =>
    obtain ⟨hl, hne, hd⟩ := hex
    rcases hl with rfl | rfl | rfl | rfl
    · exact parseExp_letter sg (Or.inl rfl) hne hd
    · exact parseExp_letter sg (Or.inr rfl) hne hd
    · exact parseExp_none _ (by decide +kernel)
    · exact parseExp_none _ (by decide +kernel)
  | bare neg ds => exact parseExp_none _ (by cases neg <;> decide +kernel)

theorem pyFloat_mantEx (r : FReal) (hr : r.WF) (ex : ExpForm) (hex : ex.WF) :
    pyFloat (r.mant ++ ex.chars) =
      if ex.pyReads then .ok (.fin (decide (r.sign = .minus)) (digitsVal (r.ip ++ r.fp)) (ex.val - r.fp.length))
      else .error .valueError := by
  have hf := mantEx_facts r hr ex hex
  rw [pyFloat_clean (fun c hc => isNumWs_of_isStrWs_false (hf c hc).1) (fun h => (hf _ h).2 rfl),
    parseDecimal_mant r hr _ (exChars_head ex hex), parseExp_exChars ex hex]
  cases ex.pyReads <;> rfl

theorem pyFloat_render (r : FReal) (hr : r.WF) :
    pyFloat r.render = if r.ex.pyReads then .ok r.value else .error .valueError := by
  rw [render_eq]; exact pyFloat_mantEx r hr r.ex hr.ex

theorem not_mem_of_digitOrPoint {l : Str} (h : ∀ c ∈ l, isDigit c = true ∨ c = '.') :
    '-' ∉ l ∧ '+' ∉ l :=
  ⟨fun hm => (h _ hm).elim (fun hd => (digit_facts hd).1.1 rfl) (by decide),
    fun hm => (h _ hm).elim (fun hd => (digit_facts hd).1.2 rfl) (by decide)⟩

/-- Each text is the same mantissa followed by some exponent part, so `pyFloat_mantEx` decides it: an
    exponent with a letter is read in the first text, `-ddd` in the second, `+ddd` in the third. -/
theorem firstFloat_value (r : FReal) (hr : r.WF) {h : Char} {m' : Str} (hm : r.mant = h :: m')
    (hm' : ∀ c ∈ m', isDigit c = true ∨ c = '.') :
    firstFloat (ffTexts h (m' ++ normEx r.ex)) = r.value := by
  -- an exponent part that Python reads and that has the value of `r`'s
  have pyOk : ∀ ex : ExpForm, ex.WF → ex.pyReads = true → ex.val = r.ex.val →
      pyFloat (h :: (m' ++ ex.chars)) = .ok r.value := by
    intro ex hex hp hv
    rw [← List.cons_append, ← hm, pyFloat_mantEx r hr ex hex, hp, if_pos rfl, hv]
    rfl
  have hex := hr.ex
  have hnm := not_mem_of_digitOrPoint hm'
  cases he : r.ex with
  | absent => exact firstFloat_ok (pyOk .absent trivial rfl (by rw [he])) _
  | letter l sg ds =>
    rw [he] at hex
    -- `normEx (.letter l sg ds)` is by definition the text of `.letter 'e' sg ds`
    exact firstFloat_ok (pyOk (.letter 'e' sg ds) ⟨Or.inr (Or.inl rfl), hex.2⟩ rfl (by rw [he]; rfl)) _
  | bare neg ds =>
    rw [he] at hex
    have hnd := not_mem_of_digitOrPoint (fun c hc => Or.inl (hex.2 c hc))
    have h1 : pyFloat (h :: (m' ++ normEx (.bare neg ds))) = .error .valueError := by
      rw [← List.cons_append, ← hm]; exact pyFloat_mantEx r hr (.bare neg ds) hex
    unfold ffTexts
    rw [firstFloat_err h1]
    cases neg with
    | true =>
      rw [show normEx (.bare true ds) = '-' :: ds from rfl, replaceChar_at hnm.1 hnd.1]
      exact firstFloat_ok (pyOk (.letter 'e' .minus ds) ⟨Or.inr (Or.inl rfl), hex⟩ rfl (by rw [he]; rfl)) _
    | false =>
      have h2 : replaceChar '-' ['e','-'] (m' ++ '+' :: ds) = m' ++ '+' :: ds :=
        replaceChar_of_not_mem (by simp [hnm.1, hnd.1])
      rw [show normEx (.bare false ds) = '+' :: ds from rfl, h2,
        firstFloat_err (show pyFloat (h :: (m' ++ '+' :: ds)) = _ from h1), replaceChar_at hnm.2 hnd.2]
      exact firstFloat_ok (pyOk (.letter 'e' .none ds) ⟨Or.inr (Or.inl rfl), hex⟩ rfl (by rw [he]; rfl)) _

theorem fortranFloat_reads (r : FReal) (hr : r.WF) (s : Str)
    (hs : s.filter (· != ' ') = r.render) :
    fortranFloat s = .ok (.val r.value) := by
  have hrw := render_facts r hr
  have hu : ∀ c ∈ r.render, isStrWs c = false := fun c hc => (hrw c hc).1
  cases h1 : pyFloat s with
  | ok v =>
    rw [fortranFloat_ok h1]
    have ht := stripNum_of_filter (A := floatAlpha) (by decide +kernel) hs hu (pyFloat_ok_alpha h1)
    rw [pyFloat_strip ht fun c hc => isNumWs_of_isStrWs_false (hu c hc), pyFloat_render r hr] at h1
    cases hp : r.ex.pyReads <;> rw [hp] at h1 <;> cases h1
    rfl
  | error e =>
    rw [fortranFloat_err h1]
    obtain ⟨h, m', hm, hm'⟩ := mant_cons r hr
    rw [strip_isEmpty_of_filter hs hu (by rw [render_eq, hm]; simp)]
    simp only [Bool.false_eq_true, if_false]
    rw [ffS2_eq r hr s hs, hm]
    exact congrArg (fun v => Except.ok (FOut.val v)) (firstFloat_value r hr hm hm')

end Proofs
