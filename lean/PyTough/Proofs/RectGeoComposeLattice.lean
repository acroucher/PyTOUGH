/-
  Proofs for C18, composition: a description of a grid line as a set of blocks and connections,
  with no walk in it — `Row` — from which the walk hypotheses of the theorems of `Props/C18.lean`
  (`isLine`, hence unique candidates, and the sizes collected) are derived.  Every grid line of a rectangular
  lattice — `Lattice`, described in the same way — is such a row, so a lattice has the three axis
  lines `block_spacings` needs.  Index `l = 0` is the top layer, `l = nz` the bottom one; `nx, ny,
  nz` are the numbers of blocks minus one.
-/
import PyTough.Proofs.RectGeo
import PyTough.Proofs.ListLemmas
namespace Proofs.RectGeo
open Py Model.FromGeo Model.RectGeo

/-- a row of `n + 1` blocks `b 0 … b n` joined by `cn 0 … cn (n-1)` in direction `k` -/
structure Row (T : TGrid) (k : Nat) (mv : Option Rat) (n : Nat) (b : Nat → GBlock) (cn : Nat → GConn) : Prop where
  inj : ∀ i j, i ≤ n → j ≤ n → (b i).name = (b j).name → i = j
  reg : ∀ i, i ≤ n → findB T (b i).name = .ok (b i)
  adm : ∀ i, i ≤ n → volOk mv (b i) = true
  mem : ∀ i, i < n → cn i ∈ T.conns
  dir : ∀ i, i < n → (cn i).dirn = k
  jn : ∀ i, i < n → joins (cn i) (b i).name (b (i + 1)).name = true
  closed : ∀ c ∈ T.conns, c.dirn = k → ∀ i, i ≤ n → touches c (b i).name = true →
    (∃ i', i' < n ∧ c = cn i') ∨ inadmissible T mv (b i).name c = true

/-- the steps of the walk along the row from block `i`: `m` of them -/
def rowSteps (b : Nat → GBlock) (cn : Nat → GConn) : Nat → Nat → List (GConn × GBlock)
  | _, 0 => []
  | i, m + 1 => (cn i, b (i + 1)) :: rowSteps b cn (i + 1) m

/-- the walk's state on arriving at block `i` of a row: the block it came from (`lastOf`), through which
    connection (`prevOf`); neither at `i = 0` -/
def lastOf (b : Nat → GBlock) : Nat → Option Str
  | 0 => none
  | i + 1 => some (b i).name

def prevOf (cn : Nat → GConn) : Nat → Option GConn
  | 0 => none
  | i + 1 => some (cn i)

theorem rowSteps_length (b : Nat → GBlock) (cn : Nat → GConn) : ∀ m i, (rowSteps b cn i m).length = m := by
  intro m
  induction m with
  | zero => intro i; rfl
  | succ m ih => intro i; simp only [rowSteps, List.length_cons, ih]

theorem rowSteps_ne_nil {b : Nat → GBlock} {cn : Nat → GConn} {n : Nat} (hn : 0 < n) : rowSteps b cn 0 n ≠ [] :=
  List.ne_nil_of_length_pos (by rw [rowSteps_length]; exact hn)

theorem lineBlocks_row (b : Nat → GBlock) (cn : Nat → GConn) :
    ∀ m i, lineBlocks (b i) (rowSteps b cn i m) = (List.range' i (m + 1)).map b := by
  intro m
  induction m with
  | zero => intro i; rfl
  | succ m ih =>
    intro i
    have e : lineBlocks (b i) (rowSteps b cn i (m + 1)) = b i :: lineBlocks (b (i + 1)) (rowSteps b cn (i + 1) m) := rfl
    rw [e, ih (i + 1), List.range'_succ (n := m + 1), List.map_cons]

theorem lineBlocks_getLast (b : Nat → GBlock) (cn : Nat → GConn) (m i : Nat) :
    (lineBlocks (b i) (rowSteps b cn i m)).getLast? = some (b (i + m)) := by
  rw [lineBlocks_row]
  simp [List.getLast?_map, List.getLast?_range']

/-- the sizes the walk collects along a row whose blocks' own distances are half the widths `w i`
    (`i = 0 → m ≠ 0`: a walk that never leaves its first block collects no size) -/
theorem lineSizes_row (b : Nat → GBlock) (cn : Nat → GConn) (w : Nat → Rat) (n : Nat)
    (hw : ∀ i, i < n → distAt (cn i) (b i).name = w i / 2 ∧ distAt (cn i) (b (i + 1)).name = w (i + 1) / 2) :
    ∀ m i, i + m = n → (i = 0 → m ≠ 0) →
      lineSizes (prevOf cn i) (b i) (rowSteps b cn i m) = (List.range' i (m + 1)).map w := by
  intro m
  induction m with
  | zero =>
    intro i hi hne
    cases i with
    | zero => exact absurd rfl (hne rfl)
    | succ j =>
      simp only [rowSteps, prevOf, lineSizes, List.range', List.map_cons, List.map_nil]
      rw [(hw j (by omega)).2]
      congr 1; ring
  | succ m ih =>
    intro i hi _
    have hrec := ih (i + 1) (by omega) (by omega)
    simp only [prevOf] at hrec
    rw [rowSteps, lineSizes_cons, hrec, (hw i (by omega)).1, List.range'_succ, List.map_cons]
    congr 1; ring

theorem lineSizes_row_all {b : Nat → GBlock} {cn : Nat → GConn} {w : Nat → Rat} {n : Nat} (hn : 0 < n)
    (hw : ∀ i, i < n → distAt (cn i) (b i).name = w i / 2 ∧ distAt (cn i) (b (i + 1)).name = w (i + 1) / 2) :
    lineSizes none (b 0) (rowSteps b cn 0 n) = (List.range' 0 (n + 1)).map w :=
  lineSizes_row b cn w n hw n 0 (by omega) (by omega)

theorem lineSizes_getLast (b : Nat → GBlock) (cn : Nat → GConn) : ∀ m i, (i = 0 → m ≠ 0) →
    (lineSizes (prevOf cn i) (b i) (rowSteps b cn i m)).getLast? = some (2 * distAt (cn (i + m - 1)) (b (i + m)).name) := by
  intro m
  induction m with
  | zero =>
    intro i hne
    cases i with
    | zero => exact absurd rfl (hne rfl)
    | succ j => rfl
  | succ m ih =>
    intro i _
    have hrec := ih (i + 1) (by omega)
    simp only [prevOf] at hrec
    rw [rowSteps, lineSizes_cons, List.getLast?_cons, hrec, show i + 1 + m = i + (m + 1) by omega]
    rfl

theorem findB_mem {T : TGrid} {n : Str} {x : GBlock} (h : findB T n = .ok x) : x ∈ T.blocks := by
  unfold findB at h
  split at h
  · rename_i y hy
    cases h
    exact List.mem_of_find?_eq_some hy
  · cases h

namespace Row
variable {T : TGrid} {k : Nat} {mv : Option Rat} {n : Nat} {b : Nat → GBlock} {cn : Nat → GConn}

theorem touches_cn (R : Row T k mv n b cn) {i' j : Nat} (hi : i' < n) (hj : j ≤ n)
    (ht : touches (cn i') (b j).name = true) : j = i' ∨ j = i' + 1 := by
  rcases end_of_joins (R.jn i' hi) ht with e | e
  · exact Or.inl (R.inj j i' hj (by omega) e)
  · exact Or.inr (R.inj j (i' + 1) hj (by omega) e)

/-- `incident`, `prevLast`, `notLast`: the clauses of `LineStep` of these names at block `i` of a row -/
theorem incident (R : Row T k mv n b cn) {i : Nat} (hi : i ≤ n) {allowed : List GConn}
    (h : ∀ i', i' < n → i = i' ∨ i = i' + 1 → cn i' ∈ allowed) : incidentAmong T k mv (b i).name allowed = true := by
  rw [incidentAmong_iff]
  intro c hc hk ht
  rcases R.closed c hc hk i hi ht with ⟨i', hi', rfl⟩ | h'
  · exact Or.inl (h i' hi' (R.touches_cn hi' hi ht))
  · exact Or.inr h'

theorem prevLast (R : Row T k mv n b cn) {i : Nat} (hi : i ≤ n) :
    ∀ p ∈ prevOf cn i, ∃ l, lastOf b i = some l ∧ touches p l = true := by
  intro p hp
  cases i with
  | zero => cases hp
  | succ j => cases hp; exact ⟨_, rfl, touches_of_joins (R.jn j (by omega))⟩

theorem notLast (R : Row T k mv n b cn) {i : Nat} (hi : i < n) :
    ∀ l, lastOf b i = some l → touches (cn i) l = false := by
  intro l hl
  cases i with
  | zero => cases hl
  | succ j =>
    cases hl
    cases ht : touches (cn (j + 1)) (b j).name with
    | false => rfl
    | true => rcases R.touches_cn hi (by omega) ht with e | e <;> omega

theorem isLine_from (R : Row T k mv n b cn) :
    ∀ m i, i + m = n → isLine T k mv (lastOf b i) (prevOf cn i) (b i) (rowSteps b cn i m) = true := by
  intro m
  induction m with
  | zero =>
    intro i hi
    obtain rfl : i = n := by omega
    refine isLine_nil_iff.2 ⟨R.incident (by omega) fun i' hi' e => ?_, R.prevLast (by omega)⟩
    obtain rfl : i = i' + 1 := by omega
    simp [prevOf]
  | succ m ih =>
    intro i hi
    have hin : i < n := by omega
    refine isLine_cons_iff.2 ⟨R.incident (by omega) fun i' hi' e => ?_, R.prevLast (by omega), R.mem i hin, R.dir i hin,
      R.jn i hin, R.notLast hin, R.reg (i + 1) (by omega), R.adm (i + 1) (by omega), ih (i + 1) (by omega)⟩
    rcases e with rfl | rfl
    · simp
    · simp [prevOf]

theorem isLine_row (R : Row T k mv n b cn) : isLine T k mv none none (b 0) (rowSteps b cn 0 n) = true :=
  R.isLine_from n 0 (by omega)

theorem length_le (R : Row T k mv n b cn) : n + 1 ≤ T.blocks.length := by
  have hnd : ((List.range (n + 1)).map b).Nodup := by
    apply nodup_map_on _ _ List.nodup_range
    intro i hi j hj e
    exact R.inj i j (Nat.le_of_lt_succ (List.mem_range.1 hi)) (Nat.le_of_lt_succ (List.mem_range.1 hj)) (by rw [e])
  have hsub : (List.range (n + 1)).map b ⊆ T.blocks := by
    intro x hx
    obtain ⟨i, hi, rfl⟩ := List.mem_map.1 hx
    exact findB_mem (R.reg i (Nat.le_of_lt_succ (List.mem_range.1 hi)))
  have := List.Nodup.length_le_of_subset hnd hsub
  simpa using this

/-- the same row, walked from its last block -/
theorem reverse (R : Row T k mv n b cn) : Row T k mv n (fun i => b (n - i)) (fun i => cn (n - 1 - i)) where
  inj := fun i j hi hj h => by
    have := R.inj (n - i) (n - j) (Nat.sub_le _ _) (Nat.sub_le _ _) h
    omega
  reg := fun i _ => R.reg (n - i) (Nat.sub_le _ _)
  adm := fun i _ => R.adm (n - i) (Nat.sub_le _ _)
  mem := fun i hi => R.mem (n - 1 - i) (by omega)
  dir := fun i hi => R.dir (n - 1 - i) (by omega)
  jn := fun i hi => by
    have h := R.jn (n - 1 - i) (by omega)
    rw [show n - 1 - i + 1 = n - i by omega] at h
    rw [show n - (i + 1) = n - 1 - i by omega]
    exact joins_symm h
  closed := by
    intro c hc hk i hi ht
    rcases R.closed c hc hk (n - i) (Nat.sub_le _ _) ht with ⟨i', hi', rfl⟩ | h
    · exact Or.inl ⟨n - 1 - i', by omega, by rw [show n - 1 - (n - 1 - i') = i' by omega]⟩
    · exact Or.inr h

end Row

/-- `T` contains the full box of blocks `blk i j l` (`i ≤ nx, j ≤ ny, l ≤ nz`), joined by `cx`
    (direction 1), `cy` (direction 2), `cz` (direction 3, downwards); every other connection touching
    a block of the box leads to a boundary block (zero or huge volume: atmosphere, inactive). -/
structure Lattice (T : TGrid) (mv : Rat) (nx ny nz : Nat) (blk : Nat → Nat → Nat → GBlock)
    (cx cy cz : Nat → Nat → Nat → GConn) : Prop where
  inj : ∀ i j l i' j' l', i ≤ nx → j ≤ ny → l ≤ nz → i' ≤ nx → j' ≤ ny → l' ≤ nz →
    (blk i j l).name = (blk i' j' l').name → i = i' ∧ j = j' ∧ l = l'
  reg : ∀ i j l, i ≤ nx → j ≤ ny → l ≤ nz → findB T (blk i j l).name = .ok (blk i j l)
  adm : ∀ i j l, i ≤ nx → j ≤ ny → l ≤ nz → volOk (some mv) (blk i j l) = true
  memx : ∀ i j l, i < nx → j ≤ ny → l ≤ nz → cx i j l ∈ T.conns ∧ (cx i j l).dirn = 1 ∧
    joins (cx i j l) (blk i j l).name (blk (i + 1) j l).name = true
  memy : ∀ i j l, i ≤ nx → j < ny → l ≤ nz → cy i j l ∈ T.conns ∧ (cy i j l).dirn = 2 ∧
    joins (cy i j l) (blk i j l).name (blk i (j + 1) l).name = true
  memz : ∀ i j l, i ≤ nx → j ≤ ny → l < nz → cz i j l ∈ T.conns ∧ (cz i j l).dirn = 3 ∧
    joins (cz i j l) (blk i j l).name (blk i j (l + 1)).name = true
  closed : ∀ c ∈ T.conns, ∀ i j l, i ≤ nx → j ≤ ny → l ≤ nz → touches c (blk i j l).name = true →
    (∃ i' j' l', i' < nx ∧ j' ≤ ny ∧ l' ≤ nz ∧ c = cx i' j' l') ∨
    (∃ i' j' l', i' ≤ nx ∧ j' < ny ∧ l' ≤ nz ∧ c = cy i' j' l') ∨
    (∃ i' j' l', i' ≤ nx ∧ j' ≤ ny ∧ l' < nz ∧ c = cz i' j' l') ∨
    inadmissible T (some mv) (blk i j l).name c = true

namespace Lattice
variable {T : TGrid} {mv : Rat} {nx ny nz : Nat} {blk : Nat → Nat → Nat → GBlock}
  {cx cy cz : Nat → Nat → Nat → GConn}

theorem ends (L : Lattice T mv nx ny nz blk cx cy cz) {c : GConn} {i j l i1 j1 l1 i2 j2 l2 : Nat}
    (hi : i ≤ nx) (hj : j ≤ ny) (hl : l ≤ nz) (h1 : i1 ≤ nx ∧ j1 ≤ ny ∧ l1 ≤ nz) (h2 : i2 ≤ nx ∧ j2 ≤ ny ∧ l2 ≤ nz)
    (hjn : joins c (blk i1 j1 l1).name (blk i2 j2 l2).name = true) (ht : touches c (blk i j l).name = true) :
    (i = i1 ∧ j = j1 ∧ l = l1) ∨ (i = i2 ∧ j = j2 ∧ l = l2) := by
  rcases end_of_joins hjn ht with e | e
  · exact Or.inl (L.inj i j l i1 j1 l1 hi hj hl h1.1 h1.2.1 h1.2.2 e)
  · exact Or.inr (L.inj i j l i2 j2 l2 hi hj hl h2.1 h2.2.1 h2.2.2 e)

/-- a connection of the grid at a block of the box runs along one of the three lines through
    that block, in that line's direction, or leads to a boundary block -/
theorem conn_at (L : Lattice T mv nx ny nz blk cx cy cz) {c : GConn} (hc : c ∈ T.conns) {i j l : Nat}
    (hi : i ≤ nx) (hj : j ≤ ny) (hl : l ≤ nz) (ht : touches c (blk i j l).name = true) :
    (c.dirn = 1 ∧ ∃ i', i' < nx ∧ c = cx i' j l) ∨ (c.dirn = 2 ∧ ∃ j', j' < ny ∧ c = cy i j' l) ∨
    (c.dirn = 3 ∧ ∃ l', l' < nz ∧ c = cz i j l') ∨ inadmissible T (some mv) (blk i j l).name c = true := by
  rcases L.closed c hc i j l hi hj hl ht with ⟨i', j', l', a1, a2, a3, rfl⟩ | ⟨i', j', l', a1, a2, a3, rfl⟩ |
    ⟨i', j', l', a1, a2, a3, rfl⟩ | h
  · obtain ⟨_, hd, hjn⟩ := L.memx i' j' l' a1 a2 a3
    have := L.ends hi hj hl ⟨by omega, a2, a3⟩ ⟨by omega, a2, a3⟩ hjn ht
    have e : j' = j ∧ l' = l := by omega
    exact Or.inl ⟨hd, i', a1, by rw [e.1, e.2]⟩
  · obtain ⟨_, hd, hjn⟩ := L.memy i' j' l' a1 a2 a3
    have := L.ends hi hj hl ⟨a1, by omega, a3⟩ ⟨a1, by omega, a3⟩ hjn ht
    have e : i' = i ∧ l' = l := by omega
    exact Or.inr (Or.inl ⟨hd, j', a2, by rw [e.1, e.2]⟩)
  · obtain ⟨_, hd, hjn⟩ := L.memz i' j' l' a1 a2 a3
    have := L.ends hi hj hl ⟨a1, a2, by omega⟩ ⟨a1, a2, by omega⟩ hjn ht
    have e : i' = i ∧ j' = j := by omega
    exact Or.inr (Or.inr (Or.inl ⟨hd, l', a3, by rw [e.1, e.2]⟩))
  · exact Or.inr (Or.inr (Or.inr h))

theorem rowX (L : Lattice T mv nx ny nz blk cx cy cz) (j l : Nat) (hj : j ≤ ny) (hl : l ≤ nz) :
    Row T 1 (some mv) nx (fun i => blk i j l) (fun i => cx i j l) where
  inj := fun i i' hi hi' h => (L.inj i j l i' j l hi hj hl hi' hj hl h).1
  reg := fun i hi => L.reg i j l hi hj hl
  adm := fun i hi => L.adm i j l hi hj hl
  mem := fun i hi => (L.memx i j l hi hj hl).1
  dir := fun i hi => (L.memx i j l hi hj hl).2.1
  jn := fun i hi => (L.memx i j l hi hj hl).2.2
  closed := by
    intro c hc hk i hi ht
    rcases L.conn_at hc hi hj hl ht with ⟨_, h⟩ | ⟨hd, _⟩ | ⟨hd, _⟩ | h
    · exact Or.inl h
    · omega
    · omega
    · exact Or.inr h

theorem rowY (L : Lattice T mv nx ny nz blk cx cy cz) (i l : Nat) (hi : i ≤ nx) (hl : l ≤ nz) :
    Row T 2 (some mv) ny (fun j => blk i j l) (fun j => cy i j l) where
  inj := fun j j' hj hj' h => (L.inj i j l i j' l hi hj hl hi hj' hl h).2.1
  reg := fun j hj => L.reg i j l hi hj hl
  adm := fun j hj => L.adm i j l hi hj hl
  mem := fun j hj => (L.memy i j l hi hj hl).1
  dir := fun j hj => (L.memy i j l hi hj hl).2.1
  jn := fun j hj => (L.memy i j l hi hj hl).2.2
  closed := by
    intro c hc hk j hj ht
    rcases L.conn_at hc hi hj hl ht with ⟨hd, _⟩ | ⟨_, h⟩ | ⟨hd, _⟩ | h
    · omega
    · exact Or.inl h
    · omega
    · exact Or.inr h

/-- every column of the lattice is a row along direction 3 (top to bottom) -/
theorem rowZ (L : Lattice T mv nx ny nz blk cx cy cz) (i j : Nat) (hi : i ≤ nx) (hj : j ≤ ny) :
    Row T 3 (some mv) nz (fun l => blk i j l) (fun l => cz i j l) where
  inj := fun l l' hl hl' h => (L.inj i j l i j l' hi hj hl hi hj hl' h).2.2
  reg := fun l hl => L.reg i j l hi hj hl
  adm := fun l hl => L.adm i j l hi hj hl
  mem := fun l hl => (L.memz i j l hi hj hl).1
  dir := fun l hl => (L.memz i j l hi hj hl).2.1
  jn := fun l hl => (L.memz i j l hi hj hl).2.2
  closed := by
    intro c hc hk l hl ht
    rcases L.conn_at hc hi hj hl ht with ⟨hd, _⟩ | ⟨hd, _⟩ | ⟨_, h⟩ | h
    · omega
    · omega
    · exact Or.inl h
    · exact Or.inr h

/-- the three axis walks of `block_spacings` on a lattice are lines (any sizes, also single-block
    directions) -/
theorem axisLines (L : Lattice T mv nx ny nz blk cx cy cz) (it jt : Nat) (hit : it ≤ nx) (hjt : jt ≤ ny)
    (htop : topmostBlock T (some mv) = .ok (blk it jt 0))
    (c0 c1 : P3) (hc0 : (blk it jt 0).centre = some c0) (hc1 : (blk it jt nz).centre = some c1) (hdown : c1.z ≤ c0.z) :
    AxisLines T (blk 0 0 nz) mv (rowSteps (fun i => blk i 0 nz) (fun i => cx i 0 nz) 0 nx)
      (rowSteps (fun j => blk 0 j nz) (fun j => cy 0 j nz) 0 ny)
      (rowSteps (fun l => blk it jt l) (fun l => cz it jt l) 0 nz) (blk it jt 0) := by
  have RX := L.rowX 0 nz (by omega) (by omega)
  have RY := L.rowY 0 nz (by omega) (by omega)
  have RZ := L.rowZ it jt hit hjt
  refine ⟨L.adm 0 0 nz (by omega) (by omega) (by omega), L.adm it jt 0 hit hjt (by omega),
    RX.isLine_row, RY.isLine_row, htop, RZ.isLine_row, ?_, ?_, ?_, ?_⟩
  · rw [rowSteps_length]; have := RX.length_le; omega
  · rw [rowSteps_length]; have := RY.length_le; omega
  · rw [rowSteps_length]; have := RZ.length_le; omega
  · have hl := lineBlocks_getLast (fun l => blk it jt l) (fun l => cz it jt l) nz 0
    simp only [Nat.zero_add] at hl
    unfold firstBelowLast
    rw [hl]
    simp only [lineBlocks, List.head?_cons, hc0, hc1]
    have : ¬ (c0.z < c1.z) := not_lt.2 hdown
    simp [this]

end Lattice
end Proofs.RectGeo
