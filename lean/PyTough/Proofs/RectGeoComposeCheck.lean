/-
  Proofs for C18, composition: decidable checks `latticeOk`, `coverOk` that imply `Lattice` and
  `Layered.cover` (bounded quantifiers as `List.range` loops), and a concrete 2 x 2 x 2 lattice with an
  atmosphere block and its slice `i = 0` (the non-vacuity examples of the lattice theorems of `Props/C18.lean`).
-/
import PyTough.Proofs.RectGeoComposeTop
namespace Proofs.RectGeo
open Py Model.FromGeo Model.RectGeo

def allLe (n : Nat) (p : Nat → Bool) : Bool := (List.range (n + 1)).all p
def allLt (n : Nat) (p : Nat → Bool) : Bool := (List.range n).all p
def anyLe (n : Nat) (p : Nat → Bool) : Bool := (List.range (n + 1)).any p
def anyLt (n : Nat) (p : Nat → Bool) : Bool := (List.range n).any p

theorem allLe_iff (n : Nat) (p : Nat → Bool) : allLe n p = true ↔ ∀ i, i ≤ n → p i = true := by
  simp only [allLe, List.all_eq_true, List.mem_range, Nat.lt_add_one_iff]
theorem allLt_iff (n : Nat) (p : Nat → Bool) : allLt n p = true ↔ ∀ i, i < n → p i = true := by
  simp only [allLt, List.all_eq_true, List.mem_range]
theorem anyLe_iff (n : Nat) (p : Nat → Bool) : anyLe n p = true ↔ ∃ i, i ≤ n ∧ p i = true := by
  simp only [anyLe, List.any_eq_true, List.mem_range, Nat.lt_add_one_iff]
theorem anyLt_iff (n : Nat) (p : Nat → Bool) : anyLt n p = true ↔ ∃ i, i < n ∧ p i = true := by
  simp only [anyLt, List.any_eq_true, List.mem_range]

/-- the decidable form of `Lattice` -/
def latticeOk (T : TGrid) (mv : Rat) (nx ny nz : Nat) (blk : Nat → Nat → Nat → GBlock)
    (cx cy cz : Nat → Nat → Nat → GConn) : Bool :=
  (allLe nx fun i => allLe ny fun j => allLe nz fun l => allLe nx fun i' => allLe ny fun j' => allLe nz fun l' =>
    !decide ((blk i j l).name = (blk i' j' l').name) || decide (i = i' ∧ j = j' ∧ l = l')) &&
  (allLe nx fun i => allLe ny fun j => allLe nz fun l =>
    decide (findB T (blk i j l).name = .ok (blk i j l)) && volOk (some mv) (blk i j l)) &&
  (allLt nx fun i => allLe ny fun j => allLe nz fun l =>
    decide (cx i j l ∈ T.conns ∧ (cx i j l).dirn = 1) && joins (cx i j l) (blk i j l).name (blk (i + 1) j l).name) &&
  (allLe nx fun i => allLt ny fun j => allLe nz fun l =>
    decide (cy i j l ∈ T.conns ∧ (cy i j l).dirn = 2) && joins (cy i j l) (blk i j l).name (blk i (j + 1) l).name) &&
  (allLe nx fun i => allLe ny fun j => allLt nz fun l =>
    decide (cz i j l ∈ T.conns ∧ (cz i j l).dirn = 3) && joins (cz i j l) (blk i j l).name (blk i j (l + 1)).name) &&
  (T.conns.all fun c => allLe nx fun i => allLe ny fun j => allLe nz fun l =>
    !touches c (blk i j l).name ||
    (anyLt nx fun i' => anyLe ny fun j' => anyLe nz fun l' => decide (c = cx i' j' l')) ||
    (anyLe nx fun i' => anyLt ny fun j' => anyLe nz fun l' => decide (c = cy i' j' l')) ||
    (anyLe nx fun i' => anyLe ny fun j' => anyLt nz fun l' => decide (c = cz i' j' l')) ||
    inadmissible T (some mv) (blk i j l).name c)

theorem latticeOk_sound {T : TGrid} {mv : Rat} {nx ny nz : Nat} {blk : Nat → Nat → Nat → GBlock}
    {cx cy cz : Nat → Nat → Nat → GConn} (h : latticeOk T mv nx ny nz blk cx cy cz = true) :
    Lattice T mv nx ny nz blk cx cy cz := by
  simp only [latticeOk, Bool.and_eq_true, allLe_iff, allLt_iff, anyLe_iff, anyLt_iff, Bool.or_eq_true,
    Bool.not_eq_true', decide_eq_true_eq, decide_eq_false_iff_not, List.all_eq_true, and_assoc] at h
  obtain ⟨h1, h2, h3, h4, h5, h6⟩ := h
  refine ⟨?_, ?_, ?_, ?_, ?_, ?_, ?_⟩
  · intro i j l i' j' l' a b c a' b' c' e
    rcases h1 i a j b l c i' a' j' b' l' c' with h | h
    · exact absurd e h
    · exact h
  · intro i j l a b c; exact (h2 i a j b l c).1
  · intro i j l a b c; exact (h2 i a j b l c).2
  · intro i j l a b c; exact h3 i a j b l c
  · intro i j l a b c; exact h4 i a j b l c
  · intro i j l a b c; exact h5 i a j b l c
  · intro c hc i j l a b d ht
    rcases h6 c hc i a j b l d with (((h | h) | h) | h) | h
    · rw [ht] at h; cases h
    · obtain ⟨i', a1, j', a2, l', a3, e⟩ := h; exact Or.inl ⟨i', j', l', a1, a2, a3, e⟩
    · obtain ⟨i', a1, j', a2, l', a3, e⟩ := h; exact Or.inr (Or.inl ⟨i', j', l', a1, a2, a3, e⟩)
    · obtain ⟨i', a1, j', a2, l', a3, e⟩ := h; exact Or.inr (Or.inr (Or.inl ⟨i', j', l', a1, a2, a3, e⟩))
    · exact Or.inr (Or.inr (Or.inr h))

/-- the decidable form of `Layered.cover` -/
def coverOk (T : TGrid) (mv : Rat) (nx ny nz : Nat) (blk : Nat → Nat → Nat → GBlock) : Bool :=
  T.blocks.all fun b => !volOk (some mv) b || anyLe nx fun i => anyLe ny fun j => anyLe nz fun l => decide (b = blk i j l)

theorem coverOk_sound {T : TGrid} {mv : Rat} {nx ny nz : Nat} {blk : Nat → Nat → Nat → GBlock}
    (h : coverOk T mv nx ny nz blk = true) :
    ∀ b ∈ T.blocks, volOk (some mv) b = true → ∃ i j l, i ≤ nx ∧ j ≤ ny ∧ l ≤ nz ∧ b = blk i j l := by
  simp only [coverOk, List.all_eq_true, Bool.or_eq_true, Bool.not_eq_true', anyLe_iff, decide_eq_true_eq] at h
  intro b hb hv
  rcases h b hb with h | ⟨i, hi, j, hj, l, hl, e⟩
  · rw [hv] at h; cases h
  · exact ⟨i, j, l, hi, hj, hl, e⟩

namespace Ex2

def dg (i : Nat) : Char := if i = 0 then '0' else if i = 1 then '1' else '2'
def wx (i : Nat) : Rat := if i = 0 then 2 else 4
def wy (j : Nat) : Rat := if j = 0 then 3 else 5
def wz (l : Nat) : Rat := if l = 0 then 1 else 2
def px (i : Nat) : Rat := if i = 0 then 1 else 4
def py (j : Nat) : Rat := if j = 0 then 3 / 2 else 11 / 2
def pz (l : Nat) : Rat := if l = 0 then -1 / 2 else -2
def blk (i j l : Nat) : GBlock := ⟨['b', dg i, dg j, dg l, ' '], wx i * wy j * wz l, some ⟨px i, py j, pz l⟩⟩
/-- a boundary block: its volume is above the `10 ^ 20` the examples pass as `max_volume` -/
def atm : GBlock := ⟨['A', 'T', 'M', ' ', '0'], 10 ^ 25, none⟩
def cx (i j l : Nat) : GConn := ⟨(blk i j l).name, (blk (i + 1) j l).name, 1, wx i / 2, wx (i + 1) / 2⟩
def cy (i j l : Nat) : GConn := ⟨(blk i j l).name, (blk i (j + 1) l).name, 2, wy j / 2, wy (j + 1) / 2⟩
/-- stored as `fromgeo` stores vertical connections: lower block first -/
def cz (i j l : Nat) : GConn := ⟨(blk i j (l + 1)).name, (blk i j l).name, 3, wz (l + 1) / 2, wz l / 2⟩
def ca (i j : Nat) : GConn := ⟨(blk i j 0).name, atm.name, 3, wz 0 / 2, 1 / 1000000⟩
/-- a 2 x 2 x 2 lattice under one atmosphere block -/
def grid : TGrid :=
  ⟨atm :: [blk 0 0 0, blk 1 0 0, blk 0 1 0, blk 1 1 0, blk 0 0 1, blk 1 0 1, blk 0 1 1, blk 1 1 1],
   [ca 0 0, ca 1 0, ca 0 1, ca 1 1, cx 0 0 0, cx 0 1 0, cy 0 0 0, cy 1 0 0,
    cz 0 0 0, cz 1 0 0, cz 0 1 0, cz 1 1 0, cx 0 0 1, cx 0 1 1, cy 0 0 1, cy 1 0 1]⟩

theorem lattice : Lattice grid (10 ^ 20) 1 1 1 blk cx cy cz :=
  latticeOk_sound (by decide +kernel)

theorem pz_dec (l l' : Nat) (h1 : l < l') (h2 : l' ≤ 1) : pz l' < pz l := by
  obtain ⟨rfl, rfl⟩ : l = 0 ∧ l' = 1 := by omega
  decide +kernel

theorem layered : Layered grid (10 ^ 20) 1 1 1 blk pz where
  cover := coverOk_sound (by decide +kernel)
  cen := fun i j l _ _ _ => ⟨_, rfl, rfl⟩
  dec := pz_dec

/-- the slice `i = 0` of the lattice as a grid of its own: 1 x 2 x 2 (two-dimensional) -/
def grid2 : TGrid :=
  ⟨[atm, blk 0 0 0, blk 0 1 0, blk 0 0 1, blk 0 1 1],
   [ca 0 0, ca 0 1, cy 0 0 0, cz 0 0 0, cz 0 1 0, cy 0 0 1]⟩

theorem lattice2 : Lattice grid2 (10 ^ 20) 0 1 1 blk cx cy cz :=
  latticeOk_sound (by decide +kernel)

theorem layered2 : Layered grid2 (10 ^ 20) 0 1 1 blk pz where
  cover := coverOk_sound (by decide +kernel)
  cen := fun i j l _ _ _ => ⟨_, rfl, rfl⟩
  dec := pz_dec

/-- block map entry for the bottom block of column (0,0), keyed by the name the C04 example
    geometry gives the bottom block of its column `a` -/
def mp : BlockMap := [([' ', ' ', 'a', ' ', '2'], (blk 0 0 1).name)]

end Ex2
end Proofs.RectGeo
