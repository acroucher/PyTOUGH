/-
  `setup_block_name_index` and `rectangular` (C17): duplicate-free name lists, block names that
  determine their layer and column, and the naming error as the only failure.
-/
import PyTough.Proofs.NamesLayers
import Mathlib.Data.List.Nodup
namespace Proofs.Names
open Py Model.Names

theorem withIndex_snd {α} (l : List α) : (withIndex l).map Prod.snd = l := by
  unfold withIndex
  exact List.map_snd_zip (by simp)

/-- the (layer, column) pairs of the underground blocks, in the order of `block_name_list` -/
def underPairs (below cols : List Str) (present : Nat → Nat → Bool) : List (Str × Str) :=
  (withIndex below).flatMap fun (li, lay) =>
    ((withIndex cols).filter fun (ci, _) => present (li + 1) ci).map fun (_, col) => (lay, col)

theorem mem_underPairs {below cols : List Str} {present : Nat → Nat → Bool} {p : Str × Str}
    (h : p ∈ underPairs below cols present) : p.1 ∈ below ∧ p.2 ∈ cols := by
  unfold underPairs at h
  simp only [List.mem_flatMap, List.mem_map, List.mem_filter, Prod.exists] at h
  obtain ⟨li, lay, hl, ci, col, ⟨hc, _⟩, rfl⟩ := h
  constructor
  · have : (li, lay).2 ∈ (withIndex below).map Prod.snd := List.mem_map_of_mem hl
    rwa [withIndex_snd] at this
  · have : (ci, col).2 ∈ (withIndex cols).map Prod.snd := List.mem_map_of_mem hc
    rwa [withIndex_snd] at this

theorem nodup_underPairs {below cols : List Str} (present : Nat → Nat → Bool)
    (hb : below.Nodup) (hc : cols.Nodup) : (underPairs below cols present).Nodup := by
  unfold underPairs
  rw [List.nodup_flatMap]
  constructor
  · rintro ⟨li, lay⟩ _
    -- the column names of one layer's pairs are among `cols`
    apply List.Nodup.of_map Prod.snd
    rw [List.map_map]
    have hs := (List.filter_sublist (l := withIndex cols) (p := fun x => present (li + 1) x.1)).map Prod.snd
    rw [withIndex_snd] at hs
    exact hc.sublist hs
  · have hp : (withIndex below).Pairwise (fun a b => a.2 ≠ b.2) := by
      have : ((withIndex below).map Prod.snd).Pairwise (· ≠ ·) := by rw [withIndex_snd]; exact hb
      exact List.pairwise_map.mp this
    refine hp.imp ?_
    rintro ⟨li, lay⟩ ⟨li', lay'⟩ hne
    simp only [Function.onFun]
    intro p hp1 hp2
    simp only [List.mem_map, List.mem_filter, Prod.exists] at hp1 hp2
    obtain ⟨_, _, _, rfl⟩ := hp1
    obtain ⟨_, _, _, e⟩ := hp2
    exact hne (by simpa using (congrArg Prod.fst e).symm)

/-- the (layer, column) pairs of the atmosphere blocks -/
def atmPairs (conv atmos : Nat) (top : Str) (cols : List Str) : List (Str × Str) :=
  if atmos = 0 then [(top, atmosphereColumnName conv)]
  else if atmos = 1 then cols.map fun c => (top, c)
  else []

theorem mem_atmPairs {conv atmos : Nat} {top : Str} {cols : List Str} {p : Str × Str}
    (h : p ∈ atmPairs conv atmos top cols) : p.1 = top ∧ (p.2 ∈ cols ∨ p.2 = atmosphereColumnName conv) := by
  unfold atmPairs at h
  split at h
  · simp only [List.mem_singleton] at h; subst h; exact ⟨rfl, Or.inr rfl⟩
  · split at h
    · obtain ⟨c, hc, rfl⟩ := List.mem_map.mp h; exact ⟨rfl, Or.inl hc⟩
    · simp at h

theorem nodup_atmPairs (conv atmos : Nat) (top : Str) {cols : List Str} (hc : cols.Nodup) :
    (atmPairs conv atmos top cols).Nodup := by
  unfold atmPairs
  split
  · simp
  · split
    · exact List.Nodup.map (fun a b e => by simpa using e) hc
    · simp

/-- `block_name_list` names the atmosphere pairs, then the underground pairs -/
theorem blockNameList_cons (conv atmos : Nat) (top : Str) (below cols : List Str) (present : Nat → Nat → Bool) :
    blockNameList conv atmos (top :: below) cols present =
      match mapM' (fun p : Str × Str => blockName conv p.1 p.2) (atmPairs conv atmos top cols) with
      | .error e => .error e
      | .ok atm =>
        match mapM' (fun p : Str × Str => blockName conv p.1 p.2) (underPairs below cols present) with
        | .error e => .error e
        | .ok under => .ok (atm ++ under) := by
  dsimp only [blockNameList, atmPairs]
  by_cases h0 : atmos = 0
  · rw [if_pos h0, if_pos h0]; rfl
  · by_cases h1 : atmos = 1
    · rw [if_neg h0, if_neg h0, if_pos h1, if_pos h1, mapM'_map]; rfl
    · rw [if_neg h0, if_neg h0, if_neg h1, if_neg h1]; rfl

theorem blockNameList_spec {conv : Nat} (hconv : conv < 4) (atmos : Nat) {top : Str} {below cols : List Str}
    (present : Nat → Nat → Bool)
    (hl : ∀ l ∈ top :: below, LaySafe conv l) (hc : ∀ c ∈ cols, ColSafe conv c)
    (hln : (top :: below).Nodup) (hcn : cols.Nodup) :
    blockNameList conv atmos (top :: below) cols present =
      .ok ((atmPairs conv atmos top cols ++ underPairs below cols present).map fun p => rawBlockName conv p.1 p.2) ∧
    ((atmPairs conv atmos top cols ++ underPairs below cols present).map fun p => rawBlockName conv p.1 p.2).Nodup ∧
    ∀ p ∈ atmPairs conv atmos top cols ++ underPairs below cols present,
      p.1 ∈ top :: below ∧ (p.2 ∈ cols ∨ p.2 = atmosphereColumnName conv) ∧
        (rawBlockName conv p.1 p.2).length = 5 ∧
        columnName conv (rawBlockName conv p.1 p.2) = some p.2 ∧ layerName conv (rawBlockName conv p.1 p.2) = some p.1 := by
  have htop : LaySafe conv top := hl top List.mem_cons_self
  have hsafe : ∀ p ∈ atmPairs conv atmos top cols ++ underPairs below cols present,
      p.1 ∈ top :: below ∧ (p.2 ∈ cols ∨ p.2 = atmosphereColumnName conv) ∧ LaySafe conv p.1 ∧ ColSafe conv p.2 := by
    intro p hp
    rcases List.mem_append.mp hp with hp | hp
    · obtain ⟨h1, h2⟩ := mem_atmPairs hp
      refine ⟨by rw [h1]; exact List.mem_cons_self, h2, by rw [h1]; exact htop, ?_⟩
      rcases h2 with h2 | h2
      · exact hc _ h2
      · rw [h2]; exact (conv_shapes hconv).atm
    · obtain ⟨h1, h2⟩ := mem_underPairs hp
      exact ⟨List.mem_cons_of_mem _ h1, Or.inl h2, hl _ (List.mem_cons_of_mem _ h1), hc _ h2⟩
  have hblk : ∀ p ∈ atmPairs conv atmos top cols ++ underPairs below cols present,
      blockName conv p.1 p.2 = .ok (rawBlockName conv p.1 p.2) := fun p hp =>
    (blockName_inv hconv (hsafe p hp).2.2.1 (hsafe p hp).2.2.2).1
  refine ⟨?_, ?_, fun p hp => ⟨(hsafe p hp).1, (hsafe p hp).2.1,
    (blockName_inv hconv (hsafe p hp).2.2.1 (hsafe p hp).2.2.2).2⟩⟩
  · rw [blockNameList_cons, mapM'_eq_mapM, mapM'_eq_mapM,
      Proofs.mapM_pure_map _ _ _ fun p hp => hblk p (List.mem_append_left _ hp),
      Proofs.mapM_pure_map _ _ _ fun p hp => hblk p (List.mem_append_right _ hp), List.map_append]
    rfl
  · apply List.Nodup.map_on
    · intro p hp q hq e
      obtain ⟨_, _, a1, a2⟩ := hsafe p hp
      obtain ⟨_, _, b1, b2⟩ := hsafe q hq
      have := rawBlockName_inj hconv a1 a2 b1 b2 e
      exact Prod.ext this.1 this.2
    · have hnt : top ∉ below := (List.nodup_cons.mp hln).1
      rw [List.nodup_append]
      refine ⟨nodup_atmPairs conv atmos top hcn, nodup_underPairs present (List.nodup_cons.mp hln).2 hcn, ?_⟩
      · intro p hp q hq e
        have := (mem_atmPairs hp).1
        have h2 := (mem_underPairs hq).1
        rw [← e, this] at h2
        exact hnt h2

theorem upperChar_clean {c : Char} (h : c ≠ ' ' ∧ isDigit c = false) :
    upperChar c ≠ ' ' ∧ isDigit (upperChar c) = false := by
  unfold upperChar
  split <;> first | exact h | decide

theorem lowerChar_clean {c : Char} (h : c ≠ ' ' ∧ isDigit c = false) :
    lowerChar c ≠ ' ' ∧ isDigit (lowerChar c) = false :=
  lowerChar_elim c (P := fun a b => (a ≠ ' ' ∧ isDigit a = false) → (b ≠ ' ' ∧ isDigit b = false))
    (fun _ => id) (by decide +kernel) h

theorem applyCase_clean (case : Option Bool) {chars : Str} (h : ∀ c ∈ chars, c ≠ ' ' ∧ isDigit c = false) :
    ∀ c ∈ applyCase case chars, c ≠ ' ' ∧ isDigit c = false := by
  intro c hc
  unfold applyCase at hc
  match case, hc with
  | none, hc => exact h c hc
  | some true, hc =>
    obtain ⟨d, hd, rfl⟩ := List.mem_map.mp hc
    exact lowerChar_clean (h d hd)
  | some false, hc =>
    obtain ⟨d, hd, rfl⟩ := List.mem_map.mp hc
    exact upperChar_clean (h d hd)

theorem rectangular_eq (nx ny nz conv atmos : Nat) (left : Bool) (case : Option Bool) (chars : Str) (spaces : Bool)
    (present : Nat → Nat → Bool) :
    rectangular nx ny nz conv atmos left case chars spaces present =
      match mapM' (fun k => nodeNameFromNumber conv (k + 1) left (uniqstring (applyCase case chars)) spaces)
          (List.range ((nx + 1) * (ny + 1))) with
      | .error e => .error e
      | .ok nodes =>
        match mapM' (fun k => columnNameFromNumber conv (k + 1) left (uniqstring (applyCase case chars)) spaces)
            (List.range (nx * ny)) with
        | .error e => .error e
        | .ok cols =>
          match addLayers conv nz left (uniqstring (applyCase case chars)) spaces with
          | .error e => .error e
          | .ok layers =>
            match blockNameList conv atmos layers cols present with
            | .error e => .error e
            | .ok blocks => .ok { nodes, cols, layers, blocks } := rfl

/-- what a `rectangular` geometry looks like when it is returned -/
structure RectOK (conv nx ny nz : Nat) (colCap layCap : Nat) (r : RectNames) : Prop where
  nNodes : r.nodes.length = (nx + 1) * (ny + 1)
  nCols : r.cols.length = nx * ny
  nLayers : r.layers.length = nz + 1
  nodesNodup : r.nodes.Nodup
  colsNodup : r.cols.Nodup
  layersNodup : r.layers.Nodup
  blocksNodup : r.blocks.Nodup
  nodeLen : ∀ x ∈ r.nodes, x.length = colnameLength conv
  colLen : ∀ x ∈ r.cols, x.length = colnameLength conv
  layerLen : ∀ x ∈ r.layers, x.length = layernameLength conv
  blocks : ∃ pairs : List (Str × Str), r.blocks = pairs.map (fun p => rawBlockName conv p.1 p.2) ∧
    ∀ p ∈ pairs, p.1 ∈ r.layers ∧ (p.2 ∈ r.cols ∨ p.2 = atmosphereColumnName conv) ∧
      (rawBlockName conv p.1 p.2).length = 5 ∧
      columnName conv (rawBlockName conv p.1 p.2) = some p.2 ∧ layerName conv (rawBlockName conv p.1 p.2) = some p.1
  withinCols : (nx + 1) * (ny + 1) ≤ colCap
  withinLayers : nz ≤ layCap

theorem rectangular_spec {conv : Nat} (hconv : conv < 4) (nx ny nz atmos : Nat) (left : Bool) (case : Option Bool)
    {chars A : Str} {spaces : Bool} (present : Nat → Nat → Bool)
    (hA : uniqstring (applyCase case chars) = A) (h : AlphabetOK A spaces) :
    (∀ r, rectangular nx ny nz conv atmos left case chars spaces present = .ok r →
        RectOK conv nx ny nz (columnCapacity conv A.length spaces) (layerCapacity conv A.length spaces) r) ∧
    (∀ e, rectangular nx ny nz conv atmos left case chars spaces present = .error e → e = .naming) ∧
    ((nx + 1) * (ny + 1) ≤ columnCapacity conv A.length spaces → nz + 1 ≤ layerCapacity conv A.length spaces →
      ∃ r, rectangular nx ny nz conv atmos left case chars spaces present = .ok r) := by
  have hAA : uniqstring A = A := uniqstring_of_nodup h.nodup
  have hgc := genSpec_column hconv h left
  have hlay := addLayers_spec hconv nz left (chars := A) (by rw [hAA]; exact h)
  rw [hAA] at hlay
  obtain ⟨hlay1, hlay2, hlay3⟩ := hlay
  have hle : nx * ny ≤ (nx + 1) * (ny + 1) := Nat.mul_le_mul (Nat.le_succ nx) (Nat.le_succ ny)
  rw [rectangular_eq, hA]
  simp only [nodeNameFromNumber_eq, hgc.range]
  by_cases hN : (nx + 1) * (ny + 1) ≤ columnCapacity conv A.length spaces
  · -- the columns are numbered within the node numbers, so they all have names
    obtain ⟨n1, n2, n4⟩ := hgc.range_names hN
    obtain ⟨c1, c2, c4⟩ := hgc.range_names (Nat.le_trans hle hN)
    simp only [if_pos hN, if_pos (Nat.le_trans hle hN)]
    rcases hlay1 with ⟨names, hl, l1, l2, l3⟩ | hl
    · obtain ⟨b1, b2, b3⟩ := blockNameList_spec hconv atmos present
        (fun l hl' => by
          rcases List.mem_cons.mp hl' with rfl | hl'
          · exact (conv_shapes hconv).surf
          · exact (l3 l hl').2)
        (fun c hc' => (c4 c hc').2) l2 c2
      simp only [hl, b1]
      refine ⟨fun r hr => ?_, fun e he => (by cases he), fun _ _ => ⟨_, rfl⟩⟩
      cases hr
      have hnz : nz ≤ layerCapacity conv A.length spaces := by
        refine Classical.byContradiction fun hno => ?_
        have := hlay3 (by omega)
        rw [hl] at this; cases this
      exact {
        nNodes := n1, nCols := c1, nLayers := by simp [l1],
        nodesNodup := n2, colsNodup := c2, layersNodup := l2, blocksNodup := b2,
        nodeLen := fun x hx => (n4 x hx).2.1, colLen := fun x hx => (c4 x hx).2.1,
        layerLen := fun x hx => by
          rcases List.mem_cons.mp hx with rfl | hx
          · exact (conv_shapes hconv).surf.1
          · exact (l3 x hx).2.1,
        blocks := ⟨_, rfl, b3⟩, withinCols := hN, withinLayers := hnz }
    · simp only [hl]
      refine ⟨fun r hr => (by cases hr), fun e he => (by cases he; rfl), fun _ hlc => ?_⟩
      obtain ⟨layers, hl'⟩ := hlay2 hlc
      rw [hl] at hl'; cases hl'
  · simp only [if_neg hN]
    exact ⟨fun r hr => (by cases hr), fun e he => (by cases he; rfl), fun hc _ => absurd hc hN⟩

end Proofs.Names
