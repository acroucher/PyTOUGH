/-
  C03 proofs: the format table, and the items of a record.  An item is a field specification with the
  value put in, the text written and the value read back; a record line and its parse are computed from
  the items of its fields (`lineOf_items`, `parse_items`).
  (core Lean only; builds on the record-layer lemmas of C02: Proofs/FixedRecord.lean)
-/
import PyTough.Model.GeoFile
import PyTough.Proofs.FixedRecord
namespace Proofs.GeoFile
open Py Model Model.GeoFile Proofs

/-- **Tie to /repo**: the table regenerated from `mulgrid_format_specification` of the /repo tree
    (header names included) is the one all theorems below are proved for.  Re-evaluated on every build. -/
theorem specs_eq : specs = .ok SP := by decide +kernel

/-! ### one field: text written, its width, value read back -/

/-- field `f` holding `v` is written as `t` (exactly the field's width, no newline) and `t` reads back as `pv` -/
structure FieldRT (f : FieldSpec) (v : Val) (t : Str) (pv : PVal) : Prop where
  w : writeField f v = .ok t
  len : t.length = f.width
  r : readField .default f.typ t = .ok pv
  nonl : '\n' ∉ t

/-- an item: a field specification, the value put in, the text written, the value read back -/
structure Item where
  spec : FieldSpec
  val : Val
  text : Str
  read : PVal

abbrev ItemOK (it : Item) : Prop := FieldRT it.spec it.val it.text it.read

theorem length_of_fits {f : FieldSpec} {v : Val} {t : Str} (h : fitsB f v = true) (hf : fmtVal f v = .ok t) :
    t.length ≤ f.width := by
  unfold fitsB at h
  rw [hf] at h
  simpa using h

/-- the text of `'%w.pf' % x` -/
def textF (w p : Nat) (x : Flt) : Str := pad false w (signChars x.isNeg ++ fmtFBody p x.absNum x.den)
def textE (w p : Nat) (x : Flt) : Str := pad false w (signChars x.isNeg ++ fmtEBody p x.absNum x.den)

theorem _root_.Model.GeoFile.Flt.den_pos (x : Flt) : 0 < x.den := by
  cases x with
  | q r => exact r.den_pos
  | negZero => decide

theorem fmtVal_f_flt {f : FieldSpec} (h : f.typ = 'f') (x : Flt) :
    fmtVal f x.toVal = .ok (pad f.left f.width (signChars x.isNeg ++ fmtFBody (f.prec.getD 6) x.absNum x.den)) := by
  cases x with
  | q r => exact fmtVal_f_real h r
  | negZero =>
    unfold fmtVal signChars
    simp [h, Flt.toVal, Flt.isNeg, Flt.absNum, Flt.den]

theorem fmtVal_e_flt {f : FieldSpec} (h : f.typ = 'e') (x : Flt) :
    fmtVal f x.toVal = .ok (pad f.left f.width (signChars x.isNeg ++ fmtEBody (f.prec.getD 6) x.absNum x.den)) := by
  cases x with
  | q r => exact fmtVal_e_real h r
  | negZero =>
    unfold fmtVal signChars
    simp [h, Flt.toVal, Flt.isNeg, Flt.absNum, Flt.den]

theorem toVal_ne_none (x : Flt) : x.toVal ≠ .none := by cases x <;> simp [Flt.toVal]

theorem blanks_no_newline (k : Nat) : '\n' ∉ List.replicate k ' ' :=
  fun h => absurd (List.mem_replicate.mp h).2 (by decide)

theorem pad_no_newline {left : Bool} {w : Nat} {s : Str} (h : '\n' ∉ s) : '\n' ∉ pad left w s :=
  fun hc => (mem_pad hc).elim (by decide) h

theorem digit_ne_newline {c : Char} (h : isDigit c = true) : c ≠ '\n' :=
  isDigit_elim h (P := fun d => d ≠ '\n') (by decide)

theorem signChars_no_newline (neg : Bool) : '\n' ∉ signChars neg := by
  cases neg <;> simp [signChars]

theorem render_no_newline {r : FReal} (hr : r.WF) : '\n' ∉ r.render :=
  fun h => absurd (render_facts r hr _ h).1 (by decide)

theorem fieldRT_of_fits {f : FieldSpec} {v : Val} {body : Str} {pv : PVal} (hv : v ≠ .none) (hx : f.typ ≠ 'x')
    (hf : fmtVal f v = .ok (pad false f.width body)) (h : fitsB f v = true)
    (hr : readField .default f.typ (pad false f.width body) = .ok pv) (hn : '\n' ∉ body) :
    FieldRT f v (pad false f.width body) pv :=
  have hl := length_of_fits h hf
  ⟨writeField_of_fits hv hx hf hl, pad_of_length_le hl, hr, pad_no_newline hn⟩

/-- a float in a `10.pf` field; what is read back is `roundF p x` (`fltOf_coordItem`, `set_perm`) -/
def fItem (p : Nat) (x : Flt) : Item :=
  ⟨fF p, x.toVal, textF 10 p x, .flt (.fin x.isNeg (roundHalfEven (x.absNum * 10 ^ p) x.den) (-(p : Int)))⟩

theorem fItem_ok {p : Nat} {x : Flt} (h : fitsB (fF p) x.toVal = true) : ItemOK (fItem p x) :=
  fieldRT_of_fits (f := fF p) (toVal_ne_none x) (by simp [fF]) (fmtVal_f_flt rfl x) h
    (read_fText .default false 10 x.isNeg p x.absNum x.den) (fReal_render .. ▸ render_no_newline (fReal_WF ..))

/-- a float in a `10.2e` field; what is read back is `roundE 2 x` (`set_vol`) -/
def eItem (x : Flt) : Item :=
  ⟨fE, x.toVal, textE 10 2 x, .flt (.fin x.isNeg (fmtEParts 2 x.absNum x.den).1 ((fmtEParts 2 x.absNum x.den).2 - 2))⟩

theorem eItem_ok {x : Flt} (h : fitsB fE x.toVal = true) : ItemOK (eItem x) :=
  fieldRT_of_fits (f := fE) (toVal_ne_none x) (by decide) (fmtVal_e_flt rfl x) h
    (read_eText .default false 10 x.isNeg 2 x.absNum x.den x.den_pos)
    (eReal_render _ _ _ _ x.den_pos ▸ render_no_newline (eReal_WF _ _ _ _ x.den_pos))

/-- an absent value in a numeric field: blanks, read back as nothing -/
def noneItem (f : FieldSpec) : Item := ⟨f, .none, List.replicate f.width ' ', .none⟩

theorem noneItem_ok (f : FieldSpec) (ht : f.typ = 'd' ∨ f.typ = 'e' ∨ f.typ = 'f') : ItemOK (noneItem f) := by
  show FieldRT f .none (List.replicate f.width ' ') .none
  have h := roundtrip_absent .default (f := f) (v := .none) (Or.inl rfl)
  exact ⟨h.1, List.length_replicate .., h.2 (by rcases ht with h | h | h <;> simp [h]), blanks_no_newline _⟩

/-- an integer in a `%wd` field -/
def intItem (w : Nat) (i : Int) : Item :=
  ⟨fD w, .int i, pad false w (signChars (decide (i < 0)) ++ natDigits i.natAbs), .int i⟩

theorem intItem_ok {w : Nat} {i : Int} (h : fitsB (fD w) (.int i) = true) : ItemOK (intItem w i) := by
  have hf := fmtVal_d_int (f := fD w) rfl i
  refine fieldRT_of_fits (f := fD w) (v := .int i) (by simp) (by simp [fD]) hf h
    (roundtrip_d_int .default (f := fD w) rfl i (writeField_of_fits (by simp) (by simp [fD]) hf (length_of_fits h hf))) ?_
  simp only [List.mem_append, not_or]
  exact ⟨signChars_no_newline _, fun hc => digit_ne_newline (natDigits_isDigit _ _ hc) rfl⟩

theorem fits_nat {w n : Nat} (hw : 0 < w) (h : n < 10 ^ w) : fitsB (fD w) (.int (n : Int)) = true := by
  unfold fitsB
  rw [fmtVal_d_int (f := fD w) rfl]
  simp only [decide_eq_true_eq, pad_length]
  have : (signChars (decide ((n : Int) < 0)) ++ natDigits (n : Int).natAbs).length ≤ w := by
    have hneg : decide ((n : Int) < 0) = false := by simp
    rw [hneg]
    simp only [signChars, Bool.false_eq_true, if_false, List.nil_append, Int.natAbs_natCast]
    exact (natDigits_length_le_iff hw).mpr h
  simp only [fD]
  omega

/-- a name of exactly the field's width -/
def strItem (w : Nat) (nm : Str) : Item := ⟨fS w, .str nm, nm, .str nm⟩

theorem strItem_ok (w : Nat) (nm : Str) (hl : nm.length = w) (hn : '\n' ∉ nm) : ItemOK (strItem w nm) :=
  have h := roundtrip_s_full .default (f := fS w) rfl rfl hl hn
  ⟨h.1, hl, h.2, hn⟩

/-- a string no longer than its `%ws` field: written right-justified, and read back as written -/
def rjustItem (w : Nat) (nm : Str) : Item := ⟨fS w, .str nm, rjust nm w, .str (rjust nm w)⟩

theorem rjustItem_ok (w : Nat) (nm : Str) (hl : nm.length ≤ w) (hn : '\n' ∉ nm) : ItemOK (rjustItem w nm) :=
  have hlen : (rjust nm w).length = w := (pad_length false w nm).trans (Nat.max_eq_left hl)
  have h := strItem_ok w (rjust nm w) hlen (pad_no_newline (left := false) hn)
  show FieldRT (fS w) (.str nm) (rjust nm w) _ from
    ⟨writeField_of_fits (by simp) (by simp [fS]) (fmtVal_s_str (f := fS w) rfl nm) (Nat.le_of_eq hlen), hlen, h.r, h.nonl⟩

/-! ### one record -/

def ItemsOK (items : List Item) : Prop := ∀ it ∈ items, ItemOK it

theorem itemsOK_cons {it : Item} {items : List Item} (h : ItemOK it) (hr : ItemsOK items) : ItemsOK (it :: items) :=
  List.forall_mem_cons.mpr ⟨h, hr⟩

theorem itemsOK_nil : ItemsOK [] := fun _ hx => nomatch hx

def recText (items : List Item) : Str := (items.map (·.text)).flatten

/-- the text of a record, whatever follows it on the line, is parsed with the record's field specifications
    into the values the items read back -/
theorem parse_items {fs : List FieldSpec} (items : List Item) (hfs : items.map (·.spec) = fs)
    (h : ItemsOK items) (tail : Str) : parseString .default fs (recText items ++ tail) = .ok (items.map (·.read)) := by
  subst hfs
  induction items with
  | nil => rfl
  | cons it r ih =>
    have hi := h it (by simp)
    have e : recText (it :: r) ++ tail = it.text ++ (recText r ++ tail) := by simp [recText]
    rw [e, List.map_cons, parseString_cons_append _ _ _ hi.len, hi.r, ih (fun x hx => h x (List.mem_cons_of_mem _ hx))]
    rfl

theorem recText_no_newline (items : List Item) (h : ItemsOK items) : '\n' ∉ recText items := by
  unfold recText
  intro hc
  obtain ⟨t, ht, hct⟩ := List.mem_flatten.mp hc
  obtain ⟨it, hit, rfl⟩ := List.mem_map.mp ht
  exact (h it hit).nonl hct

theorem lineOf_cons (f : FieldSpec) (fs : List FieldSpec) (v : Val) (vs : List Val) :
    lineOf (f :: fs) (v :: vs) = (do let t ← writeField f v; let r ← lineOf fs vs; pure (t ++ r)) := by
  unfold lineOf
  rw [writeValues_cons]
  simp only [bind_assoc, pure_bind, List.append_assoc]

/-- the record line written from the values of the items is their texts and a newline -/
theorem lineOf_items (items : List Item) {fs : List FieldSpec} {vals : List Val} (hfs : items.map (·.spec) = fs)
    (hv : items.map (·.val) = vals) (h : ItemsOK items) : lineOf fs vals = .ok (recText items ++ ['\n']) := by
  subst hfs hv
  induction items with
  | nil => rfl
  | cons it r ih =>
    rw [List.map_cons, List.map_cons, lineOf_cons, (h it (by simp)).w, ih (fun x hx => h x (List.mem_cons_of_mem _ hx))]
    simp only [bind, Except.bind, pure, Except.pure, recText, List.map_cons, List.flatten_cons, List.append_assoc]

theorem lineOf_cons_congr {f : FieldSpec} {fs : List FieldSpec} {v v' : Val} {vs vs' : List Val}
    (h : writeField f v = writeField f v') (hr : lineOf fs vs = lineOf fs vs') :
    lineOf (f :: fs) (v :: vs) = lineOf (f :: fs) (v' :: vs') := by
  rw [lineOf_cons, lineOf_cons, h, hr]

end Proofs.GeoFile
