/-
  Block names in the file (C13; the geometry file's names, C09, use it too).  `Canonical` singles out the in-memory names that
  `unfix_blockname` (on writing) followed by `fix_blockname` (on reading) gives back unchanged.
-/
import PyTough.Model.Incon
import PyTough.Proofs.NamesFix
import PyTough.Proofs.Literals
namespace Proofs.Incon
open Py Model Model.Names Proofs.Names

/-- an in-memory block name that the file format can carry: not of the form "digit, blank, digit"
    in the last three places (that is the *file* form of `dd0d`), and not "non-digit, `0`, digit"
    (a zero-padded number after a letter, which the simulator would print with a blank) -/
def Canonical : Str → Prop
  | [_, _, c, d, e] =>
    ¬ (isDigit c = true ∧ isDigit e = true ∧ d = ' ') ∧ ¬ (isDigit c = false ∧ d = '0' ∧ isDigit e = true)
  | _ => False

instance : DecidablePred Canonical := fun n =>
  match n with
  | [_, _, _, _, _] => by unfold Canonical; exact inferInstance
  | [] | [_] | [_, _] | [_, _, _] | [_, _, _, _] | _ :: _ :: _ :: _ :: _ :: _ :: _ => by
    unfold Canonical; exact inferInstance

theorem fix_unfix_canonical (n : Str) (h : Canonical n) : fixBlockname (unfixBlockname n) = .ok n := by
  match n, h with
  | [a, b, c, d, e], h =>
    obtain ⟨h1, h2⟩ := h
    rw [unfix5]
    by_cases hz : d = '0' ∧ isDigit e = true
    · rw [if_pos hz, fix5]
      have hc : isDigit c = true := by
        cases hcc : isDigit c with
        | true => rfl
        | false => exact absurd ⟨hcc, hz.1, hz.2⟩ h2
      rw [if_pos ⟨hc, hz.2, rfl⟩, hz.1]
    · rw [if_neg hz, fix5, if_neg h1]

-- the two excluded shapes, replayed on the model (and on the real code by the harness)
example : fixBlockname (unfixBlockname "abc07".toList) = .ok "abc 7".toList := by decide_lits
example : fixBlockname (unfixBlockname "ab1 7".toList) = .ok "ab107".toList := by decide_lits
example : Canonical "ab107".toList ∧ Canonical "  a 1".toList ∧ Canonical " a100".toList ∧ Canonical "ATM 0".toList := by decide_lits

end Proofs.Incon
