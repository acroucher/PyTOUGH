/-
  Decimal digit strings: `natDigits` (what `%d` prints) with its length law
  `natDigits_length_le_iff`, the value `digitsVal` the readers compute from digits, and the
  zero-padding `zfill`.  All of it is read off core's lemmas on `Nat.toDigits` / `Nat.ofDigitChars`.
  Before them the justification `pad` of `%` (which is also `str.ljust`/`str.rjust` of the name generators).
-/
import PyTough.Model.Fixed
import PyTough.Proofs.StrLemmas
namespace Proofs
open Py Model

theorem pad_false (w : Nat) (s : Str) : pad false w s = List.replicate (w - s.length) ' ' ++ s := rfl
theorem pad_true (w : Nat) (s : Str) : pad true w s = s ++ List.replicate (w - s.length) ' ' := rfl

theorem pad_length (left : Bool) (w : Nat) (s : Str) : (pad left w s).length = max w s.length := by
  cases left
  · rw [pad_false, List.length_append, List.length_replicate, Nat.sub_add_eq_max]
  · rw [pad_true, List.length_append, List.length_replicate, Nat.add_comm, Nat.sub_add_eq_max]

theorem pad_of_length_le {left : Bool} {w : Nat} {s : Str} (h : (pad left w s).length ≤ w) :
    (pad left w s).length = w := by
  rw [pad_length] at *; omega

theorem mem_pad {left : Bool} {w : Nat} {s : Str} {c : Char} (h : c ∈ pad left w s) : c = ' ' ∨ c ∈ s := by
  cases left
  · rw [pad_false, List.mem_append, List.mem_replicate] at h; exact h.imp (·.2) id
  · rw [pad_true, List.mem_append, List.mem_replicate] at h; exact h.symm.imp (·.2) id

theorem pad_filter (left : Bool) (w : Nat) {s : Str} (h : ∀ c ∈ s, c ≠ ' ') :
    (pad left w s).filter (· != ' ') = s := by
  cases left
  · rw [pad_false, List.filter_append, List.filter_replicate_of_neg (by decide), List.nil_append, filter_blank_self h]
  · rw [pad_true, List.filter_append, List.filter_replicate_of_neg (by decide), List.append_nil, filter_blank_self h]

theorem stripBy_pad {p : Char → Bool} (hp : p ' ' = true) (left : Bool) (w : Nat) {s : Str}
    (h : ∀ c ∈ s, p c = false) : stripBy p (pad left w s) = s := by
  have hb : ∀ k, ∀ c ∈ List.replicate k ' ', p c = true := fun _ => List.forall_mem_replicate.mpr (.inr hp)
  have hh : ∀ x, s.head? = some x → p x = false := fun x hx => h x (List.mem_of_head? hx)
  have hl : ∀ x, s.getLast? = some x → p x = false := fun x hx => h x (List.mem_of_getLast? hx)
  cases left
  · have := stripBy_around (b := []) (hb (w - s.length)) (fun _ h => nomatch h) hh hl
    rwa [List.append_nil] at this
  · exact stripBy_around (a := []) (fun _ h => nomatch h) (hb _) hh hl

theorem isDigit_of_charIsDigit {c : Char} (h : c.isDigit = true) : isDigit c = true := by
  simp only [Char.isDigit, Bool.and_eq_true, decide_eq_true_eq] at h
  simp only [isDigit, Bool.and_eq_true, decide_eq_true_eq]
  exact ⟨h.1, h.2⟩

theorem natDigits_isDigit (n : Nat) : ∀ c ∈ natDigits n, isDigit c = true := fun _ hc =>
  isDigit_of_charIsDigit (Nat.isDigit_of_mem_toDigits (by decide) (by decide) hc)

theorem natDigits_ne_nil (n : Nat) : natDigits n ≠ [] := Nat.toDigits_ne_nil

theorem digitsVal_eq (ds : Str) : digitsVal ds = Nat.ofDigitChars 10 ds 0 := rfl

theorem digitsVal_natDigits (n : Nat) : digitsVal (natDigits n) = n := by
  rw [digitsVal_eq]; exact Nat.ofDigitChars_ten_toDigits

theorem digitsVal_append (a b : Str) : digitsVal (a ++ b) = digitsVal a * 10 ^ b.length + digitsVal b := by
  rw [digitsVal_eq, digitsVal_eq, digitsVal_eq, Nat.ofDigitChars_append,
    Nat.ofDigitChars_eq_ofDigitChars_zero, Nat.mul_comm]

theorem digitsVal_zeros (k : Nat) : digitsVal (List.replicate k '0') = 0 := by
  rw [digitsVal_eq, Nat.ofDigitChars_replicate_zero]; simp

theorem natDigits_length_le_iff {n k : Nat} (h : 0 < k) : (natDigits n).length ≤ k ↔ n < 10 ^ k :=
  Nat.length_toDigits_le_iff (by decide) h

theorem natDigits_length_pos (n : Nat) : 0 < (natDigits n).length := Nat.length_toDigits_pos

theorem natDigits_length_spec (n : Nat) :
    n < 10 ^ (natDigits n).length ∧ (0 < n → 10 ^ ((natDigits n).length - 1) ≤ n) := by
  have hL := natDigits_length_pos n
  refine ⟨(natDigits_length_le_iff hL).mp (Nat.le_refl _), fun hn => Nat.le_of_not_lt fun h => ?_⟩
  by_cases h1 : (natDigits n).length - 1 = 0
  · rw [h1] at h; omega
  · have := (natDigits_length_le_iff (n := n) (by omega)).mpr h
    omega

theorem natDigits_length_eq {n k : Nat} (hlo : 10 ^ k ≤ n) (hhi : n < 10 ^ (k + 1)) :
    (natDigits n).length = k + 1 := by
  have h1 := (natDigits_length_le_iff (n := n) (k := k + 1) (by omega)).mpr hhi
  cases k with
  | zero => have := natDigits_length_pos n; omega
  | succ k =>
    have h2 : ¬ (natDigits n).length ≤ k + 1 := by
      rw [natDigits_length_le_iff (by omega)]; omega
    omega

theorem zfill_length (k m : Nat) : (zfill k m).length = max k (natDigits m).length := by
  simp only [zfill, List.length_append, List.length_replicate]; omega

theorem zfill_isDigit (k m : Nat) : ∀ c ∈ zfill k m, isDigit c = true := by
  intro c hc
  simp only [zfill, List.mem_append, List.mem_replicate] at hc
  rcases hc with ⟨_, rfl⟩ | h
  · decide
  · exact natDigits_isDigit m c h

theorem digitsVal_zfill (k m : Nat) : digitsVal (zfill k m) = m := by
  simp only [zfill]
  rw [digitsVal_append, digitsVal_zeros, digitsVal_natDigits]; simp

theorem zfill_ne_nil (k m : Nat) : zfill k m ≠ [] :=
  List.append_ne_nil_of_right_ne_nil _ (natDigits_ne_nil m)

theorem zfill_length_of_lt {k m : Nat} (hk : 0 < k) (h : m < 10 ^ k) : (zfill k m).length = k := by
  rw [zfill_length]
  have := (natDigits_length_le_iff (n := m) hk).mpr h
  omega

end Proofs
