/-
  Proofs for C04 (core Lean only): the announced block names identify their (layer, column) pair; the announced
  connection pairs are distinct and join two different announced blocks.  The block map plays no
  part until the end: distinct mapped names are distinct names, on which the map is injective.
-/
import PyTough.Proofs.FromGeoOrigin
namespace Proofs.FromGeo
open Py Model.FromGeo

/-- `n` is the announced name of the block of layer `lay` in column `col` -/
structure Cell (g : Geo) (lay : Layer) (col : Column) (n : Str) : Prop where
  hlay : lay ∈ g.layers
  hcol : col ∈ layerCols g lay
  hname : blockName g.convention lay.name col.name = .ok n

/-- What distinct announced names give, `a` being the atmosphere names and `u` the underground names: the names of one layer are
    distinct, a name identifies its cell, and the name of a cell is underground and not an atmosphere name. -/
structure CellNames (g : Geo) (a u : List Str) : Prop where
  atm : atmNames g = .ok a
  names : g.blockNames = a ++ u
  layer : ∀ {lay ns}, lay ∈ g.layers → layerBlockNames g.convention lay (layerCols g lay) = .ok ns → ns.Nodup
  inj : ∀ {lay c lay' c' n}, Cell g lay c n → Cell g lay' c' n → lay = lay' ∧ c = c'
  under : ∀ {lay c n}, Cell g lay c n → n ∈ u ∧ n ∉ a

theorem cell_names_distinct {g : Geo} (hf : Fresh g) (hnd : g.blockNames.Nodup) : ∃ a u, CellNames g a u := by
  obtain ⟨a, u, u0, F⟩ := fresh_names hf
  rw [F.names] at hnd
  obtain ⟨_, hn2, hdis⟩ := List.nodup_append.1 hnd
  have hn0 : u0.Nodup := F.perm.nodup_iff.1 hn2
  have hmem : ∀ {lay c n}, Cell g lay c n → n ∈ u := fun C => F.mem_iff.2 ⟨_, C.hlay, _, C.hcol, C.hname⟩
  have hu0 := F.under
  rw [namesLayerColumn_eq] at hu0
  -- the names of one layer are a segment of the underground names
  have hlayer : ∀ {lay ns}, lay ∈ g.layers → layerBlockNames g.convention lay (layerCols g lay) = .ok ns → ns.Nodup :=
    fun hl hns => (flatMapE_sublist hu0 hl hns).nodup hn0
  refine ⟨a, u, F.atm, F.names, hlayer, fun {lay c lay' c' n} C C' => ?_, fun C => ⟨hmem C, fun hx => hdis _ hx _ (hmem C) rfl⟩⟩
  obtain ⟨ns, hns⟩ := flatMapE_ok_iff.1 ⟨u0, hu0⟩ lay C.hlay
  obtain ⟨ns', hns'⟩ := flatMapE_ok_iff.1 ⟨u0, hu0⟩ lay' C'.hlay
  -- `n` is among the names of one layer only
  cases flatMapE_inj hu0 hn0 C.hlay C'.hlay hns hns' ((mem_layerBlockNames hns).2 ⟨c, C.hcol, C.hname⟩)
    ((mem_layerBlockNames hns').2 ⟨c', C'.hcol, C'.hname⟩)
  refine ⟨rfl, ?_⟩
  -- and, in that layer, it is the name of one column only
  have hnsd := hlayer C.hlay hns
  rw [layerBlockNames_eq] at hns
  exact flatMapE_inj hns hnsd C.hcol C'.hcol (bs := [n]) (bs' := [n])
    (by rw [C.hname]; rfl) (by rw [C'.hname]; rfl) (List.mem_singleton_self n) (List.mem_singleton_self n)

theorem vertName_some {g : Geo} {first : Bool} {above lay : Layer} {col : Column} {p : Str × Str}
    (h : vertName g first above lay col = .ok (some p)) :
    blockName g.convention lay.name col.name = .ok p.1 ∧
      ((g.atmType = 0 ∧ g.blockNames.head? = some p.2) ∨
       (g.atmType = 1 ∧ blockName g.convention g.layer0.name col.name = .ok p.2) ∨
       (first = false ∧ ¬ col.surface ≤ lay.top ∧ blockName g.convention above.name col.name = .ok p.2)) := by
  unfold vertName at h
  split at h
  · cases h
  rename_i this hthis
  split at h
  · split at h
    · rename_i h0
      split at h
      · rename_i a ha; cases h; exact ⟨hthis, Or.inl ⟨h0, ha⟩⟩
      · cases h
    · split at h
      · rename_i h1
        split at h
        · rename_i a ha; cases h; exact ⟨hthis, Or.inr (Or.inl ⟨h1, ha⟩)⟩
        · cases h
      · cases h
  · rename_i hc
    split at h
    · rename_i a ha
      cases h
      exact ⟨hthis, Or.inr (Or.inr ⟨by simpa using (not_or.1 hc).1, (not_or.1 hc).2, ha⟩)⟩
    · cases h

theorem horizName_inv {conv : Nat} {lay : Layer} {k : Conn} {p : Str × Str} (h : horizName conv lay k = .ok p) :
    blockName conv lay.name k.col0.name = .ok p.1 ∧ blockName conv lay.name k.col1.name = .ok p.2 := by
  unfold horizName at h
  ok_inv h
  with_reducible exact ⟨‹_›, ‹_›⟩

theorem vertNames_sublist {g : Geo} {first : Bool} {above lay : Layer} {cols : List Column} {v : List (Str × Str)}
    (h : vertNames g first above lay cols = .ok v) :
    ∃ ns, layerBlockNames g.convention lay cols = .ok ns ∧ (v.map (·.1)).Sublist ns := by
  rw [vertNames_eq] at h
  obtain ⟨ns, hns, hs⟩ := flatMapE_lift (f' := fun c => oneE (blockName g.convention lay.name c.name))
    (fun bs bs' => (bs.map (·.1)).Sublist bs') (List.Sublist.refl _)
    (fun h1 h2 => by rw [List.map_append]; exact h1.append h2)
    (fun c bs hbs => by
      obtain ⟨o, ho, rfl⟩ := optE_ok hbs
      cases o with
      | some p => exact ⟨[p.1], by rw [(vertName_some ho).1]; rfl, List.Sublist.refl _⟩
      | none =>
        unfold vertName at ho
        split at ho
        · cases ho
        · rename_i n hn; exact ⟨[n], by rw [hn]; rfl, List.nil_sublist _⟩) h
  exact ⟨ns, layerBlockNames_eq .. ▸ hns, hs⟩

section
variable {g : Geo} (hf : Fresh g) (hnd : g.blockNames.Nodup) (hwf : LayersWF g) (hcw : ConnsWF g)
include hf hnd hwf hcw

theorem layer_pairs_distinct {pre : List Layer} {above lay : Layer} {post : List Layer}
    (hll : g.layerlist = pre ++ above :: lay :: post) {v hz : List (Str × Str)}
    (hv : vertNames g (decide (pre = [])) above lay (layerCols g lay) = .ok v)
    (hh : horizNames g.convention lay (layerConns g (layerCols g lay)) = .ok hz) :
    (v ++ hz).Nodup ∧
    ∀ p ∈ v ++ hz, (∃ col, Cell g lay col p.1) ∧ p.1 ∈ g.blockNames ∧ p.2 ∈ g.blockNames ∧ p.1 ≠ p.2 := by
  obtain ⟨a, u, D⟩ := cell_names_distinct hf hnd
  have ha := D.atm
  obtain ⟨hadj, _, hlay, habove_ne, _⟩ := adjacent_layers hwf hll
  have hu : ∀ {n}, n ∈ u → n ∈ g.blockNames := fun h => by rw [D.names]; exact List.mem_append_right _ h
  have ha' : ∀ {n}, n ∈ a → n ∈ g.blockNames := fun h => by rw [D.names]; exact List.mem_append_left _ h
  -- a vertical pair joins the block of a column in `lay` to an atmosphere block or to the block
  -- of the same column in `above`
  have vshape : ∀ p ∈ v, ∃ col, Cell g lay col p.1 ∧ (p.2 ∈ a ∨ Cell g above col p.2) := by
    intro p hp
    rw [vertNames_eq] at hv
    obtain ⟨col, hcol, hcp⟩ := (mem_flatMapE_opt hv).1 hp
    obtain ⟨hp1, h0 | h1 | h2⟩ := vertName_some hcp
    · refine ⟨col, ⟨hlay, hcol, hp1⟩, Or.inl ?_⟩
      unfold atmNames at ha
      simp only [h0.1, if_true] at ha
      split at ha
      · cases ha
        have := h0.2
        rw [D.names] at this
        simp only [List.cons_append, List.head?_cons, Option.some.injEq] at this
        rw [← this]; exact List.mem_cons_self
      · cases ha
    · refine ⟨col, ⟨hlay, hcol, hp1⟩, Or.inl ?_⟩
      unfold atmNames at ha
      simp only [h1.1, if_true, if_false, Nat.one_ne_zero] at ha
      exact (mem_layerBlockNames ha).2 ⟨col, (mem_layerCols.1 hcol).1, h1.2⟩
    · have hpre : pre ≠ [] := fun e => by simp [e] at h2
      exact ⟨col, ⟨hlay, hcol, hp1⟩, Or.inr ⟨above_mem_layers hll hpre,
        mem_layerCols.2 ⟨(mem_layerCols.1 hcol).1, by rw [← hadj]; exact Rat.not_le.1 h2.2.1⟩, h2.2.2⟩⟩
  -- a horizontal pair joins the blocks of the two columns of a geometry connection in `lay`
  have hshape : ∀ p ∈ hz, ∃ k ∈ g.conns, Cell g lay k.col0 p.1 ∧ Cell g lay k.col1 p.2 := by
    intro p hp
    rw [horizNames_eq] at hh
    obtain ⟨k, hk, hkp⟩ := (mem_flatMapE_one hh).1 hp
    obtain ⟨hkc, hk0, hk1⟩ := mem_layerConns.1 hk
    obtain ⟨hn0, hn1⟩ := horizName_inv hkp
    exact ⟨k, hkc, ⟨hlay, hk0, hn0⟩, ⟨hlay, hk1, hn1⟩⟩
  refine ⟨List.nodup_append.2 ⟨?_, ?_, ?_⟩, ?_⟩
  · -- the first components are distinct names of the layer
    obtain ⟨ns, hns, hsub⟩ := vertNames_sublist hv
    exact nodup_of_map Prod.fst v (hsub.nodup (D.layer hlay hns))
  · -- one entry of the registry per ordered column pair
    rw [horizNames_eq] at hh
    refine flatMapE_one_nodup (k := fun k => (k.col0, k.col1)) hh (hcw.1.sublist (List.filter_sublist.map _)) ?_
    intro k hk k' hk' p hp hp'
    obtain ⟨_, hk0, hk1⟩ := mem_layerConns.1 hk
    obtain ⟨_, hk0', hk1'⟩ := mem_layerConns.1 hk'
    obtain ⟨hn0, hn1⟩ := horizName_inv hp
    obtain ⟨hn0', hn1'⟩ := horizName_inv hp'
    rw [(D.inj ⟨hlay, hk0, hn0⟩ ⟨hlay, hk0', hn0'⟩).2, (D.inj ⟨hlay, hk1, hn1⟩ ⟨hlay, hk1', hn1'⟩).2]
  · -- vertical against horizontal: the second component is in the atmosphere or in the layer above
    rintro p hp _ hq rfl
    obtain ⟨col, _, hp2⟩ := vshape p hp
    obtain ⟨k, _, _, C1⟩ := hshape p hq
    rcases hp2 with hmem | Ca
    · exact (D.under C1).2 hmem
    · exact habove_ne (D.inj Ca C1).1
  · intro p hp
    rcases List.mem_append.1 hp with hp | hp
    · obtain ⟨col, C, hp2⟩ := vshape p hp
      refine ⟨⟨col, C⟩, hu (D.under C).1, ?_⟩
      rcases hp2 with hmem | Ca
      · exact ⟨ha' hmem, fun e => (D.under C).2 (e ▸ hmem)⟩
      · exact ⟨hu (D.under Ca).1, fun e => habove_ne (D.inj (e ▸ C) Ca).1.symm⟩
    · obtain ⟨k, hkc, C0, C1⟩ := hshape p hp
      exact ⟨⟨k.col0, C0⟩, hu (D.under C0).1, hu (D.under C1).1, fun e => hcw.2 k hkc (D.inj (e ▸ C0) C1).2⟩

theorem connNamesFrom_distinct {pre : List Layer} {above : Layer} {ls : List Layer} {first : Bool}
    (A : LoopAt g pre above ls first) {L : List (Str × Str)} (h : connNamesFrom g first above ls = .ok L) :
    L.Nodup ∧ ∀ p ∈ L, (∃ lay ∈ ls, ∃ col, Cell g lay col p.1) ∧
      p.1 ∈ g.blockNames ∧ p.2 ∈ g.blockNames ∧ p.1 ≠ p.2 := by
  obtain ⟨_, _, D⟩ := cell_names_distinct hf hnd
  induction ls generalizing pre above first L with
  | nil =>
    cases h
    exact ⟨List.nodup_nil, fun p hp => (by cases hp)⟩
  | cons lay ls ih =>
    simp only [connNamesFrom] at h
    ok_inv h
    rename_i _ v hv _ hz hh _ r hr
    obtain ⟨rnd, rshape⟩ := ih A.next hr
    obtain ⟨lnd, lshape⟩ := layer_pairs_distinct hf hnd hwf hcw A.layers (A.flag ▸ hv) hh
    obtain ⟨_, _, _, _, hlay_notin⟩ := adjacent_layers hwf A.layers
    refine ⟨List.nodup_append.2 ⟨lnd, rnd, ?_⟩, ?_⟩
    · -- this layer against the layers below: the first component names a block of one layer only
      rintro p hp _ hq rfl
      obtain ⟨⟨col, C⟩, _⟩ := lshape p hp
      obtain ⟨⟨lay', hl', col', C'⟩, _⟩ := rshape p hq
      exact hlay_notin ((D.inj C C').1 ▸ hl')
    · intro p hp
      rcases List.mem_append.1 hp with hp | hp
      · obtain ⟨⟨col, C⟩, hrest⟩ := lshape p hp
        exact ⟨⟨lay, List.mem_cons_self, col, C⟩, hrest⟩
      · obtain ⟨⟨lay', hl', hc⟩, hrest⟩ := rshape p hp
        exact ⟨⟨lay', List.mem_cons_of_mem _ hl', hc⟩, hrest⟩

end

section
variable {g : Geo} {m : BlockMap} (hf : Fresh g) (hn : (g.blockNames.map (applyMap m)).Nodup)
  (hwf : LayersWF g) (hcw : ConnsWF g)
include hf hn hwf hcw

theorem connNames_ends {L : List (Str × Str)} (hL : blockConnectionNameList g = .ok L) :
    ∀ p ∈ L, p.1 ∈ g.blockNames ∧ p.2 ∈ g.blockNames ∧ applyMap m p.1 ≠ applyMap m p.2 := fun p hp =>
  have ⟨_, h1, h2, hne⟩ := (connNamesFrom_distinct hf (nodup_of_map _ _ hn) hwf hcw (.start g) hL).2 p hp
  ⟨h1, h2, fun e => hne (inj_of_nodup_map _ _ hn _ h1 _ h2 e)⟩

theorem connNames_nodup {L : List (Str × Str)} (hL : blockConnectionNameList g = .ok L) :
    (L.map (mapPair m)).Nodup := by
  have hends := connNames_ends hf hn hwf hcw hL
  refine nodup_map_on _ _ (connNamesFrom_distinct hf (nodup_of_map _ _ hn) hwf hcw (.start g) hL).1
    fun p hp q hq e => ?_
  simp only [mapPair, Prod.mk.injEq] at e
  exact Prod.ext (inj_of_nodup_map _ _ hn _ (hends p hp).1 _ (hends q hq).1 e.1)
    (inj_of_nodup_map _ _ hn _ (hends p hp).2.1 _ (hends q hq).2.1 e.2)

end

end Proofs.FromGeo
