/-
  Proofs about the model of the point-location code (Model/Locate.lean), property C12.
  Every search path of `column_containing_point` returns a column that contains the point; `in_polygon`
  implies "in the bounding rectangle", because the number of edges spanning an ordinate is even; under
  `UniqueAt` the plain search finds the containing column with any guess; layers and blocks; the leaf
  search, the sub-rectangles and the constructor invariant `NodeOK` of the quadtree.
-/
import PyTough.Model.Locate
import PyTough.Proofs.ListLemmas
import Mathlib.Tactic.Linarith
import Mathlib.Algebra.Order.Field.Basic

namespace Proofs.Locate
open Model.Locate

theorem firstContaining_sound {g : Geo} {pos : Pt} {cols : List Nat} {c : Nat}
    (h : firstContaining g pos cols = some c) : g.containsPoint c pos = true := by
  unfold firstContaining at h
  exact (List.find?_some (p := fun c => g.containsPoint c pos) h)

theorem firstContaining_mem {g : Geo} {pos : Pt} {cols : List Nat} {c : Nat}
    (h : firstContaining g pos cols = some c) : c ∈ cols := by
  unfold firstContaining sortByDist at h
  have := List.mem_of_find?_eq_some h
  exact List.mem_mergeSort.mp this

theorem firstContaining_complete {g : Geo} {pos : Pt} {cols : List Nat} {c : Nat}
    (hc : c ∈ cols) (h : g.containsPoint c pos = true) : ∃ c', firstContaining g pos cols = some c' := by
  unfold firstContaining sortByDist
  exact Option.isSome_iff_exists.mp (List.find?_isSome.mpr ⟨c, List.mem_mergeSort.mpr hc, h⟩)

theorem searchWaveLoop_sound {g : Geo} {all : List Nat} {b : Rect} {p : Pt} :
    ∀ (fuel : Nat) (todo done : List Nat) (c : Nat),
      searchWaveLoop g all b p fuel todo done = some c → g.containsPoint c p = true := by
  intro fuel
  induction fuel with
  | zero => intro todo done c h; simp [searchWaveLoop] at h
  | succ n ih =>
    intro todo done c h
    cases todo with
    | nil => simp [searchWaveLoop] at h
    | cons e t =>
      simp only [searchWaveLoop] at h
      split at h
      · rename_i hc
        cases h; exact hc
      · exact ih _ _ _ h

theorem search_sound {g : Geo} {q : QT} {p : Pt} {c : Nat} (h : q.search g p = some c) :
    g.containsPoint c p = true := by
  unfold QT.search at h
  split at h
  · exact searchWaveLoop_sound _ _ _ _ h
  · cases h

theorem fullSearch_sound {g : Geo} {pos : Pt} {sc dc : List Nat} {qt : Option QT} {c : Nat}
    (h : fullSearch g pos sc dc qt = some c) : g.containsPoint c pos = true := by
  unfold fullSearch at h
  split at h
  · exact search_sound h
  · exact firstContaining_sound h

theorem guessSearch_sound {g : Geo} {pos : Pt} {sc : List Nat} {gu : Option Nat} {qt : Option QT} {c : Nat}
    (h : guessSearch g pos sc gu qt = some c) : g.containsPoint c pos = true := by
  unfold guessSearch at h
  split at h
  · exact fullSearch_sound h
  · split at h
    · rename_i hg
      cases h; exact hg
    · simp only at h
      split at h
      · rename_i c' hf
        cases h; exact firstContaining_sound hf
      · exact fullSearch_sound h

/-- subtracting `ref = polygon[0]` from the point and the edge changes nothing (exact arithmetic) -/
theorem crossEdge_translate (v p1 p2 r : Pt) :
    crossEdge (v.sub r) (p1.sub r) (p2.sub r) = crossEdge v p1 p2 := by
  unfold crossEdge spans
  simp only [Pt.sub, sub_le_sub_iff_right, sub_sub_sub_cancel_right, sub_add_eq_add_sub, sub_lt_sub_iff_right]
  rfl

theorem numCrossings_cons (pos ref : Pt) (rest : Poly) :
    numCrossings pos (ref :: rest) =
      ((edges (ref :: rest)).filter fun e => crossEdge pos e.1 e.2).length := by
  unfold numCrossings
  simp only [crossEdge_translate]

theorem spans_eq_xor (a v b : Rat) : spans a v b = (decide (a ≤ v) != decide (b ≤ v)) := by
  unfold spans
  simp only [← not_le, decide_not]
  cases decide (a ≤ v) <;> cases decide (b ≤ v) <;> rfl

theorem spans_param {a v b : Rat} (hs : spans a v b = true) : 0 ≤ (v - a) / (b - a) ∧ (v - a) / (b - a) ≤ 1 := by
  unfold spans at hs
  simp only [Bool.or_eq_true, Bool.and_eq_true, decide_eq_true_eq] at hs
  rcases hs with ⟨h1, h2⟩ | ⟨h1, h2⟩
  · have hd : 0 < b - a := sub_pos.mpr (lt_of_le_of_lt h1 h2)
    exact ⟨div_nonneg (sub_nonneg.mpr h1) hd.le, (div_le_one hd).mpr (sub_le_sub_right h2.le a)⟩
  · have hd : b - a < 0 := sub_neg.mpr (lt_of_le_of_lt h1 h2)
    exact ⟨div_nonneg_of_nonpos (sub_nonpos.mpr h2.le) hd.le, (div_le_one_of_neg hd).mpr (sub_le_sub_right h1 a)⟩

theorem between_of_param {x y s : Rat} (h0 : 0 ≤ s) (h1 : s ≤ 1) :
    min x y ≤ x + s * (y - x) ∧ x + s * (y - x) ≤ max x y := by
  have a := mul_le_mul_of_nonneg_left (min_le_left x y) (sub_nonneg.mpr h1)
  have b := mul_le_mul_of_nonneg_left (min_le_right x y) h0
  have c := mul_le_mul_of_nonneg_left (le_max_left x y) (sub_nonneg.mpr h1)
  have d := mul_le_mul_of_nonneg_left (le_max_right x y) h0
  exact ⟨by linarith only [a, b], by linarith only [c, d]⟩

theorem cross_x_between {p1x p2x vy p1y p2y : Rat} (hs : spans p1y vy p2y = true) :
    min p1x p2x ≤ p1x + (vy - p1y) * (p2x - p1x) / (p2y - p1y) ∧
    p1x + (vy - p1y) * (p2x - p1x) / (p2y - p1y) ≤ max p1x p2x := by
  rw [mul_div_right_comm]
  exact between_of_param (spans_param hs).1 (spans_param hs).2

theorem crossEdge_false_of_right {v p1 p2 : Pt} (h1 : p1.1 ≤ v.1) (h2 : p2.1 ≤ v.1) : crossEdge v p1 p2 = false := by
  unfold crossEdge
  split
  · rename_i hs
    exact decide_eq_false (not_lt.mpr (le_trans (cross_x_between hs).2 (max_le h1 h2)))
  · rfl

theorem crossEdge_eq_spans_of_left {v p1 p2 : Pt} (h1 : v.1 < p1.1) (h2 : v.1 < p2.1) :
    crossEdge v p1 p2 = spans p1.2 v.2 p2.2 := by
  unfold crossEdge
  split
  · rename_i hs
    rw [hs]
    exact decide_eq_true (lt_of_lt_of_le (lt_min h1 h2) (cross_x_between hs).1)
  · rename_i hs
    simp only [Bool.not_eq_true] at hs
    rw [hs]

theorem parity_path {α : Type} (f : α → Bool) : ∀ (l : List α) (x a : α),
    (((x :: l).zip (l ++ [a])).filter fun e => f e.1 != f e.2).length % 2 = (if (f x != f a) = true then 1 else 0) := by
  intro l
  induction l with
  | nil =>
    intro x a
    simp only [List.nil_append, List.zip_cons_cons, List.zip_nil_right, List.filter_cons, List.filter_nil]
    split <;> rfl
  | cons y t ih =>
    intro x a
    have := ih y a
    simp only [List.cons_append, List.zip_cons_cons, List.filter_cons]
    -- a change at the first step flips the parity of the rest
    cases hxy : (f x != f y)
    · rw [bne_eq_false_iff_eq.mp hxy]
      exact this
    · rw [if_pos rfl, List.length_cons, (Bool.eq_not_of_ne (bne_iff_ne.mp hxy) : f x = !f y), Bool.not_bne]
      cases hya : (f y != f a) <;> rw [hya] at this <;>
        simp only [Bool.not_false, Bool.not_true, Bool.false_eq_true, if_false, if_true] at this ⊢ <;> omega

theorem edges_cons (p : Pt) (ps : Poly) : edges (p :: ps) = (p :: ps).zip (ps ++ [p]) := rfl

theorem mem_edges {poly : Poly} {e : Pt × Pt} (h : e ∈ edges poly) : e.1 ∈ poly ∧ e.2 ∈ poly := by
  cases poly with
  | nil => simp [edges] at h
  | cons p ps =>
    rw [edges_cons] at h
    have := List.of_mem_zip h
    refine ⟨this.1, ?_⟩
    have h2 := this.2
    simp only [List.mem_append, List.mem_singleton] at h2
    rcases h2 with h2 | h2
    · exact List.mem_cons_of_mem _ h2
    · rw [h2]; exact List.mem_cons_self

/-- **crossing parity**: a closed polygon has an even number of edges spanning any ordinate -/
theorem spanning_even (vy : Rat) (poly : Poly) :
    ((edges poly).filter fun e => spans e.1.2 vy e.2.2).length % 2 = 0 := by
  cases poly with
  | nil => simp [edges]
  | cons p ps =>
    rw [edges_cons]
    have := parity_path (fun q : Pt => decide (q.2 ≤ vy)) ps p p
    simp only [bne_self_eq_false, Bool.false_eq_true, if_false] at this
    have key : (((p :: ps).zip (ps ++ [p])).filter fun e => spans e.1.2 vy e.2.2)
        = (((p :: ps).zip (ps ++ [p])).filter fun e => decide (e.1.2 ≤ vy) != decide (e.2.2 ≤ vy)) :=
      List.filter_congr (fun e _ => spans_eq_xor _ _ _)
    rw [key]; exact this

theorem inRectangle_iff {p : Pt} {r : Rect} :
    inRectangle p r = true ↔ (r.1.1 ≤ p.1 ∧ p.1 ≤ r.2.1) ∧ (r.1.2 ≤ p.2 ∧ p.2 ≤ r.2.2) := by
  unfold inRectangle
  simp only [Bool.and_eq_true, decide_eq_true_eq]

/-- `minList x xs` is `xs.foldl min x`, which `List.min?_cons'` says is the minimum of `x :: xs` -/
theorem le_minList_iff {m x : Rat} {xs : List Rat} : m ≤ minList x xs ↔ ∀ y ∈ x :: xs, m ≤ y :=
  List.le_min?_iff List.min?_cons'

theorem maxList_le_iff {m x : Rat} {xs : List Rat} : maxList x xs ≤ m ↔ ∀ y ∈ x :: xs, y ≤ m :=
  List.max?_le_iff List.max?_cons'

theorem bounds_contain {poly : Poly} {q : Pt} (hq : q ∈ poly) : inRectangle q (boundsOfPoints poly) = true := by
  cases poly with
  | nil => cases hq
  | cons p ps =>
    have lo := fun f : Pt → Rat => le_minList_iff.mp le_rfl (f q) (List.mem_map_of_mem (f := f) hq)
    have hi := fun f : Pt → Rat => maxList_le_iff.mp le_rfl (f q) (List.mem_map_of_mem (f := f) hq)
    exact inRectangle_iff.mpr ⟨⟨lo (·.1), hi (·.1)⟩, lo (·.2), hi (·.2)⟩

/-- a point that `in_polygon` puts inside lies in the bounding rectangle (by `spanning_even`) -/
theorem inPolygon_inBounds {pos : Pt} {poly : Poly} (h : inPolygon pos poly = 1) :
    inRectangle pos (boundsOfPoints poly) = true := by
  cases poly with
  | nil => simp [inPolygon, numCrossings] at h
  | cons ref rest =>
    unfold inPolygon at h
    rw [numCrossings_cons] at h
    have hb : ∀ e ∈ edges (ref :: rest), _ ∧ _ :=
      fun e he => ⟨inRectangle_iff.mp (bounds_contain (mem_edges he).1), inRectangle_iff.mp (bounds_contain (mem_edges he).2)⟩
    generalize boundsOfPoints (ref :: rest) = B at hb ⊢
    by_contra hr
    rw [inRectangle_iff] at hr
    -- left of the box every spanning edge is counted, and their number is even; elsewhere outside none is
    suffices hcount : ((edges (ref :: rest)).filter fun e => crossEdge pos e.1 e.2).length % 2 = 0 by
      rw [hcount] at h; cases h
    by_cases hleft : pos.1 < B.1.1
    · rw [List.filter_congr fun e he => crossEdge_eq_spans_of_left (lt_of_lt_of_le hleft (hb e he).1.1.1)
        (lt_of_lt_of_le hleft (hb e he).2.1.1)]
      exact spanning_even pos.2 _
    · suffices hnone : ∀ e ∈ edges (ref :: rest), crossEdge pos e.1 e.2 = false by
        rw [List.filter_eq_nil_iff.mpr fun e he => by rw [hnone e he]; exact Bool.false_ne_true]
        rfl
      intro e he
      obtain ⟨b1, b2⟩ := hb e he
      by_cases hright : B.2.1 < pos.1
      · exact crossEdge_false_of_right (le_trans b1.1.2 hright.le) (le_trans b2.1.2 hright.le)
      · -- below or above the box both end points are on the same side of the ordinate
        unfold crossEdge
        rw [spans_eq_xor]
        by_cases hlow : pos.2 < B.1.2
        · rw [decide_eq_false (not_le.mpr (lt_of_lt_of_le hlow b1.2.1)), decide_eq_false (not_le.mpr (lt_of_lt_of_le hlow b2.2.1))]
          rfl
        · have hhigh : B.2.2 < pos.2 := by
            by_contra hh
            exact hr ⟨⟨not_lt.mp hleft, not_lt.mp hright⟩, not_lt.mp hlow, not_lt.mp hh⟩
          rw [decide_eq_true (le_trans b1.2.2 hhigh.le), decide_eq_true (le_trans b2.2.2 hhigh.le)]
          rfl

/-- at most one column contains the point -/
def UniqueAt (g : Geo) (p : Pt) : Prop :=
  ∀ c1 c2, g.containsPoint c1 p = true → g.containsPoint c2 p = true → c1 = c2

/-- `[c for c in columnlist if c.contains_point(p)][0]` : the exhaustive search -/
def exhaustiveSearch (g : Geo) (p : Pt) : Option Nat := (List.range g.ncols).find? fun c => g.containsPoint c p

theorem containsPoint_lt {g : Geo} {c : Nat} {p : Pt} (h : g.containsPoint c p = true) : c < g.ncols := by
  unfold Geo.containsPoint at h
  simp only [Bool.and_eq_true, decide_eq_true_eq] at h
  exact h.1

/-- the bounding-box pre-filter `near_point` loses nothing -/
theorem containsPoint_near {g : Geo} {c : Nat} {p : Pt} (h : g.containsPoint c p = true) : g.nearPoint c p = true := by
  unfold Geo.containsPoint at h
  simp only [Bool.and_eq_true, decide_eq_true_eq] at h
  unfold Geo.nearPoint Geo.bbox
  exact inPolygon_inBounds h.2

theorem fullSearch_plain_complete {g : Geo} {pos : Pt} {sc dc : List Nat} {c : Nat} (hu : UniqueAt g pos)
    (hc : c ∈ sc) (hdc : c ∉ dc) (h : g.containsPoint c pos = true) :
    fullSearch g pos sc dc none = some c := by
  have hm : c ∈ ((sc.filter fun c => g.nearPoint c pos).eraseDups).filter fun c => !dc.contains c := by
    rw [List.mem_filter, List.mem_eraseDups, List.mem_filter]
    exact ⟨⟨hc, containsPoint_near h⟩, by simpa using hdc⟩
  obtain ⟨c', hc'⟩ := firstContaining_complete hm h
  unfold fullSearch
  rw [hc', hu c' c (firstContaining_sound hc') h]

/-- with any guess the search returns the containing column, provided the full search at its end does
    whenever the guess and its neighbours have not already been found to be that column -/
theorem guessSearch_complete {g : Geo} {p : Pt} {sc : List Nat} {gu : Option Nat} {qt : Option QT} {c : Nat}
    (hu : UniqueAt g p) (h : g.containsPoint c p = true)
    (hfull : ∀ dc, c ∉ dc → fullSearch g p sc dc qt = some c) : guessSearch g p sc gu qt = some c := by
  unfold guessSearch
  cases gu with
  | none => exact hfull [] List.not_mem_nil
  | some gu =>
    simp only
    split
    · rename_i hg
      rw [hu gu c hg h]
    · rename_i hg
      split
      · rename_i c' hf
        rw [hu c' c (firstContaining_sound hf) h]
      · rename_i hf
        apply hfull
        intro hm
        rcases List.mem_cons.mp hm with rfl | hm
        · exact hg h
        · obtain ⟨c', hc'⟩ := firstContaining_complete hm h
          rw [hc'] at hf; cases hf

theorem exhaustive_some {g : Geo} {p : Pt} {c : Nat} (h : exhaustiveSearch g p = some c) : g.containsPoint c p = true :=
  List.find?_some (p := fun c => g.containsPoint c p) h

theorem exhaustive_none {g : Geo} {p : Pt} (h : exhaustiveSearch g p = none) (c : Nat) : g.containsPoint c p = false := by
  cases hc : g.containsPoint c p with
  | false => rfl
  | true => exact absurd hc (List.find?_eq_none.mp h c (List.mem_range.mpr (containsPoint_lt hc)))

/-- the layers below the atmosphere layer are stacked downwards without overlap
    (`top_i ≤ bottom_{i-1}`; contiguous layers, `top_i = bottom_{i-1}`, are the usual case) and
    none is upside down -/
def Stacked : List Layer → Prop
  | [] => True
  | [l] => l.bottom ≤ l.top
  | a :: b :: r => a.bottom ≤ a.top ∧ b.top ≤ a.bottom ∧ Stacked (b :: r)

theorem Stacked.tail {a : Layer} {r : List Layer} (h : Stacked (a :: r)) : Stacked r := by
  cases r with
  | nil => trivial
  | cons b t => exact h.2.2

theorem Stacked.head {a : Layer} {r : List Layer} (h : Stacked (a :: r)) : a.bottom ≤ a.top := by
  cases r with
  | nil => exact h
  | cons b t => exact h.1

theorem Stacked.pairwise : ∀ {ls : List Layer}, Stacked ls → ls.Pairwise fun a l => l.top ≤ a.bottom
  | [], _ => List.Pairwise.nil
  | [_], _ => List.pairwise_singleton _ _
  | a :: b :: r, h => by
    have ih := Stacked.pairwise h.2.2
    refine List.Pairwise.cons (fun l hl => ?_) ih
    rcases List.mem_cons.mp hl with rfl | hl
    · exact h.2.1
    · exact le_trans (le_trans ((List.pairwise_cons.mp ih).1 l hl) (Stacked.head h.2.2)) h.2.1

theorem layerScan_eq (z : Rat) : ∀ (ls : List Layer) (i : Nat),
    layerScan z i ls = (ls.findIdx? (·.containsElevation z)).map (i + ·)
  | [], _ => rfl
  | a :: t, i => by
    rw [layerScan, List.findIdx?_cons]
    split
    · rfl
    · rw [layerScan_eq z t (i + 1), Option.map_map]
      -- `i + 1 + j = i + (j + 1)`
      exact congrArg (Option.map · _) (funext fun j => Nat.add_right_comm i 1 j ▸ rfl)

theorem containsElevation_iff {l : Layer} {z : Rat} : l.containsElevation z = true ↔ l.bottom ≤ z ∧ z ≤ l.top := by
  unfold Layer.containsElevation
  rw [Bool.and_eq_true, decide_eq_true_eq, decide_eq_true_eq]

theorem layerContainingElevation_some {g : Geo} {z : Rat} {li : Nat} (h : layerContainingElevation g z = some li) :
    1 ≤ li ∧ ∃ lay, g.layers[li]? = some lay ∧ lay.bottom ≤ z ∧ z ≤ lay.top := by
  unfold layerContainingElevation at h
  rw [layerScan_eq] at h
  obtain ⟨j, hj, rfl⟩ := Option.map_eq_some_iff.mp h
  obtain ⟨hlt, hp, _⟩ := List.findIdx?_eq_some_iff_getElem.mp hj
  exact ⟨Nat.le_add_right 1 j, _, by rw [← List.getElem?_drop]; exact List.getElem?_eq_getElem hlt, containsElevation_iff.mp hp⟩

theorem layerContainingElevation_of_strict {g : Geo} {z : Rat} {li : Nat} {lay : Layer} (hst : Stacked (g.layers.drop 1))
    (hli : 1 ≤ li) (hl : g.layers[li]? = some lay) (hb : lay.bottom ≤ z) (ht : z < lay.top) :
    layerContainingElevation g z = some li := by
  obtain ⟨j, rfl⟩ := Nat.exists_eq_add_of_le hli
  rw [← List.getElem?_drop] at hl
  obtain ⟨hlt, rfl⟩ := List.getElem?_eq_some_iff.mp hl
  unfold layerContainingElevation
  rw [layerScan_eq, List.findIdx?_eq_some_iff_getElem.mpr ⟨hlt, ?_, fun k hk => ?_⟩]
  · rfl
  · exact containsElevation_iff.mpr ⟨hb, ht.le⟩
  · -- a layer above lies wholly above `z` (the scan runs downwards, so `z = lay.bottom` still finds `lay`)
    have := List.pairwise_iff_getElem.mp hst.pairwise k j (by omega) hlt hk
    exact fun hc => not_le.mpr (lt_of_lt_of_le ht this) (containsElevation_iff.mp hc).1

theorem layerContainingElevation_none {g : Geo} {z : Rat} (h : ∀ l ∈ g.layers.drop 1, l.containsElevation z = false) :
    layerContainingElevation g z = none := by
  unfold layerContainingElevation
  rw [layerScan_eq, List.findIdx?_eq_none_iff.mpr h]
  rfl

theorem blockContainingPoint_eq {g : Geo} {p : Pt} {qt : Option QT} {ci : Nat} {col : Column} {l0 l1 : Layer}
    (hcol : columnContainingPoint g p { qtree := qt } = some ci)
    (hc : g.cols[ci]? = some col) (h0 : g.layers[0]? = some l0) (h1 : g.layers[1]? = some l1) (z : Rat) :
    blockContainingPoint g p z qt =
      match (if decide (l0.bottom < z) && decide (z ≤ col.surface) then some 1 else layerContainingElevation g z) with
      | none => .ok none
      | some li =>
        match g.layers[li]? with
        | some lay => if col.surface > lay.bottom then .ok (some (li, ci)) else .ok none
        | none => .ok none := by
  unfold blockContainingPoint
  rw [hcol]
  simp only [hc, h0, h1]
  rfl

mutual
/-- `P bounds elements children` holds at every node of the tree -/
def QAll (P : Rect → List Nat → List QTree → Prop) : QTree → Prop
  | .node b e ch => P b e ch ∧ QAllList P ch
def QAllList (P : Rect → List Nat → List QTree → Prop) : List QTree → Prop
  | [] => True
  | c :: cs => QAll P c ∧ QAllList P cs
end

theorem QAllList_of_forall {P : Rect → List Nat → List QTree → Prop} :
    ∀ (l : List QTree), (∀ c ∈ l, QAll P c) → QAllList P l := by
  intro l
  induction l with
  | nil => intro _; simp [QAllList]
  | cons c cs ih =>
    intro h
    simp only [QAllList]
    exact ⟨h c List.mem_cons_self, ih (fun d hd => h d (List.mem_cons_of_mem _ hd))⟩

mutual
theorem leaf_bounds (p : Pt) : ∀ (t l : QTree), t.leaf p = some l → inRectangle p l.bounds = true
  | .node b e ch, l, h => by
    simp only [QTree.leaf] at h
    split at h
    · rename_i hin
      split at h
      · rename_i l' hl
        cases h
        exact leafList_bounds p ch _ hl
      · cases h; exact hin
    · cases h
theorem leafList_bounds (p : Pt) : ∀ (ts : List QTree) (l : QTree), leafList p ts = some l → inRectangle p l.bounds = true
  | [], l, h => by simp [leafList] at h
  | c :: cs, l, h => by
    simp only [leafList] at h
    split at h
    · rename_i l' hl
      cases h
      exact leaf_bounds p c _ hl
    · exact leafList_bounds p cs l h
end

theorem leaf_isSome (p : Pt) : ∀ t : QTree, (t.leaf p).isSome = inRectangle p t.bounds
  | .node b e ch => by
    unfold QTree.leaf QTree.bounds
    cases inRectangle p b with
    | false => rfl
    | true => rw [if_pos rfl]; cases leafList p ch <;> rfl

theorem half_inside {lo hi x : Rat} (h : (lo ≤ x ∧ x ≤ (lo + hi) / 2) ∨ ((lo + hi) / 2 ≤ x ∧ x ≤ hi)) :
    lo ≤ x ∧ x ≤ hi := by
  rcases h with ⟨h1, h2⟩ | ⟨h1, h2⟩
  · exact ⟨h1, by linarith only [h1, h2]⟩
  · exact ⟨by linarith only [h1, h2], h2⟩

theorem subRect_cover {p : Pt} {r : Rect} (h : inRectangle p r = true) :
    ∃ k, k < 4 ∧ firstRect p (subRectangles r) = some k := by
  -- one of the four holds the point, according to the side of the centre it is on
  have hex : ∃ s ∈ subRectangles r, inRectangle p s = true := by
    obtain ⟨⟨h1, h2⟩, h3, h4⟩ := inRectangle_iff.mp h
    simp only [subRectangles, List.mem_cons, List.mem_nil_iff, or_false, exists_eq_or_imp, exists_eq_left, inRectangle_iff]
    rcases le_total p.1 ((r.1.1 + r.2.1) / 2) with hx | hx <;> rcases le_total p.2 ((r.1.2 + r.2.2) / 2) with hy | hy
    · exact Or.inl ⟨⟨h1, hx⟩, h3, hy⟩
    · exact Or.inr (Or.inr (Or.inl ⟨⟨h1, hx⟩, hy, h4⟩))
    · exact Or.inr (Or.inl ⟨⟨hx, h2⟩, h3, hy⟩)
    · exact Or.inr (Or.inr (Or.inr ⟨⟨hx, h2⟩, hy, h4⟩))
  unfold firstRect
  cases hf : List.findIdx? (inRectangle p) (subRectangles r) with
  | some k => exact ⟨k, (List.findIdx?_eq_some_iff_getElem.mp hf).1, rfl⟩
  | none =>
    obtain ⟨s, hs, hp⟩ := hex
    rw [List.findIdx?_eq_none_iff.mp hf s hs] at hp
    cases hp

theorem firstRect_in {p : Pt} {rects : List Rect} {k : Nat} (h : firstRect p rects = some k) :
    ∃ s, rects[k]? = some s ∧ inRectangle p s = true := by
  unfold firstRect at h
  obtain ⟨hk, hp, _⟩ := List.findIdx?_eq_some_iff_getElem.mp h
  exact ⟨rects[k], List.getElem?_eq_getElem hk, hp⟩

theorem buildQ_root {g : Geo} {fuel : Nat} {b : Rect} {e : List Nat} {t : QTree}
    (h : buildQ g fuel b e = some t) : t.bounds = b ∧ t.elements = e := by
  cases fuel with
  | zero => simp [buildQ] at h
  | succ n =>
    simp only [buildQ] at h
    split at h
    · split at h
      · cases h; exact ⟨rfl, rfl⟩
      · cases h
    · cases h; exact ⟨rfl, rfl⟩

theorem mapM_build {g : Geo} {fuel : Nat} (l : List (Rect × List Nat)) (r : List QTree)
    (h : l.mapM (fun rg => buildQ g fuel rg.1 rg.2) = some r) :
    r.map QTree.elements = l.map (·.2) ∧ ∀ c ∈ r, ∃ rg ∈ l, buildQ g fuel rg.1 rg.2 = some c := by
  refine ⟨(Proofs.mapM_some_map _ QTree.elements (·.2) (fun rg c hc => (buildQ_root hc).2.symm) l r h).symm,
    fun c hc => ?_⟩
  have : some c ∈ l.map fun rg => buildQ g fuel rg.1 rg.2 := Proofs.mapM_eq_some.mp h ▸ List.mem_map_of_mem hc
  exact List.mem_map.mp this

/-- what `quadtree.__init__` guarantees at one node with bounds `b`, elements `e`, children `ch` -/
def NodeOK (g : Geo) (b : Rect) (e : List Nat) (ch : List QTree) : Prop :=
  -- a node with at most one element is a leaf
  (e.length ≤ 1 → ch = []) ∧
  -- a child is non-empty, its elements come from the parent and have their centres in the
  -- child's rectangle, which is one of the four sub-rectangles (hence inside the parent's)
  (∀ c ∈ ch, c.elements ≠ [] ∧ c.bounds ∈ subRectangles b ∧
      ∀ x ∈ c.elements, x ∈ e ∧ inRectangle (g.centre x) c.bounds = true) ∧
  -- an element whose centre is in the node's rectangle goes to exactly one child:
  -- it occurs in the children's element lists as often as in the parent's
  (1 < e.length → ∀ x, inRectangle (g.centre x) b = true →
      ((ch.map QTree.elements).flatten.count x = e.count x))

theorem flatten_filter_nonempty (l : List (List Nat)) :
    (l.filter fun x => decide (x.length > 0)).flatten = l.flatten := by
  rw [← List.flatten_filter_not_isEmpty (L := l)]
  exact congrArg (fun p => (l.filter p).flatten) (funext fun x => by cases x <;> rfl)

theorem count_filter_ite (p : Nat → Bool) (x : Nat) (l : List Nat) :
    (l.filter p).count x = if p x = true then l.count x else 0 := by
  split
  · rename_i h
    exact List.count_filter h
  · rename_i h
    exact List.count_eq_zero.mpr fun hm => h (List.mem_filter.mp hm).2

theorem map_snd_filter_zip {α β : Type} (q : β → Bool) {l₁ : List α} {l₂ : List β} (h : l₂.length ≤ l₁.length) :
    ((l₁.zip l₂).filter fun ab => q ab.2).map (·.2) = l₂.filter q := by
  have := List.filter_map (f := Prod.snd) (p := q) (l := l₁.zip l₂)
  rw [List.map_snd_zip h] at this
  exact this.symm

theorem mem_zip_map_range {α β : Type} {l : List α} {n : Nat} {f : Nat → β} {ab : α × β}
    (h : ab ∈ l.zip ((List.range n).map f)) : ∃ k, l[k]? = some ab.1 ∧ ab.2 = f k := by
  obtain ⟨i, hi⟩ := List.mem_iff_getElem?.mp h
  rw [List.getElem?_zip_eq_some, List.getElem?_map] at hi
  obtain ⟨j, hj, hfj⟩ := Option.map_eq_some_iff.mp hi.2
  obtain ⟨_, hji⟩ := List.getElem?_eq_some_iff.mp hj
  rw [List.getElem_range] at hji
  exact ⟨i, hi.1, by rw [← hfj, ← hji]⟩

theorem buildQ_node {g : Geo} {n : Nat} {b : Rect} {e : List Nat} {t : QTree}
    (h : buildQ g (n + 1) b e = some t) :
    ∃ ch, t = .node b e ch ∧ NodeOK g b e ch ∧ ∀ c ∈ ch, ∃ r es, buildQ g n r es = some c := by
  simp only [buildQ] at h
  split at h
  · rename_i hlen
    split at h
    · rename_i ch hm
      cases h
      obtain ⟨m1, m3⟩ := mapM_build _ _ hm
      refine ⟨ch, rfl, ⟨fun hle => by omega, ?_, ?_⟩, fun c hc => ?_⟩
      · intro c hc
        obtain ⟨rg, hrg, hb⟩ := m3 c hc
        obtain ⟨b1, b2⟩ := buildQ_root hb
        obtain ⟨hz, hne⟩ := List.mem_filter.mp hrg
        -- the pair is the `k`-th sub-rectangle with the `k`-th group
        obtain ⟨k, hk, hgk⟩ := mem_zip_map_range hz
        rw [b1, b2]
        refine ⟨fun hnil => ?_, (List.of_mem_zip hz).1, fun x hx => ?_⟩
        · rw [hnil] at hne; cases hne
        rw [hgk, List.mem_filter, beq_iff_eq] at hx
        obtain ⟨s, hs, hin⟩ := firstRect_in hx.2
        rw [hk] at hs
        injection hs with hs
        exact ⟨hx.1, hs ▸ hin⟩
      · intro _ x hx
        -- the children's element lists are the non-empty groups, in order
        rw [m1, map_snd_filter_zip (fun es : List Nat => decide (es.length > 0)) (by simp [subRectangles]), flatten_filter_nonempty]
        -- of the four groups only the one of the first sub-rectangle holding the centre keeps `x`
        obtain ⟨k, hk4, hfr⟩ := subRect_cover hx
        have hr : List.range 4 = [0, 1, 2, 3] := rfl
        simp only [hr, List.map_cons, List.map_nil, List.flatten_cons, List.flatten_nil, List.append_nil, List.count_append,
          count_filter_ite, hfr, beq_iff_eq, Option.some.injEq]
        have : k = 0 ∨ k = 1 ∨ k = 2 ∨ k = 3 := by omega
        rcases this with rfl | rfl | rfl | rfl <;> simp
      · obtain ⟨rg, _, hb⟩ := m3 c hc
        exact ⟨rg.1, rg.2, hb⟩
    · cases h
  · rename_i hlen
    cases h
    refine ⟨[], rfl, ⟨fun _ => rfl, ?_, fun h1 => by omega⟩, ?_⟩
    · intro c hc; cases hc
    · intro c hc; cases hc

/-- **quadtree partition**: every node of a constructed quadtree satisfies `NodeOK` -/
theorem buildQ_all {g : Geo} {fuel : Nat} {b : Rect} {e : List Nat} {t : QTree}
    (h : buildQ g fuel b e = some t) : QAll (NodeOK g) t := by
  induction fuel generalizing b e t with
  | zero => simp [buildQ] at h
  | succ n ih =>
    obtain ⟨ch, rfl, hok, hch⟩ := buildQ_node h
    simp only [QAll]
    refine ⟨hok, QAllList_of_forall _ ?_⟩
    intro c hc
    obtain ⟨r, es, hb⟩ := hch c hc
    exact ih hb

end Proofs.Locate
