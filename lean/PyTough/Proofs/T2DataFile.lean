/-
  C01 proofs: the file level — `_sections` bookkeeping and the keyword loop of `read()`: one turn on a section
  (`readLoop_section`), at the end keyword (`readLoop_end`), and the loop over a file whose section readers each
  consume their own body whatever follows it (`StepOK.reads`; `readLoop_chain`, behind `Props.C01.sections_preserved`).
  PARAM's reader does so only before a keyword line, so it does not fit: whole objects are composed in `T2WholeChain`
  (`StepRT`, for continuations that begin with a keyword line) from the same turn lemmas.
-/
import PyTough.Model.T2Data
namespace Proofs.T2
open Py Model Model.T2 Proofs
open Gen.Sections (Rec)

theorem insertAt_erase {l : List Str} {x : Str} (hx : x ∉ l) (i : Nat) : (insertAt l i x).erase x = l := by
  unfold insertAt
  have h1 : x ∉ l.take i := fun h => hx (List.mem_of_mem_take h)
  rw [List.append_assoc, List.erase_append_right _ h1]
  simp [List.take_append_drop]

theorem insert_keeps_others (all secs : List Str) (s : Str) (hs : s ∉ secs) :
    (insertSection all secs s).erase s = secs := by
  unfold insertSection
  have : secs.contains s = false := by simpa using hs
  rw [this]
  exact insertAt_erase hs _

theorem insert_mem (all secs : List Str) (s : Str) : s ∈ insertSection all secs s := by
  unfold insertSection
  split
  · rename_i h; simpa using h
  · simp [insertAt]

theorem insert_idem (all secs : List Str) (s : Str) :
    insertSection all (insertSection all secs s) s = insertSection all secs s := by
  have h := insert_mem all secs s
  generalize insertSection all secs s = t at h ⊢
  unfold insertSection
  simp [h]

/-- from-scratch objects get their sections in the order of `t2data_sections`: typical subsets (tests on the
    generated table, evaluated by the kernel) -/
theorem update_sections_canonical_samples :
    updateSectionsWith allSections [c!"PARAM", c!"ELEME", c!"CONNE"] [] = [c!"PARAM", c!"ELEME", c!"CONNE"] ∧
    updateSectionsWith allSections [c!"SIMUL", c!"ROCKS", c!"PARAM", c!"MULTI", c!"ELEME", c!"CONNE", c!"GENER", c!"INCON"] []
      = [c!"SIMUL", c!"ROCKS", c!"PARAM", c!"MULTI", c!"ELEME", c!"CONNE", c!"GENER", c!"INCON"] ∧
    -- a section added to an object read from a file in non-standard order goes next to its standard neighbour
    updateSectionsWith allSections [c!"ROCKS", c!"PARAM", c!"MULTI", c!"ELEME", c!"CONNE", c!"GENER"]
        [c!"GENER", c!"ELEME", c!"CONNE", c!"ROCKS", c!"PARAM"]
      = [c!"GENER", c!"ELEME", c!"CONNE", c!"ROCKS", c!"PARAM", c!"MULTI"] := by
  decide +kernel

/-- one written section as the keyword loop meets it -/
structure Sec where
  kw : Str
  raw : Str             -- its keyword line as written
  body : List Str       -- the lines after it

def layout (secs : List Sec) : List Str := (secs.map fun s => s.raw :: s.body).flatten

/-- what follows a section reader's return: nothing read ahead, or (PARAM) the next line read ahead and
    handed back padded.  Read the other way round, the loop state `(nxt, rest')` stands for the remaining raw
    lines `rest`. -/
def Follows (rest : List Str) (nxt : Option Str) (rest' : List Str) : Prop :=
  (nxt = none ∧ rest' = rest) ∨ (∃ l r, rest = l :: r ∧ nxt = some (padstring l) ∧ rest' = r)

def IsEnd (kw : Str) : Prop := kw = c!"ENDCY" ∨ kw = c!"ENDFI"

/-- what the loop needs from one section: its keyword is a section keyword (seen raw or padded), and its
    reader consumes exactly its body, whatever follows, without touching `_sections` -/
structure StepOK (rf : ReadFn) (pdat : Option (List Str)) (d : T2Data) (s : Sec) (d' : T2Data) : Prop where
  mem : allSections.contains s.kw = true
  notEnd : ¬ IsEnd s.kw
  kwRaw : keywordOf s.raw = s.kw
  kwPad : keywordOf (padstring s.raw) = s.kw
  nonempty : s.raw ≠ []
  reads : ∀ line, line = s.raw ∨ line = padstring s.raw → ∀ rest, ∃ nxt' rest',
    readSection rf pdat d s.kw line (s.body ++ rest) = .ok (d', nxt', rest') ∧ Follows rest nxt' rest'

def ChainOK (rf : ReadFn) (pdat : Option (List Str)) : T2Data → List Sec → T2Data → Prop
  | d, [], d' => d' = d
  | d, s :: ss, d'' => ∃ d', StepOK rf pdat d s d' ∧ ChainOK rf pdat { d' with sections := d'.sections ++ [s.kw] } ss d''

theorem readLoop_next (rf : ReadFn) (pdat : Option (List Str)) (fuel : Nat) (d : T2Data) {nxt : Option Str}
    {ls : List Str} {l : Str} {R : List Str} (hrep : Follows (l :: R) nxt ls) (hne : l ≠ []) :
    ∃ line, (line = l ∨ line = padstring l) ∧ line ≠ [] ∧
      readLoop rf pdat (fuel + 1) d nxt ls = readLoop rf pdat (fuel + 1) d (some line) R := by
  rcases hrep with ⟨rfl, rfl⟩ | ⟨l', r, hR, rfl, rfl⟩
  · exact ⟨l, Or.inl rfl, hne, rfl⟩
  · cases hR
    exact ⟨padstring l, Or.inr rfl, fun h => hne (List.append_eq_nil_iff.mp h).1, rfl⟩

theorem readLoop_end (rf : ReadFn) (pdat : Option (List Str)) (fuel : Nat) (d : T2Data) {nxt : Option Str}
    {ls : List Str} {endkw : Str} (hend : IsEnd endkw) (hrep : Follows [nl endkw] nxt ls) :
    readLoop rf pdat (fuel + 1) d nxt ls = .ok { d with endKeyword := endkw } := by
  obtain ⟨line, hline, hne, h⟩ := readLoop_next rf pdat fuel d hrep (by unfold nl; simp)
  have hkw : keywordOf line = endkw := by
    rcases hline with rfl | rfl <;> rcases hend with rfl | rfl <;> decide
  have htest : (endkw == c!"ENDCY" || endkw == c!"ENDFI") = true := by
    rcases hend with rfl | rfl <;> decide
  rw [h]
  simp only [readLoop, List.isEmpty_eq_false_iff.mpr hne, Bool.false_eq_true, ↓reduceIte, hkw, htest]

theorem readLoop_section (rf : ReadFn) (pdat : Option (List Str)) (fuel : Nat) {d d' : T2Data} {nxt : Option Str}
    {ls : List Str} {kw hdr : Str} {body tail : List Str} (hmem : allSections.contains kw = true) (hnotEnd : ¬ IsEnd kw)
    (hne : hdr ≠ []) (hraw : keywordOf hdr = kw) (hpad : keywordOf (padstring hdr) = kw)
    (hrep : Follows (hdr :: (body ++ tail)) nxt ls)
    (hreads : ∀ line, line = hdr ∨ line = padstring hdr → ∃ nxt' rest',
      readSection rf pdat d kw line (body ++ tail) = .ok (d', nxt', rest') ∧ Follows tail nxt' rest') :
    ∃ nxt' ls', Follows tail nxt' ls' ∧ readLoop rf pdat (fuel + 1) d nxt ls =
      readLoop rf pdat fuel { d' with sections := d'.sections ++ [kw] } nxt' ls' := by
  obtain ⟨line, hline, hlne, h⟩ := readLoop_next rf pdat fuel d hrep hne
  have hkw : keywordOf line = kw := by rcases hline with rfl | rfl <;> assumption
  have htest : (kw == c!"ENDCY" || kw == c!"ENDFI") = false :=
    Bool.eq_false_iff.mpr fun h => hnotEnd (by simpa only [IsEnd, Bool.or_eq_true, beq_iff_eq] using h)
  obtain ⟨nxt', rest', hrd, hfol⟩ := hreads line hline
  refine ⟨nxt', rest', hfol, ?_⟩
  rw [h]
  simp only [readLoop, List.isEmpty_eq_false_iff.mpr hlne, Bool.false_eq_true, ↓reduceIte, hkw, htest, hmem, hrd]

/-- the keyword loop of `read()`: for a file laid out as keyword line + body
    per section and closed by ENDCY or ENDFI, if every section reader consumes exactly its own body, the loop
    dispatches each section once, in file order, records its keyword, and stops at the end keyword -/
theorem readLoop_chain (rf : ReadFn) (pdat : Option (List Str)) (endkw : Str) (hend : IsEnd endkw) :
    ∀ (secs : List Sec) (d dfin : T2Data) (nxt : Option Str) (ls : List Str) (fuel : Nat),
      ChainOK rf pdat d secs dfin → Follows (layout secs ++ [nl endkw]) nxt ls → secs.length < fuel →
      readLoop rf pdat fuel d nxt ls = .ok { dfin with endKeyword := endkw } := by
  intro secs
  induction secs with
  | nil =>
    intro d dfin nxt ls fuel hch hrep hf
    cases hch
    obtain ⟨fuel, rfl⟩ : ∃ k, fuel = k + 1 := ⟨fuel - 1, by omega⟩
    exact readLoop_end rf pdat fuel d hend hrep
  | cons s ss ih =>
    intro d dfin nxt ls fuel ⟨d', hstep, htail⟩ hrep hf
    obtain ⟨fuel, rfl⟩ : ∃ k, fuel = k + 1 := ⟨fuel - 1, by omega⟩
    have hlay : layout (s :: ss) ++ [nl endkw] = s.raw :: (s.body ++ (layout ss ++ [nl endkw])) := by
      simp [layout]
    rw [hlay] at hrep
    obtain ⟨nxt', ls', hrep', h⟩ := readLoop_section rf pdat fuel hstep.mem hstep.notEnd hstep.nonempty hstep.kwRaw
      hstep.kwPad hrep (fun line hline => hstep.reads line hline _)
    rw [h]
    exact ih _ dfin nxt' ls' fuel htail hrep' (by simpa using hf)

theorem chain_sections (rf : ReadFn) (pdat : Option (List Str)) :
    ∀ (secs : List Sec) (d dfin : T2Data), ChainOK rf pdat d secs dfin →
      (∀ d s d', StepOK rf pdat d s d' → s ∈ secs → d'.sections = d.sections) →
      dfin.sections = d.sections ++ secs.map (·.kw) := by
  intro secs
  induction secs with
  | nil => intro d dfin h _; cases h; simp
  | cons s ss ih =>
    intro d dfin ⟨d', hstep, htail⟩ hpres
    have := ih _ dfin htail (fun d s' d' h hm => hpres d s' d' h (List.mem_cons_of_mem _ hm))
    rw [this, hpres d s d' hstep (by simp)]
    simp

/-- reader and writer choose the PARAM and MULTI record kinds by the same function of `simulator` -/
theorem flavour_param_spec (T : Tabs) (d : T2Data) :
    param1Rec T d = T.get (if d.simulator.isEmpty then c!"param1" else c!"param1_autough2") ∧
    multiRec T d = T.get (if d.simulator.isEmpty then c!"multi" else c!"multi_autough2") := by
  unfold param1Rec multiRec T2Data.autough2
  cases d.simulator.isEmpty <;> exact ⟨rfl, rfl⟩

end Proofs.T2
