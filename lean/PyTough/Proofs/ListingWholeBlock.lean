/-
  One result block of a TOUGH2-family listing: read_header_TOUGH2 on the header lines of the block, the walk from one
  table to the next (next_table_TOUGH2), the loop of read_tables_TOUGH2 over the tables of the block, and set_index
  (seek + read_tables) over the whole block.  Core Lean only.

  `headerT2Vals`, `pastP`, `tableTypeT2P`, `actT2` restate as plain functions what the model computes inside the reader's
  monad, so that the region predicates can name it; each has the lemma that the method returns it.
-/
import PyTough.Proofs.ListingWhole
import PyTough.Proofs.Literals
namespace Proofs.Whole
open Py Model Model.Listing

/-- the `@@@@@` line that closes a header or a table -/
def atLine (l : Str) : Bool := startsWith (l.drop 1) (S "@@@@@")

/-- (time, step) that read_header_TOUGH2 takes from the first header line -/
def headerT2Vals (l0 : Str) : Option (FVal × Step) :=
  match splitWs l0 with
  | a :: b :: _ =>
    match fortranFloat a, fortranInt b with
    | .ok tv, .ok sv => some (fvalOf tv, fvalOfInt sv)
    | _, _ => none
  | _ => none

/-- the header lines behind the first one: lines `X` without the marker, the marker line `atl`, blank lines `Bl`,
    then the first non-blank line `hl` -/
def HeaderT2Ok (l0 : Str) (X : List Str) (atl : Str) (Bl : List Str) (hl : Str) : Prop :=
  (headerT2Vals l0).isSome = true ∧ (∀ x ∈ X, atLine x = false) ∧ atLine atl = true ∧
  (∀ x ∈ Bl, isBlank x = true) ∧ isBlank hl = false

instance (l0 : Str) (X : List Str) (atl : Str) (Bl : List Str) (hl : Str) : Decidable (HeaderT2Ok l0 X atl Bl hl) := by
  unfold HeaderT2Ok; infer_instance

/-- read_header_TOUGH2 up to its last statement -/
theorem readHeaderTOUGH2_gen (s : Rd) (l0 : Str) (X : List Str) (atl : Str) (Bl : List Str) (hl : Str) (rest : List Str)
    (tm : FVal) (st : Step)
    (hplus : (s.fam == .toughplus) = false)
    (hrest : s.pos.rest = l0 :: (X ++ atl :: (Bl ++ hl :: rest)))
    (hv : headerT2Vals l0 = some (tm, st))
    (hX : ∀ x ∈ X, atLine x = false) (hatl : atLine atl = true)
    (hBl : ∀ x ∈ Bl, isBlank x = true) (hhl : isBlank hl = false) :
    readHeaderTOUGH2 s
      = (if (splitWs hl).length < 4 then skipToNonblank else seek ⟨s.pos.no + 1 + X.length + 1 + Bl.length, hl :: rest⟩ : M Unit)
          { s with pos := ⟨s.pos.no + 1 + X.length + 1 + Bl.length + 1, rest⟩, step := st, time := tm } := by
  unfold readHeaderTOUGH2
  rw [bind_ok (readline_cons s l0 _ hrest)]
  unfold headerT2Vals at hv
  split at hv
  · rename_i a b more hs
    split at hv
    · rename_i tv sv ha hb
      cases hv
      simp only [hs, ha, hb]
      rw [bind_ok (liftE_ok _ _)]
      rw [bind_ok (liftE_ok _ _)]
      rw [bind_ok (modify_run _ _)]
      rw [bind_ok (isPlus_run _)]
      simp only [hplus, Bool.false_eq_true, if_false]
      rw [bind_ok (skipto1_run _ _ _)]
      simp only
      rw [skipToL_app "@@@@@".toList 1 X atl (Bl ++ hl :: rest) _ hX hatl]
      rw [bind_ok (skipToNonblank_ok _ _ (skipToNonblankL_app Bl hl rest _ hBl hhl))]
      rw [bind_ok (tell_run _)]
      rw [bind_ok (readline_cons _ hl rest rfl)]
    · cases hv
  · cases hv

/-- `h4`: the first non-blank line behind the marker has at least four words, i.e. it is a table header, which is left unread -/
theorem readHeaderTOUGH2_run (s : Rd) (l0 : Str) (X : List Str) (atl : Str) (Bl : List Str) (hl : Str) (rest : List Str)
    (tm : FVal) (st : Step)
    (hplus : (s.fam == .toughplus) = false)
    (hrest : s.pos.rest = l0 :: (X ++ atl :: (Bl ++ hl :: rest)))
    (hv : headerT2Vals l0 = some (tm, st))
    (hok : HeaderT2Ok l0 X atl Bl hl) (h4 : 4 ≤ (splitWs hl).length) :
    readHeaderTOUGH2 s
      = .ok ((), { s with pos := ⟨s.pos.no + 1 + X.length + 1 + Bl.length, hl :: rest⟩, step := st, time := tm }) := by
  obtain ⟨_, hX, hatl, hBl, hhl⟩ := hok
  rw [readHeaderTOUGH2_gen s l0 X atl Bl hl rest tm st hplus hrest hv hX hatl hBl hhl]
  rw [if_neg (by omega)]
  rfl

/-- the other branch: `hl` has fewer than four words (e.g. a line of text before the table); the code skips on to the
    next non-blank line `hl2` behind it -/
theorem readHeaderTOUGH2_run_short (s : Rd) (l0 : Str) (X : List Str) (atl : Str) (Bl : List Str) (hl : Str)
    (Bl2 : List Str) (hl2 : Str) (rest2 : List Str) (tm : FVal) (st : Step)
    (hplus : (s.fam == .toughplus) = false)
    (hrest : s.pos.rest = l0 :: (X ++ atl :: (Bl ++ hl :: (Bl2 ++ hl2 :: rest2))))
    (hv : headerT2Vals l0 = some (tm, st))
    (hok : HeaderT2Ok l0 X atl Bl hl) (h4 : (splitWs hl).length < 4)
    (hBl2 : ∀ x ∈ Bl2, isBlank x = true) (hhl2 : isBlank hl2 = false) :
    readHeaderTOUGH2 s
      = .ok ((), { s with pos := ⟨s.pos.no + 1 + X.length + 1 + Bl.length + 1 + Bl2.length, hl2 :: rest2⟩, step := st, time := tm }) := by
  obtain ⟨_, hX, hatl, hBl, hhl⟩ := hok
  rw [readHeaderTOUGH2_gen s l0 X atl Bl hl _ tm st hplus hrest hv hX hatl hBl hhl]
  rw [if_pos h4]
  rw [skipToNonblank_ok _ _ (skipToNonblankL_app Bl2 hl2 rest2 _ hBl2 hhl2)]

theorem readHeader_T2 (s : Rd) (hb : bound s.fam "read_header" = "read_header_TOUGH2") :
    readHeader s = readHeaderTOUGH2 s := by
  unfold readHeader
  rw [get_bind]
  simp only [hb]

/-- `self._fullpos[self.index+1]` with Python's index wrap -/
def pastJ (fullpos : Array Pos) (index : Int) : Int :=
  if index + 1 < 0 then index + 1 + (fullpos.size : Int) else index + 1

/-- `pos >= self._fullpos[self.index+1]` when there is a later result block, else `False` -/
def pastP (nfull : Nat) (fullpos : Array Pos) (index : Int) (no : Nat) : Except Exc Bool :=
  if (nfull : Int) > 1 && index < (nfull : Int) - 1 then
    if pastJ fullpos index < 0 ∨ pastJ fullpos index ≥ (fullpos.size : Int) then .error .indexError
    else .ok (decide (no ≥ (fullpos[(pastJ fullpos index).toNat]!).no))
  else .ok false

theorem cu_past_eq (p : Pos) (env : Rd) (c : Cur) :
    Cu.pastThisResult p env c = match pastP env.fulltimes.size env.fullpos c.index p.no with
      | .ok b => .ok (b, c)
      | .error e => .error (.py e) := by
  unfold Cu.pastThisResult pastP
  rw [cu_read_bind, cu_get_bind]
  have hJ : (if c.index + 1 < 0 then c.index + 1 + (env.fullpos.size : Int) else c.index + 1) = pastJ env.fullpos c.index := rfl
  simp only [hJ]
  split
  · split <;> rfl
  · rfl

def tableTypeT2P (h : List Str) : Except Exc (Option String) :=
  if h.take 2 = [S "ELEM.", S "INDEX"] || h.take 2 = [S "ELEM.", S "IND."] then
    match h[2]? with
    | none => .error .indexError
    | some x => if x = S "P" then .ok (some "element") else if x = S "X1" then .ok (some "primary") else .ok none
  else if h.take 3 = [S "ELEM1", S "ELEM2", S "INDEX"] then .ok (some "connection")
  else if h.take 3 = [S "ELEMENT", S "SOURCE", S "INDEX"] || h.take 3 = [S "ELEM.", S "SOURCE", S "INDEX"] then .ok (some "generation")
  else .ok none

theorem cu_tableTypeT2 (h : List Str) (env : Rd) (c : Cur) :
    Cu.tableTypeTOUGH2 h env c = match tableTypeT2P h with | .ok r => .ok (r, c) | .error e => .error (.py e) := by
  unfold Cu.tableTypeTOUGH2 tableTypeT2P
  simp only [pure]
  split
  · cases h[2]? with
    | none => rfl
    | some x =>
      simp only
      split
      · rfl
      · split <;> rfl
  · split
    · rfl
    · split <;> rfl

theorem cu_tableType (h : List Str) (env : Rd) (c : Cur) (r : Option String)
    (hb : bound env.fam "table_type" = "table_type_TOUGH2") (hr : tableTypeT2P h = .ok r) :
    Cu.tableType h env c = .ok (r, c) := by
  unfold Cu.tableType
  rw [cu_read_bind]
  simp only [hb]
  rw [cu_tableTypeT2, hr]

/-- the line next_table_TOUGH2 looks for: the `KCYC … ITER …` line that precedes every table -/
def isKcyc (l : Str) : Bool := startsWith (strip l) (S "KCYC") && isIn (S "ITER") l

theorem ne_nil_of_isKcyc {l : Str} (h : isKcyc l = true) : l ≠ [] := by
  rintro rfl
  cases h

theorem cu_nextTableT2_some (env : Rd) (c : Cur) (X : List Str) (kc : Str) (Bl : List Str) (hl : Str) (rest : List Str)
    (tn' : String) (f : Nat)
    (hb : bound env.fam "table_type" = "table_type_TOUGH2")
    (hrest : c.pos.rest = X ++ kc :: (Bl ++ hl :: rest))
    (hX : ∀ x ∈ X, isKcyc x = false) (hkc : isKcyc kc = true)
    (hpast : pastP env.fulltimes.size env.fullpos c.index (c.pos.no + X.length + 1) = .ok false)
    (hBl : ∀ x ∈ Bl, isBlank x = true) (hhl : isBlank hl = false)
    (hmass : strip hl ≠ S "MASS FLOW RATES (KG/S) FROM DIFFUSION")
    (htt : tableTypeT2P ((splitWs (strip hl)).take 3) = .ok (some tn')) :
    Cu.nextTableTOUGH2.loop (f + 1) env c
      = .ok (some tn', { c with pos := ⟨c.pos.no + X.length + 1 + Bl.length, hl :: rest⟩ }) := by
  unfold Cu.nextTableTOUGH2.loop
  have h1 := cu_readUntil_ok isKcyc true env c kc _
    (by rw [hrest]; exact readUntilL_app _ true X kc _ _ hX hkc)
  refine (cu_bind_ok h1).trans ?_
  simp only [ne_nil_of_isKcyc hkc, if_false]
  rw [cu_bind_ok (cu_tell_run _ _)]
  simp only
  rw [cu_bind_run, cu_past_eq, hpast]
  simp only [Bool.false_eq_true, if_false]
  rw [cu_bind_ok (cu_skipToNonblank_ok _ _ _ (skipToNonblankL_app Bl hl rest _ hBl hhl))]
  rw [cu_bind_ok (cu_tell_run _ _)]
  rw [cu_bind_ok (cu_readline_cons _ _ hl rest rfl)]
  simp only [hmass, if_false]
  rw [cu_bind_ok (cu_seek_run _ _ _)]
  exact cu_tableType _ _ _ _ hb htt

theorem cu_nextTableT2_eof (env : Rd) (c : Cur) (f : Nat) (hE : ∀ x ∈ c.pos.rest, isKcyc x = false) :
    Cu.nextTableTOUGH2.loop (f + 1) env c = .ok (none, { c with pos := ⟨c.pos.no + c.pos.rest.length, []⟩ }) := by
  unfold Cu.nextTableTOUGH2.loop
  have h1 := cu_readUntil_ok isKcyc true env c [] _
    (readUntilL_eof _ c.pos.rest c.pos.no hE)
  refine (cu_bind_ok h1).trans ?_
  simp only [if_true]
  rfl

theorem cu_nextTableT2_past (env : Rd) (c : Cur) (X : List Str) (kc : Str) (rest : List Str) (f : Nat)
    (hrest : c.pos.rest = X ++ kc :: rest)
    (hX : ∀ x ∈ X, isKcyc x = false) (hkc : isKcyc kc = true)
    (hpast : pastP env.fulltimes.size env.fullpos c.index (c.pos.no + X.length + 1) = .ok true) :
    Cu.nextTableTOUGH2.loop (f + 1) env c = .ok (none, { c with pos := ⟨c.pos.no + X.length + 1, rest⟩ }) := by
  unfold Cu.nextTableTOUGH2.loop
  have h1 := cu_readUntil_ok isKcyc true env c kc _
    (by rw [hrest]; exact readUntilL_app _ true X kc _ _ hX hkc)
  refine (cu_bind_ok h1).trans ?_
  simp only [ne_nil_of_isKcyc hkc, if_false]
  rw [cu_bind_ok (cu_tell_run _ _)]
  simp only
  rw [cu_bind_run, cu_past_eq, hpast]
  simp only [if_true]
  rfl

theorem nextTable_of_loop (s : Rd) (r : Option String) (p : Pos)
    (hb : bound s.fam "next_table" = "next_table_TOUGH2")
    (h : Cu.nextTableTOUGH2.loop (s.pos.rest.length + 2) s ⟨s.pos, s.index⟩ = .ok (r, ⟨p, s.index⟩)) :
    nextTable s = .ok (r, { s with pos := p }) := by
  unfold nextTable
  refine liftC_ok _ s r ⟨p, s.index⟩ ?_
  unfold Cu.nextTable
  rw [cu_read_bind]
  simp only [hb]
  unfold Cu.nextTableTOUGH2
  rw [cu_get_bind]
  exact h

/-- holds for TOUGH2, TOUGH2_MP, TOUGH3 and TOUGHREACT (`Gen.ListingBind.binding`) -/
structure BoundT2 (fam : Fam) : Prop where
  readTable : bound fam "read_table" = "read_table_TOUGH2"
  skipTable : bound fam "skip_table" = "skip_table_TOUGH2"
  nextTable : bound fam "next_table" = "next_table_TOUGH2"
  tableType : bound fam "table_type" = "table_type_TOUGH2"
  notPlus : (fam == .toughplus) = false

/-- the action of read_tables_TOUGH2 on one table -/
def actT2 (tn : String) : M Unit := do
  if (← get).skipTables.contains tn then skipTable tn
  else if (← hasTable tn) then readTable tn
  else skipTable tn

theorem readTables_T2 (s : Rd) (hb : bound s.fam "read_tables" = "read_tables_TOUGH2") :
    readTables s = (do readHeader; tablesLoop actT2 false false (s.pos.rest.length + 2) "element" 0) s := by
  unfold readTables
  rw [get_bind, get_bind]
  simp only [hb]
  rfl

theorem skipTableTOUGH2_absent (tn : String) (s : Rd) (R : List Str) (atl : Str) (after : List Str)
    (ht : s.tables.lookup tn = none) (hplus : (s.fam == .toughplus) = false)
    (hrest : s.pos.rest = R ++ atl :: after)
    (hR : ∀ l ∈ R, atLine l = false) (ha : atLine atl = true) :
    skipTableTOUGH2 tn s = .ok ((), { s with pos := ⟨s.pos.no + R.length + 1, after⟩ }) := by
  unfold skipTableTOUGH2
  rw [get_bind]
  simp only [ht]
  rw [bind_ok (isPlus_run s)]
  simp only [hplus, Bool.false_and, Bool.false_eq_true, if_false]
  rw [bind_ok (skipto1_run _ _ s), hrest, skipToL_app "@@@@@".toList 1 R atl after _ hR ha]
  rfl

/-- the lines of one table of a block: a table that is read (its layout `t`, header lines and body), or one that is
    skipped because the reader holds no table of that name (lines `R` without `@@@@@` in columns 1..5, then that line) -/
inductive TKind where
  | read (t : Table) (header : List Str) (segs : List (Str × List Str))
  | skip (R : List Str) (atl : Str)

def TKind.lines : TKind → List Str
  | .read _ header segs => header ++ flat segs
  | .skip R atl => R ++ [atl]

/-- one table of a block: its name, its lines and, when another table follows, the lines up to it (lines `X` without a
    `KCYC … ITER` line, that line `kc`, blank lines `Bl`) -/
structure TEntry where
  tn : String
  kind : TKind
  X : List Str := []
  kc : Str := []
  Bl : List Str := []

def TEntry.upd (e : TEntry) : Option Table :=
  match e.kind with
  | .read t _ segs => some { t with data := applyRows t.data (upsT t segs) }
  | .skip _ _ => none

def stepTables (e : TEntry) (T : List (String × Table)) : List (String × Table) := stepPut TEntry.tn TEntry.upd e T

def EntryOk (sk : List String) (T : List (String × Table)) (e : TEntry) : Prop :=
  match e.kind with
  | .read t header segs =>
    sk.contains e.tn = false ∧ T.lookup e.tn = some t ∧ header.length = t.headerSkip ∧ segs.map (·.2.length) = t.skips ∧
    (∀ sg ∈ segs, (rowOfLineT t.rows t.keyPos t.cols.length t.numpos sg.1).isSome = true)
  | .skip R atl => T.lookup e.tn = none ∧ (∀ l ∈ R, atLine l = false) ∧ atLine atl = true

theorem EntryOk_congr (sk : List String) (T T' : List (String × Table)) (e : TEntry) (h : T'.lookup e.tn = T.lookup e.tn)
    (hok : EntryOk sk T e) : EntryOk sk T' e := by
  unfold EntryOk at *
  rw [h]
  exact hok

theorem actT2_run (e : TEntry) (s : Rd) (after : List Str) (hb : BoundT2 s.fam)
    (hok : EntryOk s.skipTables s.tables e) (hrest : s.pos.rest = e.kind.lines ++ after) :
    actT2 e.tn s = .ok ((), { s with pos := ⟨s.pos.no + e.kind.lines.length, after⟩, tables := stepTables e s.tables }) := by
  unfold EntryOk at hok
  unfold stepTables stepPut TEntry.upd
  cases hk : e.kind with
  | read t header segs =>
    rw [hk] at hok hrest
    simp only [TKind.lines] at hok hrest ⊢
    obtain ⟨hc, ht, hh, hs, hrows⟩ := hok
    unfold actT2
    rw [get_bind]
    simp only [hc, Bool.false_eq_true, if_false]
    rw [bind_ok (hasTable_run _ s)]
    simp only [ht, Option.isSome_some, if_true]
    unfold readTable
    rw [get_bind]
    simp only [hb.readTable]
    rw [readTableTOUGH2_run e.tn t s header segs after ht (by rw [hrest, List.append_assoc]) hh hs hrows]
    simp only [List.length_append]
  | skip R atl =>
    rw [hk] at hok hrest
    simp only [TKind.lines] at hok hrest ⊢
    obtain ⟨ht, hR, ha⟩ := hok
    have hskip := skipTableTOUGH2_absent e.tn s R atl after ht hb.notPlus (by rw [hrest]; simp) hR ha
    have hskT : skipTable e.tn s = .ok ((), { s with pos := ⟨s.pos.no + (R.length + 1), after⟩ }) := by
      unfold skipTable
      rw [get_bind]
      simp only [hb.skipTable]
      exact hskip
    simp only [List.length_append, List.length_cons, List.length_nil, Nat.zero_add]
    unfold actT2
    rw [get_bind]
    cases hc : s.skipTables.contains e.tn
    · simp only [Bool.false_eq_true, if_false]
      rw [bind_ok (hasTable_run _ s)]
      simp only [ht, Option.isSome_none, Bool.false_eq_true, if_false]
      exact hskT
    · simp only [if_true]
      exact hskT

/-- the lines of a result block from the first table's header line on; `E` is what follows the last table -/
def blockLines : List TEntry → List Str → List Str
  | [], E => E
  | [e], E => e.kind.lines ++ E
  | e :: e' :: more, E => e.kind.lines ++ (e.X ++ e.kc :: (e.Bl ++ blockLines (e' :: more) E))

/-- the line number behind the last table of the block -/
def endNo : Nat → List TEntry → Nat
  | no, [] => no
  | no, [e] => no + e.kind.lines.length
  | no, e :: e' :: more => endNo (no + e.kind.lines.length + e.X.length + 1 + e.Bl.length) (e' :: more)

/-- the heading of the EOS7c table that next_table_TOUGH2 passes over -/
def massFlow : Str := S "MASS FLOW RATES (KG/S) FROM DIFFUSION"

/-- between table `e` (whose lines end at line number `no`) and the next table `e'`; the line number is there for
    `pastP` alone: next_table_TOUGH2 compares the position behind the `KCYC` line with the start of the next result block -/
def LinkOk (nfull : Nat) (fullpos : Array Pos) (index : Int) (no : Nat) (e e' : TEntry) : Prop :=
  (∀ x ∈ e.X, isKcyc x = false) ∧ isKcyc e.kc = true ∧ e.kc ≠ [] ∧
  pastP nfull fullpos index (no + e.X.length + 1) = .ok false ∧
  (∀ x ∈ e.Bl, isBlank x = true) ∧ e'.kind.lines ≠ [] ∧ isBlank (e'.kind.lines.headD []) = false ∧
  strip (e'.kind.lines.headD []) ≠ massFlow ∧
  tableTypeT2P ((splitWs (strip (e'.kind.lines.headD []))).take 3) = .ok (some e'.tn)

def LinksOk (nfull : Nat) (fullpos : Array Pos) (index : Int) : Nat → List TEntry → Prop
  | no, e :: e' :: more =>
    LinkOk nfull fullpos index (no + e.kind.lines.length) e e' ∧
    LinksOk nfull fullpos index (no + e.kind.lines.length + e.X.length + 1 + e.Bl.length) (e' :: more)
  | _, _ => True

/-- behind the last table: lines `Xe` without a `KCYC` line, then either the end of the file or a `KCYC` line that
    already belongs to the next result block -/
def endLines (Xe : List Str) (tailE : Option (Str × List Str)) : List Str :=
  Xe ++ (match tailE with | none => [] | some (kc, rest) => kc :: rest)

def EndOk (nfull : Nat) (fullpos : Array Pos) (index : Int) (no : Nat) (Xe : List Str) (tailE : Option (Str × List Str)) : Prop :=
  (∀ x ∈ Xe, isKcyc x = false) ∧
  match tailE with
  | none => True
  | some (kc, _) => isKcyc kc = true ∧ kc ≠ [] ∧ pastP nfull fullpos index (no + Xe.length + 1) = .ok true

def endPos (no : Nat) (Xe : List Str) (tailE : Option (Str × List Str)) : Pos :=
  match tailE with
  | none => ⟨no + Xe.length, []⟩
  | some (_, rest) => ⟨no + Xe.length + 1, rest⟩

theorem blockLines_head (e : TEntry) (more : List TEntry) (E : List Str) (hhl : isBlank (e.kind.lines.headD []) = false) :
    ∃ rest', blockLines (e :: more) E = e.kind.lines.headD [] :: rest' := by
  cases h : e.kind.lines with
  | nil => rw [h] at hhl; cases hhl
  | cons a r =>
    cases more with
    | nil => exact ⟨_, by simp only [blockLines, h, List.headD_cons, List.cons_append]; rfl⟩
    | cons e' m => exact ⟨_, by simp only [blockLines, h, List.headD_cons, List.cons_append]; rfl⟩

theorem nextTable_end (s : Rd) (Xe : List Str) (tailE : Option (Str × List Str))
    (hb : bound s.fam "next_table" = "next_table_TOUGH2")
    (hrest : s.pos.rest = endLines Xe tailE)
    (hend : EndOk s.fulltimes.size s.fullpos s.index s.pos.no Xe tailE) :
    nextTable s = .ok (none, { s with pos := endPos s.pos.no Xe tailE }) := by
  apply nextTable_of_loop s none _ hb
  unfold endLines at hrest
  unfold EndOk at hend
  unfold endPos
  cases tailE with
  | none =>
    simp only [List.append_nil] at hrest
    rw [cu_nextTableT2_eof s ⟨s.pos, s.index⟩ _ (by simp only; rw [hrest]; exact hend.1)]
    simp only [hrest]
  | some p =>
    obtain ⟨kc, rest⟩ := p
    simp only at hrest hend ⊢
    obtain ⟨hXe, hkc, _, hpast⟩ := hend
    rw [cu_nextTableT2_past s ⟨s.pos, s.index⟩ Xe kc rest _ hrest hXe hkc hpast]

theorem nextTable_link (s : Rd) (e e' : TEntry) (more : List TEntry) (E : List Str)
    (hb : bound s.fam "next_table" = "next_table_TOUGH2") (hbt : bound s.fam "table_type" = "table_type_TOUGH2")
    (hrest : s.pos.rest = e.X ++ e.kc :: (e.Bl ++ blockLines (e' :: more) E))
    (hl : LinkOk s.fulltimes.size s.fullpos s.index s.pos.no e e') :
    nextTable s = .ok (some e'.tn, { s with pos := ⟨s.pos.no + e.X.length + 1 + e.Bl.length, blockLines (e' :: more) E⟩ }) := by
  apply nextTable_of_loop s _ _ hb
  obtain ⟨hX, hkc, _, hpast, hBl, _, hhl, hmass, htt⟩ := hl
  obtain ⟨rest', hhead⟩ := blockLines_head e' more E hhl
  rw [hhead] at hrest ⊢
  exact cu_nextTableT2_some s ⟨s.pos, s.index⟩ e.X e.kc e.Bl _ _ e'.tn _ hbt hrest hX hkc hpast hBl hhl hmass htt

theorem tablesLoop_block (e : TEntry) (more : List TEntry) (Xe : List Str) (tailE : Option (Str × List Str))
    (s : Rd) (fuel nelt : Nat) (hfuel : more.length < fuel) (hb : BoundT2 s.fam)
    (hnodup : ((e :: more).map (·.tn)).Nodup)
    (hok : ∀ x ∈ e :: more, EntryOk s.skipTables s.tables x)
    (hlinks : LinksOk s.fulltimes.size s.fullpos s.index s.pos.no (e :: more))
    (hend : EndOk s.fulltimes.size s.fullpos s.index (endNo s.pos.no (e :: more)) Xe tailE)
    (hrest : s.pos.rest = blockLines (e :: more) (endLines Xe tailE)) :
    tablesLoop actT2 false false fuel e.tn nelt s
      = .ok ((), { s with pos := endPos (endNo s.pos.no (e :: more)) Xe tailE,
                          tables := (e :: more).foldl (fun T x => stepTables x T) s.tables }) := by
  induction fuel generalizing e more s with
  | zero => cases hfuel
  | succ f ih =>
    unfold tablesLoop
    simp only [Bool.false_eq_true, if_false]
    cases more with
    | nil =>
      simp only [blockLines] at hrest
      rw [bind_ok (actT2_run e s _ hb (hok e List.mem_cons_self) hrest)]
      rw [bind_ok (nextTable_end { s with pos := ⟨s.pos.no + e.kind.lines.length, endLines Xe tailE⟩, tables := stepTables e s.tables } Xe tailE hb.nextTable rfl hend)]
      rfl
    | cons e' more' =>
      simp only [blockLines] at hrest
      rw [bind_ok (actT2_run e s _ hb (hok e List.mem_cons_self) hrest)]
      rw [bind_ok (nextTable_link { s with pos := ⟨s.pos.no + e.kind.lines.length, e.X ++ e.kc :: (e.Bl ++ blockLines (e' :: more') (endLines Xe tailE))⟩, tables := stepTables e s.tables } e e' more' _ hb.nextTable hb.tableType rfl hlinks.1)]
      simp only [Bool.false_and, Bool.false_eq_true, if_false]
      rw [ih e' more' { s with pos := ⟨s.pos.no + e.kind.lines.length + e.X.length + 1 + e.Bl.length, blockLines (e' :: more') (endLines Xe tailE)⟩, tables := stepTables e s.tables } (by simp only [List.length_cons] at hfuel; omega) hb
        (List.nodup_cons.mp hnodup).2
        (stepPut_keeps (EntryOk s.skipTables) (EntryOk_congr _) e _ _ hnodup hok)
        hlinks.2 hend rfl]
      rfl

theorem blockLines_length (L : List TEntry) (E : List Str) : L.length ≤ (blockLines L E).length + 1 := by
  induction L with
  | nil => simp
  | cons e r ih =>
    cases r with
    | nil => simp
    | cons e' m =>
      simp only [blockLines, List.length_append, List.length_cons] at ih ⊢
      omega

/-- The line number of the first table's header line is `p.no + 1 + X.length + 1 + Bl.length`.  The fuel of
    read_tables, `p.rest.length + 2`, is more than the number of tables (`blockLines_length`). -/
theorem setIndex_block_T2 (s : Rd) (i : Int) (jn : Nat) (p : Pos)
    (l0 : Str) (X : List Str) (atl : Str) (Bl : List Str) (tm : FVal) (st : Step)
    (e : TEntry) (more : List TEntry) (Xe : List Str) (tailE : Option (Str × List Str))
    (hj : (if i < 0 then i + (s.fullpos.size : Int) else i) = (jn : Int)) (hjn : jn < s.fullpos.size)
    (hp : s.fullpos[jn]! = p)
    (hel : e.tn = "element")
    (hrt : bound s.fam "read_tables" = "read_tables_TOUGH2") (hrh : bound s.fam "read_header" = "read_header_TOUGH2")
    (hb : BoundT2 s.fam)
    (hv : headerT2Vals l0 = some (tm, st))
    (hhead : HeaderT2Ok l0 X atl Bl (e.kind.lines.headD [])) (h4 : 4 ≤ (splitWs (e.kind.lines.headD [])).length)
    (hprest : p.rest = l0 :: (X ++ atl :: (Bl ++ blockLines (e :: more) (endLines Xe tailE))))
    (hnodup : ((e :: more).map (·.tn)).Nodup)
    (hok : ∀ x ∈ e :: more, EntryOk s.skipTables s.tables x)
    (hlinks : LinksOk s.fulltimes.size s.fullpos (if i < 0 then i + (s.fulltimes.size : Int) else i)
      (p.no + 1 + X.length + 1 + Bl.length) (e :: more))
    (hend : EndOk s.fulltimes.size s.fullpos (if i < 0 then i + (s.fulltimes.size : Int) else i)
      (endNo (p.no + 1 + X.length + 1 + Bl.length) (e :: more)) Xe tailE) :
    setIndex i s
      = .ok ((), { s with pos := endPos (endNo (p.no + 1 + X.length + 1 + Bl.length) (e :: more)) Xe tailE,
                          index := if i < 0 then i + (s.fulltimes.size : Int) else i,
                          step := st, time := tm,
                          tables := (e :: more).foldl (fun T x => stepTables x T) s.tables }) := by
  rw [setIndex_seek s i jn p hj hjn hp]
  generalize (if i < 0 then i + (s.fulltimes.size : Int) else i) = ix at hlinks hend ⊢
  rw [readTables_T2 { s with pos := p, index := ix } hrt]
  have hlen := blockLines_length (e :: more) (endLines Xe tailE)
  obtain ⟨rest', hbl⟩ := blockLines_head e more (endLines Xe tailE) hhead.2.2.2.2
  have hfuel : more.length < p.rest.length + 2 := by
    rw [hprest]
    simp only [List.length_cons, List.length_append] at hlen ⊢
    omega
  rw [hbl] at hprest
  have hH := readHeaderTOUGH2_run { s with pos := p, index := ix } l0 X atl Bl _ rest' tm st hb.notPlus hprest hv hhead h4
  rw [← readHeader_T2 { s with pos := p, index := ix } hrh] at hH
  rw [bind_ok hH]
  rw [← hel]
  exact tablesLoop_block e more Xe tailE
    { s with pos := ⟨p.no + 1 + X.length + 1 + Bl.length, e.kind.lines.headD [] :: rest'⟩, index := ix, step := st, time := tm }
    (p.rest.length + 2) 0 hfuel hb hnodup hok hlinks hend hbl.symm

-- the hypotheses of `readHeaderTOUGH2_run` on three concrete lines
example : HeaderT2Ok (S " 0.10000E+01      1      2\n") [] (S " @@@@@@@@@@\n") [S "\n"] (S " ELEM. INDEX P T X\n") := by
  unfold S
  decide_lits

example : 4 ≤ (splitWs (S " ELEM. INDEX P T X\n")).length := by
  unfold S
  decide_lits

example : (headerT2Vals (S " 0.10000E+01      1      2\n")).map (·.2) = some (some 1) := by
  unfold S
  decide_lits

end Proofs.Whole
