/-
  The texts `%e`, `%f` and `%d` print, their lengths, and how they are read back.
  The idea: each text is the rendering of a printed real (`eReal`, `fReal`: an `FReal` of
  `FortranReals`) or of a signed digit string, so `fortranFloat_reads` and `pyFloat_render` give its
  reading with either conversion dictionary (`read_render`); padding only adds blanks, which both
  readers skip.
-/
import PyTough.Proofs.FixedRound
import PyTough.Proofs.FortranReals
namespace Proofs
open Py Model

def signChars (neg : Bool) : Str := if neg then ['-'] else []

/-- the printed real of `'%.{p}e' % (±n/d)` -/
def eReal (neg : Bool) (p n d : Nat) : FReal :=
  let me := fmtEParts p n d
  let ds := zfill (p + 1) me.1
  -- `'%.0e'` prints no point
  { sign := if neg then .minus else .none, ip := ds.take 1, point := decide (p ≠ 0), fp := ds.drop 1,
    ex := .letter 'e' (if me.2 < 0 then .minus else .plus) (zfill 2 me.2.natAbs) }

theorem eDigits_length (p n d : Nat) (hd : 0 < d) : (zfill (p + 1) (fmtEParts p n d).1).length = p + 1 :=
  zfill_length_of_lt (by omega) (fmtEParts_lt p n d hd)

/-- the digits of the mantissa: the one before the point, and `p` after it -/
theorem eDigits_cons (p n d : Nat) (hd : 0 < d) :
    ∃ c r, zfill (p + 1) (fmtEParts p n d).1 = c :: r ∧ r.length = p := by
  have hl := eDigits_length p n d hd
  generalize zfill (p + 1) (fmtEParts p n d).1 = ds at hl
  match ds, hl with
  | c :: r, hl => exact ⟨c, r, rfl, Nat.succ.inj hl⟩

theorem signChars_eq (neg : Bool) : (if neg then Sign.minus else Sign.none).chars = signChars neg := by
  cases neg <;> rfl

theorem expSign_chars (b : Prop) [Decidable b] :
    (if b then Sign.minus else Sign.plus).chars = [if b then '-' else '+'] := by
  by_cases h : b
  · rw [if_pos h, if_pos h]; rfl
  · rw [if_neg h, if_neg h]; rfl

theorem eReal_render (neg : Bool) (p n d : Nat) (hd : 0 < d) :
    (eReal neg p n d).render = signChars neg ++ fmtEBody p n d := by
  obtain ⟨c, r, e, hl⟩ := eDigits_cons p n d hd
  unfold eReal FReal.render fmtEBody
  simp only [ExpForm.chars, signChars_eq, expSign_chars, e]
  by_cases hp : p = 0
  · subst hp
    cases List.eq_nil_of_length_eq_zero hl
    simp
  · simp [hp]

theorem eReal_WF (neg : Bool) (p n d : Nat) (hd : 0 < d) : (eReal neg p n d).WF := by
  have hl := eDigits_length p n d hd
  have hdig := zfill_isDigit (p + 1) (fmtEParts p n d).1
  obtain ⟨c, r, e, _⟩ := eDigits_cons p n d hd
  unfold eReal FReal.WF
  simp only
  refine ⟨fun c hc => hdig c (List.mem_of_mem_take hc), fun c hc => hdig c (List.mem_of_mem_drop hc), ?_, ?_, ?_⟩
  · intro ⟨h1, _⟩
    simp [e] at h1
  · intro h
    by_cases hp : p = 0
    · exfalso
      apply h
      apply List.eq_nil_of_length_eq_zero
      rw [List.length_drop, hl, hp]
    · simp [hp]
  · exact ⟨Or.inr (Or.inl rfl), zfill_ne_nil _ _, zfill_isDigit _ _⟩

theorem letter_val (l : Char) (k : Nat) (e : Int) :
    (ExpForm.letter l (if e < 0 then .minus else .plus) (zfill k e.natAbs)).val = e := by
  simp only [ExpForm.val, digitsVal_zfill]
  by_cases he : e < 0
  · rw [if_pos he, if_pos rfl]; omega
  · rw [if_neg he, if_neg (by decide)]; omega

theorem eReal_value (neg : Bool) (p n d : Nat) (hd : 0 < d) :
    (eReal neg p n d).value = .fin neg (fmtEParts p n d).1 ((fmtEParts p n d).2 - p) := by
  have hl := eDigits_length p n d hd
  unfold eReal FReal.value
  simp only
  rw [List.take_append_drop, digitsVal_zfill, letter_val, List.length_drop, hl, Nat.add_sub_cancel]
  cases neg <;> rfl

/-- for `decide P`, since the length theorems of C02 count the sign as `if r < 0 then 1 else 0` -/
theorem signChars_length (P : Prop) [Decidable P] :
    (signChars (decide P)).length = if P then 1 else 0 := by
  unfold signChars
  by_cases h : P
  · rw [if_pos h, if_pos (decide_eq_true h)]; rfl
  · rw [if_neg h, if_neg (by simpa using h)]; rfl

theorem signChars_noblank (neg : Bool) : ∀ c ∈ signChars neg, c ≠ ' ' := by
  cases neg <;> simp [signChars]

theorem readField_real {typ : Char} (h : typ = 'e' ∨ typ = 'f' ∨ typ = 'g') (rf : ReadFn) (s : Str) :
    readField rf typ s = readField rf 'e' s := by
  rcases h with rfl | rfl | rfl <;> rfl

/-- a printed real that `float()` itself reads correctly is read back from its padded field by
    either conversion dictionary -/
theorem read_render (rf : ReadFn) {typ : Char} (htyp : typ = 'e' ∨ typ = 'f' ∨ typ = 'g') (left : Bool) (w : Nat)
    (r : FReal) (hr : r.WF) (hex : r.ex.pyReads = true) :
    readField rf typ (pad left w r.render) = .ok (.flt r.value) := by
  have hfacts := render_facts _ hr
  have hpy := pyFloat_render r hr
  rw [hex, if_pos rfl] at hpy
  rw [readField_real htyp]
  cases rf with
  | fortran =>
    have hnb : ∀ c ∈ r.render, c ≠ ' ' := fun c hc =>
      ne_of_apply_ne isStrWs (by rw [(hfacts c hc).1]; decide)
    have := fortranFloat_reads _ hr (pad left w r.render) (pad_filter left w hnb)
    simp [readField, this]
  | default =>
    have hws : ∀ c ∈ r.render, isNumWs c = false := fun c hc =>
      isNumWs_of_isStrWs_false (hfacts c hc).1
    have h1 := pyFloat_strip (stripBy_pad (p := isNumWs) (by decide) left w hws) hws
    rw [hpy] at h1
    simp [readField, h1]

theorem read_eText (rf : ReadFn) (left : Bool) (w : Nat) (neg : Bool) (p n d : Nat) (hd : 0 < d) :
    readField rf 'e' (pad left w (signChars neg ++ fmtEBody p n d)) =
      .ok (.flt (.fin neg (fmtEParts p n d).1 ((fmtEParts p n d).2 - p))) := by
  rw [← eReal_render neg p n d hd, ← eReal_value neg p n d hd]
  exact read_render rf (Or.inl rfl) left w _ (eReal_WF neg p n d hd) rfl

theorem fmtEBody_length (p n d : Nat) (hd : 0 < d) :
    (fmtEBody p n d).length =
      (if p = 0 then 1 else p + 2) + 2 + max 2 (natDigits (fmtEParts p n d).2.natAbs).length := by
  obtain ⟨c, r, e, hl⟩ := eDigits_cons p n d hd
  unfold fmtEBody
  simp only [e]
  rw [List.length_append, List.length_append, zfill_length]
  by_cases hp : p = 0
  · rw [if_pos hp, if_pos hp]; rfl
  · rw [if_neg hp, if_neg hp]; simp only [List.length_cons, List.length_nil]; omega

/-- the length of a `%e` text: sign, mantissa (`d` or `d.ddd`), `e±`, exponent digits (at least two) -/
theorem eText_length (P : Prop) [Decidable P] (p n d : Nat) (hd : 0 < d) :
    (signChars (decide P) ++ fmtEBody p n d).length =
      (if P then 1 else 0) + (if p = 0 then 1 else p + 2) + 2 + max 2 (natDigits (fmtEParts p n d).2.natAbs).length := by
  rw [List.length_append, fmtEBody_length _ _ _ hd, signChars_length, ← Nat.add_assoc, ← Nat.add_assoc]

/-- the integer `'%.{p}f'` prints without its point: `n/d · 10^p`, rounded -/
def fM (p n d : Nat) : Nat := roundHalfEven (n * 10 ^ p) d

def fReal (neg : Bool) (p n d : Nat) : FReal :=
  { sign := if neg then .minus else .none, ip := natDigits (fM p n d / 10 ^ p), point := decide (p ≠ 0),
    fp := if p = 0 then [] else zfill p (fM p n d % 10 ^ p), ex := .absent }

theorem fFrac_length (p m : Nat) (hp : p ≠ 0) : (zfill p (m % 10 ^ p)).length = p :=
  zfill_length_of_lt (by omega) (Nat.mod_lt _ (pow10_pos p))

theorem fReal_render (neg : Bool) (p n d : Nat) :
    (fReal neg p n d).render = signChars neg ++ fmtFBody p n d := by
  unfold fReal FReal.render fmtFBody signChars fM
  by_cases hp : p = 0 <;> cases neg <;> simp [hp, ExpForm.chars, Sign.chars]

theorem fReal_WF (neg : Bool) (p n d : Nat) : (fReal neg p n d).WF := by
  unfold fReal FReal.WF
  simp only
  refine ⟨natDigits_isDigit _, ?_, ?_, ?_, trivial⟩
  · intro c hc
    by_cases hp : p = 0
    · simp [hp] at hc
    · rw [if_neg hp] at hc; exact zfill_isDigit _ _ c hc
  · intro ⟨h, _⟩; exact natDigits_ne_nil _ h
  · intro h
    by_cases hp : p = 0
    · simp [hp] at h
    · simp [hp]

theorem fReal_value (neg : Bool) (p n d : Nat) :
    (fReal neg p n d).value = .fin neg (fM p n d) (-(p : Int)) := by
  unfold fReal FReal.value
  simp only [ExpForm.val]
  congr 1
  · cases neg <;> simp
  · by_cases hp : p = 0
    · simp [hp, digitsVal_natDigits]
    · rw [if_neg hp, digitsVal_append, digitsVal_natDigits, digitsVal_zfill, fFrac_length p _ hp]
      exact Nat.div_add_mod' _ _
  · by_cases hp : p = 0
    · simp [hp]
    · rw [if_neg hp, fFrac_length p _ hp]; omega

theorem fmtFBody_length (p n d : Nat) :
    (fmtFBody p n d).length = (natDigits (fM p n d / 10 ^ p)).length + (if p = 0 then 0 else p + 1) := by
  unfold fmtFBody
  by_cases hp : p = 0
  · simp [hp, fM]
  · simp only [if_neg hp, List.length_append, List.length_cons, fFrac_length p _ hp, fM]

theorem read_fText (rf : ReadFn) (left : Bool) (w : Nat) (neg : Bool) (p n d : Nat) :
    readField rf 'f' (pad left w (signChars neg ++ fmtFBody p n d)) =
      .ok (.flt (.fin neg (fM p n d) (-(p : Int)))) := by
  rw [← fReal_render, ← fReal_value]
  exact read_render rf (Or.inr (Or.inl rfl)) left w _ (fReal_WF neg p n d) rfl

theorem renderInt_eq (neg : Bool) (ds : Str) : renderInt neg false ds = signChars neg ++ ds := by
  cases neg <;> rfl

theorem read_dText (rf : ReadFn) (left : Bool) (w : Nat) (neg : Bool) (k : Nat) :
    readField rf 'd' (pad left w (signChars neg ++ natDigits k)) =
      .ok (.int (if neg then -(k : Int) else k)) := by
  have hd := natDigits_isDigit k
  have hne := natDigits_ne_nil k
  have hmem := renderInt_mem (neg := neg) (plus := false) hd
  rw [← renderInt_eq]
  cases rf with
  | fortran =>
    have := fortranInt_reads neg false _ hne hd (pad left w (renderInt neg false (natDigits k)))
      (pad_filter left w (fun c hc => (hmem c hc).2))
    simp [readField, this, digitsVal_natDigits]
  | default =>
    have hws : ∀ c ∈ renderInt neg false (natDigits k), isNumWs c = false := fun c hc =>
      isNumWs_of_isStrWs_false (hmem c hc).1
    have : pyInt (pad left w (renderInt neg false (natDigits k))) = .ok (if neg then -(k : Int) else k) := by
      rw [pyInt_eq, stripBy_pad (p := isNumWs) (by decide) left w hws, pyIntCore_renderInt neg false hne hd,
        digitsVal_natDigits]
    simp [readField, this]

theorem read_ws (rf : ReadFn) {typ : Char} (htyp : typ = 'd' ∨ typ = 'e' ∨ typ = 'f' ∨ typ = 'g' ∨ typ = 'x')
    {s : Str} (hall : ∀ c ∈ s, isStrWs c = true) : readField rf typ s = .ok .none := by
  rcases htyp with rfl | rfl | rfl | rfl | rfl <;> cases rf <;>
    simp [readField, fortranFloat_blank _ hall, fortranInt_blank _ hall, pyFloat_ws hall, pyInt_ws hall]

/-- Python's conversions fail with `ValueError` only, which `value_error_none` turns into `None`; the
    Fortran readers return for every text -/
theorem readField_total (rf : ReadFn) {typ : Char}
    (h : typ = 's' ∨ typ = 'd' ∨ typ = 'e' ∨ typ = 'f' ∨ typ = 'g' ∨ typ = 'x') (s : Str) :
    ∃ p, readField rf typ s = .ok p := by
  have hd : ∃ p, readField rf 'd' s = .ok p := by
    cases rf with
    | default =>
      cases hp : pyInt s with
      | ok i => exact ⟨.int i, by simp [readField, hp]⟩
      | error e => rw [pyInt_error hp] at hp; exact ⟨.none, by simp [readField, hp]⟩
    | fortran =>
      obtain ⟨o, ho⟩ := fortranInt_total s
      rcases o with (_ | i) | _
      · exact ⟨.none, by simp [readField, ho]⟩
      · exact ⟨.int i, by simp [readField, ho]⟩
      · exact ⟨.none, by simp [readField, ho]⟩
  have hf : ∃ p, readField rf 'e' s = .ok p := by
    cases rf with
    | default =>
      cases hp : pyFloat s with
      | ok v => exact ⟨.flt v, by simp [readField, hp]⟩
      | error e => rw [pyFloat_error hp] at hp; exact ⟨.none, by simp [readField, hp]⟩
    | fortran =>
      obtain ⟨o, ho⟩ := fortranFloat_total s
      cases o with
      | val v => exact ⟨.flt v, by simp [readField, ho]⟩
      | blank => exact ⟨.none, by simp [readField, ho]⟩
  rcases h with rfl | rfl | h | h | h | rfl
  · exact ⟨_, rfl⟩
  · exact hd
  · rw [readField_real (Or.inl h)]; exact hf
  · rw [readField_real (Or.inr (Or.inl h))]; exact hf
  · rw [readField_real (Or.inr (Or.inr h))]; exact hf
  · exact ⟨_, rfl⟩

theorem read_blank (rf : ReadFn) {typ : Char} (htyp : typ = 'd' ∨ typ = 'e' ∨ typ = 'f' ∨ typ = 'g' ∨ typ = 'x') (w : Nat) :
    readField rf typ (List.replicate w ' ') = .ok .none :=
  read_ws rf htyp (spaces_ws w)

theorem readField_s (rf : ReadFn) (s : Str) : readField rf 's' s = .ok (.str (rstripNewline s)) := by
  simp [readField]

theorem rstripNewline_of_last {s : Str} (h : ∀ c, s.getLast? = some c → c ≠ '\n') : rstripNewline s = s :=
  dropWhile_reverse_of_last (fun c hc => by simpa using h c hc)

end Proofs
