/-
  C19: the heap model of `t2incon.transfer_from` computes the same states as the functional model
  (so the theorems about the latter describe what the former files in the heap).  One relation, `Sim`, between a
  heap run and the functional outcome: it holds of an assignment (`copy_found`), of a loop of assignments against
  `mapE` followed by successive `dset` (`foldE_refines`), hence of each loop body and of the atmosphere part.
-/
import PyTough.Proofs.MappingHeap
namespace Proofs.Mapping
open Py Model.Mapping

theorem dget_viewD (h : Heap) (d : InconH) (k : Str) : dget (viewD h d) k = (dget d k).map (valAt h) := by
  unfold dget viewD
  -- a pair of the view has the key of the pair it comes from, so the search finds what comes from the pair found in `d`
  have hc : ((fun p : Str × IncVal => p.1 == k) ∘ fun p : Str × Nat => (p.1, valAt h p.2)) = fun p => p.1 == k := rfl
  rw [List.find?_map, hc]
  cases d.find? (fun p => p.1 == k) <;> rfl

/-- `h` holds the source's objects; the call first allocates `default_atm_incons` -/
def baseHeap (h : Heap) : Heap := h ++ [⟨[], defaultAtm⟩]

/-- a heap run `x` against the functional outcome `y`: the same exception, or a state that keeps the invariant and whose view is
    `R`-related to what `y` returns -/
def Sim {β : Type} (n : Nat) (hb : Heap) (R : Incon → β → Prop) (x : Except Exc (Heap × InconH)) (y : Except Exc β) : Prop :=
  match y with
  | .ok b => ∃ st', x = .ok st' ∧ Inv n hb st' ∧ R (viewD st'.1 st'.2) b
  | .error e => x = .error e

/-- the view `d` is that of `st` with the pair `p` filed -/
def Filed (st : Heap × InconH) (d : Incon) (p : Str × IncVal) : Prop := d = dset (viewD st.1 st.2) p.1 p.2

/-- `self[key] = <the new object o>` : the view gets `key ↦ o.val` -/
theorem setItem_new_view {n : Nat} {hb : Heap} {st : Heap × InconH} (o : Obj) (key : Str)
    (hinv : Inv n hb st) :
    Inv n hb (setItem (st.1 ++ [o], st.2) key st.1.length) ∧
      viewD (setItem (st.1 ++ [o], st.2) key st.1.length).1 (setItem (st.1 ++ [o], st.2) key st.1.length).2
        = dset (viewD st.1 st.2) key o.val := by
  obtain ⟨_, e2, e3⟩ := setItem_new_heap st.1 st.2 o key
  refine ⟨inv_setItem_new o key hinv, ?_⟩
  show List.map _ (dset st.2 key st.1.length) = _
  rw [dset_map (valAt (setItem (st.1 ++ [o], st.2) key st.1.length).1)]
  congr 1
  · -- the objects filed before are untouched
    exact List.map_congr_left fun p hp => by unfold valAt; rw [e2 p.2 (hinv.new p hp).2]
  · -- the new object carries the state of `o`
    unfold valAt
    rw [e3]
    show (if (o.block != key) = true then { o with block := key } else o).val = o.val
    split <;> rfl

theorem assignCopy_refines {n : Nat} {hb : Heap} {st : Heap × InconH} (key : Str) {id : Nat} (o : Obj)
    (hinv : Inv n hb st) (hid : id < n) (ho : hb[id]? = some o) :
    Sim n hb (Filed st) (assignCopy st key id) (.ok (key, o.val)) := by
  have hget : st.1[id]? = some o := by rw [hinv.old id hid, ho]
  unfold assignCopy
  simp only [hget, Heap.alloc]
  obtain ⟨h1, h2⟩ := setItem_new_view o key hinv
  exact ⟨_, rfl, h1, h2⟩

/-- a loop of assignments on the heap against `mapE` + successive `dset` in the functional model -/
theorem foldE_refines {α : Type} {n : Nat} {hb : Heap} {step : Heap × InconH → α → Except Exc (Heap × InconH)}
    {pairF : α → Except Exc (Str × IncVal)}
    (hstep : ∀ st a, Inv n hb st → Sim n hb (Filed st) (step st a) (pairF a))
    (l : List α) {st : Heap × InconH} (hinv : Inv n hb st) :
    Sim n hb (fun d ps => d = ps.foldl (fun d p => dset d p.1 p.2) (viewD st.1 st.2)) (foldE step st l) (mapE pairF l) := by
  induction l generalizing st with
  | nil => exact ⟨st, rfl, hinv, rfl⟩
  | cons a as ih =>
    have hs := hstep st a hinv
    unfold mapE foldE
    cases hp : pairF a with
    | error e =>
      rw [hp] at hs
      have hs : step st a = .error e := hs
      simp only [hs]
      rfl
    | ok p =>
      rw [hp] at hs
      obtain ⟨st1, h1, h2, h3⟩ := hs
      simp only [h1]
      have := ih h2
      cases hm : mapE pairF as with
      | error e => rw [hm] at this; exact this
      | ok ps =>
        rw [hm] at this
        obtain ⟨st', e1, e2, e3⟩ := this
        refine ⟨st', e1, e2, ?_⟩
        rw [e3, h3]
        rfl

/-- the same for a loop that fills an empty `t2incon`: the view is the dict of the pairs -/
theorem foldE_refines_dictOf {α : Type} {n : Nat} {hb : Heap} {step : Heap × InconH → α → Except Exc (Heap × InconH)}
    {pairF : α → Except Exc (Str × IncVal)}
    (hstep : ∀ st a, Inv n hb st → Sim n hb (Filed st) (step st a) (pairF a))
    (l : List α) {h1 : Heap} (hinv : Inv n hb (h1, [])) :
    Sim n hb Eq (foldE step (h1, []) l)
      (match mapE pairF l with | .error e => .error e | .ok ps => .ok (dictOf ps) : Except Exc Incon) := by
  have := foldE_refines hstep l hinv
  cases hm : mapE pairF l with
  | error e => rw [hm] at this; exact this
  | ok ps => rw [hm] at this; exact this

theorem base_get (h : Heap) (id : Nat) (hid : id < h.length) :
    ∃ o, (baseHeap h)[id]? = some o ∧ o.val = valAt h id := by
  have : h[id]? = some h[id] := List.getElem?_eq_getElem hid
  refine ⟨h[id], ?_, ?_⟩
  · unfold baseHeap; rw [List.getElem?_append_left hid, this]
  · unfold valAt; rw [this]

theorem base_dflt (h : Heap) : (baseHeap h)[h.length]? = some ⟨[], defaultAtm⟩ := by
  unfold baseHeap; simp

theorem src_id_lt (h : Heap) (src : InconH) (hs : ∀ p ∈ src, p.2 < h.length) (k : Str) (id : Nat)
    (hd : dget src k = .ok id) : id < h.length :=
  hs _ (dget_mem src k id hd)

theorem firstInc_viewD (h : Heap) (src : InconH) : firstInc (viewD h src) = (firstId src).map (valAt h) := by
  cases src <;> rfl

theorem firstId_lt (h : Heap) (src : InconH) (hs : ∀ p ∈ src, p.2 < h.length) (id : Nat)
    (hd : firstId src = .ok id) : id < h.length := by
  cases src with
  | nil => cases hd
  | cons p ps => cases hd; exact hs p (by simp)

theorem copy_src (h : Heap) (st : Heap × InconH) (key : Str) (id : Nat) (hid : id < h.length)
    (hinv : Inv (h.length + 1) (baseHeap h) st) :
    Sim (h.length + 1) (baseHeap h) (Filed st) (assignCopy st key id) (.ok (key, valAt h id)) := by
  obtain ⟨o, ho, hv⟩ := base_get h id hid
  rw [← hv]
  exact assignCopy_refines key o hinv (by omega) ho

/-- `self[key] = copy(<an object looked up in the source>)`: `x` is the lookup of the object's id, `x.map (valAt h)` that of its state -/
theorem copy_found (h : Heap) (st : Heap × InconH) (key : Str) (hinv : Inv (h.length + 1) (baseHeap h) st)
    (x : Except Exc Nat) : (∀ id, x = .ok id → id < h.length) →
    Sim (h.length + 1) (baseHeap h) (Filed st)
      (match x with | .error e => .error e | .ok id => assignCopy st key id)
      (match x.map (valAt h) with | .error e => .error e | .ok v => .ok (key, v)) := by
  cases x with
  | error e => exact fun _ => rfl
  | ok id => exact fun hx => copy_src h st key id (hx id rfl) hinv

theorem stepUnder_refines (h : Heap) (src : InconH) (hs : ∀ p ∈ src, p.2 < h.length) (m : Dict Str)
    (st : Heap × InconH) (blk : Str) (hinv : Inv (h.length + 1) (baseHeap h) st) :
    Sim (h.length + 1) (baseHeap h) (Filed st) (stepUnder src m st blk) (incUnder (viewD h src) m blk) := by
  unfold incUnder stepUnder
  cases hm : dget m blk with
  | error e => rfl
  | ok sb =>
    simp only
    rw [dget_viewD]
    exact copy_found h st blk hinv _ (src_id_lt h src hs sb)

theorem stepBroadcast_refines (h : Heap) (src : InconH) (hs : ∀ p ∈ src, p.2 < h.length) (t : Geo)
    (st : Heap × InconH) (c : Col) (hinv : Inv (h.length + 1) (baseHeap h) st) :
    Sim (h.length + 1) (baseHeap h) (Filed st) (stepBroadcast t src st c) (atmBroadcast t (viewD h src) c) := by
  unfold atmBroadcast stepBroadcast
  cases t.lay0 with
  | error e => rfl
  | ok g0 =>
    simp only
    cases blockName t.conv g0.name c.name with
    | error e => rfl
    | ok blk =>
      simp only
      rw [firstInc_viewD]
      exact copy_found h st blk hinv _ (firstId_lt h src hs)

theorem stepPerColumn_refines (h : Heap) (src : InconH) (hs : ∀ p ∈ src, p.2 < h.length) (s t : Geo) (cm : Dict Str)
    (st : Heap × InconH) (c : Col) (hinv : Inv (h.length + 1) (baseHeap h) st) :
    Sim (h.length + 1) (baseHeap h) (Filed st) (stepPerColumn s t src cm st c) (atmPerColumn s t (viewD h src) cm c) := by
  unfold atmPerColumn stepPerColumn
  cases dget cm c.name with
  | error e => rfl
  | ok mc =>
    simp only
    cases s.lay0 with
    | error e => rfl
    | ok s0 =>
      simp only
      cases blockName s.conv s0.name mc with
      | error e => rfl
      | ok old =>
        simp only
        cases t.lay0 with
        | error e => rfl
        | ok g0 =>
          simp only
          cases blockName t.conv g0.name c.name with
          | error e => rfl
          | ok blk =>
            simp only
            rw [dget_viewD]
            exact copy_found h st blk hinv _ (src_id_lt h src hs old)

theorem stepDefault_refines (h : Heap) (t : Geo)
    (st : Heap × InconH) (c : Col) (hinv : Inv (h.length + 1) (baseHeap h) st) :
    Sim (h.length + 1) (baseHeap h) (Filed st) (stepDefault t h.length st c) (atmDefaultCol t c) := by
  unfold atmDefaultCol stepDefault
  cases t.lay0 with
  | error e => rfl
  | ok g0 =>
    simp only
    cases blockName t.conv g0.name c.name with
    | error e => rfl
    | ok blk =>
      simp only
      exact assignCopy_refines blk ⟨[], defaultAtm⟩ hinv (by omega) (base_dflt h)

theorem avgStepH_eq (h : Heap) (src : InconH) (hs : ∀ p ∈ src, p.2 < h.length) (s : Geo) :
    avgStepH (baseHeap h) s src = avgStep s (viewD h src) := by
  funext acc c
  unfold avgStepH avgStep atmColVars varsOf
  cases s.lay0 with
  | error e => rfl
  | ok s0 =>
    simp only
    cases blockName s.conv s0.name c.name with
    | error e => rfl
    | ok blk =>
      simp only
      rw [dget_viewD]
      cases hd : dget src blk with
      | error e => rfl
      | ok id =>
        obtain ⟨o, ho, hv⟩ := base_get h id (src_id_lt h src hs blk id hd)
        simp only [Except.map, ho, hv]

theorem dictOf_eq_foldl {β : Type} (ps : List (Str × β)) : dictOf ps = ps.foldl (fun d p => dset d p.1 p.2) [] := rfl

theorem transferAtmH_refines (h : Heap) (src : InconH) (hs : ∀ p ∈ src, p.2 < h.length) (s t : Geo) (cm : Dict Str) :
    Sim (h.length + 1) (baseHeap h) Eq (transferAtmH src s t cm h.length (baseHeap h, []))
      (transferAtm (viewD h src) s t cm) := by
  have hinv : Inv (h.length + 1) (baseHeap h) (baseHeap h, []) :=
    ⟨by simp [baseHeap], fun _ _ => rfl, fun p hp => by cases hp⟩
  unfold transferAtm transferAtmH
  by_cases h0 : t.atm = 0
  · rw [if_pos h0, if_pos h0]
    cases t.lay0 with
    | error e => rfl
    | ok g0 =>
      simp only
      cases blockName t.conv g0.name (atmColName t.conv) with
      | error e => rfl
      | ok atmblk =>
        simp only
        by_cases hs0 : s.atm = 0
        · rw [if_pos hs0, if_pos hs0]
          rw [firstInc_viewD]
          cases hd : firstId src with
          | error e => rfl
          | ok id =>
            -- `Filed (_, []) d (k, v)` is `d = [(k, v)]` by evaluation of `dset [] k v`; so also in the other two cases
            exact copy_src h (baseHeap h, []) atmblk id (firstId_lt h src hs id hd) hinv
        · rw [if_neg hs0, if_neg hs0]
          by_cases hs1 : s.atm = 1
          · rw [if_pos hs1, if_pos hs1]
            unfold atmAverage
            rw [firstInc_viewD]
            cases hd : firstId src with
            | error e => rfl
            | ok id =>
              obtain ⟨o, ho, hv⟩ := base_get h id (firstId_lt h src hs id hd)
              simp only [Except.map, ho, hv]
              rw [avgStepH_eq h src hs s]
              cases foldE (avgStep s (viewD h src)) (List.replicate (valAt h id).vars.length 0) s.cols with
              | error e => rfl
              | ok total =>
                simp only
                by_cases hemp : s.cols.isEmpty = true
                · simp only [hemp, if_true]
                  rfl
                · simp only [hemp, Bool.false_eq_true, if_false]
                  -- `assignNew` is `setItem` on the heap with the fresh object appended
                  exact ⟨_, rfl, setItem_new_view ⟨[], _⟩ atmblk hinv⟩
          · rw [if_neg hs1, if_neg hs1]
            exact assignCopy_refines atmblk ⟨[], defaultAtm⟩ hinv (by omega) (base_dflt h)
  · rw [if_neg h0, if_neg h0]
    by_cases h1 : t.atm = 1
    · rw [if_pos h1, if_pos h1]
      by_cases hs0 : s.atm = 0
      · rw [if_pos hs0, if_pos hs0]
        exact foldE_refines_dictOf (stepBroadcast_refines h src hs t) t.cols hinv
      · rw [if_neg hs0, if_neg hs0]
        by_cases hs1 : s.atm = 1
        · rw [if_pos hs1, if_pos hs1]
          exact foldE_refines_dictOf (stepPerColumn_refines h src hs s t cm) t.cols hinv
        · rw [if_neg hs1, if_neg hs1]
          exact foldE_refines_dictOf (stepDefault_refines h t) t.cols hinv
    · rw [if_neg h1, if_neg h1]
      exact ⟨_, rfl, hinv, rfl⟩

end Proofs.Mapping
