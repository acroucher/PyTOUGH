/-
  Density rises with pressure at fixed temperature: the tools shared by regions 1 and 2, and region 2 itself.
  Both regions return `ρ = p* / (R T γ_π)`; where `γ_π > 0` and `γ_ππ < 0`, `ρ` is positive with positive pressure derivative
  (`posDeriv_div`), so it increases on an interval (mean value theorem, `RisesOn.mono`).  The generated table is read with rational
  coefficients (`ratLits`) and cast to ℝ (`castT`); then `γ_π`, `γ_ππ` are the same `laurent` sum over the tables `dX T`, `dX (dX T)`,
  bounded term by term on a box of `(x, y)` with rational corners, so each box is a closed inequality between rationals, which the
  kernel evaluates (once for all boxes of a region: `r1Boxes_ok` in `IapwsMonoR1.lean`, `r2Boxes_ok` here).  Region 2: `γ_π = 1/π + γʳ_π`, and on a box that reaches down to the
  ideal-gas limit the ideal-gas term outweighs the termwise bounds of the residual sums.
-/
import PyTough.Proofs.ThermoIapws
namespace Proofs.Iapws
open Gen.Iapws Model.Thermo Proofs.Thermo

/-- a rational table read over ℝ: what `laurent` sums and what the kernel can evaluate meet here -/
def castT (T : List (ℤ × ℤ × ℚ)) : List (ℤ × ℤ × ℝ) := T.map fun r => (r.1, r.2.1, (r.2.2 : ℝ))

/-- `∂/∂x`, row by row -/
def dX (T : List (ℤ × ℤ × ℚ)) : List (ℤ × ℤ × ℚ) := T.map fun r => (r.1 - 1, r.2.1, r.2.2 * r.1)

theorem laurentDx_castT (T : List (ℤ × ℤ × ℚ)) (x y : ℝ) : laurentDx (castT T) x y = laurent (castT (dX T)) x y := by
  unfold laurentDx laurent castT dX
  rw [List.map_map, List.map_map, List.map_map]
  congr 1
  apply List.map_congr_left
  intro r _
  simp only [Function.comp_apply]
  push_cast
  ring

theorem laurent_castT_hasDerivAt (T : List (ℤ × ℤ × ℚ)) (x y : ℝ) (hx : x ≠ 0) :
    HasDerivAt (fun x' => laurent (castT T) x' y) (laurent (castT (dX T)) x y) x := by
  rw [← laurentDx_castT]
  exact laurent_hasDerivAt_x _ x y hx

theorem castT_zip3 (is js : List ℤ) (ns : List ℚ) : castT (zip3 is js ns) = zip3 is js (ns.map (↑)) := by
  unfold castT zip3
  rw [List.zip_map_right, List.zip_map_right]
  exact List.map_congr_left fun r _ => rfl

def PosDeriv (f : ℝ → ℝ) (p : ℝ) : Prop := 0 < f p ∧ ∃ f', HasDerivAt f f' p ∧ 0 < f'

theorem posDeriv_div {g : ℝ → ℝ} {g' c k p : ℝ} (hc : 0 < c) (hk : 0 < k) (hg : 0 < g p) (hd : HasDerivAt g g' p) (hn : g' < 0) :
    PosDeriv (fun q => c / (k * g q)) p := by
  have hkg : 0 < k * g p := mul_pos hk hg
  refine ⟨div_pos hc hkg, _, (hasDerivAt_const p c).div (hd.const_mul k) hkg.ne', div_pos ?_ (pow_pos hkg 2)⟩
  rw [zero_mul, zero_sub, neg_pos]
  exact mul_neg_of_pos_of_neg hc (mul_neg_of_pos_of_neg hk hn)

theorem strictMonoOn_of_posDeriv {f : ℝ → ℝ} {S : Set ℝ} (hS : Convex ℝ S) (h : ∀ p ∈ S, PosDeriv f p) : StrictMonoOn f S := by
  refine strictMonoOn_of_deriv_pos hS (fun p hp => ?_) (fun p hp => ?_)
  · obtain ⟨_, _, hd, _⟩ := h p hp
    exact hd.continuousAt.continuousWithinAt
  · obtain ⟨_, _, hd, hpos⟩ := h p (interior_subset hp)
    rwa [hd.deriv]

/-- what the box theorems of both regions conclude (`Box1.risesOn`, `Box2.risesOn`), and all that `mono` needs; a statement about each single pressure of `S` -/
def RisesOn (R : ℝ → Ret ℝ) (ρ : ℝ → ℝ) (S : Set ℝ) : Prop := ∀ p ∈ S, (∃ u, R p = Ret.pair (ρ p) u) ∧ PosDeriv ρ p

/-- between two pressures of a convex `S` the returned density is positive and strictly increases (mean value theorem) -/
theorem RisesOn.mono {R : ℝ → Ret ℝ} {ρ : ℝ → ℝ} {S : Set ℝ} (h : RisesOn R ρ S) (hS : Convex ℝ S) {p1 p2 : ℝ} (m1 : p1 ∈ S) (m2 : p2 ∈ S)
    (h12 : p1 < p2) : ∃ d1 u1 d2 u2, R p1 = Ret.pair d1 u1 ∧ R p2 = Ret.pair d2 u2 ∧ 0 < d1 ∧ d1 < d2 := by
  obtain ⟨u1, e1⟩ := (h p1 m1).1
  obtain ⟨u2, e2⟩ := (h p2 m2).1
  exact ⟨_, u1, _, u2, e1, e2, (h p1 m1).2.1, strictMonoOn_of_posDeriv hS (fun p hp => (h p hp).2) m1 m2 h12⟩

def tbl2Q : List (ℤ × ℤ × ℚ) := zip3 ir2 jr2 (@nr2 ℚ ratLits)

theorem tbl2_cast : tbl2 = castT tbl2Q := by
  rw [tbl2Q, castT_zip3]
  unfold tbl2 nr2
  simp only [List.map_cons, List.map_nil, ratLits_lit]

/-- `Σ |n| P^i Y^j`, which bounds `|Σ n x^i y^j|` on `0 < x ≤ P`, `0 ≤ y ≤ Y` when no exponent that counts is negative -/
def sumAbs (T : List (ℤ × ℤ × ℚ)) (P Y : ℚ) : ℚ := (T.map fun r => |r.2.2| * (P ^ r.1 * Y ^ r.2.1)).sum

theorem abs_laurent_le (T : List (ℤ × ℤ × ℚ)) (hT : ∀ r ∈ T, (r.2.2 = 0 ∨ 0 ≤ r.1) ∧ 0 ≤ r.2.1) {P Y : ℚ} {x y : ℝ}
    (hx0 : 0 < x) (hx : x ≤ P) (hy0 : 0 ≤ y) (hy : y ≤ Y) : |laurent (castT T) x y| ≤ sumAbs T P Y := by
  unfold laurent castT sumAbs
  induction T with
  | nil => simp
  | cons m ms ih =>
    simp only [List.map_cons, List.sum_cons]
    rw [Rat.cast_add]
    refine (abs_add_le _ _).trans (add_le_add ?_ (ih fun q hq => hT q (List.mem_cons_of_mem _ hq)))
    obtain ⟨hi, hj⟩ := hT m List.mem_cons_self
    push_cast
    rcases hi with ha | hi
    · simp [ha]
    · have hxy : 0 ≤ x ^ m.1 * y ^ m.2.1 := mul_nonneg (zpow_nonneg hx0.le _) (zpow_nonneg hy0 _)
      rw [mul_assoc, abs_mul, abs_of_nonneg hxy]
      exact mul_le_mul_of_nonneg_left
        (mul_le_mul (zpow_le_zpow_left₀ hi hx0.le hx) (zpow_le_zpow_left₀ hj hy0 hy) (zpow_nonneg hy0 _)
          (zpow_nonneg (hx0.le.trans hx) _)) (abs_nonneg _)

theorem tbl2Q_exps : ∀ r ∈ dX tbl2Q ++ dX (dX tbl2Q), (r.2.2 = 0 ∨ 0 ≤ r.1) ∧ 0 ≤ r.2.1 := by decide +kernel

/-- the density `supst` returns at `(t, p)`: `p* / (R T γ_π)` with `γ_π = 1/π + γʳ_π` -/
noncomputable def rho2 (t p : ℝ) : ℝ := pstar2 / (rconst * (t + tc_k) * (1 / pi2 p + laurentDx tbl2 (pi2 p) (tau2 t - 1 / 2)))

/-- the ideal-gas term `1/x` outweighs what `M` bounds -/
theorem abs_lt_inv {s M P x : ℝ} (hs : |s| ≤ M) (hM : M * P < 1) (hx0 : 0 < x) (hx : x ≤ P) : |s| < 1 / x :=
  hs.trans_lt (((lt_div_iff₀ (hx0.trans_le hx)).mpr hM).trans_le (one_div_le_one_div_of_le hx0 hx))

/-- where `π ≤ P`, `τ − ½ ≤ Y` and the residual parts of `γ_π` and `γ_ππ` stay below the ideal-gas parts `1/π` and `1/π²` -/
theorem rho2_posDeriv {P Y : ℚ} (hM1 : sumAbs (dX tbl2Q) P Y * P < 1) (hM2 : sumAbs (dX (dX tbl2Q)) P Y * (P * P) < 1)
    {t p : ℝ} (ht0 : 0 ≤ t) (hπ0 : 0 < pi2 p) (hπP : pi2 p ≤ P) (hy0 : 0 ≤ tau2 t - 1 / 2) (hyY : tau2 t - 1 / 2 ≤ Y) :
    PosDeriv (fun q => rho2 t q) p := by
  have hP : (0 : ℝ) < P := hπ0.trans_le hπP
  have b1 := abs_lt.mp (abs_lt_inv (abs_laurent_le _ (fun m hm => tbl2Q_exps m (List.mem_append_left _ hm)) hπ0 hπP hy0 hyY)
    (by exact_mod_cast hM1) hπ0 hπP)
  have b2 := abs_lt.mp (abs_lt_inv (P := P * P) (abs_laurent_le _ (fun m hm => tbl2Q_exps m (List.mem_append_right _ hm)) hπ0 hπP hy0 hyY)
    (by exact_mod_cast hM2) (pow_pos hπ0 2) (by rw [sq]; exact mul_le_mul hπP hπP hπ0.le hP.le))
  have hd : HasDerivAt (fun x => 1 / x + laurent (castT (dX tbl2Q)) x (tau2 t - 1 / 2))
      (-(pi2 p ^ 2)⁻¹ + laurent (castT (dX (dX tbl2Q))) (pi2 p) (tau2 t - 1 / 2)) (pi2 p) := by
    simpa only [one_div] using (hasDerivAt_inv hπ0.ne').fun_add (laurent_castT_hasDerivAt _ _ _ hπ0.ne')
  have hn : -(pi2 p ^ 2)⁻¹ + laurent (castT (dX (dX tbl2Q))) (pi2 p) (tau2 t - 1 / 2) < 0 := by
    rw [neg_add_neg_iff, ← one_div]
    exact b2.2
  have hc : (0 : ℝ) < pstar2 := by rw [pstar2_eq]; norm_num
  unfold rho2
  simp only [tbl2_cast, laurentDx_castT]
  exact posDeriv_div hc (mul_pos rconst_pos (tk_pos t ht0)) (neg_lt_iff_pos_add'.mp b1.1) (hd.comp p ((hasDerivAt_id p).div_const _))
    (mul_neg_of_neg_of_pos hn (one_div_pos.mpr hc))

/-- the box `tlo ≤ t ≤ 800` degC, `0 < p ≤ pmax` Pa (naturals: a hypothesis `350 ≤ t` is `(b.tlo : ℝ) ≤ t` as it stands; `0 ≤ t` is not, there `simpa`) -/
structure Box2 where
  tlo : ℕ
  pmax : ℕ
deriving DecidableEq

/-- on the box `π ≤ P` and `τ − ½ ≤ Y` -/
def Box2.P (b : Box2) : ℚ := b.pmax / 1000000
def Box2.Y (b : Box2) : ℚ := 540 / (b.tlo + 27314999 / 100000) - 1 / 2

theorem Box2.xy_mem (b : Box2) {t p : ℝ} (hlo : (b.tlo : ℝ) ≤ t) (hp0 : 0 < p) (hp : p ≤ b.pmax) :
    0 < pi2 p ∧ pi2 p ≤ b.P ∧ tau2 t - 1 / 2 ≤ b.Y := by
  have d : (540 : ℝ) / (t + tc_k) ≤ 540 / (b.tlo + 27314999 / 100000) :=
    div_le_div_of_nonneg_left (by norm_num) (add_pos_of_nonneg_of_pos (Nat.cast_nonneg _) (by norm_num)) (add_le_add hlo tc_k_bounds.1.le)
  unfold pi2 tau2 Box2.P Box2.Y
  rw [pstar2_eq, tstar2_eq]
  simp only [Rat.cast_sub, Rat.cast_add, Rat.cast_div, Rat.cast_ofNat, Rat.cast_one, Rat.cast_natCast]
  exact ⟨div_pos hp0 (by norm_num), div_le_div_of_nonneg_right hp (by norm_num), sub_le_sub_right d _⟩

def Box2.ok (b : Box2) : Prop :=
  b.pmax ≤ 100000000 ∧ sumAbs (dX tbl2Q) b.P b.Y * b.P < 1 ∧ sumAbs (dX (dX tbl2Q)) b.P b.Y * (b.P * b.P) < 1

instance Box2.decidableOk (b : Box2) : Decidable b.ok := by unfold Box2.ok; infer_instance

theorem Box2.risesOn (b : Box2) (hb : b.ok) {t : ℝ} (hlo : (b.tlo : ℝ) ≤ t) (ht : t ≤ 800) :
    RisesOn (supst t) (rho2 t) (Set.Ioc 0 (b.pmax : ℝ)) := fun p hp => by
  obtain ⟨hmax, hM1, hM2⟩ := hb
  have ht0 : 0 ≤ t := (Nat.cast_nonneg _).trans hlo
  obtain ⟨x0, x1, y1⟩ := b.xy_mem hlo hp.1 hp.2
  exact ⟨⟨_, supst_eq t p ht0 ht hp.1 (hp.2.trans (by exact_mod_cast hmax))⟩,
    rho2_posDeriv hM1 hM2 ht0 x0 x1 (r2_y_pos t ht0 ht).le y1⟩

/-- the box by its two numbers, implicit: a hypothesis `350 ≤ t` fixes `tlo` by unification, and `hb` is looked up in `r2Boxes_ok` -/
theorem Box2.density_mono {tlo pmax : ℕ} (hb : Box2.ok ⟨tlo, pmax⟩) {t p1 p2 : ℝ} (hlo : (tlo : ℝ) ≤ t) (ht : t ≤ 800)
    (h1 : 0 < p1) (h12 : p1 < p2) (hp : p2 ≤ pmax) :
    ∃ d1 u1 d2 u2, supst t p1 = Ret.pair d1 u1 ∧ supst t p2 = Ret.pair d2 u2 ∧ 0 < d1 ∧ d1 < d2 :=
  (Box2.risesOn _ hb hlo ht).mono (convex_Ioc _ _) ⟨h1, h12.le.trans hp⟩ ⟨h1.trans h12, hp⟩ h12

/-- the boxes of `density_monotone_r2_partial` (`Props/C14.lean`), from the ideal-gas limit up -/
def r2Boxes : List Box2 := [⟨350, 10000000⟩, ⟨300, 5000000⟩, ⟨250, 3000000⟩, ⟨200, 1500000⟩, ⟨100, 100000⟩, ⟨0, 600⟩]

theorem r2Boxes_ok : ∀ b ∈ r2Boxes, b.ok := by decide +kernel

end Proofs.Iapws
