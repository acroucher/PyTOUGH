/-
  Conformity of the subdivision tables (C11): the directed edges of the sub-columns of every table
  entry, as a multiset, are the refined parent boundary plus interior edges that occur in
  opposite pairs; no hanging node.  Everything is a decidable statement about the generated
  tables, checked over the whole table by kernel evaluation and lifted to the quantified form.
  The cancellation identity `boundaryOK` behind area conservation is a consequence.
-/
import PyTough.Proofs.Refine
namespace Proofs.Refine
open Model.Geo Model.Refine Gen.RefineTables

def rev (e : Edge) : Edge := (e.2, e.1)

theorem rev_eq_iff {x e : Edge} : rev x = e ↔ x = rev e :=
  ⟨fun h => h ▸ rfl, fun h => h ▸ rfl⟩

/-- one representative of every opposite pair `e, rev e` of a (duplicate-free) list of directed
    edges: the one that comes first in the list — the interior edges, each once -/
def pairedHalf : List Edge → List Edge
  | [] => []
  | e :: es => if rev e ∈ es then e :: pairedHalf es else pairedHalf es

/-- The conformity statement for one parent (`nn` corners, refined sides `sides`) and its
    sub-columns `subs`, written out:
    1. no directed edge is used twice (neither by two sub-columns nor twice by one);
    2. no sub-column runs along an edge and back;
    3. every directed edge of a sub-column is EITHER an edge of the refined parent boundary (and
       then no sub-column has the opposite edge) OR an interior edge (and then the opposite edge
       belongs to a sub-column — by 1 exactly one, by 2 another one);
    4. every edge of the refined parent boundary belongs to a sub-column;
    5. no refined side of the parent is used unsplit (in either direction) by a sub-column. -/
def Conform (nn : Nat) (sides : List Nat) (subs : List Poly) : Prop :=
  (polyEdges subs).Nodup ∧
  (∀ p ∈ subs, ∀ e ∈ cyc p, rev e ∉ cyc p) ∧
  (∀ e ∈ polyEdges subs,
      (e ∈ refBoundary nn sides ∧ rev e ∉ polyEdges subs) ∨
      (e ∉ refBoundary nn sides ∧ rev e ∈ polyEdges subs)) ∧
  (∀ e ∈ refBoundary nn sides, e ∈ polyEdges subs) ∧
  (∀ i ∈ sides, (Vert.corner i, Vert.corner ((i + 1) % nn)) ∉ polyEdges subs ∧
                (Vert.corner ((i + 1) % nn), Vert.corner i) ∉ polyEdges subs)

instance (nn : Nat) (sides : List Nat) (subs : List Poly) : Decidable (Conform nn sides subs) := by
  unfold Conform; infer_instance

/-- the multiset identity: sub-column edges = refined boundary + interior edges + their reverses -/
def edgeMultisetOK (nn : Nat) (sides : List Nat) (subs : List Poly) : Bool :=
  let I := pairedHalf (polyEdges subs)
  (polyEdges subs).isPerm (refBoundary nn sides ++ I ++ I.map rev)

/-- everything that is checked of one parent and the sub-columns listed for it -/
def EntryOK (nn : Nat) (sides : List Nat) (centre : Bool) (subs : List Poly) : Prop :=
  Conform nn sides subs ∧ edgeMultisetOK nn sides subs = true ∧ vertsAvailable nn sides centre subs = true

instance (nn : Nat) (sides : List Nat) (centre : Bool) (subs : List Poly) :
    Decidable (EntryOK nn sides centre subs) := by
  unfold EntryOK; infer_instance

theorem transition_table_ok :
    ∀ nn ∈ [3, 4], ∀ s ∈ sublists (List.range nn), s ≠ [] →
      (subdivision nn s).isSome = true ∧
        ∀ subs ∈ (subdivision nn s).toList, EntryOK nn s (subdivisionCentre nn s) subs := by
  decide +kernel

theorem decompose_table_ok :
    ∀ c ∈ decomposeCases, ∀ i0 ∈ List.range c.nn, EntryOK c.nn [] true (subdivide c.nn i0 c.polys) := by
  decide +kernel

theorem split_table_ok :
    ∀ i0 ∈ List.range 4, EntryOK 4 [] false [splitOld i0, splitNewPoly i0] := by
  decide +kernel

/-- the table in the quantified form in which `refine` meets it -/
theorem transition_entry_ok (nn : Nat) (hnn : nn = 3 ∨ nn = 4) (sides : List Nat)
    (hs : sides.Sublist (List.range nn)) (hne : sides ≠ []) :
    (subdivision nn sides).isSome = true ∧
      ∀ subs ∈ (subdivision nn sides).toList, EntryOK nn sides (subdivisionCentre nn sides) subs :=
  transition_table_ok nn (by rcases hnn with rfl | rfl <;> simp) sides (mem_sublists.mpr hs) hne

theorem subdivision_entry_ok (nn : Nat) (hnn : nn = 3 ∨ nn = 4) (sides : List Nat)
    (hs : sides.Sublist (List.range nn)) (hne : sides ≠ []) (subs : List Poly)
    (h : subdivision nn sides = some subs) : EntryOK nn sides (subdivisionCentre nn sides) subs :=
  (transition_entry_ok nn hnn sides hs hne).2 subs (Option.mem_toList.mpr h)

theorem mem_polyEdges {e : Edge} {subs : List Poly} : e ∈ polyEdges subs ↔ ∃ p ∈ subs, e ∈ cyc p := by
  simp only [polyEdges, List.mem_flatMap]

/-- in a duplicate-free concatenation, an element determines the block it comes from -/
theorem flatMap_nodup_unique {α β} (f : α → List β) : ∀ (l : List α), (l.flatMap f).Nodup →
    ∀ a ∈ l, ∀ b ∈ l, ∀ x, x ∈ f a → x ∈ f b → a = b
  | [], _, a, ha, _, _, _, _, _ => by cases ha
  | c :: t, h, a, ha, b, hb, x, xa, xb => by
    simp only [List.flatMap_cons, List.nodup_append] at h
    obtain ⟨_, ht, hdis⟩ := h
    rcases List.mem_cons.mp ha with rfl | ha' <;> rcases List.mem_cons.mp hb with rfl | hb'
    · rfl
    · exact absurd rfl (hdis x xa x (List.mem_flatMap.mpr ⟨b, hb', xb⟩))
    · exact absurd rfl (hdis x xb x (List.mem_flatMap.mpr ⟨a, ha', xa⟩))
    · exact flatMap_nodup_unique f t ht a ha' b hb' x xa xb

/-- sub-columns meet along FULL edges: an edge of a sub-column that is not on the refined parent
    boundary is, reversed, an edge of exactly one sub-column, and that one is a different
    sub-column (same two end nodes on both sides: no T-junction) -/
theorem conform_shared_edge {nn : Nat} {sides : List Nat} {subs : List Poly} (h : Conform nn sides subs)
    (p : Poly) (hp : p ∈ subs) (e : Edge) (he : e ∈ cyc p) (hb : e ∉ refBoundary nn sides) :
    ∃ q ∈ subs, q ≠ p ∧ rev e ∈ cyc q ∧ ∀ q' ∈ subs, rev e ∈ cyc q' → q' = q := by
  obtain ⟨hnd, hself, hcl, _, _⟩ := h
  have hE : e ∈ polyEdges subs := mem_polyEdges.mpr ⟨p, hp, he⟩
  rcases hcl e hE with ⟨h1, _⟩ | ⟨_, h2⟩
  · exact absurd h1 hb
  · obtain ⟨q, hq, hqe⟩ := mem_polyEdges.mp h2
    refine ⟨q, hq, ?_, hqe, ?_⟩
    · rintro rfl; exact hself q hq e he hqe
    · intro q' hq' hq'e
      exact flatMap_nodup_unique cyc subs hnd q' hq' q hq (rev e) hq'e hqe

/-- an edge on the refined parent boundary belongs to exactly one sub-column, and no sub-column has
    the opposite edge (the parent's outside stays outside) -/
theorem conform_boundary_edge {nn : Nat} {sides : List Nat} {subs : List Poly} (h : Conform nn sides subs)
    (e : Edge) (he : e ∈ refBoundary nn sides) :
    (∃ p ∈ subs, e ∈ cyc p ∧ ∀ p' ∈ subs, e ∈ cyc p' → p' = p) ∧ ∀ q ∈ subs, rev e ∉ cyc q := by
  obtain ⟨hnd, _, hcl, hcov, _⟩ := h
  have hE := hcov e he
  obtain ⟨p, hp, hpe⟩ := mem_polyEdges.mp hE
  refine ⟨⟨p, hp, hpe, fun p' hp' hp'e => flatMap_nodup_unique cyc subs hnd p' hp' p hp e hp'e hpe⟩, ?_⟩
  intro q hq hqe
  rcases hcl e hE with ⟨_, h2⟩ | ⟨h1, _⟩
  · exact h2 (mem_polyEdges.mpr ⟨q, hq, hqe⟩)
  · exact h1 he

theorem cancel_eq_filter : ∀ (E : List Edge), E.Nodup → (∀ e ∈ E, rev e ≠ e) →
    cancel E = E.filter fun e => rev e ∉ E
  | [], _, _ => rfl
  | e :: es, hnd, hl => by
    obtain ⟨he, hes⟩ := List.nodup_cons.mp hnd
    have ih := cancel_eq_filter es hes fun x hx => hl x (List.mem_cons_of_mem _ hx)
    have hne : rev e ≠ e := hl e List.mem_cons_self
    show (if rev e ∈ cancel es then (cancel es).erase (rev e) else e :: cancel es) = _
    rw [ih]
    by_cases h : rev e ∈ es
    · -- `e` goes, and so does `rev e`, which was kept so far since `e ∉ es`
      have hr : rev e ∈ es.filter fun x => rev x ∉ es := List.mem_filter.mpr ⟨h, decide_eq_true he⟩
      rw [if_pos hr, List.Nodup.erase_eq_filter (hes.filter _), List.filter_filter,
        List.filter_cons_of_neg (by simp [h])]
      apply List.filter_congr
      intro x _
      rw [Bool.eq_iff_iff]
      simp [rev_eq_iff]
    · have hr : rev e ∉ es.filter fun x => rev x ∉ es := fun hm => h (List.mem_filter.mp hm).1
      rw [if_neg hr, List.filter_cons_of_pos (by simp [h, hne])]
      congr 1
      apply List.filter_congr
      intro x hx
      have : rev x ≠ e := fun hxe => h (rev_eq_iff.mp hxe ▸ hx)
      simp [this]

/-- of the edges of conforming sub-columns, those of the refined boundary are the ones without a
    reverse: cancelling leaves the boundary -/
theorem boundaryOK_of_conform {nn : Nat} {sides : List Nat} {subs : List Poly}
    (h : Conform nn sides subs) (hm : edgeMultisetOK nn sides subs = true) :
    boundaryOK nn sides subs = true := by
  obtain ⟨hnd, hself, hcl, hcov, _⟩ := h
  have hperm := List.isPerm_iff.mp hm
  have hloop : ∀ e ∈ polyEdges subs, rev e ≠ e := by
    intro e he hrev
    obtain ⟨p, hp, hpe⟩ := mem_polyEdges.mp he
    exact hself p hp e hpe (hrev ▸ hpe)
  have hB : ∀ b ∈ refBoundary nn sides, rev b ∉ polyEdges subs := by
    intro b hb
    rcases hcl b (hcov b hb) with ⟨_, h2⟩ | ⟨h1, _⟩
    · exact h2
    · exact absurd hb h1
  have hI : ∀ i ∈ pairedHalf (polyEdges subs), i ∈ polyEdges subs ∧ rev i ∈ polyEdges subs := fun i hi =>
    ⟨hperm.mem_iff.mpr (by simp [hi]), hperm.mem_iff.mpr (by simp [List.mem_map_of_mem, hi])⟩
  unfold boundaryOK
  rw [cancel_eq_filter _ hnd hloop, List.isPerm_iff]
  refine (hperm.filter _).trans ?_
  rw [List.filter_append, List.filter_append, List.filter_eq_self.mpr (by simpa using hB),
    List.filter_eq_nil_iff.mpr (by simpa using fun i hi => (hI i hi).2),
    List.filter_eq_nil_iff.mpr, List.append_nil, List.append_nil]
  intro x hx
  obtain ⟨i, hi, rfl⟩ := List.mem_map.mp hx
  simp [rev, (hI i hi).1]

end Proofs.Refine
