/-
  C01 proofs: INCON, ELEME, CONNE — records that start with block names.
-/
import PyTough.Proofs.T2DataNames
namespace Proofs.T2
open Py Model Model.T2 Proofs Proofs.Incon
open Gen.Sections (Rec)

/-- a block name as it appears in files: five characters, something visible (`Visible` of T2DataNames), and no newline,
    since here the name goes through an `s` field, whose reader strips a closing newline -/
structure GoodName (n : Str) : Prop where
  len : n.length = 5
  vis : isBlank (unfixBlockname n) = false
  nonl : '\n' ∉ unfixBlockname n

structure StrField (f : FieldSpec) : Prop where
  typ : f.typ = 's'
  prec : f.prec = none

instance (f : FieldSpec) : Decidable (StrField f) :=
  decidable_of_iff (_ ∧ _) ⟨fun ⟨h1, h2⟩ => ⟨h1, h2⟩, fun h => ⟨h.typ, h.prec⟩⟩

theorem str_field_write {f : FieldSpec} (hf : StrField f) {u : Str} (hu : u.length = f.width) (hnl : '\n' ∉ u) :
    writeField f (.str u) = .ok u ∧ canonV f (.str u) = .str u := by
  obtain ⟨hw, hr⟩ := reparse_name .default hf.typ hf.prec hu hnl
  exact ⟨hw, by unfold canonV; rw [hr]; rfl⟩

/-- an A5 name field -/
structure NameField (f : FieldSpec) : Prop extends StrField f where
  width : f.width = 5

instance (f : FieldSpec) : Decidable (NameField f) :=
  decidable_of_iff (_ ∧ _) ⟨fun ⟨h1, h2⟩ => ⟨h1, h2⟩, fun h => ⟨h.toStrField, h.width⟩⟩

theorem name_field_write {f : FieldSpec} (hf : NameField f) {u : Str} (hu : u.length = 5) (hnl : '\n' ∉ u) :
    writeField f (.str u) = .ok u ∧ canonV f (.str u) = .str u :=
  str_field_write hf.toStrField (by rw [hu, hf.width]) hnl

theorem named_record {r : Rec} (hr : RecWF r) {f : FieldSpec} {fs : List FieldSpec} (hfs : r.fs = f :: fs) (hf : StrField f)
    {u : Str} (hu : u.length = f.width) (hnl : '\n' ∉ u) (hvis : isBlank u = false) {vals : List Val}
    (hl : vals.length = fs.length) {l l' : Str} (hw : writeValuesLine r (.str u :: vals) = .ok l) (hp : Padded l l') :
    (∃ tail, l = u ++ tail) ∧ isBlank l' = false ∧
      readValues .default r l' = .ok (.str u :: (vals.zip fs).map (fun vf => canonV vf.2 vf.1)) := by
  obtain ⟨pad, hpad⟩ := hp
  obtain ⟨tail, rfl⟩ : ∃ tail, l = u ++ tail := by
    obtain ⟨rec, h, rfl⟩ := writeLine_ok ((writeValuesLine_eq r _).symm.trans hw)
    rw [hfs, writeValues_cons, (str_field_write hf hu hnl).1, ok_bind] at h
    obtain ⟨rest, _, h'⟩ := bind_ok_iff.mp h
    cases h'
    exact ⟨rest ++ ['\n'], List.append_assoc ..⟩
  refine ⟨⟨tail, rfl⟩, by rw [List.append_assoc]; exact not_blank_append hvis, ?_⟩
  rw [fullRecord_fields hr hfs _ (by rw [List.length_cons, List.length_cons, hl]) hw (.mk pad hpad), List.zip_cons_cons, List.map_cons,
    (str_field_write hf hu hnl).2]

structure InconShape (T : Tabs) : Prop where
  kind : RecShape T c!"incon1" 4
  name : NameField (fieldAt T c!"incon1" 0)
  get2 : T.get c!"incon2" = .ok (recOf T c!"incon2")
  num2 : ∀ f ∈ (recOf T c!"incon2").fs, NumericTyp f.typ

instance (T : Tabs) : Decidable (InconShape T) :=
  decidable_of_iff (_ ∧ _ ∧ _ ∧ _) ⟨fun ⟨h1, h2, h3, h4⟩ => ⟨h1, h2, h3, h4⟩, fun h => ⟨h.kind, h.name, h.get2, h.num2⟩⟩

/-- `fq fa fp`: the fields of the sequence numbers and the porosity; `r2`: the record of the variables line -/
def canonIncon (r2 : Rec) (fq fa fp : FieldSpec) (e : Incon) : Incon :=
  let nseq := zeroNone (canonV fq (match e.seq with | some p => p.1 | none => .none))
  let nadd := zeroNone (canonV fa (match e.seq with | some p => p.2 | none => .none))
  { name := cycleName e.name, porosity := canonV fp e.porosity,
    vars := trimTrailingNones ((e.vars.zip r2.fs).map (fun vf => canonV vf.2 vf.1) ++ (r2.fs.drop e.vars.length).map (fun _ => Val.none)),
    seq := if nseq == .none then none else some (nseq, nadd) }

abbrev canonInconOf (T : Tabs) : Incon → Incon :=
  canonIncon (recOf T c!"incon2") (fieldAt T c!"incon1" 1) (fieldAt T c!"incon1" 2) (fieldAt T c!"incon1" 3)

theorem incon_record {T : Tabs} (hs : InconShape T) (e : Incon) (hn : GoodName e.name) (hw : ∃ ls, writeIncon T e = .ok ls) :
    RecordRT id (fun _ => false) (readIncon .default T)
      (linesOf (writeIncon T)) (canonInconOf T) e := by
  obtain ⟨ls, hw⟩ := hw
  have hls := hw
  have hT1 := hs.kind.get
  have hT2 := hs.get2
  unfold writeIncon at hw
  simp only [hT1, hT2, pure, Except.pure, ok_bind, bind_ok_iff, Except.ok.injEq] at hw
  obtain ⟨l1, h1, l2, h2, rfl⟩ := hw
  obtain ⟨_, hnb, hrd1⟩ := named_record hs.kind.wf hs.kind.fs_eq hs.name.toStrField ((Names.unfix_length hn.len).trans hs.name.width.symm)
    hn.nonl hn.vis rfl h1 (.refl l1)
  refine ⟨l1, [l2], linesOf_ok hls, hnb, rfl, fun rest => ?_⟩
  simp only [fieldsFrom, Nat.reduceAdd, List.zip_cons_cons, List.zip_nil_right, List.map_cons, List.map_nil] at hrd1
  have hvalid2 : ∀ f ∈ (recOf T c!"incon2").fs, ValidTyp f.typ := fun f hf => NumericTyp.valid (hs.num2 f hf)
  have hnum2 : ∀ f ∈ (recOf T c!"incon2").fs.drop e.vars.length, NumericTyp f.typ := fun f hf => hs.num2 f (List.mem_of_mem_drop hf)
  have hrd2 := readValues_written _ e.vars hvalid2 hnum2 h2 (.refl l2)
  show readIncon .default T l1 (l2 :: rest) = _
  unfold readIncon
  simp only [hT1, hT2, bind, Except.bind, pure, Except.pure, hrd1, readline, hrd2, Val.str?]
  rw [(cycle_ok hn.len).1]
  -- `canonIncon` takes the pair of sequence numbers as the writer does
  cases hseq : e.seq with
  | none => simp only [canonIncon, hseq]; rfl
  | some p => simp only [canonIncon, hseq]; rfl

/-- INCON: two lines per entry; the entries read are set into the reader's list (`setIncon`) -/
theorem section_roundtrip_INCON {T : Tabs} (hs : InconShape T)
    (es d0 : List Incon) (hn : ∀ e ∈ es, GoodName e.name)
    (hw : ∀ e ∈ es, ∃ ls, writeIncon T e = .ok ls) (rest : List Str) :
    readIncons .default T d0 ((es.map (linesOf (writeIncon T))).flatten ++ nl [] :: rest) =
      .ok ((es.map (canonInconOf T)).foldl setIncon d0, rest) := by
  unfold readIncons
  rw [untilBlank_roundtrip id (fun _ => false) _ _ _ es (fun e he => incon_record hs e (hn e he) (hw e he)) (nl [])
    (Or.inl isBlank_nl_nil) rest]
  rfl

theorem incons_readsBack {T : Tabs} (hs : InconShape T)
    (blocks : List Block) (d d0 : List Incon) (hne : d ≠ [])
    (hn : ∀ e ∈ blocks.filterMap (fun b => d.find? (·.name == b.name)), GoodName e.name)
    (hw : ∀ e ∈ blocks.filterMap (fun b => d.find? (·.name == b.name)), ∃ ls, writeIncon T e = .ok ls) :
    ∃ lines, writeIncons T blocks d = .ok lines ∧ ReadsBack c!"INCON" lines (readIncons .default T d0)
      (((blocks.filterMap fun b => d.find? (·.name == b.name)).map (canonInconOf T)).foldl setIncon d0) := by
  unfold writeIncons
  rw [List.isEmpty_eq_false_iff.mpr hne]
  exact recordList_readsBack (writeIncon T) _ hw c!"INCON" (section_roundtrip_INCON hs _ d0 hn hw)

structure BlockShape (T : Tabs) : Prop where
  kind : RecShape T c!"blocks" 10
  names : (recOf T c!"blocks").names = [c!"name", c!"nseq", c!"nadd", c!"rocktype", c!"volume", c!"ahtx", c!"pmx", c!"x", c!"y", c!"z"]
  name : NameField (fieldAt T c!"blocks" 0)
  rock : NameField (fieldAt T c!"blocks" 3)

instance (T : Tabs) : Decidable (BlockShape T) :=
  decidable_of_iff (_ ∧ _ ∧ _ ∧ _) ⟨fun ⟨h1, h2, h3, h4⟩ => ⟨h1, h2, h3, h4⟩, fun h => ⟨h.kind, h.names, h.name, h.rock⟩⟩

def blockVals (b : Block) : List Val :=
  [.str (unfixBlockname b.name), b.nseq, b.nadd, .str b.rock, b.volume, b.ahtx, b.pmx] ++
    (match b.centre with | none => [Val.none, Val.none, Val.none] | some c => c)

/-- `fq … fz`: the fields of NSEQ, NADD, volume, AHTX, PMX, x, y, z -/
def canonBlock (fq fa fv fh fp fx fy fz : FieldSpec) (b : Block) : Block :=
  let c := match b.centre with | none => [Val.none, Val.none, Val.none] | some c => c
  let x := canonV fx (c.getD 0 .none)
  let y := canonV fy (c.getD 1 .none)
  let z := canonV fz (c.getD 2 .none)
  { name := cycleName b.name, nseq := zeroNone (canonV fq b.nseq), nadd := zeroNone (canonV fa b.nadd), rock := b.rock,
    volume := canonV fv b.volume, ahtx := canonV fh b.ahtx, pmx := canonV fp b.pmx,
    centre := if x != .none && y != .none && z != .none then some [x, y, z] else none }

abbrev canonBlockOf (T : Tabs) : Block → Block :=
  canonBlock (fieldAt T c!"blocks" 1) (fieldAt T c!"blocks" 2) (fieldAt T c!"blocks" 4) (fieldAt T c!"blocks" 5)
    (fieldAt T c!"blocks" 6) (fieldAt T c!"blocks" 7) (fieldAt T c!"blocks" 8) (fieldAt T c!"blocks" 9)

/-- a block the ELEME writer and reader agree on: a good name, a five-character rock-type name that the
    grid knows, and (if any) a three-component centre -/
structure GoodBlock (rocks : List Rock) (b : Block) : Prop where
  name : GoodName b.name
  rockLen : b.rock.length = 5
  rockNl : '\n' ∉ b.rock
  rockKnown : rocks.any (·.name == .str b.rock) = true
  centre : ∀ c, b.centre = some c → c.length = 3

theorem writeBlock_eq {T : Tabs} (hs : BlockShape T) (b : Block) :
    writeBlock T b = writeValuesLine (recOf T c!"blocks") (blockVals b) := by
  unfold writeBlock blockVals
  simp only [hs.kind.get, bind, Except.bind]
  cases hc : b.centre with
  | none =>
    simp only [writeValueLine, hs.names, List.map_cons, List.map_nil, Dict.get, List.find?]
    rfl
  | some c => rfl

theorem block_record {T : Tabs} (hs : BlockShape T) (rocks : List Rock) (b : Block) (hb : GoodBlock rocks b)
    (hw : ∃ l, writeBlock T b = .ok l) :
    RecordRT padstring (fun _ => false) (readBlock .default T rocks)
      (lineOf (writeBlock T)) (canonBlockOf T) b := by
  obtain ⟨l, hw⟩ := hw
  have hls := hw
  rw [writeBlock_eq hs] at hw
  obtain ⟨cx, cy, cz, hcv⟩ : ∃ cx cy cz, (match b.centre with | none => [Val.none, Val.none, Val.none] | some c => c) = [cx, cy, cz] := by
    cases hc : b.centre with
    | none => exact ⟨_, _, _, rfl⟩
    | some c => exact length_eq_three (hb.centre c hc)
  have hvals : blockVals b = [.str (unfixBlockname b.name), b.nseq, b.nadd, .str b.rock, b.volume, b.ahtx, b.pmx, cx, cy, cz] := by
    unfold blockVals; rw [hcv]; rfl
  rw [hvals] at hw
  obtain ⟨_, hnb, hrd⟩ := named_record hs.kind.wf hs.kind.fs_eq hs.name.toStrField ((Names.unfix_length hb.name.len).trans hs.name.width.symm)
    hb.name.nonl hb.name.vis rfl hw (.padstring l)
  refine ⟨l, [], lineOf_ok hls, hnb, rfl, fun rest => ?_⟩
  simp only [fieldsFrom, Nat.reduceAdd, List.zip_cons_cons, List.zip_nil_right, List.map_cons, List.map_nil,
    (name_field_write hs.rock hb.rockLen hb.rockNl).2] at hrd
  show readBlock .default T rocks (padstring l) rest = .ok (_, 0)
  unfold readBlock
  simp only [hs.kind.get, bind, Except.bind, pure, Except.pure, hrd, Val.str?]
  rw [(cycle_ok hb.name.len).1]
  simp only [lookupRock, hb.rockKnown, ↓reduceIte]
  simp only [canonBlock, hcv, List.getD_cons_zero, List.getD_cons_succ]

/-- ELEME: every line read is added to the grid (`addBlock`: a repeated name replaces the earlier block) -/
theorem section_roundtrip_ELEME {T : Tabs} (hs : BlockShape T) (rocks : List Rock) (bs : List Block)
    (hb : ∀ b ∈ bs, GoodBlock rocks b) (hw : ∀ b ∈ bs, ∃ l, writeBlock T b = .ok l) (rest : List Str) :
    readBlocks .default T rocks
        ((bs.map (lineOf (writeBlock T))).flatten ++ nl [] :: rest) =
      .ok ((bs.map (canonBlockOf T)).foldl addBlock [], rest) := by
  unfold readBlocks
  rw [untilBlank_roundtrip padstring (fun _ => false) _ _ _ bs (fun b hbm => block_record hs rocks b (hb b hbm) (hw b hbm))
    (nl []) (Or.inl (by decide)) rest]
  rfl

theorem blocks_readsBack {T : Tabs} (hs : BlockShape T) (rocks : List Rock) (bs : List Block)
    (hb : ∀ b ∈ bs, GoodBlock rocks b) (hw : ∀ b ∈ bs, ∃ l, writeBlock T b = .ok l) :
    ∃ lines, writeBlocks T bs = .ok lines ∧ ReadsBack c!"ELEME" lines (readBlocks .default T rocks)
      ((bs.map (canonBlockOf T)).foldl addBlock []) :=
  lineList_readsBack (writeBlock T) bs hw c!"ELEME" (section_roundtrip_ELEME hs rocks bs hb hw)

theorem isPrefixOf_append_left (p u t : Str) (h : p.length ≤ u.length) : p.isPrefixOf (u ++ t) = p.isPrefixOf u :=
  Bool.eq_iff_iff.mpr (by
    rw [List.isPrefixOf_iff_prefix, List.isPrefixOf_iff_prefix]
    exact ⟨fun hp => List.prefix_of_prefix_length_le hp (List.prefix_append u t) h, fun hp => hp.trans (List.prefix_append u t)⟩)

structure ConnShape (T : Tabs) : Prop where
  kind : RecShape T c!"connections" 11
  name1 : NameField (fieldAt T c!"connections" 0)
  name2 : NameField (fieldAt T c!"connections" 1)

instance (T : Tabs) : Decidable (ConnShape T) :=
  decidable_of_iff (_ ∧ _ ∧ _) ⟨fun ⟨h1, h2, h3⟩ => ⟨h1, h2, h3⟩, fun h => ⟨h.kind, h.name1, h.name2⟩⟩

/-- `fq … fsg`: the nine fields after the two names, in record order -/
def canonConn (fq fa1 fa2 fdir fd1 fd2 far fdc fsg : FieldSpec) (c : Conn) : Conn :=
  { b1 := cycleName c.b1, b2 := cycleName c.b2, nseq := zeroNone (canonV fq c.nseq), nad1 := zeroNone (canonV fa1 c.nad1),
    nad2 := zeroNone (canonV fa2 c.nad2), direction := canonV fdir c.direction,
    dist := [canonV fd1 (c.dist.getD 0 .none), canonV fd2 (c.dist.getD 1 .none)],
    area := canonV far c.area, dircos := canonV fdc c.dircos, sigma := canonV fsg c.sigma }

abbrev canonConnOf (T : Tabs) : Conn → Conn :=
  canonConn (fieldAt T c!"connections" 2) (fieldAt T c!"connections" 3) (fieldAt T c!"connections" 4)
    (fieldAt T c!"connections" 5) (fieldAt T c!"connections" 6) (fieldAt T c!"connections" 7)
    (fieldAt T c!"connections" 8) (fieldAt T c!"connections" 9) (fieldAt T c!"connections" 10)

/-- a connection the CONNE writer and reader agree on: two good names of blocks the (already read) grid holds,
    two distances, and a first name that is not the `+++` end mark -/
structure GoodConn (blocks : List Block) (c : Conn) : Prop where
  n1 : GoodName c.b1
  n2 : GoodName c.b2
  known1 : blocks.any (·.name == cycleName c.b1) = true
  known2 : blocks.any (·.name == cycleName c.b2) = true
  dist : c.dist.length = 2
  noplus : startsWith (unfixBlockname c.b1) c!"+++" = false

theorem conn_record {T : Tabs} (hs : ConnShape T) (blocks : List Block) (c : Conn) (hc : GoodConn blocks c) (hw : ∃ l, writeConn T c = .ok l) :
    RecordRT padstring (fun l => startsWith l c!"+++") (readConn .default T blocks)
      (lineOf (writeConn T)) (canonConnOf T) c := by
  obtain ⟨l, hw⟩ := hw
  have hls := hw
  unfold writeConn at hw
  simp only [hs.kind.get, bind, Except.bind] at hw
  obtain ⟨d1, d2, hd⟩ := length_eq_two hc.dist
  rw [hd] at hw
  have hu1 := Names.unfix_length hc.n1.len
  have hu2 := Names.unfix_length hc.n2.len
  have hw' : writeValuesLine (recOf T c!"connections") [.str (unfixBlockname c.b1), .str (unfixBlockname c.b2), c.nseq, c.nad1, c.nad2, c.direction,
      d1, d2, c.area, c.dircos, c.sigma] = .ok l := hw
  obtain ⟨⟨tail, hl⟩, hnb, hrd⟩ := named_record hs.kind.wf hs.kind.fs_eq hs.name1.toStrField (hu1.trans hs.name1.width.symm)
    hc.n1.nonl hc.n1.vis rfl hw' (.padstring l)
  have hplus : startsWith (padstring l) c!"+++" = false := by
    rw [hl, padstring_eq, List.append_assoc]
    unfold startsWith
    rw [isPrefixOf_append_left _ _ _ (by rw [hu1]; decide)]
    exact hc.noplus
  refine ⟨l, [], lineOf_ok hls, hnb, hplus, fun rest => ?_⟩
  show readConn .default T blocks (padstring l) rest = .ok (_, 0)
  simp only [fieldsFrom, Nat.reduceAdd, List.zip_cons_cons, List.zip_nil_right, List.map_cons, List.map_nil,
    (name_field_write hs.name2 hu2 hc.n2.nonl).2] at hrd
  unfold readConn
  simp only [hs.kind.get, bind, Except.bind, pure, Except.pure, hrd, Val.str?]
  rw [(cycle_ok hc.n1.len).1, (cycle_ok hc.n2.len).1]
  simp only [hc.known1, hc.known2, Bool.not_true, Bool.or_self, Bool.false_eq_true, ↓reduceIte]
  simp only [canonConn, hd, List.getD_cons_zero, List.getD_cons_succ]

/-- CONNE: every line read is added to the grid (`addConn`) -/
theorem section_roundtrip_CONNE {T : Tabs} (hs : ConnShape T)
    (blocks : List Block) (cs : List Conn) (hc : ∀ c ∈ cs, GoodConn blocks c)
    (hw : ∀ c ∈ cs, ∃ l, writeConn T c = .ok l) (rest : List Str) :
    readConns .default T blocks
        ((cs.map (lineOf (writeConn T))).flatten ++ nl [] :: rest) =
      .ok ((cs.map (canonConnOf T)).foldl addConn [], rest) := by
  unfold readConns
  rw [untilBlank_roundtrip padstring (fun l => startsWith l c!"+++") _ _ _ cs
    (fun c hcm => conn_record hs blocks c (hc c hcm) (hw c hcm)) (nl []) (Or.inl (by decide)) rest]
  rfl

theorem conns_readsBack {T : Tabs} (hs : ConnShape T)
    (blocks : List Block) (cs : List Conn) (hc : ∀ c ∈ cs, GoodConn blocks c) (hw : ∀ c ∈ cs, ∃ l, writeConn T c = .ok l) :
    ∃ lines, writeConns T cs = .ok lines ∧ ReadsBack c!"CONNE" lines (readConns .default T blocks)
      ((cs.map (canonConnOf T)).foldl addConn []) :=
  lineList_readsBack (writeConn T) cs hw c!"CONNE" (section_roundtrip_CONNE hs blocks cs hc hw)

end Proofs.T2
