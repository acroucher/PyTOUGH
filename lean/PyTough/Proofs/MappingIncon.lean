/-
  C19: `t2incon.transfer_from` (functional model): the parts of a successful call, the names of the target's
  atmosphere blocks against those of its underground blocks, what the per-column loop bodies return,
  the averaging loop.
-/
import PyTough.Proofs.MappingMain
import PyTough.Proofs.Literals
namespace Proofs.Mapping
open Py Model.Mapping

theorem dget_single {β : Type} (k : Str) (v : β) : dget [(k, v)] k = .ok v := by
  simp [dget]

theorem transferFrom_inv {q : List (Rat × Rat) → Rat × Rat → Nat} {src : Incon} {s t : Geo}
    {mp cmp : Dict Str} {res : Incon} (h : transferFrom q src s t mp cmp = .ok res) :
    ∃ m cm atmPart names na ps,
      effectiveMaps q s t mp cmp = .ok (m, cm) ∧ transferAtm src s t cm = .ok atmPart ∧
      t.blockNameList = .ok names ∧ t.numAtmBlocks = .ok na ∧
      mapE (incUnder src m) (names.drop na) = .ok ps ∧
      res = ps.foldl (fun d p => dset d p.1 p.2) atmPart := by
  unfold transferFrom at h
  ok_inv h
  with_reducible exact ⟨_, _, _, _, _, _, ‹_›, ‹_›, ‹_›, ‹_›, ‹_›, rfl⟩

theorem incUnder_inv {src : Incon} {m : Dict Str} {blk : Str} {p : Str × IncVal}
    (h : incUnder src m blk = .ok p) : p.1 = blk ∧ ∃ sb, dget m blk = .ok sb ∧ dget src sb = .ok p.2 := by
  unfold incUnder at h
  ok_inv h
  with_reducible exact ⟨rfl, _, ‹_›, ‹_›⟩

/-- `block_name_list` of the target splits at `num_atmosphere_blocks` into the atmosphere names and the underground names, and no
    name of the atmosphere layer over a column is an underground name -/
theorem tgt_names_split {t : Geo} (ht : TgtWF t) {g0 : Lay} {grest : List Lay} (hg : t.lays = g0 :: grest)
    {an un : List Str} (hN : BlockNames t g0 an un) :
    ∃ na, t.numAtmBlocks = .ok na ∧ (an ++ un).drop na = un ∧
      (∀ cn, cn ∈ atmColName t.conv :: t.cols.map (·.name) → rawName t.conv g0.name cn ∉ un) ∧
      (t.atm = 0 → an = [rawName t.conv g0.name (atmColName t.conv)]) := by
  have han := tgt_atmNames ht hg hN
  refine ⟨_, numAtmBlocks_eq ht.atm, ?_, ?_, fun h0 => by rw [han, atmCols_zero h0]; rfl⟩
  · exact List.drop_left' (by rw [han, List.length_map])
  · intro cn hcn hmem
    obtain ⟨p, hp, heq⟩ := (tgt_mem_under ht hN _).mp hmem
    obtain ⟨hl, hc, _⟩ := (mem_underPairs t p.1 p.2).mp hp
    have h1 := layerName_rawName t.conv p.1.name p.2.name (ht.names.layLen _ (List.mem_of_mem_drop hl)) (ht.names.colLen _ hc)
    have h2 := layerName_rawName t.conv g0.name cn (ht.names.layLen g0 (by rw [hg]; simp)) (colName_length ht.names hcn)
    rw [← heq, h2] at h1
    exact lay_ne_lay0 ht.names hg (by rw [hg] at hl; exact hl) h1.symm

/-- the name of an atmosphere block of the target is not among the keys filed by the underground loop: the
    result has under it what the atmosphere part has -/
theorem incon_atm_key {q : List (Rat × Rat) → Rat × Rat → Nat} {src : Incon} {s t : Geo}
    {mp cmp : Dict Str} {res : Incon} (ht : TgtWF t) {g0 : Lay} {grest : List Lay} (hg : t.lays = g0 :: grest)
    (h : transferFrom q src s t mp cmp = .ok res) :
    ∃ m cm atmPart, effectiveMaps q s t mp cmp = .ok (m, cm) ∧ transferAtm src s t cm = .ok atmPart ∧
      (t.atm = 0 → t.atmNames = .ok [rawName t.conv g0.name (atmColName t.conv)]) ∧
      ∀ cn ∈ atmColName t.conv :: t.cols.map (·.name),
        dget res (rawName t.conv g0.name cn) = dget atmPart (rawName t.conv g0.name cn) := by
  obtain ⟨m, cm, atmPart, names, na, ps, h1, h2, h3, h4, h5, rfl⟩ := transferFrom_inv h
  obtain ⟨an, un, hN⟩ := blockNames_spec ht.names ht.dmplex hg
  obtain ⟨na', hna, hdrop, hnot, han0⟩ := tgt_names_split ht hg hN
  rw [hN.all] at h3; cases h3
  rw [hna] at h4; cases h4
  rw [hdrop] at h5
  refine ⟨m, cm, atmPart, h1, h2, fun h0 => by rw [hN.atm, han0 h0], fun cn hcn => ?_⟩
  apply dget_foldl_none
  intro p hp hpk
  obtain ⟨blk, hblk, hf⟩ := mapE_mem_right h5 p hp
  rw [(incUnder_inv hf).1] at hpk
  exact hnot cn hcn (hpk ▸ hblk)

theorem atmBroadcast_inv {t : Geo} {src : Incon} {c : Col} {p : Str × IncVal} (h : atmBroadcast t src c = .ok p) :
    (∃ g0, t.lay0 = .ok g0 ∧ blockName t.conv g0.name c.name = .ok p.1) ∧ firstInc src = .ok p.2 := by
  unfold atmBroadcast at h
  ok_inv h
  with_reducible exact ⟨⟨_, ‹_›, ‹_›⟩, ‹_›⟩

theorem atmPerColumn_inv {s t : Geo} {src : Incon} {cm : Dict Str} {c : Col} {p : Str × IncVal}
    (h : atmPerColumn s t src cm c = .ok p) :
    (∃ g0, t.lay0 = .ok g0 ∧ blockName t.conv g0.name c.name = .ok p.1) ∧ ∃ mc s0 old, dget cm c.name = .ok mc ∧
      s.lay0 = .ok s0 ∧ blockName s.conv s0.name mc = .ok old ∧ dget src old = .ok p.2 := by
  unfold atmPerColumn at h
  ok_inv h
  with_reducible exact ⟨⟨_, ‹_›, ‹_›⟩, _, _, _, ‹_›, ‹_›, ‹_›, ‹_›⟩

theorem atmDefaultCol_inv {t : Geo} {c : Col} {p : Str × IncVal} (h : atmDefaultCol t c = .ok p) :
    (∃ g0, t.lay0 = .ok g0 ∧ blockName t.conv g0.name c.name = .ok p.1) ∧ p.2 = defaultAtm := by
  unfold atmDefaultCol at h
  ok_inv h
  with_reducible exact ⟨⟨_, ‹_›, ‹_›⟩, rfl⟩

/-- a loop over the target's columns whose body `f` files its pair under the name of the column's atmosphere block (`hkey`, the first
    half of the three `_inv` lemmas above): the dict of the pairs has the pair of `c` under that name, the names of distinct columns differ -/
theorem atmLoop_get {t : Geo} (ht : TgtWF t) {g0 : Lay} {grest : List Lay} (hg : t.lays = g0 :: grest)
    {f : Col → Except Exc (Str × IncVal)} {ps : List (Str × IncVal)}
    (hkey : ∀ c p, f c = .ok p → ∃ g0', t.lay0 = .ok g0' ∧ blockName t.conv g0'.name c.name = .ok p.1)
    (hps : mapE f t.cols = .ok ps) {c : Col} (hc : c ∈ t.cols) :
    ∃ p, f c = .ok p ∧ dget (dictOf ps) (rawName t.conv g0.name c.name) = .ok p.2 := by
  have hg0len := ht.names.layLen g0 (by rw [hg]; exact List.mem_cons_self ..)
  have hkey' : ∀ c' ∈ t.cols, ∀ p', f c' = .ok p' → p'.1 = rawName t.conv g0.name c'.name := by
    intro c' hc' p' hf'
    obtain ⟨g0', e1, e2⟩ := hkey c' p' hf'
    cases (lay0_eq hg).symm.trans e1
    exact Except.ok.inj (e2.symm.trans (tgt_atm_name ht hg (colName_mem hc')))
  obtain ⟨p, _, hf⟩ := mapE_mem_left hps c hc
  refine ⟨p, hf, dget_foldl_mapE hps (fun c' => rawName t.conv g0.name c'.name) hkey' (fun c' hc' c'' hc'' e => ?_) [] hc hf⟩
  have e1 := columnName_rawName t.conv g0.name c'.name hg0len (ht.names.colLen c' hc')
  rw [e, columnName_rawName t.conv g0.name c''.name hg0len (ht.names.colLen c'' hc'')] at e1
  exact inj_of_nodup_map (fun (c : Col) => c.name) t.cols ht.names.colsNodup c' hc' c'' hc'' e1.symm

theorem foldE_avg {s : Geo} {src : Incon} {cols : List Col} {vss : List (List Rat)} (acc : List Rat)
    (hcols : mapE (atmColVars s src) cols = .ok vss) (hlen : ∀ v ∈ vss, v.length = acc.length) :
    foldE (avgStep s src) acc cols = .ok (vss.foldl (List.zipWith (· + ·)) acc) := by
  induction cols generalizing acc vss with
  | nil => simp [mapE] at hcols; subst hcols; rfl
  | cons c cs ih =>
    obtain ⟨v, vss', rfl, hv, hrest⟩ := mapE_cons_ok hcols
    have hvl : v.length = acc.length := hlen v (by simp)
    have hstep : avgStep s src acc c = .ok (List.zipWith (· + ·) acc v) := by
      unfold avgStep; rw [hv]; simp only [addVec, if_pos hvl]
    unfold foldE
    rw [hstep]
    simp only [List.foldl_cons]
    apply ih _ hrest
    intro w hw
    rw [List.length_zipWith, hvl, Nat.min_self]
    exact hlen w (by simp [hw])

theorem effectiveMaps_nil (q : List (Rat × Rat) → Rat × Rat → Nat) (s t : Geo) :
    effectiveMaps q s t [] [] = blockMapping q s t := by
  simp [effectiveMaps]

end Proofs.Mapping
