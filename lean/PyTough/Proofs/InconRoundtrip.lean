/-
  C13: the whole file.  `InconWF`: the objects the property quantifies over; `canonIncon`: what
  they are read back as.  `write` is split into its header line, block lines and footer once
  (`write_parts`); `read_write` then follows the reader through these parts with `readBlocks_body`.
-/
import PyTough.Proofs.InconFile
namespace Proofs.Incon
open Py Model Model.Incon Model.Names Proofs

/-- the five fields of a timing record -/
structure TLayout where
  kcyc : FieldSpec
  iter : FieldSpec
  nm : FieldSpec
  tstart : FieldSpec
  sumtim : FieldSpec

structure TimingOK (fs : List FieldSpec) (T : TLayout) : Prop where
  shape : fs = [T.kcyc, T.iter, T.nm, T.tstart, T.sumtim]
  kcyc_d : T.kcyc.typ = 'd'
  iter_d : T.iter.typ = 'd'
  nm_d : T.nm.typ = 'd'
  tstart_e : T.tstart.typ = 'e'
  sumtim_e : T.sumtim.typ = 'e'

instance (fs : List FieldSpec) (T : TLayout) : Decidable (TimingOK fs T) :=
  decidable_of_iff (_ ∧ _ ∧ _ ∧ _ ∧ _ ∧ _)
    ⟨fun ⟨a, b, c, d, e, f⟩ => ⟨a, b, c, d, e, f⟩, fun ⟨a, b, c, d, e, f⟩ => ⟨a, b, c, d, e, f⟩⟩

/-- the four fields of the long first line of the file (title, block count, text, time) -/
structure HeaderOK (S : Specs) (h0 h1 h2 h3 : FieldSpec) : Prop where
  shape : S.headerLong = [h0, h1, h2, h3]

structure TimingWF (t : Timing Val) : Prop where
  kcyc : IsIntOrNone t.kcyc
  iter : IsIntOrNone t.iter
  nm : IsIntOrNone t.nm
  tstart : IsRealOrNone t.tstart
  sumtim : IsReal t.sumtim          -- the long header prints it; it also keeps the timing line non-blank

def canonTiming (rf : ReadFn) (T : TLayout) (t : Timing Val) : Timing PVal :=
  { kcyc := reparse rf T.kcyc t.kcyc, iter := reparse rf T.iter t.iter, nm := reparse rf T.nm t.nm,
    tstart := reparse rf T.tstart t.tstart, sumtim := reparse rf T.sumtim t.sumtim }

theorem timing_forall {fs : List FieldSpec} {T : TLayout} (hT : TimingOK fs T) (t : Timing Val)
    {P : FieldSpec → Val → Prop} (h1 : P T.kcyc t.kcyc) (h2 : P T.iter t.iter) (h3 : P T.nm t.nm)
    (h4 : P T.tstart t.tstart) (h5 : P T.sumtim t.sumtim) :
    ∀ vf ∈ [t.kcyc, t.iter, t.nm, t.tstart, t.sumtim].zip fs, P vf.2 vf.1 := by
  rw [hT.shape]
  intro vf hvf
  simp only [List.zip_cons_cons, List.zip_nil_left, List.mem_cons, List.not_mem_nil, or_false] at hvf
  rcases hvf with rfl | rfl | rfl | rfl | rfl <;> assumption

theorem timing_kinds {fs : List FieldSpec} {T : TLayout} (hT : TimingOK fs T) {t : Timing Val} (hwf : TimingWF t) :
    ∀ vf ∈ [t.kcyc, t.iter, t.nm, t.tstart, t.sumtim].zip fs, Kind vf.2 vf.1 :=
  timing_forall hT t (P := Kind) (kind_intOrNone hT.kcyc_d hwf.kcyc) (kind_intOrNone hT.iter_d hwf.iter)
    (kind_intOrNone hT.nm_d hwf.nm) (kind_realOrNone hT.tstart_e hwf.tstart) (kind_real hT.sumtim_e hwf.sumtim)

theorem timing_line (rf : ReadFn) {fs : List FieldSpec} {T : TLayout} (hT : TimingOK fs T) {t : Timing Val}
    (hwf : TimingWF t) {l : Str} (h : writeLine fs [t.kcyc, t.iter, t.nm, t.tstart, t.sumtim] = .ok l) :
    parseString rf fs (padstring l) =
      .ok [reparse rf T.kcyc t.kcyc, reparse rf T.iter t.iter, reparse rf T.nm t.nm,
           reparse rf T.tstart t.tstart, reparse rf T.sumtim t.sumtim] := by
  have := padded_roundtrip rf fs _ (by rw [hT.shape]; intro f hf; simp at hf)
    (fun vf hvf => (timing_kinds hT hwf vf hvf).typ) h
  rw [this, hT.shape]
  simp

/-- the timing record is written and read with the layout of the object's flavour -/
theorem timingOK_ite {S : Specs} {T U : TLayout} (hT : TimingOK S.timing T) (hU : TimingOK S.timingTr U) (sim : Str) :
    TimingOK (if sim = TOUGHREACT then S.timingTr else S.timing) (if sim = TOUGHREACT then U else T) := by
  by_cases hs : sim = TOUGHREACT
  · rw [if_pos hs, if_pos hs]; exact hU
  · rw [if_neg hs, if_neg hs]; exact hT

/-- the initial-condition sets the property quantifies over -/
structure InconWF (x : Incon Val) (nvars : Option Nat) : Prop where
  blocks : ∀ b ∈ x.blocks, BlockWF b ∧ NvarsOK nvars b
  distinct : (x.blocks.map (·.block)).Nodup
  -- without permeabilities a TOUGHREACT object is read back as TOUGH2
  flavour : x.simulator = TOUGH2 ∨ (x.simulator = TOUGHREACT ∧ ∃ b ∈ x.blocks, b.permeability.isSome = true)
  timing : ∀ t, x.timing = some t → TimingWF t

/-- is the timing record written? -/
def timingWritten (x : Incon Val) (reset : Bool) : Bool := x.timing.isSome && !reset

/-- **what `read` returns for a file `write` produced** -/
def canonIncon (rf : ReadFn) (L : Layout) (T U : TLayout) (x : Incon Val) (reset : Bool) : Incon PVal :=
  { simulator := x.simulator, blocks := x.blocks.map (canonBlock rf L x.simulator),
    timing := if timingWritten x reset then
        x.timing.map (canonTiming rf (if x.simulator = TOUGHREACT then U else T))
      else none }

theorem simAfter_of_wf {x : Incon Val} {nvars : Option Nat} (hwf : InconWF x nvars) :
    simAfter x.simulator TOUGH2 x.blocks = x.simulator := by
  unfold simAfter
  rcases hwf.flavour with h | ⟨h, b, hb, hp⟩
  · -- a TOUGH2 object writes no permeabilities
    have : x.blocks.any (permWritten x.simulator) = false := by
      rw [List.any_eq_false, h]; intro b _; simp [permWritten, show TOUGH2 ≠ TOUGHREACT by decide]
    rw [this, h]; rfl
  · have : x.blocks.any (permWritten x.simulator) = true :=
      List.any_eq_true.mpr ⟨b, hb, by simp [permWritten, h, hp]⟩
    rw [this, h]; rfl

theorem write_short {S : Specs} {x : Incon Val} {reset : Bool} (h : timingWritten x reset = false) :
    write S x reset = (do
      let header ← writeLine S.headerShort [.str headerShortTitle]
      let body ← x.blocks.mapM (writeBlock S x.simulator)
      pure (header :: body.flatten ++ [['\n'], ['\n']])) := by
  unfold write
  unfold timingWritten at h
  cases ht : x.timing with
  | none => rfl
  | some t =>
    cases reset with
    | true => rfl
    | false => rw [ht] at h; cases h

theorem write_long {S : Specs} {x : Incon Val} {t : Timing Val} (ht : x.timing = some t) :
    write S x false = (do
      let header ← writeLine S.headerLong [.str headerTitle, .int x.blocks.length, .str headerMiddle, t.sumtim]
      let body ← x.blocks.mapM (writeBlock S x.simulator)
      let l ← writeLine (if x.simulator = TOUGHREACT then S.timingTr else S.timing)
        [t.kcyc, t.iter, t.nm, t.tstart, t.sumtim]
      pure (header :: body.flatten ++ [['+', '+', '+', '\n'], l])) := by
  unfold write
  rw [ht]
  rfl

theorem timingWritten_cases (x : Incon Val) (reset : Bool) :
    timingWritten x reset = false ∨ ∃ t, x.timing = some t ∧ reset = false := by
  unfold timingWritten
  cases ht : x.timing with
  | none => exact Or.inl rfl
  | some t =>
    cases reset with
    | true => exact Or.inl rfl
    | false => exact Or.inr ⟨t, rfl, rfl⟩

/-- `Ends S x reset header footer`: the header line of a written file and the lines after its blocks.  `short`: the
    short header and two blank lines; `long`: when the timing record `t` is written (never under `reset`), the long
    header, `+++` and the timing line `l` -/
inductive Ends (S : Specs) (x : Incon Val) : Bool → Str → List Str → Prop
  | short {reset : Bool} {header : Str} (htw : timingWritten x reset = false)
      (hh : writeLine S.headerShort [.str headerShortTitle] = .ok header) : Ends S x reset header [['\n'], ['\n']]
  | long (t : Timing Val) {header : Str} (l : Str) (ht : x.timing = some t)
      (hh : writeLine S.headerLong [.str headerTitle, .int x.blocks.length, .str headerMiddle, t.sumtim] = .ok header)
      (hl : writeLine (if x.simulator = TOUGHREACT then S.timingTr else S.timing)
        [t.kcyc, t.iter, t.nm, t.tstart, t.sumtim] = .ok l) : Ends S x false header [['+', '+', '+', '\n'], l]

theorem write_parts {S : Specs} {x : Incon Val} {reset : Bool} {file : List Str}
    (hw : write S x reset = .ok file) :
    ∃ header body footer, file = header :: (body.flatten ++ footer) ∧
      x.blocks.mapM (writeBlock S x.simulator) = .ok body ∧ Ends S x reset header footer := by
  rcases timingWritten_cases x reset with h | ⟨t, ht, rfl⟩
  · rw [write_short h] at hw
    simp only [bind_ok_iff, pure, Except.pure, Except.ok.injEq] at hw
    obtain ⟨header, hh, body, hb, rfl⟩ := hw
    exact ⟨header, body, _, rfl, hb, .short h hh⟩
  · rw [write_long ht] at hw
    simp only [bind_ok_iff, pure, Except.pure, Except.ok.injEq] at hw
    obtain ⟨header, hh, body, hb, l, hl, rfl⟩ := hw
    exact ⟨header, body, _, rfl, hb, .long t l ht hh hl⟩

theorem timing_line_nonblank {fs : List FieldSpec} {T : TLayout} (hT : TimingOK fs T)
    {t : Timing Val} (hwf : TimingWF t) {l : Str}
    (h : writeLine fs [t.kcyc, t.iter, t.nm, t.tstart, t.sumtim] = .ok l) : (strip l).isEmpty = false := by
  obtain ⟨rec, hw, rfl⟩ := writeLine_ok h
  obtain ⟨strs, h1, rfl⟩ := writeValues_ok_iff.mp hw
  obtain ⟨s, hs, hws⟩ := h1.left (t.sumtim, T.sumtim) (by rw [hT.shape]; simp)
  cases hse : (strip (strs.flatten ++ ['\n'])).isEmpty with
  | false => rfl
  | true =>
    exfalso
    -- then the text written for `sumtim` is blank and reads as `None`, which a written real never does
    -- (under any `ReadFn`; one is picked)
    have hall : ∀ c ∈ s, isStrWs c = true := by
      intro c hc
      cases hw : isStrWs c with
      | true => rfl
      | false =>
        rw [strip_ne_nil (List.mem_append_left _ (List.mem_flatten.mpr ⟨s, hs, hc⟩)) hw] at hse
        cases hse
    exact reparse_real_ne_none .fortran hT.sumtim_e hwf.sumtim hws
      (reparse_eq hws (read_ws .fortran (numeric_of_e hT.sumtim_e) hall))

/-- **Write then read.**  For every well-formed set of initial conditions, every file that `write`
    produces for it (with or without `reset`) is read back — by a fresh `t2incon(filename,
    num_variables)` — as `canonIncon`: the same blocks in the same order, every value the reading
    of its own written text (`reparse`), a block's permeabilities iff it has them and the object is
    TOUGHREACT, the same flavour, and the timing record iff it was written. -/
theorem read_write (rf : ReadFn) {S : Specs} {L : Layout} {T U : TLayout} (hL : LayoutOK S L)
    (hT : TimingOK S.timing T) (hU : TimingOK S.timingTr U) (x : Incon Val) (nvars : Option Nat)
    (check reset : Bool) (hwf : InconWF x nvars) {file : List Str} (hw : write S x reset = .ok file) :
    Model.Incon.read rf S TOUGH2 nvars check file = .ok (canonIncon rf L T U x reset) := by
  obtain ⟨header, body, footer, rfl, hbody, hfoot⟩ := write_parts hw
  -- every block writes at least its first record
  have hlen := mapM_flatten_length _ (fun b ls h => by
    obtain ⟨_, _, _, _, rfl⟩ := (writeBlock_ok_iff hL).mp h
    exact Nat.le_add_left 1 _) _ _ hbody
  have hsim := simAfter_of_wf hwf
  unfold Model.Incon.read
  simp only [readline, bind, Except.bind]
  -- fuel = number of blocks + something positive (`readBlocks_body` uses one unit per block, the terminator one more)
  obtain ⟨k, hk⟩ : ∃ k, (body.flatten ++ footer).length + 1 = x.blocks.length + (k + 1) := by
    refine ⟨(body.flatten ++ footer).length - x.blocks.length, ?_⟩
    rw [List.length_append]; omega
  have hloop := readBlocks_body rf hL nvars check x.simulator x.blocks body hwf.blocks hbody TOUGH2 [] footer (k + 1)
  -- `addIncon` is `upsert Block.block`, and the names are distinct: every block read is appended
  have hfold : (x.blocks.map (canonBlock rf L x.simulator)).foldl addIncon [] = x.blocks.map (canonBlock rf L x.simulator) :=
    foldl_upsert_append (key := Block.block) _ [] (by rw [List.nil_append, List.map_map]; exact hwf.distinct)
  rw [hk, hloop, hsim, hfold]
  cases hfoot with
  | short htw =>
    -- blank terminator
    unfold readBlocks
    have : (strip ['\n']).isEmpty = true := by decide
    simp only [readline, this, if_true]
    simp [canonIncon, htw, pure, Except.pure]
  | long t l ht _ hl =>
    -- +++ and the timing record
    unfold readBlocks
    have h1 : (strip ['+', '+', '+', '\n']).isEmpty = false := by decide
    simp only [readline, h1, Bool.false_eq_true, if_false, List.take, if_true]
    have htw : timingWritten x false = true := by simp [timingWritten, ht]
    have htwf := hwf.timing t ht
    have hTU := timingOK_ite hT hU x.simulator
    have hp := timing_line rf hTU htwf hl
    have hne := timing_line_nonblank hTU htwf hl
    simp [hne, hp, canonIncon, htw, ht, canonTiming, pure, Except.pure]

end Proofs.Incon
