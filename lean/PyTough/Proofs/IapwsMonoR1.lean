/-
  Density rises with pressure at fixed temperature in region 1 (`cowat`), and the isothermal compressibility is positive, on boxes of
  `(t, p)`: `ρ = p* / (R T γ_π)` with `γ_π = −Σ nᵢ Iᵢ x^(Iᵢ−1) y^Jᵢ`, `x = 7.1 − π`, `y = τ − 1.222` (both positive).
  On a box `xl ≤ x ≤ xh`, `yl ≤ y ≤ yh` every monomial of `γ_π` and of `γ_ππ` is bounded by its value at the corner chosen by the
  sign of its coefficient and of its exponents (`cornerU`); if both sums of corner values are negative, `γ_π > 0` and `γ_ππ < 0`
  on the box, so `∂ρ/∂p = −R T γ_ππ / (R T γ_π)² > 0`.

  Any box that passes the decidable check `Box1.ok` (closed inequalities between rationals, evaluated by the kernel) gives both
  statements (`Box1.risesOn`); a slab of temperatures and pressures is looked up in a list of checked boxes (`Box1.chain`: pressure
  intervals at one temperature range, one after the other).  Checked here, in one evaluation: the boxes `r1Boxes` that `Props/C14.lean` uses.
-/
import PyTough.Proofs.ThermoMono
namespace Proofs.Iapws
open Gen.Iapws Model.Thermo Proofs.Thermo

/-- the larger / smaller of `z ^ e` over `0 < lo ≤ z ≤ hi` -/
def zMax (e : ℤ) (lo hi : ℚ) : ℚ := if 0 ≤ e then hi ^ e else lo ^ e
def zMin (e : ℤ) (lo hi : ℚ) : ℚ := if 0 ≤ e then lo ^ e else hi ^ e

theorem zpow_le_zpow_left_of_nonpos {a b : ℝ} {e : ℤ} (he : e ≤ 0) (ha : 0 < a) (hab : a ≤ b) : b ^ e ≤ a ^ e := by
  have h := zpow_le_zpow_left₀ (neg_nonneg.mpr he) ha.le hab
  rw [zpow_neg, zpow_neg] at h
  exact (inv_le_inv₀ (zpow_pos ha e) (zpow_pos (ha.trans_le hab) e)).mp h

theorem zpow_bounds (e : ℤ) {lo hi : ℚ} {z : ℝ} (h0 : 0 < lo) (h1 : (lo : ℝ) ≤ z) (h2 : z ≤ hi) :
    (0 : ℝ) < zMin e lo hi ∧ (zMin e lo hi : ℝ) ≤ z ^ e ∧ z ^ e ≤ zMax e lo hi := by
  have hlo : (0 : ℝ) < lo := Rat.cast_pos.mpr h0
  have hz : 0 < z := hlo.trans_le h1
  unfold zMin zMax
  by_cases he : 0 ≤ e
  · rw [if_pos he, if_pos he]
    push_cast
    exact ⟨zpow_pos hlo e, zpow_le_zpow_left₀ he hlo.le h1, zpow_le_zpow_left₀ he hz.le h2⟩
  · rw [if_neg he, if_neg he]
    push_cast
    exact ⟨zpow_pos (hz.trans_le h2) e, zpow_le_zpow_left_of_nonpos (not_le.mp he).le hz h2,
      zpow_le_zpow_left_of_nonpos (not_le.mp he).le hlo h1⟩

/-- the largest value of `a x^i y^j` on the box: the corner depends on the sign of `a` -/
def cornerU (a : ℚ) (i j : ℤ) (xl xh yl yh : ℚ) : ℚ :=
  if 0 ≤ a then a * (zMax i xl xh * zMax j yl yh) else a * (zMin i xl xh * zMin j yl yh)

theorem corner_upper (a : ℚ) (i j : ℤ) {xl xh yl yh : ℚ} {x y : ℝ} (hxl : 0 < xl) (hx1 : (xl : ℝ) ≤ x) (hx2 : x ≤ xh)
    (hyl : 0 < yl) (hy1 : (yl : ℝ) ≤ y) (hy2 : y ≤ yh) : (a : ℝ) * x ^ i * y ^ j ≤ cornerU a i j xl xh yl yh := by
  obtain ⟨x0, x1, x2⟩ := zpow_bounds i hxl hx1 hx2
  obtain ⟨y0, y1, y2⟩ := zpow_bounds j hyl hy1 hy2
  unfold cornerU
  rw [mul_assoc]
  by_cases ha : 0 ≤ a
  · rw [if_pos ha]
    push_cast
    exact mul_le_mul_of_nonneg_left (mul_le_mul x2 y2 (y0.le.trans y1) ((x0.le.trans x1).trans x2)) (Rat.cast_nonneg.mpr ha)
  · rw [if_neg ha]
    push_cast
    exact mul_le_mul_of_nonpos_left (mul_le_mul x1 y1 y0.le (x0.le.trans x1)) (Rat.cast_nonpos.mpr (not_le.mp ha).le)

def sumU (T : List (ℤ × ℤ × ℚ)) (xl xh yl yh : ℚ) : ℚ := (T.map fun r => cornerU r.2.2 r.1 r.2.1 xl xh yl yh).sum

theorem laurent_le_sumU (T : List (ℤ × ℤ × ℚ)) {xl xh yl yh : ℚ} {x y : ℝ} (hxl : 0 < xl) (hx1 : (xl : ℝ) ≤ x) (hx2 : x ≤ xh)
    (hyl : 0 < yl) (hy1 : (yl : ℝ) ≤ y) (hy2 : y ≤ yh) : laurent (castT T) x y ≤ sumU T xl xh yl yh := by
  unfold laurent castT sumU
  rw [Rat.cast_list_sum, List.map_map, List.map_map]
  exact List.sum_le_sum fun r _ => corner_upper r.2.2 r.1 r.2.1 hxl hx1 hx2 hyl hy1 hy2

def tbl1Q : List (ℤ × ℤ × ℚ) := zip3 ir1 jr1 (@nr1 ℚ ratLits)

theorem tbl1_cast : tbl1 = castT tbl1Q := by
  rw [tbl1Q, castT_zip3]
  unfold tbl1 nr1
  simp only [List.map_cons, List.map_nil, ratLits_lit]

theorem c71_bounds : (70999 / 10000 : ℝ) ≤ c71 ∧ c71 ≤ 71001 / 10000 := by unfold c71; norm_num
theorem c1222_bounds : (12219 / 10000 : ℝ) ≤ c1222 ∧ c1222 ≤ 12221 / 10000 := by unfold c1222; norm_num

/-- the box `tlo ≤ t ≤ thi` degC, `plo ≤ p ≤ phi` Pa (naturals: a hypothesis `250 ≤ t` is `(b.tlo : ℝ) ≤ t` as it stands; `0 ≤ t` is not, there `simpa`) -/
structure Box1 where
  tlo : ℕ
  thi : ℕ
  plo : ℕ
  phi : ℕ

/-- the box of `(x, y) = (7.1 − π, τ − 1.222)` that encloses it, with crude enclosures of the three double constants -/
def Box1.xl (b : Box1) : ℚ := 70999 / 10000 - b.phi / 16530000
def Box1.xh (b : Box1) : ℚ := 71001 / 10000 - b.plo / 16530000
def Box1.yl (b : Box1) : ℚ := 1386 / (b.thi + 27315001 / 100000) - 12221 / 10000
def Box1.yh (b : Box1) : ℚ := 1386 / (b.tlo + 27314999 / 100000) - 12219 / 10000

theorem Box1.xy_mem (b : Box1) {t p : ℝ} (ht1 : (b.tlo : ℝ) ≤ t) (ht2 : t ≤ b.thi) (hp1 : (b.plo : ℝ) ≤ p) (hp2 : p ≤ b.phi) :
    (b.xl : ℝ) ≤ c71 - pi1 p ∧ c71 - pi1 p ≤ b.xh ∧ (b.yl : ℝ) ≤ tau1 t - c1222 ∧ tau1 t - c1222 ≤ b.yh := by
  have h0 : (0 : ℝ) ≤ b.tlo := Nat.cast_nonneg _
  have d1 : p / 16530000 ≤ b.phi / 16530000 := div_le_div_of_nonneg_right hp2 (by norm_num)
  have d2 : (b.plo : ℝ) / 16530000 ≤ p / 16530000 := div_le_div_of_nonneg_right hp1 (by norm_num)
  have d3 : (1386 : ℝ) / (b.thi + 27315001 / 100000) ≤ 1386 / (t + tc_k) :=
    div_le_div_of_nonneg_left (by norm_num) (tk_pos t (h0.trans ht1)) (add_le_add ht2 tc_k_bounds.2.le)
  have d4 : (1386 : ℝ) / (t + tc_k) ≤ 1386 / (b.tlo + 27314999 / 100000) :=
    div_le_div_of_nonneg_left (by norm_num) (add_pos_of_nonneg_of_pos h0 (by norm_num)) (add_le_add ht1 tc_k_bounds.1.le)
  unfold pi1 tau1 Box1.xl Box1.xh Box1.yl Box1.yh
  rw [pstar1_eq, tstar1_eq]
  simp only [Rat.cast_sub, Rat.cast_add, Rat.cast_div, Rat.cast_ofNat, Rat.cast_natCast]
  exact ⟨sub_le_sub c71_bounds.1 d1, sub_le_sub c71_bounds.2 d2, sub_le_sub d3 c1222_bounds.2, sub_le_sub d4 c1222_bounds.1⟩

/-- the box lies in the range of `cowat`, and the corner values of `γ_π = −∂/∂x` and of `γ_ππ = ∂²/∂x²` sum to something negative -/
def Box1.ok (b : Box1) : Prop :=
  b.thi ≤ 350 ∧ b.phi ≤ 100000000 ∧ 0 < b.xl ∧ 0 < b.yl ∧
  sumU (dX tbl1Q) b.xl b.xh b.yl b.yh < 0 ∧ sumU (dX (dX tbl1Q)) b.xl b.xh b.yl b.yh < 0

instance Box1.decidableOk (b : Box1) : Decidable b.ok := by unfold Box1.ok; infer_instance

theorem pstar1_pos : (0 : ℝ) < pstar1 := by rw [pstar1_eq]; norm_num

/-- `γ_π` of region 1 at the state `(t, p)` as `cowat` computes it -/
noncomputable def gpi1 (t p : ℝ) : ℝ := -(laurentDx tbl1 (c71 - pi1 p) (tau1 t - c1222))

/-- the density `cowat` returns at `(t, p)`: `p* / (R T γ_π)` -/
noncomputable def rho1 (t p : ℝ) : ℝ := pstar1 / (rconst * (t + tc_k) * gpi1 t p)

theorem cowat_rho1 (t p : ℝ) (ht0 : 0 ≤ t) (ht : t ≤ 350) (hp : p ≤ 100000000) : ∃ u, cowat t p = Ret.pair (rho1 t p) u :=
  ⟨_, cowat_eq t p ht0 ht hp⟩

theorem Box1.risesOn (b : Box1) (hb : b.ok) {t : ℝ} (ht1 : (b.tlo : ℝ) ≤ t) (ht2 : t ≤ b.thi) :
    RisesOn (cowat t) (rho1 t) (Set.Icc b.plo b.phi) := fun p hp => by
  obtain ⟨hthi, hphi, hxl, hyl, hU1, hU2⟩ := hb
  have ht0 : 0 ≤ t := (Nat.cast_nonneg _).trans ht1
  obtain ⟨x1, x2, y1, y2⟩ := b.xy_mem ht1 ht2 hp.1 hp.2
  have d1 := laurent_le_sumU (dX tbl1Q) hxl x1 x2 hyl y1 y2
  have d2 := laurent_le_sumU (dX (dX tbl1Q)) hxl x1 x2 hyl y1 y2
  have hx0 : c71 - pi1 p ≠ 0 := ((Rat.cast_pos.mpr hxl).trans_le x1).ne'
  have hx : HasDerivAt (fun q => c71 - pi1 q) (-(1 / pstar1)) p := ((hasDerivAt_id p).div_const _).const_sub c71
  have hg := (HasDerivAt.comp (h := fun q => c71 - pi1 q) p (laurent_castT_hasDerivAt (dX tbl1Q) _ (tau1 t - c1222) hx0) hx).neg
  refine ⟨cowat_rho1 t p ht0 (ht2.trans (by exact_mod_cast hthi)) (hp.2.trans (by exact_mod_cast hphi)), ?_⟩
  unfold rho1 gpi1
  simp only [tbl1_cast, laurentDx_castT]
  exact posDeriv_div pstar1_pos (mul_pos rconst_pos (tk_pos t ht0))
    (neg_pos.mpr (d1.trans_lt (Rat.cast_lt_zero.mpr hU1))) hg
    (neg_neg_of_pos (mul_pos_of_neg_of_neg (d2.trans_lt (Rat.cast_lt_zero.mpr hU2)) (neg_neg_of_pos (one_div_pos.mpr pstar1_pos))))

/-- the boxes of `l` that contain the temperatures `tlo … thi`, taken in the order of the list, reach from the pressure `p` up to `phi` -/
def Box1.chain (tlo thi phi : ℕ) : ℕ → List Box1 → Bool
  | _, [] => false
  | p, b :: l =>
    if b.tlo ≤ tlo ∧ thi ≤ b.thi ∧ b.plo ≤ p then decide (phi ≤ b.phi) || chain tlo thi phi b.phi l else chain tlo thi phi p l

/-- a pressure `x` between the start `p` of the walk and `phi` lies in one of the boxes the walk passes -/
theorem Box1.chain_mem {tlo thi phi : ℕ} {x : ℝ} (hx : x ≤ phi) : ∀ (l : List Box1) (p : ℕ), chain tlo thi phi p l = true → (p : ℝ) ≤ x →
    ∃ b ∈ l, b.tlo ≤ tlo ∧ thi ≤ b.thi ∧ (b.plo : ℝ) ≤ x ∧ x ≤ b.phi
  | [], _, h, _ => absurd h Bool.false_ne_true
  | b :: l, p, h, hp => by
    rw [chain] at h
    by_cases hb : b.tlo ≤ tlo ∧ thi ≤ b.thi ∧ b.plo ≤ p
    · rw [if_pos hb, Bool.or_eq_true, decide_eq_true_eq] at h
      by_cases hx' : x ≤ b.phi
      · exact ⟨b, List.mem_cons_self, hb.1, hb.2.1, (Nat.cast_le.mpr hb.2.2).trans hp, hx'⟩
      · rcases h with h | h
        · exact absurd (hx.trans (Nat.cast_le.mpr h)) hx'
        · exact List.exists_mem_cons_of_exists (chain_mem hx l b.phi h (not_le.mp hx').le)
    · rw [if_neg hb] at h
      exact List.exists_mem_cons_of_exists (chain_mem hx l p h hp)

/-- every state of the slab `tlo ≤ t ≤ thi`, `plo ≤ p ≤ phi` that a list of checked boxes chains lies in one of them -/
theorem Box1.chain_box {l : List Box1} (hl : ∀ b ∈ l, b.ok) {tlo thi plo phi : ℕ} (h : chain tlo thi phi plo l = true) {t p : ℝ}
    (ht1 : (tlo : ℝ) ≤ t) (ht2 : t ≤ thi) (hp1 : (plo : ℝ) ≤ p) (hp2 : p ≤ phi) :
    ∃ b : Box1, b.ok ∧ (b.tlo : ℝ) ≤ t ∧ t ≤ b.thi ∧ (b.plo : ℝ) ≤ p ∧ p ≤ b.phi := by
  obtain ⟨b, hb, h1, h2, h3⟩ := chain_mem hp2 l plo h hp1
  exact ⟨b, hl b hb, (Nat.cast_le.mpr h1).trans ht1, ht2.trans (Nat.cast_le.mpr h2), h3⟩

theorem Box1.chain_risesOn {l : List Box1} (hl : ∀ b ∈ l, b.ok) {tlo thi plo phi : ℕ} (h : chain tlo thi phi plo l = true) {t : ℝ}
    (ht1 : (tlo : ℝ) ≤ t) (ht2 : t ≤ thi) : RisesOn (cowat t) (rho1 t) (Set.Icc plo phi) := fun p hp => by
  obtain ⟨b, hb, h1, h2, h3, h4⟩ := chain_box hl h ht1 ht2 hp.1 hp.2
  exact b.risesOn hb h1 h2 p ⟨h3, h4⟩

theorem Box1.density_mono {l : List Box1} (hl : ∀ b ∈ l, b.ok) {tlo thi plo phi : ℕ} (h : chain tlo thi phi plo l = true) {t p1 p2 : ℝ}
    (ht1 : (tlo : ℝ) ≤ t) (ht2 : t ≤ thi) (hp1 : (plo : ℝ) ≤ p1) (h12 : p1 < p2) (hp2 : p2 ≤ phi) :
    ∃ d1 u1 d2 u2, cowat t p1 = Ret.pair d1 u1 ∧ cowat t p2 = Ret.pair d2 u2 ∧ 0 < d1 ∧ d1 < d2 :=
  (chain_risesOn hl h ht1 ht2).mono (convex_Icc _ _) ⟨hp1, h12.le.trans hp2⟩ ⟨hp1.trans h12.le, hp2⟩ h12

/-- Every box the region-1 statements of `Props/C14.lean` rest on.  Below 230 degC every pressure (two overlapping boxes); 230–240–250 and then by
  10 degC from a stated pressure, tight to 0.5 MPa (half a megapascal lower `Box1.ok` is `false`); the slabs 230–235–240–243–246–250 degC next
  to saturation in pressure intervals short enough for the termwise bounds.  Any boxes that pass and chain would serve. -/
def r1Boxes : List Box1 := [
  ⟨0, 225, 0, 100000000⟩, ⟨200, 230, 0, 100000000⟩, ⟨230, 240, 4000000, 100000000⟩, ⟨240, 250, 9500000, 100000000⟩,
  ⟨230, 235, 2000000, 100000000⟩, ⟨235, 240, 2500000, 3800000⟩, ⟨235, 240, 3800000, 100000000⟩,
  ⟨240, 243, 3000000, 5400000⟩, ⟨240, 243, 5400000, 100000000⟩, ⟨243, 246, 3000000, 7000000⟩, ⟨243, 246, 7000000, 100000000⟩,
  ⟨246, 250, 3300000, 4000000⟩, ⟨246, 250, 4000000, 5300000⟩, ⟨246, 250, 5300000, 9100000⟩, ⟨246, 250, 9100000, 100000000⟩,
  ⟨250, 260, 14500000, 100000000⟩, ⟨260, 270, 19000000, 100000000⟩, ⟨270, 280, 23500000, 100000000⟩,
  ⟨280, 290, 28000000, 100000000⟩, ⟨290, 300, 32000000, 100000000⟩, ⟨300, 310, 36000000, 100000000⟩,
  ⟨310, 320, 40000000, 100000000⟩, ⟨320, 330, 43500000, 100000000⟩, ⟨330, 340, 46500000, 100000000⟩,
  ⟨340, 350, 50000000, 100000000⟩]

theorem r1Boxes_ok : ∀ b ∈ r1Boxes, b.ok := by decide +kernel

theorem cowat_mono_box2 (t p1 p2 : ℝ) (ht1 : 230 ≤ t) (ht2 : t ≤ 240) (hp1 : 4000000 ≤ p1) (h12 : p1 < p2) (hp2 : p2 ≤ 100000000) :
    ∃ d1 u1 d2 u2, cowat t p1 = Ret.pair d1 u1 ∧ cowat t p2 = Ret.pair d2 u2 ∧ 0 < d1 ∧ d1 < d2 :=
  Box1.density_mono r1Boxes_ok (by decide) ht1 ht2 hp1 h12 hp2

theorem cowat_mono_box3 (t p1 p2 : ℝ) (ht1 : 240 ≤ t) (ht2 : t ≤ 250) (hp1 : 9500000 ≤ p1) (h12 : p1 < p2) (hp2 : p2 ≤ 100000000) :
    ∃ d1 u1 d2 u2, cowat t p1 = Ret.pair d1 u1 ∧ cowat t p2 = Ret.pair d2 u2 ∧ 0 < d1 ∧ d1 < d2 :=
  Box1.density_mono r1Boxes_ok (by decide) ht1 ht2 hp1 h12 hp2

end Proofs.Iapws
