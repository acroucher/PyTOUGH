/-
  Rigid motions: `translate` and `rotate` preserve the geometry invariant.
  The shoelace sum is invariant under translation and is multiplied by `cos² + sin²` under the map
  `x ↦ R (x - c) + c` (Proofs/Plane.lean); both operations rewrite the node, column and well records one by one (`translate`
  the layer records too) and keep names and cross-references (`SameStructure`); the name lists read, besides names, only the comparisons of
  column surfaces with layer elevations (`SameComparisons`), and so do the layer counts.
-/
import PyTough.Proofs.Plane
import PyTough.Proofs.GeoInv0
namespace Proofs.Geo
open Model.Geo Model.Geo.Geo Py

theorem sameStructure_of_maps (g : Geo) (fN : Node → Node) (fC : Column → Column) (fL : Layer → Layer)
    (fW : Well → Well) (w : Bool) (lN lC lL lW : List Nat)
    (hN1 : ∀ x, (fN x).name = x.name) (hN2 : ∀ x, (fN x).cols = x.cols)
    (hC1 : ∀ x, (fC x).name = x.name) (hC2 : ∀ x, (fC x).nodes = x.nodes)
    (hC3 : ∀ x, (fC x).cons = x.cons) (hC4 : ∀ x, (fC x).nbrs = x.nbrs)
    (hL : ∀ x, (fL x).name = x.name) (hW : ∀ x, (fW x).name = x.name) :
    SameStructure g { g with N := lN.foldl (fun N n => N.modify n fN) g.N,
                             C := lC.foldl (fun C n => C.modify n fC) g.C,
                             L := lL.foldl (fun L n => L.modify n fL) g.L,
                             W := if w then lW.foldl (fun W n => W.modify n fW) g.W else g.W } :=
  { convention := rfl, atmosType := rfl, nodelist := rfl, nodeD := rfl, columnlist := rfl, columnD := rfl,
    connlist := rfl, connD := rfl, layerlist := rfl, layerD := rfl, welllist := rfl, wellD := rfl, K := rfl,
    Nsize := foldl_modify_size _ _ _, Csize := foldl_modify_size _ _ _, Lsize := foldl_modify_size _ _ _,
    Wsize := by
      cases w
      · rfl
      · exact foldl_modify_size _ _ _
    nodeName := foldl_modify_proj fN (·.name) hN1 lN g.N, nodeCols := foldl_modify_proj fN (·.cols) hN2 lN g.N,
    colName := foldl_modify_proj fC (·.name) hC1 lC g.C, colNodes := foldl_modify_proj fC (·.nodes) hC2 lC g.C,
    colCons := foldl_modify_proj fC (·.cons) hC3 lC g.C, colNbrs := foldl_modify_proj fC (·.nbrs) hC4 lC g.C,
    layName := foldl_modify_proj fL (·.name) hL lL g.L,
    wellName := fun i => by
      cases w
      · rfl
      · exact foldl_modify_proj fW (·.name) hW lW g.W i }

variable {g g' : Geo}

theorem orient_of_moved (h : Inv0 g) (fN : Node → Node) (fC : Column → Column) (φ : Pt → Pt)
    (hφ : ∀ p, shoelace2 (p.map φ) = shoelace2 p) (hpos : ∀ x, (fN x).pos = φ x.pos)
    (hnodes : ∀ x, (fC x).nodes = x.nodes) (harea : ∀ x, (fC x).area = x.area) (L' : Array Layer) (W' : Array Well) :
    Oriented { g with N := g.nodelist.foldl (fun N n => N.modify n fN) g.N,
                      C := g.columnlist.foldl (fun C n => C.modify n fC) g.C, L := L', W := W' } := by
  intro c hc
  simp only [Geo.polygon, Geo.col, Geo.node]
  rw [foldl_modify_proj fC (·.nodes) hnodes, foldl_modify_proj fC (·.area) harea,
    List.map_congr_left (g := φ ∘ fun n => (g.node n).pos) fun n hn => by
      rw [foldl_modify_get fN g.nodelist g.N h.nodes.nodup h.nodes.lt n, if_pos (h.colNodes c hc n hn), hpos]; rfl,
    ← List.map_map, hφ]
  exact h.orient c hc

theorem filterAuxM_congr {α} (f g : α → Except Exc Bool) : ∀ (l acc : List α), (∀ a ∈ l, f a = g a) →
    l.filterAuxM f acc = l.filterAuxM g acc
  | [], _, _ => rfl
  | a :: t, acc, h => by
    simp only [List.filterAuxM]
    rw [h a (List.mem_cons_self)]
    congr 1
    funext b
    exact filterAuxM_congr f g t _ (fun x hx => h x (List.mem_cons_of_mem _ hx))

theorem filterM_congr {α} (f g : α → Except Exc Bool) (l : List α) (h : ∀ a ∈ l, f a = g a) :
    l.filterM f = l.filterM g := by
  simp only [List.filterM, filterAuxM_congr f g l [] h]

/-- the comparisons the name lists are built from: `col.surface > lay.bottom` and `col.surface <= lay.top`
    (not symmetric: over the columns and layers listed in `g`) -/
def SameComparisons (g g' : Geo) : Prop :=
  ∀ c ∈ g.columnlist, ∀ l ∈ g.layerlist,
    surfaceAbove (g'.col c) (g'.lay l) = surfaceAbove (g.col c) (g.lay l) ∧
    surfaceNotAbove (g'.col c) (g'.lay l).top = surfaceNotAbove (g.col c) (g.lay l).top

theorem layerCols_congr (h : SameStructure g g') (hc : SameComparisons g g') (l : Nat) (hl : l ∈ g.layerlist) :
    g'.layerCols (g'.lay l) = g.layerCols (g.lay l) := by
  simp only [layerCols, h.columnlist]
  exact filterM_congr _ _ _ (fun c hcm => (hc c hcm l hl).1)

theorem filterAuxM_ok {α} (f : α → Except Exc Bool) : ∀ (l acc r : List α), l.filterAuxM f acc = .ok r →
    r = (l.filter fun a => f a == .ok true).reverse ++ acc
  | [], acc, r, h => (Except.ok.inj h).symm
  | a :: t, acc, r, h => by
    simp only [List.filterAuxM] at h
    obtain ⟨b, hb, h2⟩ := bind_ok h
    rw [filterAuxM_ok f t _ r h2, List.filter_cons, hb]
    cases b
    · simp
    · simp

theorem layerCols_mem {g : Geo} {l : Layer} {cols : List Nat} (h : g.layerCols l = .ok cols) :
    ∀ c ∈ cols, c ∈ g.columnlist := by
  simp only [layerCols, List.filterM] at h
  obtain ⟨r, hr, h2⟩ := bind_ok h
  cases h2
  intro c hc
  rw [filterAuxM_ok _ _ _ _ hr] at hc
  simp only [List.append_nil, List.reverse_reverse] at hc
  exact (List.mem_filter.mp hc).1

theorem computeBlockNames_congr (h : SameStructure g g') (hc : SameComparisons g g') :
    g'.computeBlockNames = g.computeBlockNames := by
  simp only [computeBlockNames, h.layerlist]
  cases hll : g.layerlist with
  | nil => rfl
  | cons l0 below =>
    simp only [Geo.blockName, h.layName, h.colName, h.convention, h.atmosType, h.columnlist]
    congr 1
    funext atm
    have : (below.mapM fun li => do
          let cols ← g'.layerCols (g'.lay li)
          cols.mapM fun c => Model.Names.blockName g.convention (g.lay li).name (g.col c).name) =
        (below.mapM fun li => do
          let cols ← g.layerCols (g.lay li)
          cols.mapM fun c => Model.Names.blockName g.convention (g.lay li).name (g.col c).name) := by
      apply mapM_congr_mem
      intro li hli
      rw [layerCols_congr h hc li (by rw [hll]; exact List.mem_cons_of_mem _ hli)]
    rw [this]

theorem bind_congr_ok {α β} (x : Except Exc α) (f f' : α → Except Exc β) (h : ∀ a, x = .ok a → f a = f' a) :
    (x >>= f) = (x >>= f') := by
  cases x with
  | error e => rfl
  | ok a => exact h a rfl

theorem computeConnNames_congr (h : SameStructure g g') (hc : SameComparisons g g')
    (hb : g'.blockNames.head? = g.blockNames.head?) :
    g'.computeConnNames = g.computeConnNames := by
  simp only [computeConnNames, h.layerlist]
  cases hll : g.layerlist with
  | nil => rfl
  | cons l0 below =>
    simp only []
    congr 1
    apply mapM_congr_mem
    intro ilay hil
    have hlt : ilay < below.length := List.mem_range.mp hil
    have hli : below.getD ilay 0 ∈ g.layerlist := by
      rw [hll]
      have : below.getD ilay 0 = below[ilay] := by simp [List.getD, hlt]
      rw [this]
      exact List.mem_cons_of_mem _ (List.getElem_mem hlt)
    rw [layerCols_congr h hc _ hli]
    apply bind_congr_ok
    intro layercols hlc
    have hmem := layerCols_mem hlc
    simp only [Geo.blockName, h.layName, h.colName, h.convention, h.atmosType, h.connlist, h.con, hb]
    apply congrArg (fun x => x >>= _)
    apply mapM_congr_mem
    intro c hcm
    rw [(hc c (hmem c hcm) _ hli).2]

theorem namesFresh_congr (h : SameStructure g g') (hc : SameComparisons g g')
    (hb : g'.blockNames = g.blockNames) (hk : g'.connNames = g.connNames) (hf : g.namesFresh = true) :
    g'.namesFresh = true := by
  rw [namesFresh_iff] at hf ⊢
  rw [computeBlockNames_congr h hc, computeConnNames_congr h hc (by rw [hb]), hb, hk]
  exact hf

theorem expectedNumLayers_congr (h : SameStructure g g') (hc : SameComparisons g g') (c : Nat)
    (hcm : c ∈ g.columnlist) : g'.expectedNumLayers c = g.expectedNumLayers c := by
  simp only [expectedNumLayers, h.layerlist]
  cases hll : g.layerlist with
  | nil => cases (g'.col c).surface <;> cases (g.col c).surface <;> rfl
  | cons l0 rest =>
    have hmem : ∀ l ∈ l0 :: rest, l ∈ g.layerlist := fun l hl => hll ▸ hl
    -- the comparison with the top layer tells whether there is a surface, those with the others give the count
    have h0 := (hc c hcm l0 (hmem l0 List.mem_cons_self)).1
    cases hs' : (g'.col c).surface <;> cases hs0 : (g.col c).surface <;> simp only [surfaceAbove, hs', hs0] at h0
    · rfl
    · cases h0
    · cases h0
    · refine congrArg (fun l : List Nat => (l.length : Int)) (List.filter_congr fun l hl => ?_)
      have := (hc c hcm l (hmem l (List.mem_cons_of_mem _ hl))).1
      simp only [surfaceAbove, hs', hs0, Except.ok.injEq] at this
      exact this

theorem geoInv_congr (hs : SameStructure g g') (hc : SameComparisons g g')
    (hnl : ∀ c, (g'.col c).numLayers = (g.col c).numLayers) (hb : g'.blockNames = g.blockNames)
    (hk : g'.connNames = g.connNames) (ho : Oriented g') (h : g.geoInv = true) : g'.geoInv = true := by
  obtain ⟨h0, hl, hn⟩ := (geoInv_iff g).mp h
  refine (geoInv_iff g').mpr ⟨inv0_lift (hs.inv0 ho) h0, ?_, namesFresh_congr hs hc hb hk hn⟩
  rw [layersOK_iff] at hl ⊢
  rw [hs.columnlist]
  intro c hcm
  rw [hnl c, hl c hcm, expectedNumLayers_congr hs hc c hcm]

def trN (dx dy : Rat) (nd : Node) : Node := { nd with pos := Pt.add nd.pos (dx, dy) }
def trC (dx dy dz : Rat) (cl : Column) : Column :=
  { cl with centre := Pt.add cl.centre (dx, dy), surface := cl.surface.map (· + dz) }
def trL (dz : Rat) (la : Layer) : Layer := { la with top := la.top + dz, bottom := la.bottom + dz, centre := la.centre + dz }
def trW (dx dy dz : Rat) (wl : Well) : Well := { wl with pos := wl.pos.map fun p => (p.1 + dx, p.2.1 + dy, p.2.2 + dz) }

theorem translate_eq (g : Geo) (dx dy dz : Rat) (w : Bool) :
    g.translate dx dy dz w =
      { g with N := g.nodelist.foldl (fun N n => N.modify n (trN dx dy)) g.N,
               C := g.columnlist.foldl (fun C n => C.modify n (trC dx dy dz)) g.C,
               L := g.layerlist.foldl (fun L n => L.modify n (trL dz)) g.L,
               W := if w then g.welllist.foldl (fun W n => W.modify n (trW dx dy dz)) g.W else g.W } := by
  unfold translate
  simp only [foldl_updNode, foldl_updCol, foldl_updLay]
  cases w <;> rfl

theorem translate_sameStructure (g : Geo) (dx dy dz : Rat) (w : Bool) :
    SameStructure g (g.translate dx dy dz w) := by
  rw [translate_eq]
  exact sameStructure_of_maps g (trN dx dy) (trC dx dy dz) (trL dz) (trW dx dy dz) w _ _ _ _
    (fun _ => rfl) (fun _ => rfl) (fun _ => rfl) (fun _ => rfl) (fun _ => rfl) (fun _ => rfl) (fun _ => rfl)
    (fun _ => rfl)

theorem translate_orient (g : Geo) (dx dy dz : Rat) (w : Bool) (h : Inv0 g) : Oriented (g.translate dx dy dz w) := by
  rw [translate_eq]
  exact orient_of_moved h (trN dx dy) (trC dx dy dz) (Pt.add · (dx, dy)) (fun p => shoelace2_translate p _)
    (fun _ => rfl) (fun _ => rfl) (fun _ => rfl) _ _

theorem translate_inv0 (g : Geo) (dx dy dz : Rat) (w : Bool) (h : Inv0 g) : Inv0 (g.translate dx dy dz w) :=
  (translate_sameStructure g dx dy dz w).inv0 (translate_orient g dx dy dz w h) h

theorem translate_sameComparisons (g : Geo) (dx dy dz : Rat) (w : Bool) (h : Inv0 g) :
    SameComparisons g (g.translate dx dy dz w) := by
  intro c hc l hl
  have hcol : (g.translate dx dy dz w).col c = trC dx dy dz (g.col c) := by
    rw [translate_eq]
    simp only [Geo.col]
    rw [foldl_modify_get (trC dx dy dz) g.columnlist g.C h.cols.nodup h.cols.lt c, if_pos hc]
  have hlay : (g.translate dx dy dz w).lay l = trL dz (g.lay l) := by
    rw [translate_eq]
    simp only [Geo.lay]
    rw [foldl_modify_get (trL dz) g.layerlist g.L h.lays.nodup h.lays.lt l, if_pos hl]
  rw [hcol, hlay]
  simp only [surfaceAbove, surfaceNotAbove, trC, trL]
  cases (g.col c).surface with
  | none => simp
  | some s =>
    simp [Rat.add_lt_add_right, Rat.add_le_add_right]

theorem translate_geoInv (g : Geo) (dx dy dz : Rat) (w : Bool) (h : g.geoInv = true) :
    (g.translate dx dy dz w).geoInv = true := by
  have hi := inv0_of_geoInv h
  refine geoInv_congr (translate_sameStructure g dx dy dz w) (translate_sameComparisons g dx dy dz w hi)
    ?_ ?_ ?_ (translate_orient g dx dy dz w hi) h
  · rw [translate_eq]
    exact foldl_modify_proj (trC dx dy dz) (·.numLayers) (fun _ => rfl) g.columnlist g.C
  · rw [translate_eq]
  · rw [translate_eq]

def roN (cs sn : Rat) (c : Pt) (nd : Node) : Node := { nd with pos := rot cs sn c nd.pos }
def roC (cs sn : Rat) (c : Pt) (cl : Column) : Column := { cl with centre := rot cs sn c cl.centre }
def roW (cs sn : Rat) (c : Pt) (wl : Well) : Well :=
  { wl with pos := wl.pos.map fun p => let q := rot cs sn c (p.1, p.2.1); (q.1, q.2, p.2.2) }

/-- the layer heap is written as an empty loop of `modify`s: the shape `sameStructure_of_maps` expects -/
theorem rotateAbout_eq (g : Geo) (cs sn : Rat) (c : Pt) (w : Bool) :
    g.rotateAbout cs sn c w =
      { g with N := g.nodelist.foldl (fun N n => N.modify n (roN cs sn c)) g.N,
               C := g.columnlist.foldl (fun C n => C.modify n (roC cs sn c)) g.C,
               L := ([] : List Nat).foldl (fun L n => L.modify n id) g.L,
               W := if w then g.welllist.foldl (fun W n => W.modify n (roW cs sn c)) g.W else g.W } := by
  unfold rotateAbout
  simp only [foldl_updNode, foldl_updCol]
  cases w <;> rfl

theorem rotateAbout_geoInv (g : Geo) (cs sn : Rat) (c : Pt) (w : Bool)
    (hunit : cs * cs + sn * sn = 1) (h : g.geoInv = true) :
    (g.rotateAbout cs sn c w).geoInv = true := by
  have he := rotateAbout_eq g cs sn c w
  generalize g.rotateAbout cs sn c w = g' at he ⊢
  have hs : SameStructure g g' := by
    rw [he]
    exact sameStructure_of_maps g (roN cs sn c) (roC cs sn c) id (roW cs sn c) w _ _ [] _
      (fun _ => rfl) (fun _ => rfl) (fun _ => rfl) (fun _ => rfl) (fun _ => rfl) (fun _ => rfl) (fun _ => rfl)
      (fun _ => rfl)
  have hi := inv0_of_geoInv h
  have hcol : ∀ {β} (π : Column → β), (∀ x, π (roC cs sn c x) = π x) → ∀ i, π (g'.col i) = π (g.col i) := by
    intro β π hπ i; rw [he]; exact foldl_modify_proj (roC cs sn c) π hπ g.columnlist g.C i
  have hlay : ∀ i, g'.lay i = g.lay i := by intro i; rw [he]; rfl
  refine geoInv_congr hs ?_ (hcol (·.numLayers) fun _ => rfl) (by rw [he]) (by rw [he]) ?_ h
  · intro k _ l _
    simp only [surfaceAbove, surfaceNotAbove, hcol (·.surface) fun _ => rfl, hlay, and_self]
  · rw [he]
    exact orient_of_moved hi (roN cs sn c) (roC cs sn c) (rot cs sn c)
      (fun p => by rw [shoelace2_rot, hunit, Rat.one_mul]) (fun _ => rfl) (fun _ => rfl) (fun _ => rfl) _ _

end Proofs.Geo
