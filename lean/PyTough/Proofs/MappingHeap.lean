/-
  C19: `t2incon.transfer_from` on the object heap: every step leaves the objects that existed before as
  they were and files only newly allocated ones (`Inv`).
-/
import PyTough.Proofs.Mapping
import PyTough.Proofs.Literals
namespace Proofs.Mapping
open Py Model.Mapping

theorem modifyAt_eq_modify (h : Heap) (id : Nat) (f : Obj → Obj) : modifyAt h id f = h.modify id f := by
  induction h generalizing id with
  | nil => rw [modifyAt, List.modify_nil]
  | cons o r ih =>
    cases id with
    | zero => rfl
    | succ n => rw [modifyAt, ih, List.modify_succ_cons]

/-- the invariant of the loops: the first `n` objects are those of `hb`, and the dict holds allocated ids ≥ n only -/
structure Inv (n : Nat) (hb : Heap) (st : Heap × InconH) : Prop where
  le : n ≤ st.1.length
  old : ∀ i, i < n → st.1[i]? = hb[i]?
  new : ∀ p ∈ st.2, n ≤ p.2 ∧ p.2 < st.1.length

/-- `self[key] = <the object just allocated>`: what the heap looks like afterwards -/
theorem setItem_new_heap (h : Heap) (d : InconH) (o : Obj) (key : Str) :
    (setItem (h ++ [o], d) key h.length).1.length = h.length + 1 ∧
    (∀ i, i < h.length → (setItem (h ++ [o], d) key h.length).1[i]? = h[i]?) ∧
    (setItem (h ++ [o], d) key h.length).1[h.length]? = some (if o.block != key then { o with block := key } else o) := by
  unfold setItem
  rw [modifyAt_eq_modify]
  refine ⟨?_, fun i hi => ?_, ?_⟩
  · rw [List.length_modify, List.length_append]
    rfl
  · rw [List.getElem?_modify_ne _ _ (Nat.ne_of_gt hi), List.getElem?_append_left hi]
  · rw [List.getElem?_modify_eq, List.getElem?_concat_length]
    rfl

theorem inv_setItem_new {n : Nat} {hb h : Heap} {d : InconH} (o : Obj) (key : Str)
    (hk : Inv n hb (h, d)) : Inv n hb (setItem (h ++ [o], d) key h.length) := by
  obtain ⟨e1, e2, _⟩ := setItem_new_heap h d o key
  refine ⟨?_, fun i hi => ?_, fun p hp => ?_⟩
  · rw [e1]
    exact Nat.le_succ_of_le hk.le
  · rw [e2 i (Nat.lt_of_lt_of_le hi hk.le)]
    exact hk.old i hi
  · rw [e1]
    rcases mem_dset d key h.length p hp with hp | hp
    · exact ⟨(hk.new p hp).1, Nat.lt_succ_of_lt (hk.new p hp).2⟩
    · rw [hp]
      exact ⟨hk.le, Nat.lt_succ_self _⟩

theorem inv_assignCopy {n : Nat} {hb : Heap} {st st' : Heap × InconH} {key : Str} {id : Nat}
    (hk : Inv n hb st) (h : assignCopy st key id = .ok st') : Inv n hb st' := by
  unfold assignCopy at h
  split at h
  · cases h
  · rename_i o _
    simp only [Heap.alloc] at h
    cases h
    exact inv_setItem_new o key hk

theorem inv_transferAtmH {n : Nat} {hb : Heap} {src : InconH} {s t : Geo} {cm : Dict Str} {dflt : Nat}
    {st st' : Heap × InconH} (hk : Inv n hb st) (h : transferAtmH src s t cm dflt st = .ok st') :
    Inv n hb st' := by
  unfold transferAtmH at h
  by_cases ht0 : t.atm = 0
  · rw [if_pos ht0] at h
    split at h
    · cases h
    split at h
    · cases h
    by_cases hs0 : s.atm = 0
    · rw [if_pos hs0] at h
      ok_inv h
      exact inv_assignCopy hk h
    · rw [if_neg hs0] at h
      by_cases hs1 : s.atm = 1
      · rw [if_pos hs1] at h
        ok_inv h
        -- `assignNew` is `setItem` on the heap with the fresh object appended
        exact inv_setItem_new ⟨[], _⟩ _ hk
      · rw [if_neg hs1] at h
        exact inv_assignCopy hk h
  · rw [if_neg ht0] at h
    by_cases ht1 : t.atm = 1
    · rw [if_pos ht1] at h
      refine foldlM_inv (Inv n hb) _ (fun b a b' hf hkb => ?_) _ _ _ (foldE_eq_foldlM .. ▸ h) hk
      by_cases hs0 : s.atm = 0
      · rw [if_pos hs0] at hf
        unfold stepBroadcast at hf
        ok_inv hf
        exact inv_assignCopy hkb hf
      · rw [if_neg hs0] at hf
        by_cases hs1 : s.atm = 1
        · rw [if_pos hs1] at hf
          unfold stepPerColumn at hf
          ok_inv hf
          exact inv_assignCopy hkb hf
        · rw [if_neg hs1] at hf
          unfold stepDefault at hf
          ok_inv hf
          exact inv_assignCopy hkb hf
    · rw [if_neg ht1] at h
      cases h
      exact hk

end Proofs.Mapping
