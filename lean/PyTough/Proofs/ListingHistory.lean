/-
  history() on one table (Model/ListingHistory.lean): `scanSel` over a selection in ascending line order returns, entry by
  entry, the picked cell of the selected line (`cellOf`), and `tselect.sort()` (`sortSel`) makes any selection ascending.
  Core Lean only.
-/
import PyTough.Model.ListingHistory
import PyTough.Proofs.ListLemmas
namespace Proofs.History
open Py Model Model.Listing

/-- line number `k` of a table whose lines (from its first results line on) are `L`; beyond the end of the
    file `readline()` returns `''` -/
def lineAt (L : List Str) (k : Nat) : Str := L[k]?.getD []

/-- the value history() must append for one selected entry: column `col` of line `li`, negated for a reversed key -/
def cellOf (readVals : Str → Except Exc (List FVal)) (colOf : Str → Option Nat) (L : List Str) (e : Sel) : Except Exc (Nat × FVal) :=
  match pickCell readVals colOf (lineAt L e.1.toNat) e.2.1 e.2.2.1 with
  | .error x => .error x
  | .ok v => .ok (e.2.2.2, v)

/-- selected line indices are non-decreasing and at least `lo` -/
def Ascending : Int → List Sel → Prop
  | _, [] => True
  | lo, e :: r => lo ≤ e.1 ∧ Ascending e.1 r

theorem headD_drop (L : List Str) (k : Nat) : (L.drop k).headD [] = lineAt L k := by
  rw [List.headD_eq_head?_getD, List.head?_drop]; rfl

theorem lineAt_drop (L : List Str) (a b : Nat) : lineAt (L.drop a) b = lineAt L (a + b) := by
  unfold lineAt; rw [List.getElem?_drop]

theorem lineAt_append_left (D rest : List Str) (j : Nat) (h : j < D.length) : lineAt (D ++ rest) j = D[j] := by
  unfold lineAt
  rw [List.getElem?_append_left h, List.getElem?_eq_getElem h]; rfl

theorem scanSel_eq (readVals : Str → Except Exc (List FVal)) (colOf : Str → Option Nat) (L : List Str)
    (ts : List Sel) (index : Nat) (hasc : Ascending index ts) :
    (scanSel readVals colOf ts index (lineAt L index) (L.drop (index + 1))).map (·.1) = ts.mapM (cellOf readVals colOf L) := by
  induction ts generalizing index with
  | nil => rfl
  | cons e r ih =>
    obtain ⟨li, col, rev, si⟩ := e
    obtain ⟨hlo, hr⟩ := hasc
    simp only at hlo hr
    have hli : (li.toNat : Int) = li := by omega
    -- the line the loop looks at is line `li`
    have hstep : (if li > (index : Int) then
          ((((L.drop (index + 1)).drop (li - (index : Int) - 1).toNat).headD [] : Str),
            ((L.drop (index + 1)).drop (li - (index : Int) - 1).toNat).tail)
        else (lineAt L index, L.drop (index + 1))) = (lineAt L li.toNat, L.drop (li.toNat + 1)) := by
      split
      · have e : (index + 1) + (li - (index : Int) - 1).toNat = li.toNat := by omega
        rw [List.drop_drop, e, headD_drop, List.tail_drop]
      · have : li.toNat = index := by omega
        rw [this]
    have ih' := ih li.toNat (by rw [hli]; exact hr)
    rw [hli] at ih'
    simp only [scanSel, List.mapM_cons, cellOf, hstep]
    cases hp : pickCell readVals colOf (lineAt L li.toNat) col rev with
    | error x => rfl
    | ok v =>
      simp only [bind, Except.bind, pure, Except.pure]
      rw [← ih']
      cases hs : scanSel readVals colOf r li (lineAt L li.toNat) (L.drop (li.toNat + 1)) with
      | error x => rfl
      | ok q => rfl

theorem insertSel_perm (e : Sel) (l : List Sel) : (insertSel e l).Perm (e :: l) := by
  induction l with
  | nil => exact List.Perm.refl _
  | cons x r ih =>
    unfold insertSel
    split
    · exact List.Perm.refl _
    · exact (List.Perm.cons x ih).trans (List.Perm.swap e x r)

theorem sortSel_perm (l : List Sel) : (sortSel l).Perm l := by
  induction l with
  | nil => exact List.Perm.refl _
  | cons x r ih => exact (insertSel_perm x _).trans (List.Perm.cons x ih)

theorem selLe_fst {a b : Sel} (h : selLe a b = true) : a.1 ≤ b.1 := by
  rcases Int.lt_or_le b.1 a.1 with hgt | hle
  · have : selLe a b = false := by
      unfold selLe
      rw [if_neg (Int.lt_asymm hgt), if_pos hgt]
    rw [this] at h; cases h
  · exact hle

theorem selLe_total_fst {a b : Sel} (h : selLe a b = false) : b.1 ≤ a.1 := by
  rcases Int.lt_or_le a.1 b.1 with hlt | hge
  · have : selLe a b = true := by
      unfold selLe
      rw [if_pos hlt]
    rw [this] at h; cases h
  · exact hge

theorem ascending_mono {lo lo' : Int} {l : List Sel} (h : Ascending lo l) (hle : lo' ≤ lo) : Ascending lo' l := by
  cases l with
  | nil => trivial
  | cons e r => exact ⟨by have := h.1; omega, h.2⟩

theorem insertSel_ascending (e : Sel) (l : List Sel) (lo : Int) (hl : Ascending lo l) (he : lo ≤ e.1) :
    Ascending lo (insertSel e l) := by
  induction l generalizing lo with
  | nil => exact ⟨he, trivial⟩
  | cons x r ih =>
    unfold insertSel
    split
    · rename_i hle
      exact ⟨he, selLe_fst hle, hl.2⟩
    · rename_i hnle
      have hx : selLe e x = false := by cases h : selLe e x <;> simp_all
      exact ⟨hl.1, ih x.1 hl.2 (selLe_total_fst hx)⟩

theorem sortSel_ascending (l : List Sel) (lo : Int) (h : ∀ e ∈ l, lo ≤ e.1) : Ascending lo (sortSel l) := by
  induction l with
  | nil => trivial
  | cons x r ih =>
    exact insertSel_ascending x _ lo (ih (fun e he => h e (List.mem_cons_of_mem _ he))) (h x List.mem_cons_self)

/-- history() on one table after `tselect.sort()`, for any selection `ts` (any order, repeats); `cell` is a parameter so
    that C06 can put the cell of the stepping reader's table there -/
theorem scanSel_sortSel_eq (readVals : Str → Except Exc (List FVal)) (colOf : Str → Option Nat) (L : List Str) (ts : List Sel)
    (cell : Sel → Except Exc (Nat × FVal)) (hnn : ∀ e ∈ ts, 0 ≤ e.1) (hcell : ∀ e ∈ ts, cellOf readVals colOf L e = cell e) :
    (scanSel readVals colOf (sortSel ts) 0 (L.headD []) L.tail).map (·.1) = (sortSel ts).mapM cell := by
  have h := scanSel_eq readVals colOf L (sortSel ts) 0 (sortSel_ascending ts 0 hnn)
  rw [← headD_drop, List.drop_zero, List.drop_one] at h
  refine h.trans ?_
  exact mapM_congr_mem _ fun e he => hcell e ((sortSel_perm ts).mem_iff.mp he)

end Proofs.History
