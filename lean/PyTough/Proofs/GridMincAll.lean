/-
  MINC as a whole: `minc` applies the level loop to every selected block with 0 < V < atmos_volume,
  leaves name and volume of the other blocks alone, appends the new blocks and connections and
  returns the positions.
-/
import PyTough.Proofs.GridMinc
namespace Proofs.Grid
open Py Model Model.Grid Model.Grid.World

/-- the body of the loop `for blk_index, blkname in enumerate(blocks)` for a block `b` that is
    processed, with the rest of the loop as `k`: that branch of `World.mincBlocks`, copied (`mincBlocks_cons`) -/
def mincOneK {α : Type} (args : MincArgs) (vf : List Rat) (w : World) (blkname : Name) (b i0 iblk : Nat)
    (k : World → Nat → List Nat → Except (Exc × World) α) : Except (Exc × World) α :=
  let blk := w.bk b
  let origVol := blk.volume
  let w1 := w.setBlk b { blk with volume := blk.volume * vf.headD 0 }
  let origRock := blk.rock
  match mincLevels args blkname origVol origRock blk.centre w1 (vf.drop 1) 0 b iblk [] with
  | .error e => .error e
  | .ok (w2, iblk2, idx) =>
    let frock := mincRockname (w2.rname origRock) 0
    match duplicateRock w2 frock origRock with
    | .error e => .error e
    | .ok w3 =>
      match dget w3.rocktype frock with
      | none => .error (.keyError, w3)
      | some fr =>
        let w4 := w3.setBlk b { w3.bk b with rock := fr }
        k w4 iblk2 (i0 :: idx)

theorem mincBlocks_cons (args : MincArgs) (vf : List Rat) (D : Dict Name Nat) (w : World) (n : Name) (r : List Name)
    (iblk : Nat) (cols : List (List Nat)) :
    mincBlocks args vf D w (n :: r) iblk cols =
      match dget w.block n with
      | none => .error (.keyError, w)
      | some b =>
        if 0 < (w.bk b).volume ∧ (w.bk b).volume < args.atmosVolume then
          match dget D n with
          | none => .error (.keyError, w.setBlk b { w.bk b with volume := (w.bk b).volume * vf.headD 0 })
          | some i0 => mincOneK args vf w n b i0 iblk fun w4 iblk2 col => mincBlocks args vf D w4 r iblk2 (cols ++ [col])
        else mincBlocks args vf D w r iblk (cols ++ [List.replicate vf.length 0]) := by
  rw [mincBlocks]; rfl

theorem mincOneK_spec {α : Type} (args : MincArgs) (vf : List Rat) {w : World} (hI : Grid.Inv w) (blkname : Name) {b : Nat}
    (hb : b ∈ w.blocklist) (i0 iblk : Nat) (k : World → Nat → List Nat → Except (Exc × World) α) :
    (∃ e w', mincOneK args vf w blkname b i0 iblk k = .error (e, w') ∧ Grid.Inv w') ∨
    ∃ w4, mincOneK args vf w blkname b i0 iblk k =
        k w4 (iblk + (vf.drop 1).length) (i0 :: List.range' (iblk + 1) (vf.drop 1).length) ∧ Grid.Inv w4 ∧
      Grew w w4 (mincChain args (w.bk b).volume 0 b w.blks.length (vf.drop 1)) (· = b) ∧
      (w4.bk b).volume = (w.bk b).volume * vf.headD 0 ∧
      (∀ i (hi : i < (vf.drop 1).length), (w4.bk (w.blks.length + i)).volume = (w.bk b).volume * (vf.drop 1)[i]) := by
  unfold mincOneK
  simp only []
  have hlt := hI.bl_lt b hb
  have hI1 : Grid.Inv (w.setBlk b { w.bk b with volume := (w.bk b).volume * vf.headD 0 }) :=
    setBlk_payload_inv hI b _ rfl rfl (fun h => hI.b_rock b h)
  have g1 := Grew.setBlk w b { w.bk b with volume := (w.bk b).volume * vf.headD 0 } rfl
  have e_bk : ((w.setBlk b { w.bk b with volume := (w.bk b).volume * vf.headD 0 }).bk b).volume = (w.bk b).volume * vf.headD 0 := by
    rw [bk_setBlk, if_pos ⟨rfl, hlt⟩]
  generalize w.setBlk b { w.bk b with volume := (w.bk b).volume * vf.headD 0 } = w1 at hI1 g1 e_bk ⊢
  have e_len : w1.blks.length = w.blks.length := g1.blks
  have hL := mincLevels_spec args blkname (w.bk b).volume (w.bk b).rock (w.bk b).centre (vf.drop 1) 0 iblk []
    hI1 (lastblk := b) (g1.blocklist ▸ List.mem_append_left _ hb)
  split at hL
  · rename_i e w' heq
    exact Or.inl ⟨e, w', by rw [heq], hL⟩
  · rename_i w2 iblk2 idx heq
    obtain ⟨tI, t, tvol, tiblk, tidx⟩ := hL
    obtain ⟨rs, rl, rd, h3, hI3, hsome⟩ := duplicateRock_spec tI (mincRockname (w2.rname (w.bk b).rock) 0) (w.bk b).rock
    obtain ⟨fr, hfr'⟩ := Option.isSome_iff_exists.mp hsome
    generalize hw3 : ({ w2 with rocks := rs, rocktypelist := rl, rocktype := rd } : World) = w3 at h3 hI3
    have hrd : w3.rocktype = rd := by rw [← hw3]
    have e32 : ∀ y, w3.bk y = w2.bk y := fun y => by rw [← hw3]; rfl
    have g3 : Grew w2 w3 [] (· = b) := by rw [← hw3]; exact .same rfl rfl rfl rfl
    have g := (g1.trans (t.mono fun _ h => h.elim)).trans (g3.trans (Grew.setBlk w3 b { w3.bk b with rock := fr } rfl))
    rw [e_len, List.nil_append, List.append_nil, List.append_nil] at g
    have f_vol : ∀ x, ((w3.setBlk b { w3.bk b with rock := fr }).bk x).volume = (w2.bk x).volume := fun x => by
      rw [bk_setBlk]; split
      · rename_i h; rw [← h.1, ← e32 b]
      · rw [e32]
    subst tiblk tidx
    refine Or.inr ⟨w3.setBlk b { w3.bk b with rock := fr }, by simp only [heq, h3, hrd, hfr', List.nil_append],
      setBlk_payload_inv hI3 b _ rfl rfl (fun _ => (hI3.rd_sound _ _ (hrd ▸ hfr')).1), g, ?_, fun i hi => ?_⟩
    · rw [f_vol, (t.old b (e_len ▸ hlt)).2 id, e_bk]
    · rw [f_vol, ← e_len]; exact (tvol i hi).1

theorem mincBlocks_inv (args : MincArgs) (vf : List Rat) (blkidict : Dict Name Nat) (blocks : List Name) :
    ∀ (w : World) (iblk : Nat) (cols : List (List Nat)), Grid.Inv w →
    match mincBlocks args vf blkidict w blocks iblk cols with
    | .ok (w', _) => Grid.Inv w'
    | .error (_, w') => Grid.Inv w' := by
  induction blocks with
  | nil => intro w iblk cols hI; simp only [mincBlocks]; exact hI
  | cons blkname r ih =>
    intro w iblk cols hI
    rw [mincBlocks_cons]
    cases hd : dget w.block blkname with
    | none => exact hI
    | some b =>
      simp only []
      by_cases hcond : 0 < (w.bk b).volume ∧ (w.bk b).volume < args.atmosVolume
      · rw [if_pos hcond]
        cases hi0 : dget blkidict blkname with
        | none => exact setBlk_payload_inv hI b _ rfl rfl (fun h => hI.b_rock b h)
        | some i0 =>
          simp only []
          rcases mincOneK_spec args vf hI blkname (hI.bd_sound _ _ hd).1 i0 iblk
            (fun w4 iblk2 col => mincBlocks args vf blkidict w4 r iblk2 (cols ++ [col])) with ⟨e, w', he, hI'⟩ | ⟨w4, he, hI4, _⟩
          · rw [he]; exact hI'
          · rw [he]; exact ih w4 _ _ hI4
      · rw [if_neg hcond]; exact ih w iblk _ hI

/-- the names `minc` works on; reducible, so that it matches the statements of `Props.C09`, which spell it out -/
abbrev mincSel (w : World) (args : MincArgs) : List Name :=
  if args.blocks.isEmpty then w.blocklist.map w.bname else args.blocks

theorem minc_inv {w : World} (hI : Grid.Inv w) (args : MincArgs) :
    match minc w args with
    | .ok (w', _) => Grid.Inv w'
    | .error (_, w') => Grid.Inv w' := by
  unfold minc
  by_cases h1 : args.fracs.length < 2
  · rw [if_pos h1]; exact hI
  · rw [if_neg h1]
    simp only []
    by_cases h2 : (mincSel w args).isEmpty = true
    · rw [if_pos h2]; exact hI
    · rw [if_neg h2]; exact mincBlocks_inv args _ _ _ w _ [] hI

theorem mem_mincChain (args : MincArgs) (V : Rat) (l : List Rat) : ∀ (m0 last base : Nat) (con : Con),
    con ∈ mincChain args V m0 last base l → base ≤ con.b1 ∧ (con.b0 = last ∨ base ≤ con.b0) := by
  induction l with
  | nil => intro _ _ _ con h; cases h
  | cons x r ih =>
    intro m0 last base con h
    simp only [mincChain, List.mem_cons] at h
    rcases h with h | h
    · subst h; exact ⟨Nat.le_refl _, Or.inl rfl⟩
    · obtain ⟨h1, h2⟩ := ih _ _ _ con h
      refine ⟨by omega, Or.inr ?_⟩
      rcases h2 with h2 | h2 <;> omega

theorem getElem?_append_some {α} {l : List α} {i : Nat} {v : α} (h : l[i]? = some v) (e : List α) : (l ++ e)[i]? = some v := by
  rw [List.getElem?_append_left (List.getElem?_eq_some_iff.mp h).1]; exact h

theorem _root_.Model.Grid.MincGroup.persist {args : MincArgs} {vf : List Rat} {N0 : Nat} {w w' : World} {V : Rat} {b : Nat} {row : List Nat}
    (h : MincGroup args vf N0 w V b row) {ext : List Con} {S : Nat → Prop} (G : Grew w w' ext S)
    (hb : b < w.blks.length) (hSb : ¬ S b) (hS : ∀ x, N0 ≤ x → x < w.blks.length → ¬ S x) :
    MincGroup args vf N0 w' V b row := by
  obtain ⟨base, cbase, pos0, p, hrow, hpos0, hpos, hvol0, hvols, hlisted, hchain, hbase, hblks, hcons⟩ := h
  refine ⟨base, cbase, pos0, p, hrow, by rw [G.blocklist]; exact getElem?_append_some hpos0 _,
          fun k hk => by rw [G.blocklist]; exact getElem?_append_some (hpos k hk) _,
          by rw [(G.old b hb).2 hSb]; exact hvol0, fun k hk => ?_,
          fun k hk => by rw [G.connectionlist]; exact List.mem_append_left _ (hlisted k hk), fun k hk => ?_,
          hbase, Nat.le_trans hblks (G.blks ▸ Nat.le_add_right _ _),
          Nat.le_trans hcons (by rw [G.cons, List.length_append]; exact Nat.le_add_right _ _)⟩
  · have hx := Nat.lt_of_lt_of_le (Nat.add_lt_add_left hk _) hblks
    rw [(G.old _ hx).2 (hS _ (Nat.le_trans hbase (Nat.le_add_right _ _)) hx)]; exact hvols k hk
  · rw [G.cons, List.getElem?_append_left (Nat.lt_of_lt_of_le (Nat.add_lt_add_left hk _) hcons)]; exact hchain k hk

/-- what the loop over the selected names needs to know about the names still to come: each
    designates a block created before the run (`b < N0`, the heap size at the call), is flagged by
    `proc` iff its block will be processed, and has its position in the index dictionary -/
def NamesOK (args : MincArgs) (D : Dict Name Nat) (N0 : Nat) (w : World) (proc : Name → Bool) (names : List Name) : Prop :=
  ∀ n ∈ names, ∃ b, dget w.block n = some b ∧ b < N0 ∧
    (proc n = true ↔ (0 < (w.bk b).volume ∧ (w.bk b).volume < args.atmosVolume)) ∧
    ∃ i0, dget D n = some i0 ∧ w.blocklist[i0]? = some b

theorem namesOK_step (args : MincArgs) (D : Dict Name Nat) {N0 : Nat} {w w4 : World} (proc : Name → Bool) {n : Name} {r : List Name} {b : Nat}
    (hI : Grid.Inv w) (hI4 : Grid.Inv w4) (hnd : (n :: r).Nodup) (hok : NamesOK args D N0 w proc (n :: r))
    (hdb : dget w.block n = some b) {ext : List Con} (g : Grew w w4 ext (· = b)) :
    NamesOK args D N0 w4 proc r ∧
    ∀ n' ∈ r, ∀ x, dget w.block n' = some x → dget w4.block n' = some x ∧ x ≠ b ∧ (w4.bk x).volume = (w.bk x).volume := by
  have hnr := (List.nodup_cons.mp hnd).1
  have later : ∀ n' ∈ r, ∀ x, dget w.block n' = some x →
      dget w4.block n' = some x ∧ x ≠ b ∧ (w4.bk x).volume = (w.bk x).volume := by
    intro n' hn' x hd'
    have hx := hI.bd_sound _ _ hd'
    have hlt := hI.bl_lt x hx.1
    have hne : x ≠ b := fun e => hnr (((hI.bd_sound _ _ hdb).2.symm.trans (e ▸ hx.2)) ▸ hn')
    have hnm : w4.bname x = n' := ((g.old x hlt).1).trans hx.2
    exact ⟨hnm ▸ hI4.bd_complete x (g.blocklist ▸ List.mem_append_left _ hx.1), hne, (g.old x hlt).2 hne⟩
  refine ⟨fun n' hn' => ?_, later⟩
  obtain ⟨b', hd', hb'N, hp, i0, hD, hpos⟩ := hok n' (List.mem_cons_of_mem _ hn')
  obtain ⟨hd4, _, hv⟩ := later n' hn' b' hd'
  refine ⟨b', hd4, hb'N, by rw [hv]; exact hp, i0, hD, ?_⟩
  rw [g.blocklist]; exact getElem?_append_some hpos _

/-- A processed name leaves the group of its block standing in the next state, and the rest of the run
    keeps it (`MincGroup.persist`): the later names designate other blocks, and the blocks created
    meanwhile lie at or beyond `N0`, where no selected block is (`NamesOK`). -/
theorem mincBlocks_spec (args : MincArgs) (vf : List Rat) (D : Dict Name Nat) (N0 : Nat) (proc : Name → Bool) (names : List Name) :
    ∀ (w : World) (iblk : Nat) (cols : List (List Nat)) (w' : World) (cols' : List (List Nat)),
    Grid.Inv w → N0 ≤ w.blks.length → names.Nodup → NamesOK args D N0 w proc names → iblk + 1 = w.blocklist.length →
    mincBlocks args vf D w names iblk cols = .ok (w', cols') →
    ∃ ext, Grew w w' ext (fun x => ∃ n ∈ names, dget w.block n = some x ∧
        (0 < (w.bk x).volume ∧ (w.bk x).volume < args.atmosVolume)) ∧
      ext.length = (names.filter proc).length * (vf.drop 1).length ∧
      (∀ con ∈ ext, N0 ≤ con.b1 ∧ (N0 ≤ con.b0 ∨ ∃ n ∈ names, proc n = true ∧ dget w.block n = some con.b0)) ∧
      ∃ newcols, cols' = cols ++ newcols ∧ newcols.length = names.length ∧
        ∀ i (hi : i < names.length) b, dget w.block names[i] = some b →
          ∃ row, newcols[i]? = some row ∧
            (if 0 < (w.bk b).volume ∧ (w.bk b).volume < args.atmosVolume
             then MincGroup args vf N0 w' (w.bk b).volume b row else row = List.replicate vf.length 0) := by
  induction names with
  | nil =>
    intro w iblk cols w' cols' _ _ _ _ _ hok
    simp only [mincBlocks, Except.ok.injEq, Prod.mk.injEq] at hok
    obtain ⟨rfl, rfl⟩ := hok
    exact ⟨[], .same rfl rfl rfl rfl, by simp, fun _ h => (nomatch h), [], by simp, rfl,
      fun i hi => absurd hi (Nat.not_lt_zero _)⟩
  | cons n r ih =>
    intro w iblk cols w' cols' hI hN hnd hnames hiblk hok
    have hr := (List.nodup_cons.mp hnd).2
    obtain ⟨b, hdb, hbN, hproc, i0, hD, hpos⟩ := hnames n List.mem_cons_self
    have hb := hI.bd_sound _ _ hdb
    rw [mincBlocks_cons, hdb] at hok
    simp only [] at hok
    by_cases hcond : 0 < (w.bk b).volume ∧ (w.bk b).volume < args.atmosVolume
    · -- the block is processed
      rw [if_pos hcond, hD] at hok
      simp only [] at hok
      have hp : proc n = true := hproc.mpr hcond
      rcases mincOneK_spec args vf hI n hb.1 i0 iblk
        (fun w4 iblk2 col => mincBlocks args vf D w4 r iblk2 (cols ++ [col])) with ⟨e, w5, he, _⟩ | ⟨w4, he, gI, g, gvol0, gvols⟩
      · rw [he] at hok; cases hok
      rw [he] at hok
      have hlc := length_mincChain args (w.bk b).volume (vf.drop 1) 0 b w.blks.length
      have gbl := g.blocklist
      have glen := g.blks
      have gcl := g.connectionlist
      rw [hlc] at gbl glen gcl
      obtain ⟨hnames4, hlook⟩ := namesOK_step args D proc hI gI hnd hnames hdb g
      obtain ⟨ext, G4, hext, hends, newcols, hcols, hclen, hrows⟩ :=
        ih w4 _ _ w' cols' gI (glen ▸ Nat.le_trans hN (Nat.le_add_right _ _)) hr hnames4
          (by rw [gbl, List.length_append, List.length_range', ← hiblk, Nat.add_right_comm]) hok
      have hK : ((n :: r).filter proc).length * (vf.drop 1).length =
          (vf.drop 1).length + (r.filter proc).length * (vf.drop 1).length := by
        rw [List.filter_cons_of_pos hp, List.length_cons, Nat.succ_mul, Nat.add_comm]
      -- a later name designates the same block before and after
      have hback : ∀ n' ∈ r, ∀ x, dget w4.block n' = some x → dget w.block n' = some x := fun n' hn' x hd' => by
        obtain ⟨b', hd0, _⟩ := hnames n' (List.mem_cons_of_mem _ hn')
        rw [(hlook n' hn' b' hd0).1] at hd'; exact hd' ▸ hd0
      have hS4b : ¬ ∃ n' ∈ r, dget w4.block n' = some b ∧ (0 < (w4.bk b).volume ∧ (w4.bk b).volume < args.atmosVolume) :=
        fun ⟨n', hn', hd', _⟩ => (hlook n' hn' b (hback n' hn' b hd')).2.1 rfl
      refine ⟨_ ++ ext, (g.mono fun x (e : x = b) => ⟨n, List.mem_cons_self, e ▸ hdb, e ▸ hcond⟩).trans
          (G4.mono fun x ⟨n', hn', hd', hc'⟩ => ?_), by rw [List.length_append, hlc, hext, hK], fun con hcon => ?_,
        (i0 :: List.range' (iblk + 1) (vf.drop 1).length) :: newcols, by rw [hcols]; simp, by simp [hclen],
        fun i hi b' hd' => ?_⟩
      · have hd0 := hback n' hn' x hd'
        rw [(hlook n' hn' x hd0).2.2] at hc'
        exact ⟨n', List.mem_cons_of_mem _ hn', hd0, hc'⟩
      · rcases List.mem_append.mp hcon with h | h
        · obtain ⟨m1, m2⟩ := mem_mincChain _ _ _ _ _ _ con h
          refine ⟨Nat.le_trans hN m1, ?_⟩
          rcases m2 with m2 | m2
          · exact Or.inr ⟨n, List.mem_cons_self, hp, by rw [m2]; exact hdb⟩
          · exact Or.inl (Nat.le_trans hN m2)
        · obtain ⟨m1, m2⟩ := hends con h
          exact ⟨m1, m2.imp_right fun ⟨n', hn', hp', hd'⟩ => ⟨n', List.mem_cons_of_mem _ hn', hp', hback n' hn' _ hd'⟩⟩
      · cases i with
        | zero =>
          simp only [List.getElem_cons_zero] at hd'
          rw [hdb] at hd'; cases hd'
          refine ⟨i0 :: List.range' (iblk + 1) (vf.drop 1).length, by simp, ?_⟩
          rw [if_pos hcond]
          -- the group as it stands in w4, then kept by the rest of the run
          have g4 : MincGroup args vf N0 w4 (w.bk b).volume b (i0 :: List.range' (iblk + 1) (vf.drop 1).length) := by
            refine ⟨w.blks.length, w.cons.length, i0, iblk + 1, rfl, ?_, fun k hk => ?_, gvol0, gvols, fun k hk => ?_, fun k hk => ?_,
              hN, Nat.le_of_eq glen.symm, Nat.le_of_eq (by rw [g.cons, List.length_append, hlc])⟩
            · rw [gbl]; exact getElem?_append_some hpos _
            · rw [gbl, hiblk, List.getElem?_append_right (Nat.le_add_right _ _), Nat.add_sub_cancel_left,
                List.getElem?_range' hk, Nat.one_mul]
            · rw [gcl]; exact List.mem_append_right _ (List.mem_range'_1.mpr ⟨Nat.le_add_right _ _, Nat.add_lt_add_left hk _⟩)
            · rw [g.cons, List.getElem?_append_right (Nat.le_add_right _ _), Nat.add_sub_cancel_left]
          refine g4.persist G4 (glen ▸ Nat.lt_add_right _ (hI.bl_lt b hb.1)) hS4b fun x hxN _ ⟨n', hn', hd'', _⟩ => ?_
          obtain ⟨b'', hd3, hb3, _⟩ := hnames4 n' hn'
          rw [hd3] at hd''; cases hd''
          exact absurd hb3 (Nat.not_lt.mpr hxN)
        | succ j =>
          simp only [List.getElem_cons_succ] at hd'
          have hj : j < r.length := Nat.lt_of_succ_lt_succ hi
          obtain ⟨hd4, _, hv⟩ := hlook _ (List.getElem_mem hj) b' hd'
          obtain ⟨row, hrow, hrest⟩ := hrows j hj b' hd4
          rw [hv] at hrest
          exact ⟨row, by simpa using hrow, hrest⟩
    · -- boundary or empty block: skipped
      rw [if_neg hcond] at hok
      have hp : ¬ proc n = true := fun h => hcond (hproc.mp h)
      obtain ⟨ext, G, hext, hends, newcols, hcols, hclen, hrows⟩ :=
        ih w iblk _ w' cols' hI hN hr (fun n' hn' => hnames n' (List.mem_cons_of_mem _ hn')) hiblk hok
      rw [List.filter_cons_of_neg hp]
      refine ⟨ext, G.mono fun x ⟨n', hn', h⟩ => ⟨n', List.mem_cons_of_mem _ hn', h⟩, hext, fun con hcon => ?_,
        List.replicate vf.length 0 :: newcols, by rw [hcols]; simp, by simp [hclen], fun i hi b' hd' => ?_⟩
      · obtain ⟨m1, m2⟩ := hends con hcon
        exact ⟨m1, m2.imp_right fun ⟨n', hn', h⟩ => ⟨n', List.mem_cons_of_mem _ hn', h⟩⟩
      · cases i with
        | zero =>
          simp only [List.getElem_cons_zero] at hd'
          rw [hdb] at hd'; cases hd'
          exact ⟨List.replicate vf.length 0, by simp, by rw [if_neg hcond]⟩
        | succ j =>
          simp only [List.getElem_cons_succ] at hd'
          have hj : j < r.length := Nat.lt_of_succ_lt_succ hi
          obtain ⟨row, hrow, hrest⟩ := hrows j hj b' hd'
          exact ⟨row, by simpa using hrow, hrest⟩

theorem blockIndexDict_spec {w : World} (hI : Grid.Inv w) {b i : Nat} (h : w.blocklist[i]? = some b) :
    dget (blockIndexDict w) (w.bname b) = some i := by
  unfold blockIndexDict
  refine (dget_build (fun p : Nat × Nat => w.bname p.1) (·.2) _ [] ?_ _ _).mpr
    (Or.inl ⟨(b, i), List.mem_zipIdx_iff_getElem?.mpr h, rfl, rfl⟩)
  -- a block occurs once, at one position
  intro p hp q hq e
  have hp' := List.mem_zipIdx_iff_getElem?.mp hp
  have hq' := List.mem_zipIdx_iff_getElem?.mp hq
  have e1 : p.1 = q.1 := hI.blockReg.key_inj (List.mem_of_getElem? hp') (List.mem_of_getElem? hq') e
  rw [e1] at hp'
  exact Prod.ext e1 ((List.getElem?_inj (List.getElem?_eq_some_iff.mp hp').1 hI.bl_nodup).mp (hp'.trans hq'.symm))

/-- the selected name designates a block that `minc` processes (0 < V < atmos_volume) -/
def mincProcessed (w : World) (args : MincArgs) (n : Name) : Bool :=
  match dget w.block n with
  | some b => decide (0 < (w.bk b).volume ∧ (w.bk b).volume < args.atmosVolume)
  | none => false

theorem minc_ok_mincBlocks {w : World} (hI : Grid.Inv w) (args : MincArgs) {w' : World} {cols : List (List Nat)}
    (hok : minc w args = .ok (w', cols))
    (hall : ∀ n ∈ mincSel w args, (dget w.block n).isSome) :
    mincBlocks args (normFracs args.fracs) (blockIndexDict w) w
      (mincSel w args) (w.blocklist.length - 1) [] = .ok (w', cols) ∧
    NamesOK args (blockIndexDict w) w.blks.length w (mincProcessed w args)
      (mincSel w args) ∧
    w.blocklist.length - 1 + 1 = w.blocklist.length := by
  unfold minc at hok
  by_cases h1 : args.fracs.length < 2
  · rw [if_pos h1] at hok; cases hok
  rw [if_neg h1] at hok
  simp only [] at hok
  by_cases h2 : (mincSel w args).isEmpty = true
  · rw [if_pos h2] at hok; cases hok
  rw [if_neg h2] at hok
  have hnames : NamesOK args (blockIndexDict w) w.blks.length w (mincProcessed w args)
      (mincSel w args) := by
    intro n hn
    obtain ⟨b, hb⟩ := Option.isSome_iff_exists.mp (hall n hn)
    have hb' := hI.bd_sound _ _ hb
    obtain ⟨i, hi, hget⟩ := List.getElem_of_mem hb'.1
    have hpos : w.blocklist[i]? = some b := by rw [List.getElem?_eq_getElem hi, hget]
    refine ⟨b, hb, hI.bl_lt b hb'.1, ?_, i, by rw [← hb'.2]; exact blockIndexDict_spec hI hpos, hpos⟩
    simp only [mincProcessed, hb, decide_eq_true_eq]
  refine ⟨hok, hnames, ?_⟩
  -- a non-empty selection of registered names: the grid has a block
  cases hs : mincSel w args with
  | nil => rw [hs] at h2; exact absurd rfl h2
  | cons n r =>
    obtain ⟨b, hb, _⟩ := hnames n (by rw [hs]; exact List.mem_cons_self)
    have := List.length_pos_of_mem (hI.bd_sound _ _ hb).1
    omega

theorem minc_spec {w : World} (hI : Grid.Inv w) (args : MincArgs) {w' : World} {cols : List (List Nat)}
    (hok : minc w args = .ok (w', cols))
    (hnd : (if args.blocks.isEmpty then w.blocklist.map w.bname else args.blocks).Nodup)
    (hall : ∀ n ∈ (if args.blocks.isEmpty then w.blocklist.map w.bname else args.blocks), (dget w.block n).isSome) :
    let vf := normFracs args.fracs
    let sel := if args.blocks.isEmpty then w.blocklist.map w.bname else args.blocks
    Grid.Inv w' ∧ cols.length = sel.length ∧
    (∀ x, x < w.blks.length → (w'.bk x).name = (w.bk x).name) ∧
    (∀ b ∈ w.blocklist, (w.bname b ∉ sel ∨ ¬ (0 < (w.bk b).volume ∧ (w.bk b).volume < args.atmosVolume)) →
        (w'.bk b).volume = (w.bk b).volume) ∧
    (∀ i (hi : i < sel.length) b, dget w.block sel[i] = some b →
        0 < (w.bk b).volume → (w.bk b).volume < args.atmosVolume →
        ∃ row, cols[i]? = some row ∧ MincGroup args vf w.blks.length w' (w.bk b).volume b row) := by
  intro vf sel
  obtain ⟨hok', hnames, hiblk⟩ := minc_ok_mincBlocks hI args hok hall
  obtain ⟨_, G, _, _, newcols, hcols, hclen, hrows⟩ :=
    mincBlocks_spec args vf (blockIndexDict w) w.blks.length _ sel w _ [] w' cols hI (Nat.le_refl _) hnd hnames hiblk hok'
  have hI' := minc_inv hI args
  rw [hok] at hI'
  simp only [List.nil_append] at hcols
  subst hcols
  refine ⟨hI', hclen, fun x hx => (G.old x hx).1, fun b hb hcase => ?_, fun i hi b hd hpos hlt => ?_⟩
  · refine (G.old b (hI.bl_lt b hb)).2 fun ⟨n, hn, hd, hc⟩ => ?_
    exact hcase.elim (fun h => h ((hI.bd_sound _ _ hd).2 ▸ hn)) (fun h => h hc)
  · obtain ⟨row, hrow, hrest⟩ := hrows i hi b hd
    rw [if_pos ⟨hpos, hlt⟩] at hrest
    exact ⟨row, hrow, hrest⟩

theorem minc_frame {w : World} (hI : Grid.Inv w) (args : MincArgs) {w' : World} {cols : List (List Nat)}
    (hok : minc w args = .ok (w', cols))
    (hnd : (mincSel w args).Nodup)
    (hall : ∀ n ∈ mincSel w args, (dget w.block n).isSome) :
    let sel := mincSel w args
    let K := (sel.filter (mincProcessed w args)).length * (args.fracs.length - 1)
    w'.blocklist = w.blocklist ++ List.range' w.blks.length K ∧
    w'.blks.length = w.blks.length + K ∧
    w'.connectionlist = w.connectionlist ++ List.range' w.cons.length K ∧
    ∃ ext, w'.cons = w.cons ++ ext ∧ ext.length = K ∧
      ∀ con ∈ ext, w.blks.length ≤ con.b1 ∧
        (w.blks.length ≤ con.b0 ∨ ∃ n ∈ sel, mincProcessed w args n = true ∧ dget w.block n = some con.b0) := by
  intro sel K
  obtain ⟨hok', hnames, hiblk⟩ := minc_ok_mincBlocks hI args hok hall
  obtain ⟨ext, G, hext, hends, _⟩ :=
    mincBlocks_spec args (normFracs args.fracs) (blockIndexDict w) w.blks.length _ sel w _ [] w' cols hI (Nat.le_refl _)
      hnd hnames hiblk hok'
  have hlen : ((normFracs args.fracs).drop 1).length = args.fracs.length - 1 := by simp [normFracs]
  rw [hlen] at hext
  have g1 := G.blocklist
  have g2 := G.blks
  have g3 := G.connectionlist
  rw [hext] at g1 g2 g3
  exact ⟨g1, g2, g3, ext, G.cons, hext, hends⟩

end Proofs.Grid
