/-
  Registries: an insertion-ordered dictionary and an ordered list of object ids that agree (`regOK`), under what
  the geometry operations do to them: a new object under a new name, an object removed, an object renamed in
  place, the dictionary rebuilt from the list.
-/
import PyTough.Proofs.GeoFrame
namespace Proofs.Geo
open Model.Geo Model.Geo.Geo Py

theorem nodup_push {α} {l : List α} {x : α} : (l ++ [x]).Nodup ↔ l.Nodup ∧ x ∉ l :=
  List.perm_append_comm.nodup_iff.trans (List.nodup_cons.trans and_comm)

theorem forall_mem_push {l : List Nat} {x : Nat} {P : Nat → Prop} :
    (∀ k ∈ l ++ [x], P k) ↔ (∀ k ∈ l, P k) ∧ P x := by
  rw [List.forall_mem_append, List.forall_mem_singleton]

section
variable {κ : Type} [DecidableEq κ]

theorem Dict.contains_iff (d : Dict κ) (k : κ) : d.contains k = true ↔ k ∈ d.map (·.1) := by
  simp [Dict.contains, List.any_eq_true]

theorem Dict.set_fresh (d : Dict κ) (k : κ) (v : Nat) (h : d.contains k = false) : d.set k v = d ++ [(k, v)] := by
  induction d with
  | nil => rfl
  | cons p t ih =>
    simp only [Dict.contains, List.any_cons, Bool.or_eq_false_iff, decide_eq_false_iff_not] at h
    simp only [Dict.set, h.1, if_false, List.cons_append]
    rw [ih (by simpa [Dict.contains] using h.2)]

theorem Dict.get?_mem {d : Dict κ} {k : κ} {i : Nat} (h : Dict.get? d k = some i) : (k, i) ∈ d := by
  simp only [Dict.get?, Option.map_eq_some_iff] at h
  obtain ⟨p, hp, rfl⟩ := h
  have h1 := List.find?_some hp
  have h2 := List.mem_of_find?_eq_some hp
  simp only [decide_eq_true_eq] at h1
  subst h1
  exact h2

theorem Dict.get?_cons (a : κ) (b : Nat) (d : Dict κ) (j : κ) :
    Dict.get? ((a, b) :: d) j = if a = j then some b else Dict.get? d j := by
  simp only [Dict.get?, List.find?_cons]
  split
  · rename_i e; rw [if_pos (of_decide_eq_true e)]; rfl
  · rename_i e; rw [if_neg (of_decide_eq_false e)]

theorem Dict.get?_set (d : Dict κ) (k j : κ) (v : Nat) :
    Dict.get? (d.set k v) j = if k = j then some v else Dict.get? d j := by
  induction d with
  | nil => exact Dict.get?_cons k v [] j
  | cons p r ih =>
    obtain ⟨a, b⟩ := p
    simp only [Dict.set]
    split
    · rename_i e
      rw [Dict.get?_cons, Dict.get?_cons, e]
      split
      · rfl
      · rfl
    · rename_i e
      rw [Dict.get?_cons, Dict.get?_cons, ih]
      by_cases h2 : a = j
      · simp only [if_pos h2, if_neg (h2 ▸ Ne.symm e)]
      · simp only [if_neg h2]

theorem Dict.get?_del (d : Dict κ) (k j : κ) :
    Dict.get? (Dict.del d k) j = if k = j then none else Dict.get? d j := by
  induction d with
  | nil => exact (ite_self _).symm
  | cons p r ih =>
    obtain ⟨a, b⟩ := p
    unfold Dict.del at ih ⊢
    rw [List.filter_cons, Dict.get?_cons]
    by_cases e : a = k
    · simp only [e, ne_eq, not_true_eq_false, decide_false, Bool.false_eq_true, if_false, ih]
      split
      · rfl
      · rfl
    · simp only [ne_eq, e, not_false_eq_true, decide_true, if_true, Dict.get?_cons, ih]
      by_cases h2 : a = j
      · simp only [if_pos h2, if_neg (h2 ▸ Ne.symm e)]
      · simp only [if_neg h2]

theorem Dict.get?_eq_none (d : Dict κ) (k : κ) : Dict.get? d k = none ↔ d.contains k = false := by
  simp [Dict.get?, Dict.contains]

theorem regOK_iff (l : List Nat) (d : Dict κ) (nm : Nat → κ) : regOK l d nm = true ↔
    l.Nodup ∧ (l.map nm).Nodup ∧ (d.map (·.1)).Nodup ∧ (∀ i ∈ l, Dict.get? d (nm i) = some i) ∧
      ∀ p ∈ d, p.2 ∈ l ∧ nm p.2 = p.1 := by
  simp only [regOK, Bool.and_eq_true, decide_eq_true_eq, List.all_eq_true, beq_iff_eq, List.contains_eq_mem,
    and_assoc]

variable {l : List Nat} {d : Dict κ} {nm : Nat → κ}

theorem regOK_nodup (h : regOK l d nm = true) : l.Nodup := ((regOK_iff l d nm).mp h).1

theorem regOK_names_nodup (h : regOK l d nm = true) : (l.map nm).Nodup := ((regOK_iff l d nm).mp h).2.1

theorem regOK_get? {i : Nat} (h : regOK l d nm = true) (hi : i ∈ l) : Dict.get? d (nm i) = some i :=
  ((regOK_iff l d nm).mp h).2.2.2.1 i hi

theorem regOK_mem {k : κ} {i : Nat} (h : regOK l d nm = true) (hk : Dict.get? d k = some i) : i ∈ l :=
  (((regOK_iff l d nm).mp h).2.2.2.2 _ (Dict.get?_mem hk)).1

theorem regOK_congr {nm' : Nat → κ} (h : regOK l d nm = true) (hnm : ∀ j ∈ l, nm' j = nm j) :
    regOK l d nm' = true := by
  obtain ⟨h1, h2, h3, h4, h5⟩ := (regOK_iff l d nm).mp h
  refine (regOK_iff l d nm').mpr ⟨h1, ?_, h3, ?_, ?_⟩
  · rw [List.map_congr_left hnm]; exact h2
  · intro j hj; rw [hnm j hj]; exact h4 j hj
  · intro p hp; exact ⟨(h5 p hp).1, by rw [hnm _ (h5 p hp).1]; exact (h5 p hp).2⟩

theorem regOK_perm {l' : List Nat} (h : regOK l d nm = true) (hp : l.Perm l') : regOK l' d nm = true := by
  obtain ⟨h1, h2, h3, h4, h5⟩ := (regOK_iff l d nm).mp h
  exact (regOK_iff l' d nm).mpr ⟨hp.nodup_iff.mp h1, (hp.map nm).nodup_iff.mp h2, h3,
    fun j hj => h4 j (hp.mem_iff.mpr hj), fun p hpm => ⟨hp.mem_iff.mp (h5 p hpm).1, (h5 p hpm).2⟩⟩

theorem regOK_append {nm' : Nat → κ} {i : Nat} {k : κ} (h : regOK l d nm = true) (hi : i ∉ l) (hk : d.contains k = false) (hnew : nm' i = k)
    (hold : ∀ j ∈ l, nm' j = nm j) : regOK (l ++ [i]) (d.set k i) nm' = true := by
  obtain ⟨h1, h2, h3, h4, h5⟩ := (regOK_iff l d nm).mp h
  have hkd : k ∉ d.map (·.1) := fun hm => by rw [(Dict.contains_iff d k).mpr hm] at hk; cases hk
  have hkl : ∀ j ∈ l, nm j ≠ k := fun j hj e =>
    hkd (List.mem_map.mpr ⟨_, Dict.get?_mem (e ▸ h4 j hj), rfl⟩)
  refine (regOK_iff _ _ nm').mpr ⟨nodup_push.mpr ⟨h1, hi⟩, ?_, ?_, ?_, ?_⟩
  · rw [List.map_append, List.map_cons, List.map_nil, hnew, List.map_congr_left hold]
    refine nodup_push.mpr ⟨h2, fun ha => ?_⟩
    obtain ⟨j, hj, e⟩ := List.mem_map.mp ha
    exact hkl j hj e
  · rw [Dict.set_fresh d k i hk, List.map_append]
    exact nodup_push.mpr ⟨h3, hkd⟩
  · intro j hj
    rw [Dict.get?_set]
    rcases List.mem_append.mp hj with hj | hj
    · rw [hold j hj, if_neg fun e => hkl j hj e.symm]
      exact h4 j hj
    · simp at hj; subst hj
      rw [hnew, if_pos rfl]
  · intro p hp
    rcases List.mem_append.mp (Dict.set_fresh d k i hk ▸ hp) with hp | hp
    · have := h5 p hp
      exact ⟨List.mem_append_left _ this.1, by rw [hold p.2 this.1]; exact this.2⟩
    · simp at hp; subst hp
      exact ⟨by simp, hnew⟩

theorem regOK_erase {k : κ} {i : Nat} (h : regOK l d nm = true) (hk : Dict.get? d k = some i) :
    regOK (l.erase i) (Dict.del d k) nm = true := by
  obtain ⟨h1, h2, h3, h4, h5⟩ := (regOK_iff l d nm).mp h
  have hnm : nm i = k := (h5 _ (Dict.get?_mem hk)).2
  have hinj : ∀ j ∈ l, nm j = k → j = i := by
    intro j hj e
    have := h4 j hj
    rw [e, hk] at this
    exact (Option.some.inj this).symm
  refine (regOK_iff _ _ nm).mpr ⟨h1.sublist List.erase_sublist, h2.sublist (List.Sublist.map _ List.erase_sublist),
    h3.sublist (List.Sublist.map _ List.filter_sublist), ?_, ?_⟩
  · intro j hj
    have hjl : j ∈ l := List.mem_of_mem_erase hj
    have hji : j ≠ i := fun e => List.Nodup.not_mem_erase h1 (e ▸ hj)
    rw [Dict.get?_del, if_neg fun e => hji (hinj j hjl e.symm)]
    exact h4 j hjl
  · intro p hp
    simp only [Dict.del, List.mem_filter, ne_eq, decide_eq_true_eq] at hp
    have := h5 p hp.1
    refine ⟨(List.mem_erase_of_ne fun e => hp.2 ?_).mpr this.1, this.2⟩
    rw [← this.2, e, hnm]

/-- erase `i`, append it under the new key, permute the list back -/
theorem regOK_rename {nm' : Nat → κ} {old new : κ} {i : Nat} (h : regOK l d nm = true) (hk : Dict.get? d old = some i)
    (hnew : d.contains new = false ∨ new = old) (hi : nm' i = new) (hothers : ∀ j ∈ l, j ≠ i → nm' j = nm j) :
    regOK l ((Dict.del d old).set new i) nm' = true := by
  have hnd : l.Nodup := regOK_nodup h
  have h2 : regOK (l.erase i) (Dict.del d old) nm' = true := by
    apply regOK_congr (regOK_erase h hk)
    intro j hj
    exact hothers j (List.mem_of_mem_erase hj) (fun e => (List.Nodup.not_mem_erase hnd) (e ▸ hj))
  have hfresh : (Dict.del d old).contains new = false := by
    rw [← Dict.get?_eq_none, Dict.get?_del]
    split
    · rfl
    · exact (Dict.get?_eq_none d new).mpr (hnew.resolve_right fun e => ‹¬old = new› e.symm)
  apply regOK_perm (regOK_append h2 (List.Nodup.not_mem_erase hnd) hfresh hi fun _ _ => rfl)
  exact (List.perm_append_comm.trans (List.perm_cons_erase (regOK_mem h hk)).symm)

theorem regOK_fresh (h : regOK l d nm = true) {k : κ} (hk : ∀ j ∈ l, nm j ≠ k) : d.contains k = false := by
  obtain ⟨-, -, -, -, h5⟩ := (regOK_iff l d nm).mp h
  rw [← Bool.not_eq_true, Dict.contains_iff]
  intro hm
  obtain ⟨p, hp, rfl⟩ := List.mem_map.mp hm
  exact hk _ (h5 p hp).1 (h5 p hp).2

theorem regOK_foldl_set (f : Nat → κ) : ∀ (l l0 : List Nat) (d0 : Dict κ), regOK l0 d0 f = true →
    (l0 ++ l).Nodup → ((l0 ++ l).map f).Nodup → regOK (l0 ++ l) (l.foldl (fun d k => d.set (f k) k) d0) f = true
  | [], l0, d0, h, _, _ => by rwa [List.append_nil]
  | k :: t, l0, d0, h, h1, h2 => by
    have hk : k ∉ l0 := fun hm => (List.nodup_append.mp h1).2.2 k hm k List.mem_cons_self rfl
    have hfresh : d0.contains (f k) = false := regOK_fresh h fun j hj e =>
      hk (inj_of_nodup_map f _ h2 j (List.mem_append_left _ hj) k (by simp) e ▸ hj)
    rw [List.append_cons] at h1 h2 ⊢
    rw [List.foldl_cons]
    exact regOK_foldl_set f t _ _ (regOK_append h hk hfresh rfl fun _ _ => rfl) h1 h2

/-- the registry built by `dict([(key(con), con) for con in connectionlist])` when the keys are distinct -/
theorem regOK_rebuilt (l : List Nat) (f : Nat → κ) (h1 : l.Nodup) (h2 : (l.map f).Nodup) :
    regOK l (l.foldl (fun d k => d.set (f k) k) []) f = true :=
  regOK_foldl_set f l [] [] rfl h1 h2

end

theorem listRemove_ok_iff {l l' : List Nat} {i : Nat} : listRemove l i = .ok l' ↔ i ∈ l ∧ l.erase i = l' := by
  by_cases h : i ∈ l
  · simp [listRemove, h]
  · simp [listRemove, h]

end Proofs.Geo
