/-
  `fix_blockname` / `unfix_blockname` on five-character names (C17, and the files that carry block
  names: C01, C13): closed forms `fix5` / `unfix5`, the write/read cycle `cycleName` with `cycle_ok`, and the
  specification `simForm` of what a simulator prints (`Props.C17.unfix_is_simulator_form`).
-/
import PyTough.Model.Names
import PyTough.Proofs.StrLemmas
namespace Proofs.Names
open Py Model.Names

theorem fix5 (a b c d e : Char) :
    fixBlockname [a, b, c, d, e] =
      .ok (if isDigit c = true ∧ isDigit e = true ∧ d = ' ' then [a, b, c, '0', e] else [a, b, c, d, e]) := by
  have h : fixBlockname [a, b, c, d, e] =
      if isDigit c then if isDigit e then if d = ' ' then .ok [a, b, c, '0', e] else .ok [a, b, c, d, e]
        else .ok [a, b, c, d, e] else .ok [a, b, c, d, e] := rfl
  rw [h]
  by_cases hc : isDigit c = true
  · by_cases he : isDigit e = true
    · by_cases hd : d = ' ' <;> simp [hc, he, hd]
    · simp [hc, he]
  · simp [hc]

/-- `"%2d" % int(de)` for two digits -/
theorem fmt_two_digits {d e : Char} (hd : isDigit d = true) (he : isDigit e = true) :
    rjust (natStr (digitsVal [d, e])) 2 = if d = '0' then [' ', e] else [d, e] := by
  refine Py.isDigit_elim hd (P := fun d => rjust (natStr (digitsVal [d, e])) 2 = if d = '0' then [' ', e] else [d, e]) ?_
  refine Py.isDigit_elim he (P := fun e => ∀ d ∈ ['0','1','2','3','4','5','6','7','8','9'],
      rjust (natStr (digitsVal [d, e])) 2 = if d = '0' then [' ', e] else [d, e]) ?_
  decide +kernel

theorem fmt_one_digit {e : Char} (he : isDigit e = true) :
    rjust (natStr (digitsVal [e])) 2 = [' ', e] := by
  refine Py.isDigit_elim he (P := fun e => rjust (natStr (digitsVal [e])) 2 = [' ', e]) ?_
  decide +kernel

theorem unfix5 (a b c d e : Char) :
    unfixBlockname [a, b, c, d, e] =
      if d = '0' ∧ isDigit e = true then [a, b, c, ' ', e] else [a, b, c, d, e] := by
  have hs3 : slice [a, b, c, d, e] 3 5 = [d, e] := rfl
  have hs0 : rjust (slice [a, b, c, d, e] 0 3) 3 = [a, b, c] := rfl
  have hsd : strIsDigit [d, e] = (isDigit d && isDigit e) := by simp [strIsDigit]
  unfold unfixBlockname
  simp only [hs3, hs0, hsd]
  by_cases hd : isDigit d = true
  · by_cases he : isDigit e = true
    · rw [if_pos (by rw [hd, he]; rfl), fmt_two_digits hd he]
      by_cases h0 : d = '0' <;> simp [h0, he]
    · simp [hd, he]
  · have h0 : d ≠ '0' := by rintro rfl; exact hd (by decide)
    simp [hd, h0]

theorem len5 {n : Str} (h : n.length = 5) : ∃ a b c d e, n = [a, b, c, d, e] := by
  match n, h with
  | [a, b, c, d, e], _ => exact ⟨a, b, c, d, e, rfl⟩

/-- what `fix_blockname` returns does not read digit, blank, digit from the third character on -/
theorem fix_no_blank {m : Str} (h : m.length = 5) :
    ∃ a b c d e, fixBlockname m = .ok [a, b, c, d, e] ∧ ¬ (isDigit c = true ∧ isDigit e = true ∧ d = ' ') := by
  obtain ⟨a, b, c, d, e, rfl⟩ := len5 h
  rw [fix5]
  by_cases hf : isDigit c = true ∧ isDigit e = true ∧ d = ' '
  · exact ⟨a, b, c, '0', e, by rw [if_pos hf], fun h' => absurd h'.2.2 (by decide)⟩
  · exact ⟨a, b, c, d, e, by rw [if_neg hf], hf⟩

theorem unfix_length {n : Str} (h : n.length = 5) : (unfixBlockname n).length = 5 := by
  obtain ⟨a, b, c, d, e, rfl⟩ := len5 h
  rw [unfix5]
  split <;> rfl

/-- the name a block comes back with after one write (`unfix_blockname`) / read (`fix_blockname`) cycle -/
def cycleName (n : Str) : Str :=
  match fixBlockname (unfixBlockname n) with
  | .ok c => c
  | .error _ => n

theorem cycle_ok {n : Str} (h : n.length = 5) :
    fixBlockname (unfixBlockname n) = .ok (cycleName n) ∧ (cycleName n).length = 5 ∧
      cycleName (cycleName n) = cycleName n ∧ unfixBlockname (cycleName n) = unfixBlockname n := by
  suffices h' : ∃ c1, fixBlockname (unfixBlockname n) = .ok c1 ∧ c1.length = 5 ∧
      fixBlockname (unfixBlockname c1) = .ok c1 ∧ unfixBlockname c1 = unfixBlockname n by
    obtain ⟨c1, h1, h2, h3, h4⟩ := h'
    have hc : cycleName n = c1 := by unfold cycleName; rw [h1]
    rw [hc]
    exact ⟨h1, h2, by unfold cycleName; rw [h3], h4⟩
  obtain ⟨a, b, c, d, e, rfl⟩ := len5 h
  have hb0 : (' ' : Char) ≠ '0' := by decide
  rw [unfix5]
  by_cases hw : d = '0' ∧ isDigit e = true
  · -- written with a blank; read back with the `0` exactly when the third character is a digit
    rw [if_pos hw, fix5]
    by_cases hc : isDigit c = true
    · exact ⟨_, rfl, by simp [hc, hw.2], by simp [hc, hw.2, fix5, unfix5], by simp [hc, hw.2, unfix5]⟩
    · exact ⟨_, rfl, by simp [hc], by simp [hc, fix5, unfix5, hb0], by simp [hc, unfix5, hb0]⟩
  · -- written unchanged; reading inserts the `0` exactly when writing takes it out again
    rw [if_neg hw, fix5]
    by_cases hr : isDigit c = true ∧ isDigit e = true ∧ d = ' '
    · obtain ⟨hc, he, rfl⟩ := hr
      exact ⟨_, rfl, by simp [hc, he], by simp [hc, he, fix5, unfix5], by simp [hc, he, unfix5]⟩
    · exact ⟨_, rfl, by simp [hr], by simp [hr, hw, fix5, unfix5], by simp [hr, hw, unfix5]⟩

/-- The text a simulator prints for a name that it holds as (A3, I2): three characters and a
    two-digit integer field.  A five-character name whose last two characters read as an integer
    (two digits, or a blank and a digit) is printed as its first three characters followed by the
    integer right-justified in two columns; any other name is not of that form and is kept. -/
def simForm : Str → Str
  | [a, b, c, d, e] =>
    if isDigit e = true ∧ (isDigit d = true ∨ d = ' ') then
      [a, b, c] ++ rjust (natStr (digitsVal ([d, e].filter (· != ' ')))) 2
    else [a, b, c, d, e]
  | n => n

end Proofs.Names
