/-
  MINC, one block: what the loop over the matrix levels creates (volumes, chain of connections).
  No precondition: the method checks itself that the matrix block names are new, and copies rock
  types only under new names.
-/
import PyTough.Model.GridPhys
import PyTough.Proofs.GridOpsCon
namespace Proofs.Grid
open Py Model Model.Grid Model.Grid.World

theorem duplicateRock_spec {w : World} (hI : Grid.Inv w) (nm : Name) (r : Nat) :
    ∃ rs rl rd, duplicateRock w nm r = .ok { w with rocks := rs, rocktypelist := rl, rocktype := rd } ∧
      Grid.Inv { w with rocks := rs, rocktypelist := rl, rocktype := rd } ∧ (dget rd nm).isSome := by
  unfold duplicateRock
  cases hd : dget w.rocktype nm with
  | some x => exact ⟨w.rocks, w.rocktypelist, w.rocktype, by simp, hI, by simp [hd]⟩
  | none =>
    obtain ⟨l, e, hI', _⟩ := addRocktype_new_spec hI { name := nm, tag := (w.rk r).tag } (fun old h => by rw [hd] at h; cases h)
    exact ⟨_, l, _, by simpa using e, hI', by rw [dget_dset_self]; rfl⟩

/-- What a stretch of a MINC run does to the grid: one new block per connection record of `ext`,
    all listed last.  `S` is the set of old blocks whose volume the stretch may have rescaled (none
    inside the level loop, `b` for one block, the processed blocks for the whole loop). -/
structure Grew (w w' : World) (ext : List Con) (S : Nat → Prop) : Prop where
  blocklist : w'.blocklist = w.blocklist ++ List.range' w.blks.length ext.length
  blks : w'.blks.length = w.blks.length + ext.length
  connectionlist : w'.connectionlist = w.connectionlist ++ List.range' w.cons.length ext.length
  cons : w'.cons = w.cons ++ ext
  old : ∀ x, x < w.blks.length → (w'.bk x).name = (w.bk x).name ∧ (¬ S x → (w'.bk x).volume = (w.bk x).volume)

theorem Grew.trans {w w1 w2 : World} {e1 e2 : List Con} {S : Nat → Prop} (h1 : Grew w w1 e1 S) (h2 : Grew w1 w2 e2 S) :
    Grew w w2 (e1 ++ e2) S where
  blocklist := by rw [h2.blocklist, h1.blocklist, h1.blks, List.append_assoc, List.range'_append_1, List.length_append]
  blks := by rw [h2.blks, h1.blks, List.length_append, Nat.add_assoc]
  connectionlist := by
    rw [h2.connectionlist, h1.connectionlist, h1.cons, List.length_append, List.append_assoc, List.range'_append_1,
      List.length_append]
  cons := by rw [h2.cons, h1.cons, List.append_assoc]
  old x hx :=
    have a := h1.old x hx
    have b := h2.old x (h1.blks ▸ Nat.lt_add_right _ hx)
    ⟨b.1.trans a.1, fun hs => (b.2 hs).trans (a.2 hs)⟩

theorem Grew.mono {w w' : World} {e : List Con} {S S' : Nat → Prop} (h : Grew w w' e S) (hs : ∀ x, S x → S' x) :
    Grew w w' e S' :=
  { h with old := fun x hx => ⟨(h.old x hx).1, fun hn => (h.old x hx).2 fun h => hn (hs x h)⟩ }

theorem Grew.same {w w' : World} {S : Nat → Prop} (hbl : w'.blocklist = w.blocklist) (hb : w'.blks = w.blks)
    (hcl : w'.connectionlist = w.connectionlist) (hc : w'.cons = w.cons) : Grew w w' [] S where
  blocklist := hbl.trans (List.append_nil _).symm
  blks := congrArg List.length hb
  connectionlist := hcl.trans (List.append_nil _).symm
  cons := hc.trans (List.append_nil _).symm
  old x _ := by unfold World.bk; rw [hb]; exact ⟨rfl, fun _ => rfl⟩

theorem Grew.setBlk (w : World) (b : Nat) (v : Blk) (hn : v.name = (w.bk b).name) : Grew w (w.setBlk b v) [] (· = b) where
  blocklist := (List.append_nil _).symm
  blks := setBlk_blks_length ..
  connectionlist := (List.append_nil _).symm
  cons := (List.append_nil _).symm
  old x _ := by
    rw [bk_setBlk]; split
    · rename_i h; exact ⟨h.1 ▸ hn, fun hs => absurd h.1.symm hs⟩
    · exact ⟨rfl, fun _ => rfl⟩

theorem length_mincChain (args : MincArgs) (V : Rat) (l : List Rat) : ∀ m0 last base,
    (mincChain args V m0 last base l).length = l.length := by
  induction l with
  | nil => intro _ _ _; rfl
  | cons x r ih => intro m0 last base; simp [mincChain, ih]

/-- one pass of the loop `for vf in volume_fractions[1:]`, with the rest of the loop as `k`: the
    `cons` case of `World.mincLevels`, copied (`mincLevels_cons`).  The recursive call sits under five
    matches, so a lemma about one pass has to take what follows as a parameter. -/
def mincStepK {α : Type} (args : MincArgs) (blkname : Name) (origVol : Rat) (origRock : Nat) (centre : Option (List Rat))
    (w : World) (vf : Rat) (m0 lastblk : Nat) (k : World → Nat → Except (Exc × World) α) : Except (Exc × World) α :=
  let m := m0 + 1
  let mrockname := mincRockname (w.rname origRock) m
  match duplicateRock w mrockname origRock with
  | .error e => .error e
  | .ok w1 =>
    let mblockname := matrixBlockname blkname m
    if (dget w1.block mblockname).isSome then .error (.generic, w1)
    else
      match dget w1.rocktype mrockname with
      | none => .error (.keyError, w1)
      | some mrock =>
        let (mb, w2) := w1.newBlk { name := mblockname, volume := origVol * vf, rock := mrock, centre := centre, conn := [] }
        match addBlock w2 mb with
        | .error e => .error e
        | .ok w3 =>
          let (c, w4) := w3.newCon (mincCon args origVol m lastblk mb)
          match addConnection w4 c with
          | .error e => .error e
          | .ok w5 => k w5 mb

theorem mincLevels_cons (args : MincArgs) (blkname : Name) (origVol : Rat) (origRock : Nat) (centre : Option (List Rat))
    (w : World) (vf : Rat) (r : List Rat) (m0 lastblk iblk : Nat) (idx : List Nat) :
    mincLevels args blkname origVol origRock centre w (vf :: r) m0 lastblk iblk idx =
      mincStepK args blkname origVol origRock centre w vf m0 lastblk fun w5 mb =>
        mincLevels args blkname origVol origRock centre w5 r (m0 + 1) mb (iblk + 1) (idx ++ [iblk + 1]) := by
  rw [mincLevels]; rfl

theorem mincStepK_spec {α : Type} (args : MincArgs) (blkname : Name) (origVol : Rat) (origRock : Nat)
    (centre : Option (List Rat)) {w : World} (hI : Grid.Inv w) (vf : Rat) (m0 : Nat) {lastblk : Nat}
    (hlast : lastblk ∈ w.blocklist) (k : World → Nat → Except (Exc × World) α) :
    (∃ e w', mincStepK args blkname origVol origRock centre w vf m0 lastblk k = .error (e, w') ∧ Grid.Inv w') ∨
    ∃ w5, mincStepK args blkname origVol origRock centre w vf m0 lastblk k = k w5 w.blks.length ∧ Grid.Inv w5 ∧
      Grew w w5 [mincCon args origVol (m0 + 1) lastblk w.blks.length] (fun _ => False) ∧
      (w5.bk w.blks.length).volume = origVol * vf ∧ (w5.bk w.blks.length).name = matrixBlockname blkname (m0 + 1) := by
  unfold mincStepK
  obtain ⟨rs, rl, rd, h1, hI1, hsome⟩ := duplicateRock_spec hI (mincRockname (w.rname origRock) (m0 + 1)) origRock
  simp only [h1]
  cases hdb : dget w.block (matrixBlockname blkname (m0 + 1)) with
  | some x => exact Or.inl ⟨.generic, _, by simp only [Option.isSome_some, if_true], hI1⟩
  | none =>
    obtain ⟨mrock, hmrock⟩ := Option.isSome_iff_exists.mp hsome
    simp only [Option.isSome_none, Bool.false_eq_true, if_false, hmrock]
    -- the new block, under a name that is not registered
    generalize hv : ({ name := matrixBlockname blkname (m0 + 1), volume := origVol * vf, rock := mrock, centre := centre, conn := [] } : Blk) = v
    obtain ⟨l3, h3, hI3, _, hl3⟩ := addBlock_new_spec hI1 v (by rw [← hv]) (by rw [← hv]; exact (hI1.rd_sound _ _ hmrock).1)
      (fun old h => by rw [← hv] at h; rw [show dget w.block _ = some old from h] at hdb; cases hdb)
    obtain rfl := hl3 (by rw [← hv]; exact hdb)
    dsimp only at h3 hI3
    simp only [h3]
    simp only [show ∀ w' : World, (w'.newBlk v).1 = w'.blks.length from fun _ => rfl]
    have hbk3 : ∀ {rs' rl' rd' bl bd cl cd} (x : Nat), World.bk ⟨rs', w.blks ++ [v], w.cons, rl', rd', bl, bd, cl, cd⟩ x =
        if x < w.blks.length then w.bk x else if x = w.blks.length then v else default := fun x => getD_append_one ..
    -- the new connection, under a key that is not registered: its second name is the new block's
    obtain ⟨l5, h5, hI5, _, hl5⟩ := addConnection_new_spec hI3 (mincCon args origVol (m0 + 1) lastblk w.blks.length)
      (List.mem_append_left _ hlast) (List.mem_append_right _ List.mem_cons_self) (Nat.ne_of_lt (hI.bl_lt _ hlast))
    dsimp only at h5 hI5 hl5
    obtain rfl := hl5 (by
      rw [show (mincCon args origVol (m0 + 1) lastblk w.blks.length).b1 = w.blks.length from rfl]
      unfold World.bname
      rw [hbk3 w.blks.length, if_neg (Nat.lt_irrefl _), if_pos rfl, ← hv]
      exact no_key_of_fresh_name hI hdb)
    refine Or.inr ⟨_, by rw [h5], hI5, ⟨rfl, ?_, rfl, rfl, fun x hx => ?_⟩, ?_, ?_⟩
    · rw [conWorld_blks_length]; simp
    · refine ⟨(bname_conWorld ..).trans ?_, fun _ => (congrArg Blk.volume (bk_conWorld ..) :).trans ?_⟩
      · unfold World.bname; rw [hbk3, if_pos hx]
      · rw [hbk3, if_pos hx]
    · refine (congrArg Blk.volume (bk_conWorld ..) :).trans ?_
      rw [hbk3, if_neg (Nat.lt_irrefl _), if_pos rfl, ← hv]
    · refine (bname_conWorld ..).trans ?_
      unfold World.bname; rw [hbk3, if_neg (Nat.lt_irrefl _), if_pos rfl, ← hv]

theorem mincLevels_spec (args : MincArgs) (blkname : Name) (origVol : Rat) (origRock : Nat) (centre : Option (List Rat))
    (vfs : List Rat) : ∀ {w : World} (m0 : Nat) {lastblk : Nat} (iblk : Nat) (idx : List Nat),
    Grid.Inv w → lastblk ∈ w.blocklist →
    match mincLevels args blkname origVol origRock centre w vfs m0 lastblk iblk idx with
    | .error (_, w') => Grid.Inv w'
    | .ok (w', iblk', idx') =>
      Grid.Inv w' ∧ Grew w w' (mincChain args origVol m0 lastblk w.blks.length vfs) (fun _ => False) ∧
      (∀ i (hi : i < vfs.length), (w'.bk (w.blks.length + i)).volume = origVol * vfs[i] ∧
          (w'.bk (w.blks.length + i)).name = matrixBlockname blkname (m0 + i + 1)) ∧
      iblk' = iblk + vfs.length ∧ idx' = idx ++ List.range' (iblk + 1) vfs.length := by
  induction vfs with
  | nil =>
    intro w m0 lastblk iblk idx hI _
    simp only [mincLevels]
    exact ⟨hI, ⟨by simp [mincChain], rfl, by simp [mincChain], by simp [mincChain], fun _ _ => ⟨rfl, fun _ => rfl⟩⟩,
      fun _ hi => (nomatch hi), rfl, by simp⟩
  | cons vf r ih =>
    intro w m0 lastblk iblk idx hI hlast
    rw [mincLevels_cons]
    rcases mincStepK_spec args blkname origVol origRock centre hI vf m0 hlast
      (fun w5 mb => mincLevels args blkname origVol origRock centre w5 r (m0 + 1) mb (iblk + 1) (idx ++ [iblk + 1]))
      with ⟨e, w', he, hI'⟩ | ⟨w5, he, hI5, s, svol, sname⟩
    · rw [he]; exact hI'
    · rw [he]
      have slen : w5.blks.length = w.blks.length + 1 := s.blks
      have := ih (m0 + 1) (iblk + 1) (idx ++ [iblk + 1]) hI5 (lastblk := w.blks.length) (by rw [s.blocklist]; simp)
      split at this
      · exact this
      · obtain ⟨tI, t, tvol, tiblk, tidx⟩ := this
        rw [slen] at t
        refine ⟨tI, s.trans t, fun i hi => ?_, ?_, ?_⟩
        · cases i with
          | zero =>
            have a1 := t.old w.blks.length (slen ▸ Nat.lt_succ_self _)
            exact ⟨(a1.2 id).trans svol, a1.1.trans sname⟩
          | succ j =>
            have a1 := tvol j (Nat.lt_of_succ_lt_succ hi)
            rw [slen, Nat.add_assoc, Nat.add_comm 1, Nat.add_assoc m0, Nat.add_comm 1 j] at a1
            exact a1
        · rw [tiblk, List.length_cons, Nat.add_assoc, Nat.add_comm 1]
        · rw [tidx, List.append_assoc]; simp [List.range'_succ]

end Proofs.Grid
