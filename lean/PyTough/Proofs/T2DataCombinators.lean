/-
  C01 proofs: the three loop shapes of `t2data.py` read back what their writers wrote.
    chunked lists   (`for i in range(nlines): … write_values(vals[i*n : (i+1)*n] + [None]*…)`)
    untilBlank      (`line = readline(); while line.strip(): …`)
    untilKeyword    (PARAM's further default-incon lines)
-/
import PyTough.Proofs.T2DataRecords
namespace Proofs.T2
open Py Model Model.T2 Proofs Proofs.Incon

/-- what `k` lines read back as (`ys`: the values still to come): per line, the values present and `None` padding -/
def readBack (f0 : FieldSpec) (n : Nat) : Nat → List Val → List Val
  | 0, _ => []
  | k + 1, ys => (ys.take n).map (canonV f0) ++ List.replicate (n - (ys.take n).length) Val.none ++ readBack f0 n k (ys.drop n)

theorem readBack_eq (f0 : FieldSpec) (n : Nat) : ∀ k ys, ys.length ≤ k * n →
    readBack f0 n k ys = ys.map (canonV f0) ++ List.replicate (k * n - ys.length) Val.none := by
  intro k
  induction k with
  | zero => intro ys h; simp at h; subst h; simp [readBack]
  | succ k ih =>
    intro ys h
    simp only [readBack]
    by_cases hlen : n ≤ ys.length
    · have h1 : (ys.take n).length = n := List.length_take_of_le hlen
      have h2 : (ys.drop n).length ≤ k * n := by simp [List.length_drop]; rw [Nat.succ_mul] at h; omega
      rw [h1, Nat.sub_self, List.replicate_zero, List.append_nil, ih _ h2, ← List.append_assoc, ← List.map_append,
        List.take_append_drop]
      congr 2
      simp [List.length_drop]; rw [Nat.succ_mul]; omega
    · have hlt : ys.length < n := Nat.lt_of_not_le hlen
      have h1 : ys.take n = ys := List.take_of_length_le (by omega)
      have h2 : ys.drop n = [] := List.drop_of_length_le (by omega)
      rw [h1, h2, ih [] (Nat.zero_le _), List.map_nil, List.nil_append, List.length_nil, List.append_assoc, List.replicate_append_replicate]
      congr 2
      rw [Nat.succ_mul]; omega

/-- a record whose fields are all the numeric field `f0`, `n` of them (every chunk record of the tables) -/
structure ChunkRec (r : Gen.Sections.Rec) (n : Nat) (f0 : FieldSpec) : Prop where
  len : r.fs.length = n
  uniform : ∀ f ∈ r.fs, f = f0
  numeric : NumericTyp f0.typ

instance (r : Gen.Sections.Rec) (n : Nat) (f0 : FieldSpec) : Decidable (ChunkRec r n f0) :=
  decidable_of_iff (_ ∧ _ ∧ _) ⟨fun ⟨h1, h2, h3⟩ => ⟨h1, h2, h3⟩, fun h => ⟨h.len, h.uniform, h.numeric⟩⟩

theorem ChunkRec.fs_eq {r : Gen.Sections.Rec} {n : Nat} {f0 : FieldSpec} (h : ChunkRec r n f0) :
    r.fs = List.replicate n f0 := by
  rw [← h.len]
  exact List.eq_replicate_iff.mpr ⟨rfl, h.uniform⟩

theorem map_zip_replicate (f0 : FieldSpec) (n : Nat) (vals : List Val) (h : vals.length ≤ n) :
    (vals.zip (List.replicate n f0)).map (fun vf => canonV vf.2 vf.1) = vals.map (canonV f0) :=
  zip_map_const canonV f0 vals _ (by rw [List.length_replicate]; exact h) fun _ hf => (List.mem_replicate.mp hf).2

theorem ChunkRec.valid {r : Gen.Sections.Rec} {n : Nat} {f0 : FieldSpec} (h : ChunkRec r n f0) :
    ∀ f ∈ r.fs, ValidTyp f.typ := fun f hf => by rw [h.uniform f hf]; exact NumericTyp.valid h.numeric

theorem uniform_partial_read {r : Gen.Sections.Rec} {n : Nat} {f0 : FieldSpec} (hr : ChunkRec r n f0) (vals : List Val)
    (hl : vals.length ≤ n) {l l' : Str} (hw : writeValuesLine r vals = .ok l) (hp : Padded l l') :
    readValues .default r l' = .ok (vals.map (canonV f0) ++ List.replicate (n - vals.length) Val.none) := by
  have hnum : ∀ f ∈ r.fs.drop vals.length, NumericTyp f.typ := fun f hf => by
    rw [hr.uniform f (List.mem_of_mem_drop hf)]; exact hr.numeric
  rw [readValues_written r vals hr.valid hnum hw hp, hr.fs_eq, map_zip_replicate f0 n vals hl, List.drop_replicate,
    List.map_replicate]

theorem chunkLine_read {r : Gen.Sections.Rec} {n : Nat} {f0 : FieldSpec} (hr : ChunkRec r n f0)
    (xs : List Val) (i : Nat) {l l' : Str} (h : chunkLine r n xs xs.length i = .ok l) (hp : Padded l l') :
    readValues .default r l' =
      .ok ((((xs.drop (i * n)).take n).map (canonV f0)) ++
           List.replicate (n - ((xs.drop (i * n)).take n).length) Val.none) := by
  unfold chunkLine at h
  rw [← List.take_eq_take_min, List.drop_take, Nat.succ_mul, Nat.add_sub_cancel_left] at h
  have hcl : ((xs.drop (i * n)).take n).length ≤ n := List.length_take_le _ _
  generalize (xs.drop (i * n)).take n = c at h hcl ⊢
  rw [uniform_partial_read hr _ (by simp only [List.length_append, List.length_replicate]; omega) h hp, List.map_append,
    List.map_replicate, canonV_none hr.numeric, List.length_append, List.length_replicate,
    show n - (c.length + (n - c.length)) = 0 by omega, List.replicate_zero, List.append_nil]

theorem writeChunksFrom_succ {r : Gen.Sections.Rec} {n : Nat} {xs : List Val} {lim i k : Nat} {lines : List Str}
    (h : writeChunksFrom r n xs lim i (k + 1) = .ok lines) :
    ∃ l ls, chunkLine r n xs lim i = .ok l ∧ writeChunksFrom r n xs lim (i + 1) k = .ok ls ∧ lines = l :: ls := by
  simp only [writeChunksFrom] at h
  cases hl : chunkLine r n xs lim i with
  | error e => rw [hl] at h; cases h
  | ok l =>
    rw [hl] at h
    cases hrest : writeChunksFrom r n xs lim (i + 1) k with
    | error e => rw [hrest] at h; cases h
    | ok ls => rw [hrest] at h; cases h; exact ⟨l, ls, rfl, rfl, rfl⟩

theorem writeChunksFrom_length {r : Gen.Sections.Rec} {n : Nat} {xs : List Val} {lim : Nat} :
    ∀ (k i : Nat) (lines : List Str), writeChunksFrom r n xs lim i k = .ok lines → lines.length = k
  | 0, _, _, h => by cases h; rfl
  | k + 1, i, _, h => by
    obtain ⟨l, ls, _, hrest, rfl⟩ := writeChunksFrom_succ h
    rw [List.length_cons, writeChunksFrom_length k (i + 1) ls hrest]

theorem chunks_read {r : Gen.Sections.Rec} {n : Nat} {f0 : FieldSpec} (hr : ChunkRec r n f0) (xs : List Val) :
    ∀ (k i : Nat) (lines : List Str), writeChunksFrom r n xs xs.length i k = .ok lines →
      ∀ rest, readChunks .default r k (lines ++ rest) = .ok (readBack f0 n k (xs.drop (i * n)), rest) := by
  intro k
  induction k with
  | zero =>
    intro i lines h rest
    cases h
    rfl
  | succ k ih =>
    intro i lines h rest
    obtain ⟨l, ls, hl, hrest, rfl⟩ := writeChunksFrom_succ h
    simp only [List.cons_append, readChunks, readline]
    rw [chunkLine_read hr xs i hl (.refl l), ih (i + 1) ls hrest rest]
    simp only [readBack]
    congr 3
    rw [List.drop_drop]
    congr 1
    rw [Nat.succ_mul]

/-- the two spellings of the line count `ceil(len/n)`, `n = k + 1`: `chunked_roundtrip` has `(len + 4 - 1) / 4`, the writers
    `(len + 3) / 4` -/
theorem ceil_lines (len k : Nat) : (len + (k + 1) - 1) / (k + 1) = (len + k) / (k + 1) := rfl

/-- a list of any length written in `ceil(len/n)` lines of `n` values reads back,
    over the same number of lines, as the values written (each to the digits of its field) followed only by
    the `None` padding of the last line -/
theorem chunked_roundtrip {r : Gen.Sections.Rec} {n : Nat} {f0 : FieldSpec} (hr : ChunkRec r n f0) (hn : 0 < n)
    (xs : List Val) {lines : List Str}
    (hw : writeChunks r n xs xs.length ((xs.length + n - 1) / n) = .ok lines) (rest : List Str) :
    readChunks .default r ((xs.length + n - 1) / n) (lines ++ rest) =
      .ok (xs.map (canonV f0) ++ List.replicate (((xs.length + n - 1) / n) * n - xs.length) Val.none, rest) := by
  rw [chunks_read hr xs _ 0 lines hw rest, Nat.zero_mul, List.drop_zero, readBack_eq f0 n]
  have := Nat.div_add_mod (xs.length + n - 1) n
  have hmod := Nat.mod_lt (xs.length + n - 1) hn
  calc xs.length ≤ n * ((xs.length + n - 1) / n) := by omega
    _ = (xs.length + n - 1) / n * n := Nat.mul_comm _ _

theorem nonNone_append_nones (vs : List Val) (m : Nat) :
    nonNone (vs ++ List.replicate m Val.none) = nonNone vs := by
  unfold nonNone
  rw [List.filter_append, List.filter_replicate_of_neg (by decide), List.append_nil]

theorem nonNone_id {vs : List Val} (h : ∀ v ∈ vs, v ≠ Val.none) : nonNone vs = vs := by
  unfold nonNone
  apply List.filter_eq_self.mpr
  intro a ha
  simp [h a ha]

theorem trimTrailingNones_append_nones {vs : List Val} (h : ∀ v ∈ vs, v ≠ Val.none) (m : Nat) :
    trimTrailingNones (vs ++ List.replicate m Val.none) = vs := by
  unfold trimTrailingNones
  rw [List.reverse_append, List.reverse_replicate,
    List.dropWhile_append_of_pos (List.forall_mem_replicate.mpr (.inr (by decide)))]
  exact dropWhile_reverse_of_last fun x hx => by simpa using h x (List.mem_of_getLast? hx)

/-- the readers that keep only the values present (`if val is not None: append`) get exactly the list back -/
theorem chunked_roundtrip_nonNone {r : Gen.Sections.Rec} {n : Nat} {f0 : FieldSpec} (hr : ChunkRec r n f0) (hn : 0 < n)
    (xs : List Val) (hx : ∀ x ∈ xs, canonV f0 x ≠ Val.none) {lines : List Str}
    (hw : writeChunks r n xs xs.length ((xs.length + n - 1) / n) = .ok lines) (rest : List Str) :
    ∃ vs, readChunks .default r ((xs.length + n - 1) / n) (lines ++ rest) = .ok (vs, rest) ∧
      nonNone vs = xs.map (canonV f0) := by
  refine ⟨_, chunked_roundtrip hr hn xs hw rest, ?_⟩
  rw [nonNone_append_nones, nonNone_id (List.forall_mem_map.mpr hx)]

/-- the Python slice `vs[0:n]` as `readDiffusion`, `readRZ2D`, `readXYZSub` and `readMinc` spell it -/
theorem sliceTo_ofNat (vs : List Val) (n : Nat) :
    (if (Int.ofNat n) ≥ 0 then vs.take (Int.ofNat n).toNat else vs.take (vs.length - (Int.ofNat n).natAbs)) = vs.take n :=
  if_pos (Int.natCast_nonneg n)

/-- the readers that slice the first `len` values (`[0: n]`) get exactly the list back -/
theorem chunked_roundtrip_take {r : Gen.Sections.Rec} {n : Nat} {f0 : FieldSpec} (hr : ChunkRec r n f0) (hn : 0 < n)
    (xs : List Val) {lines : List Str}
    (hw : writeChunks r n xs xs.length ((xs.length + n - 1) / n) = .ok lines) (rest : List Str) :
    ∃ vs, readChunks .default r ((xs.length + n - 1) / n) (lines ++ rest) = .ok (vs, rest) ∧
      vs.take xs.length = xs.map (canonV f0) := by
  refine ⟨_, chunked_roundtrip hr hn xs hw rest, ?_⟩
  exact List.take_left' (List.length_map _)

/-- the text `lines` of a section is its keyword line `nl kw` and a body from which the section reader `rd`
    recovers `a`, whatever follows the body -/
def ReadsBack {α : Type} (kw : Str) (lines : List Str) (rd : List Str → Except Exc (α × List Str)) (a : α) : Prop :=
  ∃ body, lines = nl kw :: body ∧ ∀ rest, rd (body ++ rest) = .ok (a, rest)

/-- the writer `f` as a total function (no line when it fails): the encoding `enc` of `RecordRT` in the section theorems,
    which assume that the writer succeeds; `lineOf` for writers of one line -/
abbrev linesOf {α : Type} (f : α → Except Exc (List Str)) (a : α) : List Str :=
  match f a with | .ok ls => ls | .error _ => []

abbrev lineOf {α : Type} (f : α → Except Exc Str) (a : α) : List Str :=
  match f a with | .ok l => [l] | .error _ => []

theorem linesOf_ok {α : Type} {f : α → Except Exc (List Str)} {a : α} {ls : List Str} (h : f a = .ok ls) :
    linesOf f a = ls := by
  simp only [linesOf, h]

theorem lineOf_ok {α : Type} {f : α → Except Exc Str} {a : α} {l : Str} (h : f a = .ok l) : lineOf f a = [l] := by
  simp only [lineOf, h]

theorem mapM_singletons {α : Type} (f : α → Except Exc Str) (l : List α) (h : ∀ a ∈ l, ∃ x, f a = .ok x) :
    l.mapM f = .ok (l.map (lineOf f)).flatten := by
  rw [mapM_eq_ok]
  induction l with
  | nil => rfl
  | cons a as ih =>
    obtain ⟨x, hx⟩ := h a List.mem_cons_self
    simp only [List.map_cons, List.flatten_cons, lineOf_ok hx, hx, List.singleton_append, ih fun b hb => h b (List.mem_cons_of_mem _ hb)]

theorem mapM_lists {α : Type} (f : α → Except Exc (List Str)) (l : List α) (h : ∀ a ∈ l, ∃ x, f a = .ok x) :
    l.mapM f = .ok (l.map (linesOf f)) :=
  mapM_pure_map f _ l fun a ha => by obtain ⟨x, hx⟩ := h a ha; rw [linesOf_ok hx, hx]; rfl

theorem mapM_ok_lines {α : Type} (f : α → Except Exc (List Str)) (l : List α) (out : List (List Str))
    (h : l.mapM f = .ok out) : out = l.map (linesOf f) ∧ ∀ a ∈ l, ∃ x, f a = .ok x := by
  have hall : ∀ a ∈ l, ∃ x, f a = .ok x := fun a ha =>
    let ⟨x, _, hx⟩ := ((mapM_ok_iff f l out).mp h).left a ha
    ⟨x, hx⟩
  exact ⟨Except.ok.inj (h.symm.trans (mapM_lists f l hall)), hall⟩

theorem lineList_readsBack {α β : Type} (f : α → Except Exc Str) (l : List α) (hw : ∀ a ∈ l, ∃ x, f a = .ok x) (kw : Str)
    {rd : List Str → Except Exc (β × List Str)} {b : β}
    (h : ∀ rest, rd ((l.map (lineOf f)).flatten ++ nl [] :: rest) = .ok (b, rest)) :
    ∃ lines, (l.mapM f).bind (fun ls => .ok ([nl kw] ++ ls ++ [nl []])) = .ok lines ∧ ReadsBack kw lines rd b := by
  rw [mapM_singletons f l hw]
  exact ⟨_, rfl, (l.map (lineOf f)).flatten ++ [nl []], rfl,
    fun rest => by rw [List.append_assoc]; exact h rest⟩

theorem recordList_readsBack {α β : Type} (f : α → Except Exc (List Str)) (l : List α) (hw : ∀ a ∈ l, ∃ x, f a = .ok x) (kw : Str)
    {rd : List Str → Except Exc (β × List Str)} {b : β}
    (h : ∀ rest, rd ((l.map (linesOf f)).flatten ++ nl [] :: rest) = .ok (b, rest)) :
    ∃ lines, (l.mapM f).bind (fun ls => .ok ([nl kw] ++ ls.flatten ++ [nl []])) = .ok lines ∧ ReadsBack kw lines rd b := by
  rw [mapM_lists f l hw]
  exact ⟨_, rfl, (l.map (linesOf f)).flatten ++ [nl []], rfl,
    fun rest => by rw [List.append_assoc]; exact h rest⟩

/-- what the generic theorem needs from one record kind: its lines are a non-blank header (that does not
    trigger the stop condition) and `ex` further lines, and the record reader recovers `canon a` from
    them, consuming exactly those lines, whatever follows -/
def RecordRT {α β} (pad : Str → Str) (stop : Str → Bool) (rd : Str → List Str → Except Exc (β × Nat))
    (enc : α → List Str) (canon : α → β) (a : α) : Prop :=
  ∃ h ex, enc a = h :: ex ∧ isBlank (pad h) = false ∧ stop (pad h) = false ∧
    ∀ rest, rd (pad h) (ex ++ rest) = .ok (canon a, ex.length)

/-- records that read back one by one, followed by lines `tail` at which the loop stops at once -/
theorem untilBlank_records {α β} (pad : Str → Str) (stop : Str → Bool) (rd : Str → List Str → Except Exc (β × Nat))
    (enc : α → List Str) (canon : α → β) (as : List α) (hrt : ∀ a ∈ as, RecordRT pad stop rd enc canon a)
    (tail rest : List Str) (ht : untilBlank pad stop rd tail = .ok ([], rest)) :
    untilBlank pad stop rd ((as.map enc).flatten ++ tail) = .ok (as.map canon, rest) := by
  induction as with
  | nil => simpa only [List.map_nil, List.flatten_nil, List.nil_append] using ht
  | cons a as ih =>
    obtain ⟨h, ex, henc, hnb, hns, hrd⟩ := hrt a (by simp)
    simp only [List.map_cons, List.flatten_cons, henc, List.cons_append, List.append_assoc]
    rw [untilBlank]
    simp only [hnb, hns, Bool.or_self, Bool.false_eq_true, ↓reduceIte]
    rw [hrd]
    simp only [List.drop_left, ih (fun b hb => hrt b (List.mem_cons_of_mem _ hb))]

theorem untilBlank_roundtrip {α β} (pad : Str → Str) (stop : Str → Bool) (rd : Str → List Str → Except Exc (β × Nat))
    (enc : α → List Str) (canon : α → β) (as : List α) (hrt : ∀ a ∈ as, RecordRT pad stop rd enc canon a)
    (t : Str) (ht : isBlank (pad t) = true ∨ stop (pad t) = true) (rest : List Str) :
    untilBlank pad stop rd ((as.map enc).flatten ++ t :: rest) = .ok (as.map canon, rest) := by
  refine untilBlank_records pad stop rd enc canon as hrt (t :: rest) rest ?_
  rw [untilBlank]
  have : (isBlank (pad t) || stop (pad t)) = true := by rcases ht with h | h <;> simp [h]
  simp [this]

theorem untilBlank_roundtrip_eof {α β} (pad : Str → Str) (stop : Str → Bool) (rd : Str → List Str → Except Exc (β × Nat))
    (enc : α → List Str) (canon : α → β) (as : List α) (hrt : ∀ a ∈ as, RecordRT pad stop rd enc canon a) :
    untilBlank pad stop rd (as.map enc).flatten = .ok (as.map canon, []) := by
  have := untilBlank_records pad stop rd enc canon as hrt [] [] (by rw [untilBlank])
  rwa [List.append_nil] at this

/-- one continuation line: not blank, not a keyword line, and its values (trailing `None`s trimmed) are `row` -/
def LineRT (r : Gen.Sections.Rec) (kws : List Str) (l : Str) (row : List Val) : Prop :=
  isBlank (padstring l) = false ∧ kws.any (startsWith (padstring l)) = false ∧
    ∃ vs, readValues .default r (padstring l) = .ok vs ∧ trimTrailingNones vs = row

/-- how the continuation lines end: a blank line (consumed), a keyword line (handed back padded), or the end of
    the file -/
inductive KwEnd (kws : List Str) : List Str → Option Str → List Str → Prop where
  | blank (t : Str) (rest : List Str) (h : isBlank (padstring t) = true) : KwEnd kws (t :: rest) none rest
  | keyword (t : Str) (rest : List Str) (h1 : isBlank (padstring t) = false)
      (h2 : kws.any (startsWith (padstring t)) = true) : KwEnd kws (t :: rest) (some (padstring t)) rest
  | eof : KwEnd kws [] none []

theorem untilKeyword_roundtrip (r : Gen.Sections.Rec) (kws : List Str) :
    ∀ (lines : List Str) (rows : List (List Val)), All2 (LineRT r kws) lines rows →
    ∀ (tail : List Str) (nxt : Option Str) (rest : List Str), KwEnd kws tail nxt rest →
      untilKeyword .default r kws (lines ++ tail) = .ok (rows.flatten, nxt, rest) := by
  intro lines rows h
  induction h with
  | nil =>
    intro tail nxt rest hend
    cases hend with
    | blank t rest hb => simp only [List.nil_append, untilKeyword, hb, ↓reduceIte, List.flatten_nil]
    | keyword t rest h1 h2 =>
      simp only [List.nil_append, untilKeyword, h1, h2, Bool.false_eq_true, ↓reduceIte, List.flatten_nil]
    | eof => simp only [List.nil_append, untilKeyword, List.flatten_nil]
  | cons hl _ ih =>
    rename_i l row ls rs
    intro tail nxt rest hend
    obtain ⟨hnb, hnk, vs, hrd, htrim⟩ := hl
    simp only [List.cons_append, untilKeyword, hnb, hnk, Bool.false_eq_true, ↓reduceIte, hrd, ih tail nxt rest hend, List.flatten_cons, htrim]

end Proofs.T2
