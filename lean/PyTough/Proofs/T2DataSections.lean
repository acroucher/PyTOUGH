/-
  C01 proofs: blank lines, dictionary lines (`write_value_line` / `read_value_line`) read back (`lineVals`, `canonVals`,
  `absorb`), TIMES; and the vocabulary in which a section theorem says what it needs of a record table `T`: `recOf`,
  `fieldAt`, `fieldsFrom`, `RecOK`, `RecShape`, `ChunkShape` (decided on the generated tables in `T2DataTables`).
-/
import PyTough.Proofs.T2DataCombinators
namespace Proofs.T2
open Py Model Model.T2 Proofs Proofs.Incon
open Gen.Sections (Rec)

theorem isBlank_nl_nil : isBlank (nl []) = true := by decide

theorem not_blank_append {s t : Str} (h : isBlank s = false) : isBlank (s ++ t) = false := by
  unfold isBlank strip at h
  cases hs : stripBy isStrWs s with
  | nil => rw [hs] at h; cases h
  | cons c r =>
    have hc : c ∈ stripBy isStrWs s := by rw [hs]; simp
    have hcs : c ∈ s := mem_of_mem_stripBy hc
    exact strip_ne_nil (List.mem_append_left _ hcs) (stripBy_head isStrWs s c r hs)

theorem not_blank_padstring {s : Str} (h : isBlank s = false) : isBlank (padstring s) = false := by
  unfold padstring ljust; exact not_blank_append h

theorem padstring_eq (s : Str) : padstring s = s ++ List.replicate (80 - s.length) ' ' := rfl

/-- `read_value_line`'s update of the dictionary: null values are ignored -/
def absorb (names : List Str) (vs : List Val) (d : Dict) : Dict :=
  (names.zip vs).foldl (fun d (p : Str × Val) => if p.2 == .none then d else d.set p.1 p.2) d

/-- the values `write_value_line` puts in the record: missing keys are `None` -/
def lineVals (r : Rec) (d : Dict) : List Val := r.names.map fun n => (d.get n).getD .none

/-- every value of a record read back from its own field -/
def canonVals (r : Rec) (vals : List Val) : List Val := (vals.zip r.fs).map (fun vf => canonV vf.2 vf.1)

structure RecWF (r : Rec) : Prop where
  len : r.names.length = r.fs.length
  valid : ∀ f ∈ r.fs, ValidTyp f.typ

instance (r : Rec) : Decidable (RecWF r) :=
  decidable_of_iff (_ ∧ _) ⟨fun ⟨h1, h2⟩ => ⟨h1, h2⟩, fun h => ⟨h.len, h.valid⟩⟩

/-- the empty record when `T` has none: `recOf T n` means something only with `T.get n = .ok (recOf T n)` -/
def recOf (T : Tabs) (n : Str) : Rec := match T.get n with | .ok r => r | .error _ => ⟨[], []⟩

/-- field `i` of record kind `n` of table `T` *as it is in the generated table* (so that a change of a width or
    a precision in /repo changes the statement with it, not its truth).  Past the end it is a width-0 `x` field, not an
    error: a wrong index in a definition goes unnoticed unless a `…Shape` hypothesis fixes the record's length. -/
def fieldAt (T : Tabs) (n : Str) (i : Nat) : FieldSpec :=
  (recOf T n).fs.getD i { raw := [], width := 0, left := false, prec := none, typ := 'x' }

/-- `[fieldAt T n i, …, fieldAt T n (i + k - 1)]` -/
def fieldsFrom (T : Tabs) (n : Str) : Nat → Nat → List FieldSpec
  | _, 0 => []
  | i, k + 1 => fieldAt T n i :: fieldsFrom T n (i + 1) k

theorem drop_eq_fieldsFrom (T : Tabs) (n : Str) : ∀ k i, (recOf T n).fs.length = i + k →
    (recOf T n).fs.drop i = fieldsFrom T n i k
  | 0, i, h => List.drop_eq_nil_of_le (by omega)
  | k + 1, i, h => by
    have hi : i < (recOf T n).fs.length := by omega
    rw [List.drop_eq_getElem_cons hi, fieldsFrom, drop_eq_fieldsFrom T n k (i + 1) (by omega)]
    congr 1
    unfold fieldAt
    rw [List.getD_eq_getElem?_getD, List.getElem?_eq_getElem hi, Option.getD_some]

structure RecOK (T : Tabs) (n : Str) : Prop where
  get : T.get n = .ok (recOf T n)
  wf : RecWF (recOf T n)

instance (T : Tabs) (n : Str) : Decidable (RecOK T n) :=
  decidable_of_iff (_ ∧ _) ⟨fun ⟨h1, h2⟩ => ⟨h1, h2⟩, fun h => ⟨h.get, h.wf⟩⟩

structure RecShape (T : Tabs) (n : Str) (k : Nat) : Prop extends RecOK T n where
  len : (recOf T n).fs.length = k

instance (T : Tabs) (n : Str) (k : Nat) : Decidable (RecShape T n k) :=
  decidable_of_iff (_ ∧ _) ⟨fun ⟨h1, h2⟩ => ⟨h1, h2⟩, fun h => ⟨h.toRecOK, h.len⟩⟩

structure ChunkShape (T : Tabs) (n : Str) (k : Nat) : Prop where
  get : T.get n = .ok (recOf T n)
  chunk : ChunkRec (recOf T n) k (fieldAt T n 0)

instance (T : Tabs) (n : Str) (k : Nat) : Decidable (ChunkShape T n k) :=
  decidable_of_iff (_ ∧ _) ⟨fun ⟨h1, h2⟩ => ⟨h1, h2⟩, fun h => ⟨h.get, h.chunk⟩⟩

theorem RecShape.fs_eq {T : Tabs} {n : Str} {k : Nat} (h : RecShape T n k) : (recOf T n).fs = fieldsFrom T n 0 k := by
  have := drop_eq_fieldsFrom T n k 0 (by rw [h.len, Nat.zero_add])
  rwa [List.drop_zero] at this

theorem canonVals_length (r : Rec) (vals : List Val) (h : vals.length = r.fs.length) :
    (canonVals r vals).length = r.fs.length := by
  simp [canonVals, h]

theorem fullRecord_fields {r : Rec} (hr : RecWF r) {fs : List FieldSpec} (hfs : r.fs = fs) (vals : List Val)
    (hl : vals.length = fs.length) {l l' : Str} (h : writeValuesLine r vals = .ok l) (hp : Padded l l') :
    readValues .default r l' = .ok ((vals.zip fs).map (fun vf => canonV vf.2 vf.1)) := by
  subst hfs
  have hnum : ∀ f ∈ r.fs.drop vals.length, NumericTyp f.typ := by
    rw [hl, List.drop_length]; intro f hf; cases hf
  rw [readValues_written r vals hr.valid hnum h hp, hl, List.drop_length, List.map_nil, List.append_nil]

/-- the values read from the written line are stored under the record's names, `None`s skipped, so an absent entry
    leaves the reader's dictionary as it was -/
theorem valueLine_roundtrip {r : Rec} (hr : RecWF r) (d d0 : Dict) {l l' : Str}
    (h : writeValueLine r d = .ok l) (hp : Padded l l') :
    readValueLine .default r d0 l' = .ok (absorb r.names (canonVals r (lineVals r d)) d0) := by
  unfold writeValueLine at h
  have hl : (lineVals r d).length = r.fs.length := by simp [lineVals, hr.len]
  unfold readValueLine
  rw [fullRecord_fields hr rfl _ hl h hp]
  rfl

theorem valueLine_read {r : Rec} (hr : RecWF r) (d d0 : Dict) {l : Str} (h : writeValueLine r d = .ok l) :
    readValueLine .default r d0 l = .ok (absorb r.names (canonVals r (lineVals r d)) d0) :=
  valueLine_roundtrip hr d d0 h (.refl l)

theorem ceilDiv_nat (n k : Nat) : ceilDiv (.int (Int.ofNat n)) k = .ok ((n + k - 1) / k) := by
  show Except.ok (if Int.ofNat n ≤ 0 then 0 else ((Int.ofNat n).toNat + k - 1) / k) = _
  by_cases h : n = 0
  · subst h
    rw [if_pos (by decide)]
    cases k with
    | zero => simp
    | succ k => congr 1; exact (Nat.div_eq_of_lt (by omega)).symm
  · have : ¬ (Int.ofNat n ≤ 0) := by
      intro h'; apply h; exact Int.ofNat_eq_zero.mp (Int.le_antisymm h' (Int.natCast_nonneg n))
    rw [if_neg this]
    rfl

/-- the TIMES section written for an object whose `num_times_specified` is the
    length of its `time` list (any length: 0, 1, …, 8, 9, … — every line boundary) reads back as the same
    dictionary entries and the same times, each to the digits of its field -/
theorem section_roundtrip_TIMES {T : Tabs} (hs1 : RecOK T c!"output_times1") (hs2 : ChunkShape T c!"output_times2" 8)
    (o o0 : OutputTimes) (ts : List Val) (htime : o.time = some ts)
    (hn : o.d.get c!"num_times_specified" = some (.int (Int.ofNat ts.length)))
    -- the count survives its own field (true for any I-field wide enough: C02 `roundtrip_int`)
    (hkeep : (absorb (recOf T c!"output_times1").names (canonVals (recOf T c!"output_times1")
                (lineVals (recOf T c!"output_times1") o.d)) o0.d).get c!"num_times_specified"
                = some (.int (Int.ofNat ts.length)))
    (hx : ∀ x ∈ ts, canonV (fieldAt T c!"output_times2" 0) x ≠ Val.none)
    {lines : List Str} (hw : writeTimes T o = .ok lines) :
    ReadsBack c!"TIMES" lines (readTimes .default T o0)
      { d := absorb (recOf T c!"output_times1").names (canonVals (recOf T c!"output_times1")
               (lineVals (recOf T c!"output_times1") o.d)) o0.d,
        time := some (ts.map (canonV (fieldAt T c!"output_times2" 0))) } := by
  have hT1 := hs1.get
  have hT2 := hs2.get
  have hne : o.isEmpty = false := by simp [OutputTimes.isEmpty, htime]
  unfold writeTimes at hw
  simp only [hne, Bool.false_eq_true, ↓reduceIte, hT1, hT2, hn, htime, pure, Except.pure, ceilDiv_nat, ok_bind, bind_ok_iff,
    Except.ok.injEq] at hw
  obtain ⟨l1, hl1, ls, hch, rfl⟩ := hw
  refine ⟨l1 :: ls, rfl, fun rest => ?_⟩
  show readTimes .default T o0 (l1 :: (ls ++ rest)) = _
  unfold readTimes
  simp only [readline, hT1, hT2, bind, Except.bind, pure, Except.pure]
  rw [valueLine_read hs1.wf o.d o0.d hl1]
  simp only [hkeep, ceilDiv_nat]
  obtain ⟨vs, hrd, hvs⟩ := chunked_roundtrip_nonNone hs2.chunk (by decide) ts hx hch rest
  rw [hrd]
  simp only [hvs]

end Proofs.T2
