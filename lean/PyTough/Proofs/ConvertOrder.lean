/-
  Flavour conversion (C20): `insert_section` / `delete_section` / `update_sections` keep the section
  list in the standard order of `t2data_sections` (the order in which `write` prints them; `read` itself is not
  modelled).  The table is sorted by `rank`, so each search of `section_insertion_index` stops at the listed keyword
  nearest to the new one.
-/
import PyTough.Proofs.ConvertSpec
namespace Proofs.Convert
open Py Model.Convert Gen.ConvertTables

/-- position of a keyword in `t2data_sections` -/
def rank (k : Str) : Nat := sections.idxOf k

/-- `secs` lists keywords of `t2data_sections` in their standard relative order (hence none twice) -/
def Ordered (secs : List Str) : Prop := secs.Pairwise (fun a b => rank a < rank b) ∧ ∀ k ∈ secs, k ∈ sections

theorem rank_getElem (i : Nat) (hi : i < sections.length) : rank sections[i] = i :=
  sections_nodup.idxOf_getElem i hi

theorem rank_lt {k : Str} (hk : k ∈ sections) : rank k < sections.length := List.idxOf_lt_length_iff.mpr hk

theorem getElem_rank {k : Str} (hk : k ∈ sections) : sections[rank k]'(rank_lt hk) = k :=
  List.getElem_idxOf (rank_lt hk)

theorem rank_inj {a b : Str} (ha : a ∈ sections) (hb : b ∈ sections) (h : rank a = rank b) : a = b := by
  rw [← getElem_rank ha, ← getElem_rank hb]
  simp [h]

theorem sections_pairwise : sections.Pairwise (fun a b => rank a < rank b) :=
  List.pairwise_iff_getElem.mpr fun i j hi hj hij => by rw [rank_getElem, rank_getElem]; exact hij

theorem mem_take_sections (x : Str) (li : Nat) : x ∈ sections.take li ↔ x ∈ sections ∧ rank x < li := by
  constructor
  · intro h
    obtain ⟨i, hi, rfl⟩ := List.mem_take_iff_getElem.mp h
    rw [rank_getElem]
    exact ⟨List.getElem_mem _, by omega⟩
  · rintro ⟨hx, hr⟩
    exact List.mem_take_iff_getElem.mpr ⟨rank x, by have := rank_lt hx; omega, getElem_rank hx⟩

theorem mem_drop_sections (x : Str) (li : Nat) : x ∈ sections.drop li ↔ x ∈ sections ∧ li ≤ rank x := by
  constructor
  · intro h
    obtain ⟨i, hi, rfl⟩ := List.mem_drop_iff_getElem.mp h
    rw [rank_getElem]
    exact ⟨List.getElem_mem _, Nat.le_add_right _ _⟩
  · rintro ⟨hx, hr⟩
    have hl := rank_lt hx
    refine List.mem_drop_iff_getElem.mpr ⟨rank x - li, by omega, ?_⟩
    have : li + (rank x - li) = rank x := by omega
    simp only [this]
    exact getElem_rank hx

/-- the first hit of a search through a list sorted by `R`: every other entry that is not `R`-after it was passed over -/
theorem findSome_sorted {α β : Type} {R : α → α → Prop} {f : α → Option β} {m : List α} (hp : m.Pairwise R) {j : β}
    (h : m.findSome? f = some j) :
    ∃ k ∈ m, f k = some j ∧ ∀ k' ∈ m, ¬ R k k' → k' ≠ k → f k' = none := by
  obtain ⟨l₁, k, l₂, rfl, hfk, hnone⟩ := List.findSome?_eq_some_iff.mp h
  refine ⟨k, List.mem_append_right _ (List.mem_cons_self ..), hfk, fun k' hk' hR hne => ?_⟩
  rcases List.mem_append.mp hk' with h | h
  · exact hnone k' h
  · rcases List.mem_cons.mp h with rfl | h
    · exact absurd rfl hne
    · exact absurd ((List.pairwise_cons.mp (List.pairwise_append.mp hp).2.1).1 k' h) hR

/-- the search upwards in `section_insertion_index` finds the nearest earlier keyword that is listed -/
theorem search_up {f : Str → Option Nat} {li j : Nat} (h : (sections.take li).reverse.findSome? f = some j) :
    ∃ k ∈ sections, rank k < li ∧ f k = some j ∧ ∀ k' ∈ sections, rank k < rank k' → rank k' < li → f k' = none := by
  have hp : (sections.take li).reverse.Pairwise (fun a b => rank b < rank a) :=
    List.pairwise_reverse.mpr (sections_pairwise.sublist (List.take_sublist _ _))
  obtain ⟨k, hk, hfk, hpass⟩ := findSome_sorted hp h
  obtain ⟨hks, hkr⟩ := (mem_take_sections k li).mp (List.mem_reverse.mp hk)
  refine ⟨k, hks, hkr, hfk, fun k' hk' h1 h2 => ?_⟩
  exact hpass k' (List.mem_reverse.mpr ((mem_take_sections k' li).mpr ⟨hk', h2⟩)) (by omega)
    (fun e => by rw [e] at h1; exact Nat.lt_irrefl _ h1)

/-- the search downwards finds the first later keyword that is listed -/
theorem search_down {f : Str → Option Nat} {li j : Nat} (h : (sections.drop li).findSome? f = some j) :
    ∃ k ∈ sections, li ≤ rank k ∧ f k = some j ∧ ∀ k' ∈ sections, li ≤ rank k' → rank k' < rank k → f k' = none := by
  obtain ⟨k, hk, hfk, hpass⟩ := findSome_sorted (sections_pairwise.sublist (List.drop_sublist _ _)) h
  obtain ⟨hks, hkr⟩ := (mem_drop_sections k li).mp hk
  refine ⟨k, hks, hkr, hfk, fun k' hk' h1 h2 => ?_⟩
  exact hpass k' ((mem_drop_sections k' li).mpr ⟨hk', h1⟩) (by omega) (fun e => by rw [e] at h2; exact Nat.lt_irrefl _ h2)

theorem findIdx_sections {s : Str} (hs : s ∈ sections) : sections.findIdx? (· == s) = some (rank s) :=
  List.findIdx?_eq_some_iff_findIdx_eq.mpr ⟨rank_lt hs, rfl⟩

/-! A list sorted by a key `r`, and a new key `t` that is not in it: the place for `t` is settled by one entry next to
  it — the nearest smaller one, or the nearest larger one — because everything else is on the far side of that entry. -/

section Sorted
variable {α : Type} {r : α → Nat} {l : List α} {j t : Nat}

theorem sorted_around (hp : l.Pairwise fun a b => r a < r b) (hj : j < l.length) :
    (∀ a ∈ l.take j, r a < r l[j]) ∧ (∀ b ∈ l.drop (j + 1), r l[j] < r b) := by
  have h : (l.take j ++ l[j] :: l.drop (j + 1)).Pairwise fun a b => r a < r b := by
    rw [← List.drop_eq_getElem_cons hj, List.take_append_drop]
    exact hp
  obtain ⟨_, h2, h3⟩ := List.pairwise_append.mp h
  exact ⟨fun a ha => h3 a ha _ List.mem_cons_self, (List.pairwise_cons.mp h2).1⟩

theorem cut_after (hp : l.Pairwise fun a b => r a < r b) (hj : j < l.length) (h1 : r l[j] < t)
    (gap : ∀ x ∈ l, r l[j] < r x → t < r x) :
    (∀ a ∈ l.take (j + 1), r a < t) ∧ (∀ b ∈ l.drop (j + 1), t < r b) := by
  obtain ⟨hb, ha⟩ := sorted_around hp hj
  refine ⟨fun a h => ?_, fun b h => gap b (List.mem_of_mem_drop h) (ha b h)⟩
  rw [List.take_succ_eq_append_getElem hj] at h
  rcases List.mem_append.mp h with h | h
  · exact Nat.lt_trans (hb a h) h1
  · rw [List.mem_singleton.mp h]
    exact h1

theorem cut_before (hp : l.Pairwise fun a b => r a < r b) (hj : j < l.length) (h1 : t < r l[j])
    (gap : ∀ x ∈ l, r x < r l[j] → r x < t) :
    (∀ a ∈ l.take j, r a < t) ∧ (∀ b ∈ l.drop j, t < r b) := by
  obtain ⟨hb, ha⟩ := sorted_around hp hj
  refine ⟨fun a h => gap a (List.mem_of_mem_take h) (hb a h), fun b h => ?_⟩
  rw [List.drop_eq_getElem_cons hj] at h
  rcases List.mem_cons.mp h with rfl | h
  · exact h1
  · exact Nat.lt_trans h1 (ha b h)

end Sorted

/-- where `section_insertion_index` puts a keyword that is not listed yet, in a list in standard order:
    everything before it is an earlier keyword, everything after it a later one -/
theorem insertion_index_spec {secs : List Str} {s : Str} (ho : Ordered secs) (hs : s ∈ sections) (hns : s ∉ secs) :
    (∀ a ∈ secs.take (sectionInsertionIndex secs s), rank a < rank s) ∧
    (∀ b ∈ secs.drop (sectionInsertionIndex secs s), rank s < rank b) := by
  have hne : ∀ b ∈ secs, rank b ≠ rank s := fun b hb h => hns (rank_inj (ho.2 b hb) hs h ▸ hb)
  unfold sectionInsertionIndex
  rw [findIdx_sections hs]
  cases hr : rank s with
  | zero =>
    exact ⟨fun a ha => by simp at ha, fun b hb => Nat.pos_of_ne_zero (hr ▸ hne b (List.mem_of_mem_drop hb))⟩
  | succ li' =>
    simp only
    cases hup : (sections.take (li' + 1)).reverse.findSome? (fun k => secs.findIdx? (· == k)) with
    | some j =>
      -- right after the nearest earlier keyword that is listed (`secs.findIdx? (· == k)` is `secs.idxOf? k`)
      simp only
      obtain ⟨k, _, hrk, hfk, hbetween⟩ := search_up hup
      obtain ⟨hj, rfl, _⟩ := List.idxOf?_eq_some_iff.mp hfk
      refine cut_after ho.1 hj hrk fun x hx h1 => ?_
      have h2 := hne x hx
      have h3 : ¬ rank x < li' + 1 := fun hlt => List.idxOf?_eq_none_iff.mp (hbetween x (ho.2 x hx) h1 hlt) hx
      omega
    | none =>
      simp only
      cases hdn : (sections.drop (li' + 1)).findSome? (fun k => secs.findIdx? (· == k)) with
      | some j =>
        -- no earlier keyword is listed: right before the first later one that is
        simp only
        obtain ⟨k, _, hrk, hfk, hbetween⟩ := search_down hdn
        obtain ⟨hj, rfl, _⟩ := List.idxOf?_eq_some_iff.mp hfk
        have h2 := hne _ (List.getElem_mem hj)
        refine cut_before ho.1 hj (by omega) fun x hx h1 => ?_
        have h3 : ¬ li' + 1 ≤ rank x := fun hge => List.idxOf?_eq_none_iff.mp (hbetween x (ho.2 x hx) hge h1) hx
        omega
      | none =>
        -- neither search finds anything: nothing is listed
        simp only
        refine ⟨fun a ha => ?_, fun b hb => by simp at hb⟩
        have ham := List.mem_of_mem_take ha
        by_cases hlt : rank a < li' + 1
        · exact absurd ham (List.idxOf?_eq_none_iff.mp (List.findSome?_eq_none_iff.mp hup a
            (List.mem_reverse.mpr ((mem_take_sections a _).mpr ⟨ho.2 a ham, hlt⟩))))
        · exact absurd ham (List.idxOf?_eq_none_iff.mp (List.findSome?_eq_none_iff.mp hdn a
            ((mem_drop_sections a _).mpr ⟨ho.2 a ham, by omega⟩)))

theorem ordered_insert {secs : List Str} {s : Str} (ho : Ordered secs) (hs : s ∈ sections) :
    Ordered (insertSectionL secs s) := by
  by_cases hns : s ∈ secs
  · rw [insertSectionL_of_mem hns]; exact ho
  · rw [insertSectionL_of_not_mem hns, listInsert]
    obtain ⟨hbefore, hafter⟩ := insertion_index_spec ho hs hns
    refine ⟨?_, ?_⟩
    · apply List.pairwise_append.mpr
      refine ⟨List.Pairwise.sublist (List.take_sublist _ _) ho.1, ?_, ?_⟩
      · exact List.pairwise_cons.mpr ⟨hafter, List.Pairwise.sublist (List.drop_sublist _ _) ho.1⟩
      · intro a ha b hb
        rcases List.mem_cons.mp hb with rfl | hb'
        · exact hbefore a ha
        · exact Nat.lt_trans (hbefore a ha) (hafter b hb')
    · intro k hk
      rcases List.mem_append.mp hk with h | h
      · exact ho.2 k (List.mem_of_mem_take h)
      · rcases List.mem_cons.mp h with rfl | h'
        · exact hs
        · exact ho.2 k (List.mem_of_mem_drop h')

theorem ordered_erase {secs : List Str} {s : Str} (ho : Ordered secs) : Ordered (secs.erase s) :=
  ⟨List.Pairwise.sublist (List.erase_sublist) ho.1, fun k hk => ho.2 k (List.mem_of_mem_erase hk)⟩

theorem ordered_nodup {secs : List Str} (ho : Ordered secs) : secs.Nodup :=
  List.Pairwise.imp (fun {a b} (h : rank a < rank b) => fun hab => by rw [hab] at h; exact Nat.lt_irrefl _ h) ho.1

theorem ordered_updateSectionsL {present secs : List Str} (hp : ∀ k ∈ present, k ∈ sections) (ho : Ordered secs) :
    Ordered (updateSectionsL present secs) := by
  simp only [updateSectionsL]
  refine List.foldlRecOn _ _ ?_ (fun _ h _ _ => ordered_erase h)
  exact List.foldlRecOn _ _ ho (fun _ h x hx => ordered_insert h (hp x (List.mem_filter.mp hx).1))

end Proofs.Convert
