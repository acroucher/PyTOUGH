/-
  C19: the nearest-neighbour searches.  `argminFirst` (`numpy.argmin`) returns the first index of the minimum;
  the linear scan `nearestIdx` computes the same index (`scanNearest_eq`), so it is the same function as `nearestFirst`.
-/
import PyTough.Proofs.Mapping
namespace Model.Mapping

/-- linear scan: `best` is the index of the best point so far, `bd` its squared distance;
    a later point replaces it only when STRICTLY nearer (so the first minimum wins) -/
def scanNearest (p : Rat × Rat) : List (Rat × Rat) → Nat → Nat → Rat → Nat
  | [], _, best, _ => best
  | x :: xs, i, best, bd =>
    if sqDist x p < bd then scanNearest p xs (i + 1) i (sqDist x p)
    else scanNearest p xs (i + 1) best bd

/-- a concrete nearest-neighbour search: one left-to-right pass over the squared distances
    (exact rationals); index 0 for an empty point set -/
def nearestIdx (pts : List (Rat × Rat)) (p : Rat × Rat) : Nat :=
  match pts with
  | [] => 0
  | x :: xs => scanNearest p xs 1 0 (sqDist x p)

end Model.Mapping

namespace Proofs.Mapping
open Py Model.Mapping

theorem argminFirst_some (xs : List Rat) (h : xs ≠ []) : ∃ i, argminFirst xs = some i := by
  cases xs with
  | nil => exact absurd rfl h
  | cons x xs =>
    unfold argminFirst
    split
    · exact ⟨0, rfl⟩
    · split <;> exact ⟨_, rfl⟩

/-- `numpy.argmin` returns the FIRST index of the minimum: everything before it is strictly larger -/
theorem argminFirst_first (xs : List Rat) (i : Nat) (h : argminFirst xs = some i) :
    ∃ v, xs[i]? = some v ∧ (∀ x ∈ xs, v ≤ x) ∧ ∀ j w, j < i → xs[j]? = some w → v < w := by
  induction xs generalizing i with
  | nil => simp [argminFirst] at h
  | cons x xs ih =>
    cases hr : argminFirst xs with
    | none =>
      cases xs with
      | nil =>
        simp only [argminFirst] at h
        cases h
        refine ⟨x, by simp, ?_, ?_⟩
        · intro y hy; simp at hy; subst hy; exact Rat.le_refl
        · intro j w hj; omega
      | cons y ys =>
        obtain ⟨k, hk⟩ := argminFirst_some (y :: ys) (List.cons_ne_nil _ _)
        rw [hk] at hr; cases hr
    | some k =>
      obtain ⟨v, h2, h3, h4⟩ := ih k hr
      have hgd : xs.getD k 0 = v := by simp [List.getD, h2]
      simp only [argminFirst, hr, hgd] at h
      by_cases hle : x ≤ v
      · rw [if_pos hle] at h; cases h
        refine ⟨x, by simp, ?_, ?_⟩
        · intro z hz
          rcases List.mem_cons.mp hz with rfl | hz
          · exact Rat.le_refl
          · exact Rat.le_trans hle (h3 z hz)
        · intro j w hj; omega
      · rw [if_neg hle] at h; cases h
        have hlt : v < x := Rat.not_le.mp hle
        refine ⟨v, by simpa using h2, ?_, ?_⟩
        · intro z hz
          rcases List.mem_cons.mp hz with rfl | hz
          · exact Rat.le_of_lt hlt
          · exact h3 z hz
        · intro j w hj hw
          cases j with
          | zero => simp at hw; subst hw; exact hlt
          | succ j => exact h4 j w (by omega) (by simpa using hw)

/-- the same for the minimum of `f` over a list: the index found is that of an element `y`, none has a smaller
    value of `f`, every earlier one a strictly larger -/
theorem argminFirst_map {α : Type} (f : α → Rat) (xs : List α) (hne : xs ≠ []) :
    ∃ i y, argminFirst (xs.map f) = some i ∧ xs[i]? = some y ∧ (∀ x ∈ xs, f y ≤ f x) ∧
      ∀ (j : Nat) (w : α), j < i → xs[j]? = some w → f y < f w := by
  obtain ⟨i, hi⟩ := argminFirst_some (xs.map f) (by simpa using hne)
  obtain ⟨v, hv, hmin, hfirst⟩ := argminFirst_first _ i hi
  rw [List.getElem?_map] at hv
  cases hy : xs[i]? with
  | none => rw [hy] at hv; cases hv
  | some y =>
    rw [hy] at hv
    cases hv
    exact ⟨i, y, hi, hy, fun x hx => hmin _ (List.mem_map.mpr ⟨x, hx, rfl⟩),
      fun j w hj hw => hfirst j _ hj (by rw [List.getElem?_map, hw]; rfl)⟩

/-- the scan, started with best index `best` at distance `bd`, stays at `best` unless the rest of the list has a
    strictly nearer point, and then ends at the first minimum of the rest -/
theorem scanNearest_eq (p : Rat × Rat) (xs : List (Rat × Rat)) (i best : Nat) (bd : Rat) :
    scanNearest p xs i best bd =
      match argminFirst (xs.map fun x => sqDist x p) with
      | none => best
      | some j => if bd ≤ (xs.map fun x => sqDist x p).getD j 0 then best else i + j := by
  induction xs generalizing i best bd with
  | nil => rfl
  | cons x xs ih =>
    simp only [scanNearest, List.map_cons, argminFirst, ih]
    generalize xs.map (fun x => sqDist x p) = ds
    cases argminFirst ds with
    | none =>
      by_cases h : sqDist x p < bd
      · simp only [if_pos h, List.getD_cons_zero, if_neg (Rat.not_le.mpr h), Nat.add_zero]
      · simp only [if_neg h, List.getD_cons_zero, if_pos (Rat.not_lt.mp h)]
    | some j =>
      simp only
      generalize hm' : ds.getD j 0 = m
      -- does `x` replace `best` (`h`), and is `x` the first minimum of `x :: xs` (`hm`; `m` is the minimum of the rest)?
      by_cases h : sqDist x p < bd
      · by_cases hm : sqDist x p ≤ m
        · simp only [if_pos h, if_pos hm, List.getD_cons_zero, if_neg (Rat.not_le.mpr h), Nat.add_zero]
        · simp only [if_pos h, if_neg hm, List.getD_cons_succ, hm',
            if_neg (Rat.not_le.mpr (Std.lt_trans (Rat.not_le.mp hm) h)), Nat.add_assoc, Nat.add_comm 1 j]
      · have hb := Rat.not_lt.mp h
        by_cases hm : sqDist x p ≤ m
        · simp only [if_neg h, if_pos hm, List.getD_cons_zero, if_pos hb, if_pos (Rat.le_trans hb hm)]
        · simp only [if_neg h, if_neg hm, List.getD_cons_succ, hm', Nat.add_assoc, Nat.add_comm 1 j]

theorem nearestIdx_eq_nearestFirst : nearestIdx = nearestFirst := by
  funext pts p
  cases pts with
  | nil => rfl
  | cons x xs =>
    simp only [nearestIdx, nearestFirst, scanNearest_eq, List.map_cons, argminFirst]
    cases argminFirst (xs.map fun x => sqDist x p) with
    | none => rfl
    | some j =>
      simp only
      by_cases h : sqDist x p ≤ (xs.map fun x => sqDist x p).getD j 0
      · rw [if_pos h, if_pos h]; rfl
      · rw [if_neg h, if_neg h, Nat.add_comm]; rfl

end Proofs.Mapping
