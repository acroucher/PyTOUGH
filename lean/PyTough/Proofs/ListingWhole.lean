/-
  The table-reading loops of the whole-file reader (Model/ListingFile.lean) over the lines of one printed table:
  one row per printed data line, the row reader applied to that line, the file left just behind the table.
  This file: the vocabulary (table body, row updates, the tables after the entries of a result block) and the TOUGH2
  family (read_table_TOUGH2, which TOUGH2, TOUGH2_MP, TOUGH3, TOUGHREACT and TOUGH+ are all bound to).  Core Lean only.
-/
import PyTough.Proofs.Listing
import PyTough.Proofs.ListingWholeRun
import PyTough.Proofs.Literals
namespace Proofs.Whole
open Py Model Model.Listing Proofs.Listing

/-- the lines of a table body: each printed data line followed by the lines skipped after it (blank lines, repeated
    headers, unit lines) -/
def flat : List (Str × List Str) → List Str
  | [] => []
  | sg :: r => sg.1 :: (sg.2 ++ flat r)

theorem flat_length (segs : List (Str × List Str)) :
    (flat segs).length = segs.length + (segs.map (·.2.length)).sum := by
  induction segs with
  | nil => rfl
  | cons sg r ih => simp only [flat, List.length_cons, List.length_append, ih, List.map_cons, List.sum_cons]; omega

/-- `self._data[i, :] = vals` for a list of (row, values), in file order -/
def applyRows (data : Array (Array FVal)) : List (Nat × List FVal) → Array (Array FVal)
  | [] => data
  | u :: r => applyRows (data.set! u.1 u.2.toArray) r

theorem applyRows_size (data : Array (Array FVal)) (ups : List (Nat × List FVal)) :
    (applyRows data ups).size = data.size := by
  induction ups generalizing data with
  | nil => rfl
  | cons u r ih => simp only [applyRows, ih, Array.set!_eq_setIfInBounds, Array.size_setIfInBounds]

theorem applyRows_untouched (data : Array (Array FVal)) (ups : List (Nat × List FVal)) (i : Nat)
    (h : ∀ u ∈ ups, u.1 ≠ i) : (applyRows data ups)[i]? = data[i]? := by
  induction ups generalizing data with
  | nil => rfl
  | cons u r ih =>
    simp only [applyRows]
    rw [ih _ (fun x hx => h x (List.mem_cons_of_mem _ hx))]
    have := h u List.mem_cons_self
    simp only [Array.set!_eq_setIfInBounds]
    rw [Array.getElem?_setIfInBounds_ne this]

theorem applyRows_last (data : Array (Array FVal)) (pre post : List (Nat × List FVal)) (i : Nat) (v : List FVal)
    (hi : i < data.size) (h : ∀ u ∈ post, u.1 ≠ i) :
    (applyRows data (pre ++ (i, v) :: post))[i]? = some v.toArray := by
  induction pre generalizing data with
  | nil =>
    simp only [List.nil_append, applyRows]
    rw [applyRows_untouched _ _ _ h]
    simp only [Array.set!_eq_setIfInBounds]
    rw [Array.getElem?_setIfInBounds_self_of_lt hi]
  | cons u r ih =>
    simp only [List.cons_append, applyRows]
    exact ih _ (by simpa using hi)

theorem applyRows_line {α : Type} (f : α → Option (Nat × List FVal)) (L : List α) (data : Array (Array FVal))
    (j : Nat) (d : α) (i : Nat) (vals : List FVal) (hj : L[j]? = some d) (hf : f d = some (i, vals)) (hi : i < data.size)
    (hlater : ∀ j' d', j < j' → L[j']? = some d' → ∀ v', f d' ≠ some (i, v')) :
    (applyRows data (L.filterMap f))[i]? = some vals.toArray := by
  obtain ⟨hjl, rfl⟩ := List.getElem?_eq_some_iff.mp hj
  have hsplit : L = L.take j ++ L[j] :: L.drop (j + 1) := by simp
  rw [hsplit, List.filterMap_append, List.filterMap_cons, hf]
  refine applyRows_last _ _ _ _ _ hi fun u hu hui => ?_
  obtain ⟨d', hd', hfd'⟩ := List.mem_filterMap.mp hu
  obtain ⟨k, hk⟩ := List.mem_iff_getElem?.mp hd'
  rw [List.getElem?_drop] at hk
  exact hlater (j + 1 + k) d' (by omega) hk u.2 (by rw [hfd', ← hui])

theorem applyRows_no_line {α : Type} (f : α → Option (Nat × List FVal)) (L : List α) (data : Array (Array FVal)) (i : Nat)
    (h : ∀ d ∈ L, ∀ v, f d ≠ some (i, v)) : (applyRows data (L.filterMap f))[i]? = data[i]? := by
  apply applyRows_untouched
  intro u hu hui
  obtain ⟨d, hd, hfd⟩ := List.mem_filterMap.mp hu
  apply h d hd u.2
  rw [hfd, ← hui]

/-- what one printed data line contributes: the row its key addresses (`table[key] = …`) and the values
    `read_table_line_TOUGH2` cuts out of it; `none` when the real code would raise on this line -/
def rowOfLineT (rows : Array Key) (kp : List Int) (nc : Nat) (np : List (Option Int)) (d : Str) : Option (Nat × List FVal) :=
  match keyFromLine d kp, readTableLineTOUGH2 d nc np with
  | .ok key, .ok vals =>
    match lastIdx rows key with
    | some i => if vals.length = nc then some (i, vals) else none
    | none => none
  | _, _ => none

theorem rowOfLineT_spec (rows : Array Key) (kp : List Int) (nc : Nat) (np : List (Option Int)) (d : Str) (i : Nat) (vals : List FVal) :
    rowOfLineT rows kp nc np d = some (i, vals) ↔
      ∃ key, keyFromLine d kp = .ok key ∧ lastIdx rows key = some i ∧ readTableLineTOUGH2 d nc np = .ok vals ∧ vals.length = nc := by
  unfold rowOfLineT
  constructor
  · intro h
    split at h
    · rename_i key v hk hv
      split at h
      · rename_i i' hi
        split at h
        · rename_i hl
          cases h
          exact ⟨key, hk, hi, hv, hl⟩
        · cases h
      · cases h
    · cases h
  · intro ⟨key, hk, hi, hv, hl⟩
    rw [hk, hv]
    simp only [hi, hl, if_true]

theorem setRowAt_ok (t : Table) (i : Nat) (vals : List FVal) (hi : i < t.rows.size) (hl : vals.length = t.cols.length) :
    t.setRowAt i vals = .ok { t with data := t.data.set! i vals.toArray } := by
  unfold Table.setRowAt
  simp only
  rw [if_neg (by omega), if_pos hl]

/-- the row updates of a table body, in file order -/
def upsT (t : Table) (segs : List (Str × List Str)) : List (Nat × List FVal) :=
  (segs.map (·.1)).filterMap (rowOfLineT t.rows t.keyPos t.cols.length t.numpos)

theorem upsT_row (t : Table) (segs : List (Str × List Str)) (hdata : t.data.size = t.rows.size)
    (j : Nat) (d : Str) (i : Nat) (vals : List FVal) (hj : (segs.map (·.1))[j]? = some d)
    (hf : rowOfLineT t.rows t.keyPos t.cols.length t.numpos d = some (i, vals))
    (hlater : ∀ (j' : Nat) d', j < j' → (segs.map (·.1))[j']? = some d' →
      ∀ v', rowOfLineT t.rows t.keyPos t.cols.length t.numpos d' ≠ some (i, v')) :
    (applyRows t.data (upsT t segs))[i]? = some vals.toArray := by
  obtain ⟨key, _, hli, _, _⟩ := (rowOfLineT_spec _ _ _ _ _ _ _).mp hf
  exact applyRows_line _ _ t.data j d i vals hj hf (by rw [hdata]; exact (lastIdx_spec hli).1) hlater

theorem readRowsL_body (kp : List Int) (np : List (Option Int)) (segs : List (Str × List Str)) (after : List Str)
    (t : Table) (hok : ∀ sg ∈ segs, (rowOfLineT t.rows kp t.cols.length np sg.1).isSome = true) :
    readRowsL kp t.cols.length np (segs.map (·.2.length)) (flat segs ++ after) t
      = .ok ({ t with data := applyRows t.data ((segs.map (·.1)).filterMap (rowOfLineT t.rows kp t.cols.length np)) }, after) := by
  induction segs generalizing t with
  | nil => rfl
  | cons sg r ih =>
    obtain ⟨⟨i, vals⟩, hu⟩ := Option.isSome_iff_exists.mp (hok sg List.mem_cons_self)
    obtain ⟨key, hk, hi, hv, hlen⟩ := (rowOfLineT_spec _ _ _ _ _ _ _).mp hu
    have hset : t.setRow key vals = .ok { t with data := t.data.set! i vals.toArray } := by
      unfold Table.setRow
      rw [hi]
      exact setRowAt_ok t i vals (lastIdx_spec hi).1 hlen
    -- one turn of `readRowsL`: key and values (`hk`, `hv`), `set_row` (`hset`), the skipped lines dropped
    simp only [List.map_cons, flat, List.cons_append, List.append_assoc, readRowsL, List.headD_cons, hk, hv, hset,
      List.filterMap_cons, hu, applyRows, List.drop_succ_cons, List.drop_zero, List.drop_left]
    exact ih { t with data := t.data.set! i vals.toArray } (fun x hx => hok x (List.mem_cons_of_mem _ hx))

/-- the lines `readRowsL` reads as data lines, one per entry of `skips` (`[]` once the file has ended) -/
def rowLines : List Nat → List Str → List Str
  | [], _ => []
  | skip :: more, rest => rest.headD [] :: rowLines more ((rest.drop 1).drop skip)

/-- what `self._data[i, :] = vals` stores: a single value fills the row -/
def stored (nc : Nat) (vals : List FVal) : List FVal :=
  if vals.length = nc then vals else List.replicate nc (vals.headD zero)

theorem setRow_inv (t t' : Table) (key : Key) (vals : List FVal) (h : t.setRow key vals = .ok t') :
    ∃ i, lastIdx t.rows key = some i ∧ (vals.length = t.cols.length ∨ vals.length = 1) ∧
      t' = { t with data := t.data.set! i (stored t.cols.length vals).toArray } := by
  unfold Table.setRow at h
  split at h
  · cases h
  rename_i i hi
  unfold Table.setRowAt at h
  split at h
  · cases h
  dsimp only at h
  split at h
  · rename_i hl
    cases h
    exact ⟨i, hi, .inl hl, by rw [stored, if_pos hl]⟩
  rename_i hl
  split at h
  · rename_i h1
    cases h
    exact ⟨i, hi, .inr h1, by rw [stored, if_neg hl, List.toArray_replicate]⟩
  · cases h

/-- `rowOfLineT` without its demand that the line gives one value per column -/
def rowUpd (rows : Array Key) (kp : List Int) (nc : Nat) (np : List (Option Int)) (ncols : Nat) (line : Str) : Option (Nat × List FVal) :=
  match keyFromLine line kp, readTableLineTOUGH2 line nc np with
  | .ok key, .ok vals =>
    match lastIdx rows key with
    | some i => if vals.length = ncols ∨ vals.length = 1 then some (i, stored ncols vals) else none
    | none => none
  | _, _ => none

theorem rowUpd_some {rows : Array Key} {kp : List Int} {nc : Nat} {np : List (Option Int)} {ncols : Nat} {line : Str} {i : Nat}
    {v : List FVal} (h : rowUpd rows kp nc np ncols line = some (i, v)) :
    ∃ key vals, keyFromLine line kp = .ok key ∧ readTableLineTOUGH2 line nc np = .ok vals ∧ lastIdx rows key = some i ∧
      (vals.length = ncols ∨ vals.length = 1) ∧ v = stored ncols vals := by
  unfold rowUpd at h
  split at h
  · rename_i key vals hk hv
    split at h
    · rename_i i' hi
      split at h
      · rename_i hl
        cases h
        exact ⟨key, vals, hk, hv, hi, hl, rfl⟩
      · cases h
    · cases h
  · cases h

theorem readRowsL_inv (kp : List Int) (nc : Nat) (np : List (Option Int)) (skips : List Nat) (rest : List Str) (t t' : Table)
    (rest' : List Str) (h : readRowsL kp nc np skips rest t = .ok (t', rest')) :
    t' = { t with data := applyRows t.data ((rowLines skips rest).filterMap (rowUpd t.rows kp nc np t.cols.length)) } ∧
      (∀ line ∈ rowLines skips rest, (rowUpd t.rows kp nc np t.cols.length line).isSome = true) ∧
      rest' = rest.drop (skips.length + skips.sum) := by
  induction skips generalizing rest t with
  | nil =>
    simp only [readRowsL] at h
    cases h
    exact ⟨rfl, nofun, rfl⟩
  | cons skip more ih =>
    unfold readRowsL at h
    ok_inv h
    rename_i _ key hkey _ vals hvals _ t1 hset
    obtain ⟨i, hi, hlen, rfl⟩ := setRow_inv _ _ _ _ hset
    obtain ⟨ht', hall, hrest'⟩ := ih _ _ h
    have hu : rowUpd t.rows kp nc np t.cols.length (rest.headD []) = some (i, stored t.cols.length vals) := by
      simp only [rowUpd, hkey, hvals, hi, if_pos hlen]
    refine ⟨?_, fun line hl => ?_, ?_⟩
    · rw [ht', rowLines, List.filterMap_cons, hu]
      rfl
    · rcases List.mem_cons.mp hl with rfl | hl
      · rw [hu]; rfl
      · exact hall line hl
    · rw [hrest', List.drop_drop, List.drop_drop]
      congr 1
      simp only [List.length_cons, List.sum_cons]; omega

theorem readTableTOUGH2_run (tn : String) (t : Table) (s : Rd) (header : List Str) (segs : List (Str × List Str))
    (after : List Str)
    (ht : s.tables.lookup tn = some t)
    (hrest : s.pos.rest = header ++ (flat segs ++ after))
    (hh : header.length = t.headerSkip) (hsk : segs.map (·.2.length) = t.skips)
    (hok : ∀ sg ∈ segs, (rowOfLineT t.rows t.keyPos t.cols.length t.numpos sg.1).isSome = true) :
    readTableTOUGH2 tn s = .ok ((),
      { s with pos := ⟨s.pos.no + (header.length + (flat segs).length), after⟩,
               tables := upsert (·.1) s.tables (tn, { t with data := applyRows t.data (upsT t segs) }) }) := by
  unfold readTableTOUGH2
  rw [bind_ok (getTable_ok tn t s ht), bind_ok (skiplines_run _ s), get_bind]
  have hdrop : s.pos.rest.drop t.headerSkip = flat segs ++ after := by
    rw [hrest, ← hh]; simp
  have hbody := readRowsL_body t.keyPos t.numpos segs after t hok
  rw [hsk] at hbody
  simp only [hdrop, hbody]
  rw [bind_ok (set_run _ _), putTable_run]
  unfold upsT
  congr 3
  simp only [hrest, List.length_append]
  congr 1
  omega

/-- `hrows` (as many rows as printed data lines) says that no row is printed twice; then skipping leaves the file
    exactly where reading the table leaves it. -/
theorem skipTableTOUGH2_run (tn : String) (t : Table) (s : Rd) (header : List Str) (segs : List (Str × List Str))
    (after : List Str)
    (ht : s.tables.lookup tn = some t)
    (hrest : s.pos.rest = header ++ (flat segs ++ after))
    (hh : header.length = t.headerSkip) (hsk : segs.map (·.2.length) = t.skips) (hrows : t.rows.size = segs.length) :
    skipTableTOUGH2 tn s = .ok ((), { s with pos := ⟨s.pos.no + (header.length + (flat segs).length), after⟩ }) := by
  unfold skipTableTOUGH2
  rw [get_bind]
  simp only [ht]
  rw [skiplines_run]
  have hn : t.headerSkip + t.rows.size + t.skips.sum = header.length + (flat segs).length := by
    rw [flat_length, hrows, ← hsk, hh]; omega
  rw [hn, hrest]
  have hd : List.drop (header.length + (flat segs).length) (header ++ (flat segs ++ after)) = after := by
    rw [← List.append_assoc, List.drop_left' (by simp)]
  have hm : min (header.length + (flat segs).length) (header ++ (flat segs ++ after)).length
      = header.length + (flat segs).length := by
    simp only [List.length_append]; omega
  rw [hd, hm]

/-! The tables after the entries of a result block: every entry has a table name and either stores a table under that
  name or leaves the tables alone. -/

section Block
variable {α : Type} (tn : α → String) (upd : α → Option Table)

def stepPut (x : α) (T : List (String × Table)) : List (String × Table) :=
  match upd x with
  | some t => upsert (·.1) T (tn x, t)
  | none => T

variable {tn upd}

theorem stepPut_lookup (x : α) (T : List (String × Table)) (m : String) :
    (stepPut tn upd x T).lookup m = if m = tn x then (upd x).or (T.lookup m) else T.lookup m := by
  unfold stepPut
  cases upd x with
  | some t =>
    rw [lookup_upsert]
    split
    · rfl
    · rfl
  | none => simp

/-- the entries behind `x` have other names, so what holds of them by their own tables (`hcongr`) still holds when the
    table of `x` has been stored -/
theorem stepPut_keeps (Ok : List (String × Table) → α → Prop)
    (hcongr : ∀ T T' y, T'.lookup (tn y) = T.lookup (tn y) → Ok T y → Ok T' y)
    (x : α) (more : List α) (T : List (String × Table)) (hnodup : ((x :: more).map tn).Nodup)
    (hok : ∀ y ∈ x :: more, Ok T y) : ∀ y ∈ more, Ok (stepPut tn upd x T) y := fun y hy =>
  hcongr T _ y (by rw [stepPut_lookup, if_neg fun e => (List.nodup_cons.mp hnodup).1 (List.mem_map.mpr ⟨y, hy, e⟩)])
    (hok y (List.mem_cons_of_mem _ hy))

theorem foldl_stepPut_not_read (L : List α) (T : List (String × Table)) (m : String)
    (h : ∀ x ∈ L, tn x = m → upd x = none) :
    (L.foldl (fun T x => stepPut tn upd x T) T).lookup m = T.lookup m := by
  induction L generalizing T with
  | nil => rfl
  | cons x r ih =>
    rw [List.foldl_cons, ih _ (fun y hy => h y (List.mem_cons_of_mem _ hy)), stepPut_lookup]
    split
    · rename_i hx; rw [h x List.mem_cons_self hx.symm]; rfl
    · rfl

theorem foldl_stepPut_read (L : List α) (T : List (String × Table)) (x : α) (t : Table)
    (hx : x ∈ L) (hk : upd x = some t) (hnodup : (L.map tn).Nodup) :
    (L.foldl (fun T x => stepPut tn upd x T) T).lookup (tn x) = some t := by
  induction L generalizing T with
  | nil => cases hx
  | cons y r ih =>
    rw [List.map_cons, List.nodup_cons] at hnodup
    rcases List.mem_cons.mp hx with rfl | hxr
    · rw [List.foldl_cons, foldl_stepPut_not_read r _ (tn x) (fun z hz e => absurd (List.mem_map.mpr ⟨z, hz, e⟩) hnodup.1),
        stepPut_lookup, if_pos rfl, hk]
      rfl
    · exact ih _ hxr hnodup.2

end Block

end Proofs.Whole
