/-
  Proofs for C04 (core Lean only): the shapes shared by the loops of `fromgeo` and of the name
  indices.  Every loop of the model runs a step that may fail over a list and collects what
  the steps yield (`flatMapE`; `oneE`, `optE` make such a step of one that yields one element, at most one); `add_block` and `add_connection` put an entry in place of the one
  with the same key, or at the end (`Proofs.upsert`, and `pushName` for the keys alone).
-/
import PyTough.Py.Str
import PyTough.Proofs.ListLemmas
namespace Proofs.FromGeo
open Py

def flatMapE {α β : Type} (f : α → Except Exc (List β)) (l : List α) : Except Exc (List β) :=
  (l.mapM f).map List.flatten

def oneE {β : Type} (r : Except Exc β) : Except Exc (List β) := r.map fun b => [b]

def optE {β : Type} (r : Except Exc (Option β)) : Except Exc (List β) := r.map Option.toList

theorem oneE_ok {β : Type} {r : Except Exc β} {bs : List β} (h : oneE r = .ok bs) : ∃ b, r = .ok b ∧ bs = [b] :=
  map_ok_iff.mp h

theorem optE_ok {β : Type} {r : Except Exc (Option β)} {bs : List β} (h : optE r = .ok bs) :
    ∃ o, r = .ok o ∧ bs = o.toList :=
  map_ok_iff.mp h

theorem oneE_rel {β γ δ : Type} {r : Except Exc β} {r' : Except Exc γ} {g : β → δ} {g' : γ → δ}
    (h : ∀ b, r = .ok b → ∃ b', r' = .ok b' ∧ g b = g' b') {bs : List β} (hbs : oneE r = .ok bs) :
    ∃ bs', oneE r' = .ok bs' ∧ bs.map g = bs'.map g' := by
  obtain ⟨b, hb, rfl⟩ := oneE_ok hbs
  obtain ⟨b', hb', e⟩ := h b hb
  exact ⟨[b'], by rw [hb']; rfl, by rw [List.map_singleton, List.map_singleton, e]⟩

theorem optE_rel {β γ δ : Type} {r : Except Exc (Option β)} {r' : Except Exc (Option γ)} {g : β → δ} {g' : γ → δ}
    (h : ∀ o, r = .ok o → ∃ o', r' = .ok o' ∧ o.map g = o'.map g') {bs : List β} (hbs : optE r = .ok bs) :
    ∃ bs', optE r' = .ok bs' ∧ bs.map g = bs'.map g' := by
  obtain ⟨o, ho, rfl⟩ := optE_ok hbs
  obtain ⟨o', ho', e⟩ := h o ho
  exact ⟨o'.toList, by rw [ho']; rfl, by rw [← Option.toList_map, ← Option.toList_map, e]⟩

section
variable {α β γ δ : Type} {f : α → Except Exc (List β)}

theorem flatMapE_ok {l : List α} {r : List β} :
    flatMapE f l = .ok r ↔ ∃ bss, All2 (fun a bs => f a = .ok bs) l bss ∧ r = bss.flatten := by
  unfold flatMapE
  simp only [map_ok_iff, mapM_ok_iff]

theorem flatMapE_cons (a : α) (l : List α) :
    flatMapE f (a :: l) = f a >>= fun bs => flatMapE f l >>= fun r => pure (bs ++ r) := by
  unfold flatMapE
  rw [List.mapM_cons]
  cases f a with
  | error e => rfl
  | ok bs => cases l.mapM f <;> rfl

theorem flatMapE_cons_ok {a : α} {l : List α} {r : List β} (h : flatMapE f (a :: l) = .ok r) :
    ∃ bs r', f a = .ok bs ∧ flatMapE f l = .ok r' ∧ r = bs ++ r' := by
  obtain ⟨_, hA, rfl⟩ := flatMapE_ok.1 h
  cases hA with
  | cons hbs ht => exact ⟨_, _, hbs, flatMapE_ok.2 ⟨_, ht, rfl⟩, rfl⟩

theorem flatMapE_cons_of_ok {a : α} {l : List α} {bs r : List β} (ha : f a = .ok bs) (hl : flatMapE f l = .ok r) :
    flatMapE f (a :: l) = .ok (bs ++ r) := by
  rw [flatMapE_cons, ha, hl]; rfl

theorem mem_flatMapE {l : List α} {r : List β} (h : flatMapE f l = .ok r) {b : β} :
    b ∈ r ↔ ∃ a ∈ l, ∃ bs, f a = .ok bs ∧ b ∈ bs := by
  obtain ⟨bss, hA, rfl⟩ := flatMapE_ok.1 h
  rw [List.mem_flatten]
  constructor
  · rintro ⟨bs, hbs, hb⟩
    obtain ⟨a, ha, e⟩ := hA.right bs hbs
    exact ⟨a, ha, bs, e, hb⟩
  · rintro ⟨a, ha, bs, e, hb⟩
    obtain ⟨bs', hbs', e'⟩ := hA.left a ha
    rw [e] at e'; cases e'
    exact ⟨bs, hbs', hb⟩

theorem mem_flatMapE_one {s : α → Except Exc β} {l : List α} {r : List β}
    (h : flatMapE (fun a => oneE (s a)) l = .ok r) {b : β} : b ∈ r ↔ ∃ a ∈ l, s a = .ok b := by
  rw [mem_flatMapE h]
  constructor
  · rintro ⟨a, ha, bs, hbs, hb⟩
    obtain ⟨b', hb', rfl⟩ := oneE_ok hbs
    exact ⟨a, ha, by rw [hb', List.mem_singleton.1 hb]⟩
  · rintro ⟨a, ha, hs⟩
    exact ⟨a, ha, [b], by rw [hs]; rfl, List.mem_singleton_self b⟩

theorem mem_flatMapE_opt {s : α → Except Exc (Option β)} {l : List α} {r : List β}
    (h : flatMapE (fun a => optE (s a)) l = .ok r) {b : β} : b ∈ r ↔ ∃ a ∈ l, s a = .ok (some b) := by
  rw [mem_flatMapE h]
  constructor
  · rintro ⟨a, ha, bs, hbs, hb⟩
    obtain ⟨o, ho, rfl⟩ := optE_ok hbs
    exact ⟨a, ha, by rw [ho, Option.mem_toList.1 hb]⟩
  · rintro ⟨a, ha, hs⟩
    exact ⟨a, ha, [b], by rw [hs]; rfl, List.mem_singleton_self b⟩

theorem flatMapE_one_map {s : α → Except Exc β} {g : β → δ} {h : α → δ} (hs : ∀ a b, s a = .ok b → g b = h a) :
    ∀ {l : List α} {r : List β}, flatMapE (fun a => oneE (s a)) l = .ok r → r.map g = l.map h
  | [], r, e => by cases e; rfl
  | a :: l, r, e => by
    obtain ⟨bs, r', hbs, hr', rfl⟩ := flatMapE_cons_ok e
    obtain ⟨b, hb, rfl⟩ := oneE_ok hbs
    simp [hs a b hb, flatMapE_one_map hs hr']

theorem flatMapE_map (f : α → Except Exc (List β)) (h : γ → α) (l : List γ) :
    flatMapE f (l.map h) = flatMapE (fun x => f (h x)) l := by
  unfold flatMapE
  rw [List.mapM_map]
  rfl

theorem flatMapE_one_length {s : α → Except Exc β} {l : List α} {r : List β}
    (h : flatMapE (fun a => oneE (s a)) l = .ok r) : r.length = l.length := by
  simpa using congrArg List.length (flatMapE_one_map (g := fun _ => ()) (h := fun _ => ()) (fun _ _ _ => rfl) h)

theorem flatMapE_ok_iff {l : List α} : (∃ r, flatMapE f l = .ok r) ↔ ∀ a ∈ l, ∃ bs, f a = .ok bs := by
  constructor
  · rintro ⟨r, h⟩ a ha
    obtain ⟨bss, hA, _⟩ := flatMapE_ok.1 h
    obtain ⟨bs, _, e⟩ := hA.left a ha
    exact ⟨bs, e⟩
  · intro h
    obtain ⟨bss, hm⟩ := mapM_ok_of_each h
    exact ⟨_, flatMapE_ok.2 ⟨bss, (mapM_ok_iff f l bss).mp hm, rfl⟩⟩

/-- a relation between lists that is compatible with concatenation lifts from the steps of two
    loops over the same list to what they collect -/
theorem flatMapE_lift {f' : α → Except Exc (List γ)} (R : List β → List γ → Prop) (h0 : R [] [])
    (happ : ∀ {a b c d}, R a b → R c d → R (a ++ c) (b ++ d))
    (hf : ∀ a bs, f a = .ok bs → ∃ bs', f' a = .ok bs' ∧ R bs bs') :
    ∀ {l : List α} {r : List β}, flatMapE f l = .ok r → ∃ r', flatMapE f' l = .ok r' ∧ R r r'
  | [], r, h => by cases h; exact ⟨[], rfl, h0⟩
  | a :: l, r, h => by
    obtain ⟨bs, r1, hbs, hr1, rfl⟩ := flatMapE_cons_ok h
    obtain ⟨bs', hbs', e⟩ := hf a bs hbs
    obtain ⟨r1', hr1', e1⟩ := flatMapE_lift R h0 happ hf hr1
    exact ⟨bs' ++ r1', flatMapE_cons_of_ok hbs' hr1', happ e e1⟩

/-- two loops over the same list whose steps yield lists with the same image (under `g`, `g'`)
    collect lists with the same image -/
theorem flatMapE_rel {f' : α → Except Exc (List γ)} {g : β → δ} {g' : γ → δ}
    (hf : ∀ a bs, f a = .ok bs → ∃ bs', f' a = .ok bs' ∧ bs.map g = bs'.map g')
    {l : List α} {r : List β} (h : flatMapE f l = .ok r) : ∃ r', flatMapE f' l = .ok r' ∧ r.map g = r'.map g' :=
  flatMapE_lift (fun bs bs' => bs.map g = bs'.map g') rfl
    (fun e e1 => by rw [List.map_append, List.map_append, e, e1]) hf h

theorem flatMapE_sublist {l : List α} {r : List β} (h : flatMapE f l = .ok r) {a : α} (ha : a ∈ l) {bs : List β}
    (hbs : f a = .ok bs) : bs.Sublist r := by
  obtain ⟨bss, hA, rfl⟩ := flatMapE_ok.1 h
  obtain ⟨bs', hbs', e⟩ := hA.left a ha
  rw [hbs] at e; cases e
  exact List.sublist_flatten_of_mem hbs'

/-- if everything collected is distinct, an element determines the element of `l` it was collected for -/
theorem flatMapE_inj {l : List α} {r : List β} (h : flatMapE f l = .ok r) (hnd : r.Nodup)
    {a a' : α} (ha : a ∈ l) (ha' : a' ∈ l) {bs bs' : List β} (hbs : f a = .ok bs) (hbs' : f a' = .ok bs')
    {b : β} (hb : b ∈ bs) (hb' : b ∈ bs') : a = a' := by
  induction l generalizing r with
  | nil => cases ha
  | cons x l ih =>
    obtain ⟨bx, r', hbx, hr', rfl⟩ := flatMapE_cons_ok h
    obtain ⟨_, hnd', hdis⟩ := List.nodup_append.1 hnd
    have tail : ∀ {y cs}, y ∈ l → f y = .ok cs → b ∈ cs → b ∈ r' := fun hy hcs hc =>
      (mem_flatMapE hr').2 ⟨_, hy, _, hcs, hc⟩
    rcases List.mem_cons.1 ha with rfl | h1 <;> rcases List.mem_cons.1 ha' with rfl | h2
    · rfl
    · rw [hbx] at hbs; cases hbs
      exact absurd rfl (hdis _ hb _ (tail h2 hbs' hb'))
    · rw [hbx] at hbs'; cases hbs'
      exact absurd rfl (hdis _ hb' _ (tail h1 hbs hb))
    · exact ih hr' hnd' h1 h2

/-- conversely, for one-element steps: if the elements of `l` are told apart by `k` and steps that yield the same
    element have equal `k`, the collected elements are distinct -/
theorem flatMapE_one_nodup {s : α → Except Exc β} {k : α → δ} : ∀ {l : List α} {r : List β},
    flatMapE (fun a => oneE (s a)) l = .ok r → (l.map k).Nodup →
    (∀ a ∈ l, ∀ a' ∈ l, ∀ b, s a = .ok b → s a' = .ok b → k a = k a') → r.Nodup
  | [], r, h, _, _ => by cases h; exact List.nodup_nil
  | x :: l, r, h, hk, hinj => by
    obtain ⟨bx, r', hbx, hr', rfl⟩ := flatMapE_cons_ok h
    obtain ⟨b, hb, rfl⟩ := oneE_ok hbx
    obtain ⟨hx, hk'⟩ := List.nodup_cons.1 hk
    refine List.nodup_cons.2 ⟨fun hm => ?_, flatMapE_one_nodup hr' hk' fun a ha a' ha' =>
      hinj a (List.mem_cons_of_mem _ ha) a' (List.mem_cons_of_mem _ ha')⟩
    obtain ⟨a', ha', hs'⟩ := (mem_flatMapE_one hr').1 hm
    exact hx (hinj x List.mem_cons_self a' (List.mem_cons_of_mem _ ha') b hb hs' ▸ List.mem_map_of_mem ha')

end

/-- `add_block` / `add_connection` on the level of names -/
def pushName {α} [DecidableEq α] (acc : List α) (p : α) : List α := if p ∈ acc then acc else acc ++ [p]
def pushNames {α} [DecidableEq α] (acc : List α) (ps : List α) : List α := ps.foldl pushName acc
theorem pushNames_nil {α} [DecidableEq α] (acc : List α) : pushNames acc [] = acc := rfl
theorem pushNames_cons {α} [DecidableEq α] (acc : List α) (p : α) (ps : List α) :
    pushNames acc (p :: ps) = pushNames (pushName acc p) ps := rfl
theorem pushNames_append {α} [DecidableEq α] (acc ps qs : List α) :
    pushNames acc (ps ++ qs) = pushNames (pushNames acc ps) qs := by
  simp [pushNames, List.foldl_append]

theorem pushNames_nodup {α} [DecidableEq α] (acc ps : List α) (h : (acc ++ ps).Nodup) :
    pushNames acc ps = acc ++ ps := by
  induction ps generalizing acc with
  | nil => simp [pushNames]
  | cons p ps ih =>
    have hp : p ∉ acc := fun hm => (List.nodup_append.1 h).2.2 p hm p List.mem_cons_self rfl
    rw [pushNames_cons, pushName, if_neg hp, ih _ (by simpa using h)]
    simp

theorem foldl_upsert_keys {γ κ : Type} [DecidableEq κ] {key : γ → κ} : ∀ (cs acc : List γ),
    (cs.foldl (upsert key) acc).map key = pushNames (acc.map key) (cs.map key)
  | [], _ => rfl
  | c :: cs, acc => by rw [List.foldl_cons, foldl_upsert_keys cs, keys_upsert]; rfl

/-- what an `add_*` loop returns: the entries its steps yield, upserted in order into `acc` -/
def loopE {α γ κ : Type} [DecidableEq κ] (key : γ → κ) (f : α → Except Exc (List γ)) (acc : List γ)
    (l : List α) : Except Exc (List γ) :=
  (flatMapE f l).map fun r => r.foldl (upsert key) acc

section
variable {α γ δ κ : Type} [DecidableEq κ] {key : γ → κ} {f : α → Except Exc (List γ)} {acc acc' : List γ} {l : List α}

theorem loopE_ok (h : loopE key f acc l = .ok acc') : ∃ r, flatMapE f l = .ok r ∧ acc' = r.foldl (upsert key) acc :=
  map_ok_iff.mp h

theorem loopE_mem (h : loopE key f acc l = .ok acc') {x : γ} (hx : x ∈ acc') :
    x ∈ acc ∨ ∃ a ∈ l, ∃ bs, f a = .ok bs ∧ x ∈ bs := by
  obtain ⟨r, hr, rfl⟩ := loopE_ok h
  exact (mem_foldl_upsert hx).imp_right (mem_flatMapE hr).1

theorem loopE_of_steps (h : ∀ a ∈ l, ∃ bs, f a = .ok bs) : ∃ acc', loopE key f acc l = .ok acc' := by
  obtain ⟨r, hr⟩ := flatMapE_ok_iff.2 h
  exact ⟨r.foldl (upsert key) acc, by rw [loopE, hr]; rfl⟩

/-- the keys of what the loop has built, when a loop `f'` on the level of keys mirrors its steps:
    the keys `f'` collects, pushed in order -/
theorem loopE_keys {f' : α → Except Exc (List δ)} {g' : δ → κ} (h : loopE key f acc l = .ok acc')
    (hf : ∀ a bs, f a = .ok bs → ∃ bs', f' a = .ok bs' ∧ bs.map key = bs'.map g') :
    ∃ r', flatMapE f' l = .ok r' ∧ acc'.map key = pushNames (acc.map key) (r'.map g') := by
  obtain ⟨r, hr, rfl⟩ := loopE_ok h
  obtain ⟨r', hr', e⟩ := flatMapE_rel hf hr
  exact ⟨r', hr', by rw [foldl_upsert_keys, e]⟩

end

end Proofs.FromGeo
