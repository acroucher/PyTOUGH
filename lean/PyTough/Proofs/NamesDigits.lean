/-
  `int_to_chars` as a numeration system (C17): recursion equations independent of the fuel,
  a left inverse, membership of the characters, and the exact length
  (hence the capacity of a name of given length).
-/
import PyTough.Model.Names
namespace Proofs.Names
open Py Model.Names

/-- the digits produced for `i` (most significant first) -/
def D (chars : Str) (spaces : Bool) (i : Nat) : Str := itcAux chars spaces i i []

/-- `char_index` -/
def ci (spaces : Bool) (i : Nat) : Nat := if spaces then i - 1 else i

/-- the recursion makes progress: always with spaces; with at least two characters otherwise -/
def StepOK (chars : Str) (spaces : Bool) : Prop := spaces = true ∨ 2 ≤ chars.length

theorem ci_div_lt {chars : Str} {spaces : Bool} (h : StepOK chars spaces) {i : Nat} (hi : 0 < i) :
    ci spaces i / chars.length < i := by
  unfold ci
  cases spaces with
  | true =>
    simp only [if_true]
    exact Nat.lt_of_le_of_lt (Nat.div_le_self _ _) (by omega)
  | false =>
    simp only [Bool.false_eq_true, if_false]
    rcases h with h | h
    · cases h
    · exact Nat.div_lt_self hi (by omega)

theorem itcAux_succ (chars : Str) (spaces : Bool) (fuel i : Nat) (st : Str) (hi : i ≠ 0) :
    itcAux chars spaces (fuel + 1) i st =
      itcAux chars spaces fuel (ci spaces i / chars.length) (charAt chars (ci spaces i % chars.length) :: st) := by
  simp [itcAux, hi, ci]

theorem itcAux_zero (chars : Str) (spaces : Bool) (fuel : Nat) (st : Str) :
    itcAux chars spaces fuel 0 st = st := by
  cases fuel <;> simp [itcAux]

theorem itcAux_eq {chars : Str} {spaces : Bool} (h : StepOK chars spaces) :
    ∀ (i fuel : Nat) (st : Str), i ≤ fuel → itcAux chars spaces fuel i st = D chars spaces i ++ st := by
  intro i
  induction i using Nat.strongRecOn with
  | _ i ih =>
    intro fuel st hf
    by_cases hi : i = 0
    · subst hi; simp [itcAux_zero, D]
    · obtain ⟨f, rfl⟩ : ∃ f, fuel = f + 1 := ⟨fuel - 1, by omega⟩
      obtain ⟨i', rfl⟩ : ∃ i', i = i' + 1 := ⟨i - 1, by omega⟩
      have hlt := ci_div_lt h (Nat.succ_pos i')
      unfold D
      rw [itcAux_succ _ _ _ _ _ hi, itcAux_succ _ _ _ _ _ hi,
        ih _ hlt f _ (by omega), ih _ hlt i' _ (by omega)]
      simp

theorem D_zero (chars : Str) (spaces : Bool) : D chars spaces 0 = [] := rfl

theorem D_pos {chars : Str} {spaces : Bool} (h : StepOK chars spaces) {i : Nat} (hi : 0 < i) :
    D chars spaces i = D chars spaces (ci spaces i / chars.length) ++ [charAt chars (ci spaces i % chars.length)] := by
  obtain ⟨i', rfl⟩ : ∃ i', i = i' + 1 := ⟨i - 1, by omega⟩
  have hlt := ci_div_lt h (Nat.succ_pos i')
  conv => lhs; unfold D
  rw [itcAux_succ _ _ _ _ _ (by omega), itcAux_eq h _ i' _ (Nat.lt_succ_iff.mp hlt)]

theorem D_eq_nil_iff {chars : Str} {spaces : Bool} (h : StepOK chars spaces) {i : Nat} :
    D chars spaces i = [] ↔ i = 0 := by
  constructor
  · intro e
    by_cases hi : i = 0
    · exact hi
    · rw [D_pos h (by omega)] at e; simp at e
  · rintro rfl; rfl

theorem charAt_eq {chars : Str} {k : Nat} (hk : k < chars.length) : charAt chars k = chars[k] :=
  (List.getElem_eq_getD ' ').symm

theorem mem_D {chars : Str} {spaces : Bool} (h : StepOK chars spaces) (hpos : 0 < chars.length) :
    ∀ (i : Nat) (c : Char), c ∈ D chars spaces i → c ∈ chars := by
  intro i
  induction i using Nat.strongRecOn with
  | _ i ih =>
    intro c hc
    by_cases hi : i = 0
    · subst hi; simp [D_zero] at hc
    · have hi' : 0 < i := by omega
      rw [D_pos h hi'] at hc
      rcases List.mem_append.mp hc with hc | hc
      · exact ih _ (ci_div_lt h hi') c hc
      · simp only [List.mem_singleton] at hc
        subst hc; rw [charAt_eq (Nat.mod_lt _ hpos)]; exact List.getElem_mem _

/-- value of a digit string; `o = 1` for the bijective numeration (spaces), `0` for the positional one -/
def val (chars : Str) (o : Nat) (s : Str) : Nat :=
  s.foldl (fun a c => a * chars.length + chars.idxOf c + o) 0

/-- the `o` of `val` for the mode -/
def off (spaces : Bool) : Nat := if spaces then 1 else 0

theorem val_append_singleton (chars : Str) (o : Nat) (s : Str) (c : Char) :
    val chars o (s ++ [c]) = val chars o s * chars.length + chars.idxOf c + o := by
  simp [val, List.foldl_append]

theorem val_D {chars : Str} {spaces : Bool} (h : StepOK chars spaces) (hn : chars.Nodup) (hpos : 0 < chars.length) :
    ∀ i, val chars (off spaces) (D chars spaces i) = i := by
  intro i
  induction i using Nat.strongRecOn with
  | _ i ih =>
    by_cases hi : i = 0
    · subst hi; simp [D_zero, val]
    · have hi' : 0 < i := by omega
      rw [D_pos h hi', val_append_singleton, ih _ (ci_div_lt h hi'),
        charAt_eq (Nat.mod_lt _ hpos), hn.idxOf_getElem, Nat.div_add_mod']
      unfold ci off
      cases spaces
      · rfl
      · exact Nat.sub_add_cancel hi'

theorem val_pad {chars : Str} (hpos : 0 < chars.length) (k : Nat) (s : Str) :
    val chars 0 (List.replicate k (chars.headD ' ') ++ s) = val chars 0 s := by
  have h0 : chars.idxOf (chars.headD ' ') = 0 := by
    obtain ⟨a, r, rfl⟩ := List.exists_cons_of_length_pos hpos
    simp
  unfold val
  rw [List.foldl_append]
  congr 1
  induction k with
  | zero => rfl
  | succ k ih =>
    rw [List.replicate_succ, List.foldl_cons]
    simp only [h0, Nat.zero_mul, Nat.add_zero]
    simpa using ih

/-- number of non-empty strings of length ≤ `L` over `n` characters: `n + n² + … + n^L` -/
def capB (n : Nat) : Nat → Nat
  | 0 => 0
  | L + 1 => n ^ (L + 1) + capB n L

theorem capB_step (n L : Nat) : n * (capB n L + 1) = capB n (L + 1) := by
  induction L with
  | zero => simp [capB]
  | succ L ih =>
    calc n * (capB n (L + 1) + 1) = n * (n ^ (L + 1) + (capB n L + 1)) := by simp [capB, Nat.add_assoc]
      _ = n * n ^ (L + 1) + n * (capB n L + 1) := Nat.mul_add ..
      _ = n ^ (L + 2) + capB n (L + 1) := by rw [ih, Nat.pow_succ n (L + 1), Nat.mul_comm]
      _ = capB n (L + 2) := by simp [capB]

/-- largest number whose alphabetic name fits `L` characters -/
def capA (n : Nat) (spaces : Bool) (L : Nat) : Nat := if spaces = true then capB n L else n ^ L - 1

/-- `i` has at most `L` digits iff `i ≤ n + n² + … + n^L` (bijective numeration), `i < n^L` (positional) -/
theorem length_D_le {chars : Str} {spaces : Bool} (h : StepOK chars spaces) (hpos : 0 < chars.length) :
    ∀ (L i : Nat), (D chars spaces i).length ≤ L ↔ i ≤ capA chars.length spaces L := by
  intro L
  induction L with
  | zero =>
    intro i
    have h0 : capA chars.length spaces 0 = 0 := by cases spaces <;> rfl
    rw [h0, Nat.le_zero, Nat.le_zero, List.length_eq_zero_iff, D_eq_nil_iff h]
  | succ L ih =>
    intro i
    by_cases hi : i = 0
    · subst hi; simp [D_zero]
    · have hi' : 0 < i := by omega
      rw [D_pos h hi', List.length_append, List.length_singleton, Nat.add_le_add_iff_right, ih]
      cases spaces with
      | true =>
        simp only [capA, ci, if_true]
        rw [← capB_step, ← Nat.lt_succ_iff, Nat.div_lt_iff_lt_mul hpos, Nat.mul_comm]
        generalize chars.length * (capB chars.length L + 1) = P
        omega
      | false =>
        simp only [capA, ci, Bool.false_eq_true, if_false]
        rw [← Nat.lt_iff_le_pred (Nat.pow_pos hpos), ← Nat.lt_iff_le_pred (Nat.pow_pos hpos),
          Nat.div_lt_iff_lt_mul hpos, Nat.pow_succ]

end Proofs.Names
