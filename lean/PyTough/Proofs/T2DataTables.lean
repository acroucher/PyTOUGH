/-
  C01 proofs: the record tables regenerated from /repo (`Gen/Sections.lean`) have the shapes the
  section theorems ask for.  Every statement here is decided by the kernel on the *current* tables, so a
  change of a record kind in t2data.py (a field moved, a type or a count changed) re-opens the theorems.
-/
import PyTough.Proofs.T2DataFile
import PyTough.Proofs.T2DataGener
import PyTough.Proofs.T2DataRocks
import PyTough.Proofs.T2DataParam
import PyTough.Proofs.T2DataMore
import PyTough.Proofs.T2DataMesh
import PyTough.Proofs.T2DataShort
namespace Proofs.T2
open Py Model Model.T2 Proofs Proofs.Incon
open Gen.Sections (Rec)

/-- the records of the main table whose fields are all alike — chunked lists, and the single lines `incon2`, `indom2`,
    `diffusion`, `selec1`: (record kind, values per line) -/
def mainChunks : List (Str × Nat) :=
  [(c!"timestep", 8), (c!"default_incons", 4), (c!"output_times2", 8),
   (c!"generation_times", 4), (c!"generation_rates", 4), (c!"generation_enthalpy", 4),
   (c!"selec2", 8), (c!"radii2", 8), (c!"layer2", 8), (c!"xyz3", 8), (c!"part2", 8),
   (c!"incon2", 4), (c!"indom2", 4), (c!"diffusion", 8), (c!"selec1", 16)]

def xpChunks : List (Str × Nat) :=
  [(c!"generation_times", 4), (c!"generation_rates", 4), (c!"generation_enthalpy", 4)]

theorem main_chunks_ok : ∀ e ∈ mainChunks, ChunkShape mainTabs e.1 e.2 ∧ 0 < e.2 := by decide +kernel
theorem xp_chunks_ok : ∀ e ∈ xpChunks, ChunkShape xpTabs e.1 e.2 ∧ 0 < e.2 := by decide +kernel

theorem main_chunk {n : Str} {k : Nat} (h : (n, k) ∈ mainChunks) : ChunkShape mainTabs n k :=
  (main_chunks_ok _ h).1

theorem main_times_rec : RecOK mainTabs c!"output_times1" := by decide +kernel

theorem dict_recs (rec : Str)
    (h : rec = c!"lineq" ∨ rec = c!"solver" ∨ rec = c!"multi" ∨ rec = c!"multi_autough2") : RecOK mainTabs rec := by
  rcases h with rfl | rfl | rfl | rfl <;> decide +kernel

theorem incon_shape : InconShape mainTabs := by decide +kernel

theorem block_shape (T : Tabs) (hT : T = mainTabs ∨ T = xpTabs) : BlockShape T := by
  rcases hT with rfl | rfl <;> decide +kernel

theorem conn_shape (T : Tabs) (hT : T = mainTabs ∨ T = xpTabs) : ConnShape T := by
  rcases hT with rfl | rfl <;> decide +kernel

theorem gener_shape (T : Tabs) (hT : T = mainTabs ∨ T = xpTabs) : GenerShape T := by
  rcases hT with rfl | rfl <;> decide +kernel

theorem rp_shape (T : Tabs) (hT : T = mainTabs ∨ T = xpTabs) (n : Str)
    (hn : n = c!"relative_permeability" ∨ n = c!"capillarity") : RPShape T n := by
  rcases hT with rfl | rfl <;> rcases hn with rfl | rfl <;> decide +kernel

theorem rock_shape (T : Tabs) (hT : T = mainTabs ∨ T = xpTabs) : RockShape T := by
  rcases hT with rfl | rfl <;> decide +kernel

theorem param_shape : ParamShape mainTabs := by decide +kernel

theorem momop_shape : MomopShape mainTabs := by decide +kernel

theorem short_shape : ShortShape mainTabs := by decide +kernel

theorem mesh_shapes : MeshShapes mainTabs := by decide +kernel

/-- the method `read()` calls for a keyword, by name — typed beside the model's `readSection`; no theorem ties the two -/
def modelReader (kw : Str) : Str :=
  if kw == c!"SIMUL" then c!"read_simulator" else if kw == c!"ROCKS" then c!"read_rocktypes"
  else if kw == c!"PARAM" then c!"read_parameters" else if kw == c!"MOMOP" then c!"read_more_options"
  else if kw == c!"START" then c!"read_start" else if kw == c!"NOVER" then c!"read_noversion"
  else if kw == c!"RPCAP" then c!"read_rpcap" else if kw == c!"LINEQ" then c!"read_lineq"
  else if kw == c!"SOLVR" then c!"read_solver" else if kw == c!"MULTI" then c!"read_multi"
  else if kw == c!"TIMES" then c!"read_times" else if kw == c!"SELEC" then c!"read_selection"
  else if kw == c!"DIFFU" then c!"read_diffusion" else if kw == c!"ELEME" then c!"read_blocks"
  else if kw == c!"CONNE" then c!"read_connections" else if kw == c!"MESHM" then c!"read_meshmaker"
  else if kw == c!"GENER" then c!"read_generators" else if kw == c!"SHORT" then c!"read_short_output"
  else if kw == c!"FOFT" then c!"read_history_blocks" else if kw == c!"COFT" then c!"read_history_connections"
  else if kw == c!"GOFT" then c!"read_history_generators" else if kw == c!"INCON" then c!"read_incons"
  else if kw == c!"INDOM" then c!"read_indom" else []

end Proofs.T2
