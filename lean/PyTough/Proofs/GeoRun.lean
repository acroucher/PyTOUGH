/-
  Every primitive edit that is sensible (`editOK`) when applied preserves the structural invariant; a history as its
  first step and the rest, and as two histories.
-/
import PyTough.Proofs.GeoEdits
import PyTough.Proofs.GeoConn
import PyTough.Proofs.GeoRigid
import PyTough.Proofs.GeoColumn
import PyTough.Proofs.GeoColumnDel
namespace Proofs.Geo
open Model.Geo Model.Geo.Geo Py

theorem mapM_lookup_mem {g : Geo} (hr : g.registriesOK = true) : ∀ (names : List Name) (ids : List Nat),
    names.mapM (lookup g.nodeD) = .ok ids → ∀ n ∈ ids, n ∈ g.nodelist := by
  intro names ids h n hn
  obtain ⟨a, -, hi⟩ := ((mapM_ok_iff _ _ _).mp h).right n hn
  simp only [lookup] at hi
  cases hg : g.nodeD.get? a with
  | none => rw [hg] at hi; cases hi
  | some j =>
    rw [hg] at hi; cases hi
    exact regOK_mem ((registriesOK_iff g).mp hr).1 hg

theorem edit_inv0 {g g' : Geo} {e : Edit} (hok : g.editOK e = true) (he : g.edit e = .ok g') (h : Inv0 g) :
    Inv0 g' := by
  cases e with
  | addNode name pos =>
    cases he
    exact addNode_inv0 name pos h
  | deleteNode name =>
    refine deleteNode_inv0 he ?_ h
    intro i hi c hc
    simp only [Geo.editOK, hi, List.all_eq_true, Bool.not_eq_true', List.contains_eq_mem, decide_eq_false_iff_not] at hok
    exact hok c hc
  | addColumn name nodes centre surface nl =>
    simp only [Geo.edit] at he
    simp only [Geo.editOK, Bool.and_eq_true, Bool.not_eq_true'] at hok
    cases hm : nodes.mapM (lookup g.nodeD) with
    | error e => rw [hm] at he; cases he
    | ok ids =>
      rw [hm] at he
      have hok2 := hok.2
      rw [hm] at hok2
      simp only [Bool.and_eq_true, List.all_eq_true, List.contains_eq_mem, decide_eq_true_eq] at hok2
      exact addColumn_inv0 he hok.1 hok2.1 hok2.2 h
  | deleteColumn name => exact deleteColumn_inv0 he h
  | addConnection a b =>
    simp only [Geo.edit] at he
    simp only [Geo.editOK] at hok
    cases ha : g.columnD.get? a with
    | none => rw [ha] at he; cases he
    | some c0 =>
      cases hb : g.columnD.get? b with
      | none => rw [ha, hb] at he; cases he
      | some c1 =>
        rw [ha, hb] at he hok
        cases he
        simp only [Bool.or_eq_true] at hok
        rcases hok with hp | hc
        · exact addConnection_inv0 c0 c1 (AddConnPre.of_bool hp) h
        · rw [addConnection_eq, if_pos hc]; exact h
  | deleteConnection a b => exact deleteConnection_inv0 he h
  | addLayer l =>
    cases he
    exact addLayer_inv0 l h
  | deleteLayer name => exact deleteLayer_inv0 he h
  | addWell w =>
    cases he
    exact addWell_inv0 w h
  | deleteWell name => exact deleteWell_inv0 he h
  | translate dx dy dz w =>
    cases he
    exact translate_inv0 g dx dy dz w h
  | setupNames => exact setupNames_inv0 he h

theorem run_cons {g g' : Geo} {e : Edit} {es : List Edit} (hrun : g.run (e :: es) = .ok g') :
    g.editOK e = true ∧ ∃ g1, g.edit e = .ok g1 ∧ g1.run es = .ok g' := by
  simp only [Geo.run] at hrun
  split at hrun
  · exact ⟨‹_›, bind_ok hrun⟩
  · cases hrun

theorem run_append {g' : Geo} (es' : List Edit) : ∀ (es : List Edit) (g : Geo), g.run (es ++ es') = .ok g' →
    ∃ g1, g.run es = .ok g1 ∧ g1.run es' = .ok g'
  | [], g, hrun => ⟨g, rfl, hrun⟩
  | e :: es, g, hrun => by
    obtain ⟨hok, g1, h1, h2⟩ := run_cons hrun
    obtain ⟨g2, h3, h4⟩ := run_append es' es g1 h2
    refine ⟨g2, ?_, h4⟩
    simp only [Geo.run, hok, if_true, h1]
    exact h3

end Proofs.Geo
