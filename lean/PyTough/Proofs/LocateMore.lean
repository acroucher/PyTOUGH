/-
  Quadtree completeness on rectangular lattices (C12): the reachability hypothesis of
  `search_complete_of_reachable` (LocateWave) is derived in the plane.
  The leaf of a point in a constructor-built tree is non-empty and holds only elements whose centres lie in
  the leaf rectangle.  On a lattice of bounding boxes every cell between two cells that meet a rectangle
  meets it too, so `search_wave` can walk an L-shaped path from a leaf element to the containing column.
  The bounding box of an axis-aligned rectangular column is the rectangle.
-/
import PyTough.Proofs.LocateWave

namespace Proofs.Locate
open Model.Locate

/-- elements of the node are in `S` and have their centres in the node's rectangle; there is one -/
def GoodNode (g : Geo) (S : List Nat) (t : QTree) : Prop :=
  t.elements ≠ [] ∧ ∀ x ∈ t.elements, x ∈ S ∧ inRectangle (g.centre x) t.bounds = true

mutual
theorem leaf_good {g : Geo} {S : List Nat} (p : Pt) : ∀ (t l : QTree), QAll (NodeOK g) t → GoodNode g S t →
    t.leaf p = some l → GoodNode g S l
  | .node b e ch, l, hall, hg, h => by
    simp only [QTree.leaf] at h
    split at h
    · split at h
      · rename_i l' hl
        cases h
        simp only [QAll] at hall
        refine leafList_good p ch _ hall.2 ?_ hl
        intro c hc
        obtain ⟨h1, _, h3⟩ := hall.1.2.1 c hc
        refine ⟨h1, fun x hx => ⟨?_, (h3 x hx).2⟩⟩
        exact (hg.2 x (h3 x hx).1).1
      · cases h; exact hg
    · cases h
theorem leafList_good {g : Geo} {S : List Nat} (p : Pt) : ∀ (ts : List QTree) (l : QTree), QAllList (NodeOK g) ts →
    (∀ c ∈ ts, GoodNode g S c) → leafList p ts = some l → GoodNode g S l
  | [], l, _, _, h => by simp [leafList] at h
  | c :: cs, l, hall, hg, h => by
    simp only [leafList] at h
    simp only [QAllList] at hall
    split at h
    · rename_i l' hl
      cases h
      exact leaf_good p c _ hall.1 (hg c List.mem_cons_self) hl
    · exact leafList_good p cs l hall.2 (fun d hd => hg d (List.mem_cons_of_mem _ hd)) h
end

/-- the columns' bounding boxes form a full `nx × ny` lattice with grid lines `xs 0 ≤ … ≤ xs nx`,
    `ys 0 ≤ … ≤ ys ny`; column `i + nx·j` is cell `(i, j)`; each centre is in its cell; cells sharing
    a side are neighbours of each other.  (What `mulgrid().rectangular(...)` builds.) -/
structure Lattice (g : Geo) (nx ny : Nat) (xs ys : Nat → Rat) : Prop where
  ncols : g.ncols = nx * ny
  monoX : ∀ i, i < nx → xs i ≤ xs (i + 1)
  monoY : ∀ j, j < ny → ys j ≤ ys (j + 1)
  bbox : ∀ i j, i < nx → j < ny → g.bbox (i + nx * j) = ((xs i, ys j), (xs (i + 1), ys (j + 1)))
  centre : ∀ k, k < g.ncols → inRectangle (g.centre k) (g.bbox k) = true
  nbrE : ∀ i j, i + 1 < nx → j < ny →
    (i + 1 + nx * j) ∈ g.nbrs (i + nx * j) ∧ (i + nx * j) ∈ g.nbrs (i + 1 + nx * j)
  nbrN : ∀ i j, i < nx → j + 1 < ny →
    (i + nx * (j + 1)) ∈ g.nbrs (i + nx * j) ∧ (i + nx * j) ∈ g.nbrs (i + nx * (j + 1))

theorem mono_le {f : Nat → Rat} {n : Nat} (h : ∀ i, i < n → f i ≤ f (i + 1)) {a b : Nat} (hab : a ≤ b) (hb : b ≤ n) :
    f a ≤ f b := by
  induction b, hab using Nat.le_induction with
  | base => exact le_refl _
  | succ b _ ih => exact le_trans (ih (by omega)) (h b (by omega))

/-- one coordinate: `u` in cell `a` and in `[blo, bhi]`, `v` in cell `b` and in `[blo, bhi]`, `a ≤ k ≤ b`:
    cell `k` meets `[blo, bhi]` -/
theorem meets_between {f : Nat → Rat} {n : Nat} (h : ∀ i, i < n → f i ≤ f (i + 1)) {a k b : Nat} {u v blo bhi : Rat}
    (hak : a ≤ k) (hkb : k ≤ b) (hb : b < n) (hu1 : u ≤ f (a + 1)) (hu2 : blo ≤ u) (hv1 : f b ≤ v) (hv2 : v ≤ bhi) :
    f (k + 1) ≥ blo ∧ bhi ≥ f k := by
  have m1 : f (a + 1) ≤ f (k + 1) := mono_le h (by omega) (by omega)
  have m2 : f k ≤ f b := mono_le h hkb (by omega)
  exact ⟨le_trans hu2 (le_trans hu1 m1), le_trans m2 (le_trans hv1 hv2)⟩

/-- `k` between `a` and `b` in either order -/
def Btw (a k b : Nat) : Prop := (a ≤ k ∧ k ≤ b) ∨ (b ≤ k ∧ k ≤ a)

theorem btw_left (a b : Nat) : Btw a a b := by unfold Btw; omega
theorem btw_right (a b : Nat) : Btw a b b := by unfold Btw; omega
theorem Btw.lt {a k b n : Nat} (h : Btw a k b) (ha : a < n) (hb : b < n) : k < n := by unfold Btw at h; omega

theorem meets_btw {f : Nat → Rat} {n : Nat} (h : ∀ i, i < n → f i ≤ f (i + 1)) {a k b : Nat} {u v blo bhi : Rat}
    (hk : Btw a k b) (ha : a < n) (hb : b < n)
    (hu0 : f a ≤ u) (hu1 : u ≤ f (a + 1)) (hu2 : blo ≤ u) (hu3 : u ≤ bhi)
    (hv0 : f b ≤ v) (hv1 : v ≤ f (b + 1)) (hv2 : blo ≤ v) (hv3 : v ≤ bhi) :
    f (k + 1) ≥ blo ∧ bhi ≥ f k := by
  rcases hk with ⟨h1, h2⟩ | ⟨h1, h2⟩
  · exact meets_between h h1 h2 hb hu1 hu2 hv0 hv3
  · exact meets_between h h1 h2 ha hv1 hv2 hu0 hu3

/-- a cell lying between (in both indices) two cells that each hold a point of `B` meets `B` -/
theorem cell_meets {g : Geo} {nx ny : Nat} {xs ys : Nat → Rat} (L : Lattice g nx ny xs ys) {B : Rect} {u v : Pt}
    {iu ju iv jv i j : Nat} (hiu : iu < nx) (hju : ju < ny) (hiv : iv < nx) (hjv : jv < ny)
    (hu : inRectangle u (g.bbox (iu + nx * ju)) = true) (huB : inRectangle u B = true)
    (hv : inRectangle v (g.bbox (iv + nx * jv)) = true) (hvB : inRectangle v B = true)
    (hi : Btw iu i iv) (hj : Btw ju j jv) :
    rectanglesIntersect (g.bbox (i + nx * j)) B = true := by
  rw [L.bbox i j (hi.lt hiu hiv) (hj.lt hju hjv)]
  rw [L.bbox iu ju hiu hju, inRectangle_iff] at hu
  rw [L.bbox iv jv hiv hjv, inRectangle_iff] at hv
  rw [inRectangle_iff] at huB hvB
  simp only at hu hv
  have X := meets_btw L.monoX hi hiu hiv hu.1.1 hu.1.2 huB.1.1 huB.1.2 hv.1.1 hv.1.2 hvB.1.1 hvB.1.2
  have Y := meets_btw L.monoY hj hju hjv hu.2.1 hu.2.2 huB.2.1 huB.2.2 hv.2.1 hv.2.2 hvB.2.1 hvB.2.2
  unfold rectanglesIntersect
  simp only [Bool.and_eq_true, decide_eq_true_eq]
  exact ⟨⟨X.1, X.2⟩, Y.1, Y.2⟩

theorem mem_admissible {g : Geo} {all : List Nat} {B : Rect} {x n : Nat}
    (h1 : n ∈ g.nbrs x) (h2 : n ∈ all) (h3 : rectanglesIntersect (g.bbox n) B = true) : n ∈ admissible g all B x := by
  unfold admissible
  rw [List.mem_filter, List.mem_filter]
  exact ⟨⟨h1, by simpa using h2⟩, h3⟩

theorem cell_lt {nx ny i j : Nat} (hi : i < nx) (hj : j < ny) : i + nx * j < nx * ny := by
  have : nx * j + nx ≤ nx * ny := by
    have := Nat.mul_le_mul_left nx (show j + 1 ≤ ny by omega)
    rwa [Nat.mul_add, Nat.mul_one] at this
  omega

/-- walking along a line of cells `cell t0, …, cell t1` (a row or a column of the lattice, in either
    direction) whose consecutive cells are neighbours of each other, all in `all` and all meeting `B` -/
theorem line_reach {g : Geo} {all : List Nat} {B : Rect} {c : Nat} (cell : Nat → Nat) {t0 t1 : Nat}
    (hn : ∀ t, Btw t0 t t1 → Btw t0 (t + 1) t1 → cell (t + 1) ∈ g.nbrs (cell t) ∧ cell t ∈ g.nbrs (cell (t + 1)))
    (hin : ∀ t, Btw t0 t t1 → cell t ∈ all)
    (hm : ∀ t, Btw t0 t t1 → rectanglesIntersect (g.bbox (cell t)) B = true)
    (h : AvoidReach g all B c [] (cell t1)) : AvoidReach g all B c [] (cell t0) := by
  -- from any cell `t` of the line, by induction on its distance `d` from `t1`
  suffices walk : ∀ (d t : Nat), Btw t0 t t1 → (t + d = t1 ∨ t1 + d = t) → AvoidReach g all B c [] (cell t) from
    walk (max t0 t1 - min t0 t1) t0 (btw_left t0 t1) (by omega)
  intro d
  induction d with
  | zero => intro t _ ht; rw [show t = t1 by omega]; exact h
  | succ d ih =>
    intro t hb ht
    unfold Btw at hb
    rcases ht with ht | ht
    · have hb' : Btw t0 (t + 1) t1 := by unfold Btw; omega
      exact AvoidReach.step List.not_mem_nil (mem_admissible (hn t hb hb').1 (hin _ hb') (hm _ hb')) (ih (t + 1) hb' (Or.inl (by omega)))
    · obtain ⟨s, rfl⟩ : ∃ s, t = s + 1 := ⟨t - 1, by omega⟩
      have hb' : Btw t0 s t1 := by unfold Btw; omega
      exact AvoidReach.step List.not_mem_nil (mem_admissible (hn s hb' hb).2 (hin _ hb') (hm _ hb')) (ih s hb' (Or.inr (by omega)))

theorem cell_of_lt {nx ny k : Nat} (h : k < nx * ny) : ∃ i j, i < nx ∧ j < ny ∧ k = i + nx * j := by
  have hnx : 0 < nx := Nat.pos_of_lt_mul_right h
  refine ⟨k % nx, k / nx, Nat.mod_lt _ hnx, ?_, (Nat.mod_add_div k nx).symm⟩
  rw [Nat.div_lt_iff_lt_mul hnx, Nat.mul_comm]; exact h

/-- **the planar step on a lattice**: a leaf element whose centre is in the leaf rectangle `B` reaches
    the column containing a point of `B`, through neighbours whose bounding boxes meet `B`
    (along its row, then along the target's column) -/
theorem lattice_reach {g : Geo} {nx ny : Nat} {xs ys : Nat → Rat} (L : Lattice g nx ny xs ys) {all : List Nat} {B : Rect}
    (hall : ∀ k, k < g.ncols → k ∈ all) {e c : Nat} {p : Pt} (he : e < g.ncols)
    (heB : inRectangle (g.centre e) B = true) (hc : g.containsPoint c p = true) (hpB : inRectangle p B = true) :
    AvoidReach g all B c [] e := by
  have hclt := containsPoint_lt hc
  have hcen := L.centre e he
  have hnear : inRectangle p (g.bbox c) = true := containsPoint_near hc
  rw [L.ncols] at he hclt
  obtain ⟨i0, j0, hi0, hj0, rfl⟩ := cell_of_lt he
  obtain ⟨i1, j1, hi1, hj1, rfl⟩ := cell_of_lt hclt
  have hin : ∀ {i j}, i < nx → j < ny → (i + nx * j) ∈ all := fun hi hj => hall _ (by rw [L.ncols]; exact cell_lt hi hj)
  apply line_reach (fun i => i + nx * j0) (t0 := i0) (t1 := i1)
  · intro t _ b2; exact L.nbrE t j0 (b2.lt hi0 hi1) hj0
  · intro t b1; exact hin (b1.lt hi0 hi1) hj0
  · intro i hi
    exact cell_meets L hi0 hj0 hi1 hj1 hcen heB hnear hpB hi (btw_left j0 j1)
  apply line_reach (fun j => i1 + nx * j) (t0 := j0) (t1 := j1)
  · intro t _ b2; exact L.nbrN i1 t hi1 (b2.lt hj0 hj1)
  · intro t b1; exact hin hi1 (b1.lt hj0 hj1)
  · intro j hj
    exact cell_meets L hi0 hj0 hi1 hj1 hcen heB hnear hpB (btw_right i0 i1) hj
  · exact AvoidReach.base List.not_mem_nil

/-- the rectangle `bounds` covers the lattice -/
def Covers (bounds : Rect) (nx ny : Nat) (xs ys : Nat → Rat) : Prop :=
  bounds.1.1 ≤ xs 0 ∧ xs nx ≤ bounds.2.1 ∧ bounds.1.2 ≤ ys 0 ∧ ys ny ≤ bounds.2.2

theorem in_cover {g : Geo} {nx ny : Nat} {xs ys : Nat → Rat} (L : Lattice g nx ny xs ys) {bounds : Rect}
    (hcov : Covers bounds nx ny xs ys) {k : Nat} (hk : k < g.ncols) {u : Pt} (hu : inRectangle u (g.bbox k) = true) :
    inRectangle u bounds = true := by
  rw [L.ncols] at hk
  obtain ⟨i, j, hi, hj, rfl⟩ := cell_of_lt hk
  rw [L.bbox i j hi hj, inRectangle_iff] at hu
  simp only at hu
  obtain ⟨c1, c2, c3, c4⟩ := hcov
  have x0 : xs 0 ≤ xs i := mono_le L.monoX (Nat.zero_le _) (by omega)
  have x1 : xs (i + 1) ≤ xs nx := mono_le L.monoX (by omega) (Nat.le_refl _)
  have y0 : ys 0 ≤ ys j := mono_le L.monoY (Nat.zero_le _) (by omega)
  have y1 : ys (j + 1) ≤ ys ny := mono_le L.monoY (by omega) (Nat.le_refl _)
  rw [inRectangle_iff]
  exact ⟨⟨le_trans c1 (le_trans x0 hu.1.1), le_trans hu.1.2 (le_trans x1 c2)⟩,
         le_trans c3 (le_trans y0 hu.2.1), le_trans hu.2.2 (le_trans y1 c4)⟩

/-- on a lattice, with the quadtree the constructor builds over all columns and bounds covering the
    lattice, the containing column is reachable from every element of the point's leaf, and the leaf
    has an element -/
theorem lattice_leaf_reach {g : Geo} {nx ny : Nat} {xs ys : Nat → Rat} (L : Lattice g nx ny xs ys) {bounds : Rect} {q : QT}
    (hq : columnQuadtree g bounds (List.range g.ncols) = some q) (hcov : Covers bounds nx ny xs ys)
    {p : Pt} {c : Nat} (hc : g.containsPoint c p = true) :
    ∃ l, q.root.leaf p = some l ∧ l.elements ≠ [] ∧ ∀ e ∈ l.elements, AvoidReach g q.all l.bounds c [] e := by
  unfold columnQuadtree at hq
  split at hq
  · rename_i t hb
    cases hq
    simp only
    obtain ⟨rb, re⟩ := buildQ_root hb
    have hQ := buildQ_all hb
    have hclt := containsPoint_lt hc
    have hpb : inRectangle p t.bounds = true := by
      rw [rb]; exact in_cover L hcov hclt (containsPoint_near hc)
    obtain ⟨l, hl⟩ := Option.isSome_iff_exists.mp ((leaf_isSome p t).trans hpb)
    have hgood : GoodNode g (List.range g.ncols) t := by
      refine ⟨?_, ?_⟩
      · rw [re]; intro h0
        have : c ∈ List.range g.ncols := List.mem_range.mpr hclt
        rw [h0] at this; cases this
      · intro x hx
        rw [re] at hx
        refine ⟨hx, ?_⟩
        rw [rb]
        exact in_cover L hcov (List.mem_range.mp hx) (L.centre x (List.mem_range.mp hx))
    have hgl := leaf_good p t l hQ hgood hl
    refine ⟨l, hl, hgl.1, ?_⟩
    intro e he
    obtain ⟨h1, h2⟩ := hgl.2 e he
    exact lattice_reach L (fun k hk => List.mem_range.mpr hk) (List.mem_range.mp h1) h2 hc (leaf_bounds p t l hl)
  · cases hq

/-- a polygon all of whose nodes lie in the rectangle `R` and that has `R`'s bottom-left and top-right
    corners among its nodes (an axis-aligned rectangle, nodes in any order) has bounding box `R` -/
theorem bounds_of_rectangle {poly : Poly} {R : Rect} (hin : ∀ q ∈ poly, inRectangle q R = true)
    (h1 : R.1 ∈ poly) (h2 : R.2 ∈ poly) : boundsOfPoints poly = R := by
  have b1 := inRectangle_iff.mp (bounds_contain h1)
  have b2 := inRectangle_iff.mp (bounds_contain h2)
  cases poly with
  | nil => cases h1
  | cons p ps =>
    -- the box lies within `R` since every node does; it reaches `R`'s corners since they are nodes
    have lo := fun (f : Pt → Rat) (m : Rat) (h : ∀ q ∈ p :: ps, m ≤ f q) =>
      le_minList_iff.mpr (List.forall_mem_map (l := p :: ps).mpr h)
    have hi := fun (f : Pt → Rat) (m : Rat) (h : ∀ q ∈ p :: ps, f q ≤ m) =>
      maxList_le_iff.mpr (List.forall_mem_map (l := p :: ps).mpr h)
    have e1 := lo (·.1) R.1.1 fun q hq => (inRectangle_iff.mp (hin q hq)).1.1
    have e2 := lo (·.2) R.1.2 fun q hq => (inRectangle_iff.mp (hin q hq)).2.1
    have e3 := hi (·.1) R.2.1 fun q hq => (inRectangle_iff.mp (hin q hq)).1.2
    have e4 := hi (·.2) R.2.2 fun q hq => (inRectangle_iff.mp (hin q hq)).2.2
    obtain ⟨⟨r11, r12⟩, r21, r22⟩ := R
    simp only [boundsOfPoints] at b1 b2 e1 e2 e3 e4 ⊢
    rw [le_antisymm b1.1.1 e1, le_antisymm b1.2.1 e2, le_antisymm e3 b2.1.2, le_antisymm e4 b2.2.2]

end Proofs.Locate
