/-
  Invariant preservation: the operations that only touch one registry — the rock type operations,
  add_block, demote_block.
-/
import PyTough.Proofs.GridFrame
namespace Proofs.Grid
open Py Model Model.Grid Model.Grid.World

theorem addRocktype_eq (w : World) (r : Nat) :
    addRocktype w r = match Reg.add w.rname ⟨w.rocktypelist, w.rocktype⟩ r with
      | none => .error (.valueError, w)
      | some R => .ok { w with rocktypelist := R.list, rocktype := R.dict } := by
  unfold addRocktype Reg.add
  dsimp only
  cases dget w.rocktype (w.rname r) with
  | none => rfl
  | some old => dsimp only; cases replaceFirst w.rocktypelist old r <;> rfl

theorem addRocktype_of_reg {w : World} {r : Nat} {R : Reg Name}
    (h : Reg.add w.rname ⟨w.rocktypelist, w.rocktype⟩ r = some R) :
    addRocktype w r = .ok { w with rocktypelist := R.list, rocktype := R.dict } := by
  rw [addRocktype_eq, h]

theorem addRocktype_fresh_ok {w : World} {r : Nat} (hd : dget w.rocktype (w.rname r) = none) :
    addRocktype w r = .ok { w with rocktypelist := w.rocktypelist ++ [r], rocktype := dset w.rocktype (w.rname r) r } :=
  addRocktype_of_reg (Reg.add_fresh hd)

theorem addRocktype_spec {w : World} (hI : Grid.Inv w) {r : Nat} (hr : r < w.rocks.length) (hnew : r ∉ w.rocktypelist)
    (hfree : ∀ old, dget w.rocktype (w.rname r) = some old → ∀ b ∈ w.blocklist, (w.bk b).rock ≠ old) :
    ∃ l, addRocktype w r = .ok { w with rocktypelist := l, rocktype := dset w.rocktype (w.rname r) r } ∧
      Grid.Inv { w with rocktypelist := l, rocktype := dset w.rocktype (w.rname r) r } ∧
      (∀ y, y ∈ l ↔ y = r ∨ (y ∈ w.rocktypelist ∧ w.rname y ≠ w.rname r)) ∧
      (dget w.rocktype (w.rname r) = none → l = w.rocktypelist ++ [r]) := by
  obtain ⟨l, e, hR, hm, hf⟩ := Reg.add_spec hI.rockReg hnew
  refine ⟨l, addRocktype_of_reg e, inv_of_rock_change hI (fun x hx => ?_) hR (fun b hb => ?_), hm, hf⟩
  · exact ((hm x).mp hx).elim (fun e => e ▸ hr) (fun h => hI.rl_lt x h.1)
  · -- a rock type in use does not carry the name of `r`, else it would be the one replaced
    refine (hm _).mpr (Or.inr ⟨hI.b_rock b hb, fun e => ?_⟩)
    exact hfree _ (e ▸ hI.rd_complete _ (hI.b_rock b hb)) b hb rfl

/-- `add_rocktype(rocktype(…))`: the object is constructed and added -/
theorem addRocktype_new_spec {w : World} (hI : Grid.Inv w) (v : Rock)
    (hfree : ∀ old, dget w.rocktype v.name = some old → ∀ b ∈ w.blocklist, (w.bk b).rock ≠ old) :
    ∃ l, addRocktype (w.newRock v).2 (w.newRock v).1 =
        .ok { w with rocks := w.rocks ++ [v], rocktypelist := l, rocktype := dset w.rocktype v.name w.rocks.length } ∧
      Grid.Inv { w with rocks := w.rocks ++ [v], rocktypelist := l, rocktype := dset w.rocktype v.name w.rocks.length } ∧
      (∀ y ∈ l, y = w.rocks.length ∨ y ∈ w.rocktypelist) ∧
      (dget w.rocktype v.name = none → l = w.rocktypelist ++ [w.rocks.length]) := by
  have hnm : (w.newRock v).2.rname w.rocks.length = v.name := congrArg Rock.name (rk_newRock_new w v)
  obtain ⟨l, e, hI', hm, hf⟩ := addRocktype_spec (newRock_inv hI v) (r := w.rocks.length) (by simp [World.newRock])
    (fun h => Nat.lt_irrefl _ (hI.rl_lt _ h)) (by rw [hnm]; exact hfree)
  rw [hnm] at e hI' hf
  exact ⟨l, e, hI', fun y hy => ((hm y).mp hy).imp_right And.left, hf⟩

theorem deleteRocktype_inv {w : World} (hI : Grid.Inv w) (nm : Name)
    (hfree : ∀ rt, dget w.rocktype nm = some rt → ∀ b ∈ w.blocklist, (w.bk b).rock ≠ rt) :
    Grid.Inv (worldOf (deleteRocktype w nm)) := by
  cases hd : dget w.rocktype nm with
  | none => simp only [deleteRocktype, hd, worldOf_ok]; exact hI
  | some rt =>
    simp only [deleteRocktype, hd, (hI.rd_sound _ _ hd).1, if_true, worldOf_ok]
    exact inv_of_rock_change hI (fun x hx => hI.rl_lt x (List.mem_of_mem_erase hx)) (hI.rockReg.erase hd)
      (fun b hb => (hI.rl_nodup.mem_erase_iff).mpr ⟨hfree rt hd b hb, hI.b_rock b hb⟩)

theorem deleteRocktype_frame (w : World) (nm : Name) :
    ∃ l d, worldOf (deleteRocktype w nm) = { w with rocktypelist := l, rocktype := d } := by
  unfold deleteRocktype
  split
  · exact ⟨_, _, rfl⟩
  · dsimp only; split <;> exact ⟨_, _, rfl⟩

theorem renameRocktype_ok {w : World} {a b : Name} {rock : Nat} (hd : dget w.rocktype a = some rock)
    (hb : dget w.rocktype b = none) :
    renameRocktype w a b = .ok { w.setRock rock { w.rk rock with name := b } with
                                 rocktype := dset (ddel w.rocktype a) b rock } := by
  simp only [renameRocktype, hd, hb, Option.isSome_none, Bool.false_eq_true, if_false]
  rfl

/-- `rename_rocktype(a, b)`: no precondition (it raises when `a` is missing or `b` is taken) -/
theorem renameRocktype_inv {w : World} (hI : Grid.Inv w) (a b : Name) :
    Grid.Inv (worldOf (renameRocktype w a b)) := by
  cases hd : dget w.rocktype a with
  | none => simp only [renameRocktype, hd, worldOf_error]; exact hI
  | some rock =>
    cases hb : dget w.rocktype b with
    | some x => simp only [renameRocktype, hd, hb, Option.isSome_some, if_true, worldOf_error]; exact hI
    | none =>
      rw [renameRocktype_ok hd hb, worldOf_ok]
      have hlt := hI.rl_lt rock (hI.rd_sound _ _ hd).1
      have hR := hI.rockReg.rekey (key' := (w.setRock rock { w.rk rock with name := b }).rname) hd hb
        (by simp only [World.rname, rk_setRock, hlt, and_self, if_true])
        (fun y _ hy => by simp only [World.rname, rk_setRock, Ne.symm hy, false_and, if_false])
      exact { hI with
        rl_lt := fun x hx => (setRock_rocks_length w rock _).symm ▸ hI.rl_lt x hx
        rl_nodup := hR.nodup, rd_sound := hR.sound, rd_complete := hR.complete }

/-- no block of the grid has a rock type *named* `nm` (what `rocktype_frequency(nm) == 0` says) -/
def NameUnused (w : World) (nm : Name) : Prop := ∀ b ∈ w.blocklist, w.rname (w.bk b).rock ≠ nm

theorem rocktypeFrequency_eq_zero_iff {w : World} {nm : Name} : rocktypeFrequency w nm = 0 ↔ NameUnused w nm := by
  unfold rocktypeFrequency NameUnused
  rw [List.length_eq_zero_iff, List.filter_eq_nil_iff]
  simp

theorem deleteRocktypes_inv {w : World} (hI : Grid.Inv w) (l : List Name) (hu : ∀ nm ∈ l, NameUnused w nm) :
    Grid.Inv (worldOf (deleteRocktypes w l)) := by
  induction l generalizing w with
  | nil => exact hI
  | cons nm r ih =>
    have h1 : Grid.Inv (worldOf (deleteRocktype w nm)) := deleteRocktype_inv hI nm fun rt hrt b hb e =>
      hu nm List.mem_cons_self b hb (e ▸ (hI.rd_sound _ _ hrt).2)
    -- blocks and rock type objects are untouched, so the other names stay unused
    have h2 : ∀ nm' ∈ r, NameUnused (worldOf (deleteRocktype w nm)) nm' := fun nm' h => by
      obtain ⟨l, d, e⟩ := deleteRocktype_frame w nm
      rw [e]; exact hu nm' (List.mem_cons_of_mem _ h)
    unfold deleteRocktypes
    cases hd : deleteRocktype w nm with
    | error p => rw [hd] at h1; exact h1
    | ok w1 => rw [hd] at h1 h2; exact ih h1 h2

theorem cleanRocktypes_inv {w : World} (hI : Grid.Inv w) : Grid.Inv (worldOf (cleanRocktypes w)) := by
  refine deleteRocktypes_inv hI _ fun nm hnm => ?_
  simp only [List.mem_map, List.mem_filter, beq_iff_eq] at hnm
  obtain ⟨rt, ⟨_, h0⟩, rfl⟩ := hnm
  exact rocktypeFrequency_eq_zero_iff.mp h0

theorem sortRocktypes_inv {w : World} (hI : Grid.Inv w) : Grid.Inv (worldOf (sortRocktypes w)) := by
  unfold sortRocktypes
  cases hl : lookupAll w.rocktype (sortNames (w.rocktypelist.map w.rname)) with
  | none => exact hI
  | some l =>
    have h2 : (l.map some).Perm (w.rocktypelist.map some) := by
      rw [← lookupAll_some hl]
      refine ((sortNames_perm _).map _).trans (List.Perm.of_eq ?_)
      rw [List.map_map]; exact List.map_congr_left fun r hr => hI.rd_complete r hr
    have hp := perm_of_map_some h2
    exact inv_of_rock_change hI (fun x hx => hI.rl_lt x (hp.mem_iff.mp hx)) (hI.rockReg.relist hp)
      (fun b hb => hp.mem_iff.mpr (hI.b_rock b hb))

theorem addBlock_eq (w : World) (b : Nat) :
    addBlock w b = match Reg.add w.bname ⟨w.blocklist, w.block⟩ b with
      | none => .error (.valueError, w)
      | some R => .ok { w with blocklist := R.list, block := R.dict } := by
  unfold addBlock Reg.add
  dsimp only
  cases dget w.block (w.bname b) with
  | none => rfl
  | some old => dsimp only; cases replaceFirst w.blocklist old b <;> rfl

theorem addBlock_of_reg {w : World} {b : Nat} {R : Reg Name}
    (h : Reg.add w.bname ⟨w.blocklist, w.block⟩ b = some R) :
    addBlock w b = .ok { w with blocklist := R.list, block := R.dict } := by
  rw [addBlock_eq, h]

theorem addBlock_fresh_ok {w : World} {b : Nat} (hd : dget w.block (w.bname b) = none) :
    addBlock w b = .ok { w with blocklist := w.blocklist ++ [b], block := dset w.block (w.bname b) b } :=
  addBlock_of_reg (Reg.add_fresh hd)

theorem addBlock_spec {w : World} (hI : Grid.Inv w) {b : Nat} (hb : b < w.blks.length) (hnew : b ∉ w.blocklist)
    (hconn : (w.bk b).conn = []) (hrock : (w.bk b).rock ∈ w.rocktypelist)
    (hfree : ∀ old, dget w.block (w.bname b) = some old → (w.bk old).conn = []) :
    ∃ l, addBlock w b = .ok { w with blocklist := l, block := dset w.block (w.bname b) b } ∧
      Grid.Inv { w with blocklist := l, block := dset w.block (w.bname b) b } ∧
      (∀ y, y ∈ l ↔ y = b ∨ (y ∈ w.blocklist ∧ w.bname y ≠ w.bname b)) ∧
      (dget w.block (w.bname b) = none → l = w.blocklist ++ [b]) := by
  obtain ⟨l, e, hR, hm, hf⟩ := Reg.add_spec hI.blockReg hnew
  refine ⟨l, addBlock_of_reg e, inv_of_block_change hI (fun x hx => ?_) hR (fun c hc => ?_) (fun x hx => ?_), hm, hf⟩
  · exact ((hm x).mp hx).elim (fun e => e ▸ hb) (fun h => hI.bl_lt x h.1)
  · -- an end of a connection does not carry the name of `b`, else it would be the block replaced
    have hin : ∀ x ∈ w.blocklist, ((w.cn c).b0 = x ∨ (w.cn c).b1 = x) → x ∈ l := fun x hx hm' =>
      (hm x).mpr (Or.inr ⟨hx, fun e => by
        have := no_mention_of_conn_nil hI hx (hfree x (e ▸ hI.bd_complete x hx)) c hc
        exact hm'.elim this.1 this.2⟩)
    exact ⟨hin _ (hI.c_ends c hc).1 (Or.inl rfl), hin _ (hI.c_ends c hc).2.1 (Or.inr rfl)⟩
  · refine ((hm x).mp hx).elim (fun e => Or.inr (e ▸ ⟨hrock, hconn, fun c hc => ?_⟩)) (fun h => Or.inl h.1)
    exact ⟨fun e => hnew (e ▸ (hI.c_ends c hc).1), fun e => hnew (e ▸ (hI.c_ends c hc).2.1)⟩

/-- `add_block(t2block(…))`: the object is constructed and added -/
theorem addBlock_new_spec {w : World} (hI : Grid.Inv w) (v : Blk) (hconn : v.conn = []) (hrock : v.rock ∈ w.rocktypelist)
    (hfree : ∀ old, dget w.block v.name = some old → (w.bk old).conn = []) :
    ∃ l, addBlock (w.newBlk v).2 (w.newBlk v).1 =
        .ok { w with blks := w.blks ++ [v], blocklist := l, block := dset w.block v.name w.blks.length } ∧
      Grid.Inv { w with blks := w.blks ++ [v], blocklist := l, block := dset w.block v.name w.blks.length } ∧
      (∀ y ∈ l, y = w.blks.length ∨ y ∈ w.blocklist) ∧
      (dget w.block v.name = none → l = w.blocklist ++ [w.blks.length]) := by
  have hbk : (w.newBlk v).2.bk w.blks.length = v := bk_newBlk_new w v
  have hnm : (w.newBlk v).2.bname w.blks.length = v.name := congrArg Blk.name hbk
  obtain ⟨l, e, hI', hm, hf⟩ := addBlock_spec (newBlk_inv hI v) (b := w.blks.length) (by simp [World.newBlk])
    (fun h => Nat.lt_irrefl _ (hI.bl_lt _ h)) (by rw [hbk]; exact hconn) (by rw [hbk]; exact hrock) fun old hd => by
      rw [hnm] at hd
      rw [bk_newBlk_old v (hI.bl_lt _ (hI.bd_sound _ _ hd).1)]
      exact hfree old hd
  rw [hnm] at e hI' hf
  exact ⟨l, e, hI', fun y hy => ((hm y).mp hy).imp_right And.left, hf⟩

theorem addBlock_again_inv {w : World} (hI : Grid.Inv w) {b : Nat} (hb : b ∈ w.blocklist) :
    Grid.Inv (worldOf (addBlock w b)) := by
  obtain ⟨e, hR⟩ := Reg.add_again hI.blockReg hb
  rw [addBlock_of_reg e, worldOf_ok]
  exact inv_of_block_change hI hI.bl_lt hR (fun c hc => ⟨(hI.c_ends c hc).1, (hI.c_ends c hc).2.1⟩) (fun x hx => Or.inl hx)

/-- `demote_block(names)`: no precondition (an unknown name raises TypeError part-way) -/
theorem demoteBlock_inv {w : World} (hI : Grid.Inv w) (nms : List Name) : Grid.Inv (worldOf (demoteBlock w nms)) := by
  induction nms generalizing w with
  | nil => exact hI
  | cons nm r ih =>
    cases hd : dget w.block nm with
    | none => simp only [demoteBlock, hd, worldOf_error]; exact hI
    | some b =>
      have hb := (hI.bd_sound _ _ hd).1
      simp only [demoteBlock, hd, hb, if_true]
      exact ih (inv_of_blocklist_perm hI (List.perm_append_comm.trans (List.perm_cons_erase hb).symm))

end Proofs.Grid
