/-
  The containers of the grid model: dictionaries (`dget`, `dset`, `ddel`; a dictionary filled by a loop: `dget_build`), object lists
  (`replaceFirst`, `lookupAll`, `findOutside`, `indexOf?`, `sortNames`), sets kept as lists (`sadd`), key sets cached beside a
  dictionary (`cached_*`), heap reads after an append (`getD_append_one`), and sums of volumes (`sumRat`, `normFracs`).
-/
import PyTough.Model.GridInv
import PyTough.Proofs.ListLemmas
namespace Proofs.Grid
open Py Model.Grid Model.Grid.World

section dict
variable {κ α : Type} [DecidableEq κ]

@[simp] theorem dget_nil (k : κ) : dget ([] : Dict κ α) k = none := rfl

theorem dget_dset (d : Dict κ α) (k k' : κ) (v : α) :
    dget (dset d k v) k' = if k = k' then some v else dget d k' := by
  induction d with
  | nil => rfl
  | cons p r ih =>
    obtain ⟨a, b⟩ := p
    by_cases h : a = k
    · subst h; simp only [dset, if_true, dget]; split <;> rfl
    · simp only [dset, h, if_false, dget, ih]
      by_cases h2 : a = k'
      · subst h2; rw [if_pos rfl, if_neg (Ne.symm h), if_pos rfl]
      · rw [if_neg h2, if_neg h2]

@[simp] theorem dget_dset_self (d : Dict κ α) (k : κ) (v : α) : dget (dset d k v) k = some v := by
  rw [dget_dset, if_pos rfl]

theorem dget_dset_ne (d : Dict κ α) {k k' : κ} (v : α) (h : k ≠ k') : dget (dset d k v) k' = dget d k' := by
  rw [dget_dset, if_neg h]

theorem dget_ddel (d : Dict κ α) (k k' : κ) :
    dget (ddel d k) k' = if k = k' then none else dget d k' := by
  induction d with
  | nil => exact (ite_self _).symm
  | cons p r ih =>
    obtain ⟨a, b⟩ := p
    unfold ddel at ih ⊢
    by_cases h : a = k
    · subst h; simp only [List.filter, ne_eq, not_true_eq_false, decide_false, ih, dget]; split <;> rfl
    · simp only [List.filter, ne_eq, h, not_false_eq_true, decide_true, dget, ih]
      by_cases h2 : a = k'
      · subst h2; rw [if_pos rfl, if_neg (Ne.symm h), if_pos rfl]
      · rw [if_neg h2, if_neg h2]

@[simp] theorem dget_ddel_self (d : Dict κ α) (k : κ) : dget (ddel d k) k = none := by
  rw [dget_ddel, if_pos rfl]

theorem dget_ddel_ne (d : Dict κ α) {k k' : κ} (h : k ≠ k') : dget (ddel d k) k' = dget d k' := by
  rw [dget_ddel, if_neg h]

/-- a cached key set `M = {k | d[k] = v, P v}` after `del d[k0]` -/
theorem cached_ddel {d : Dict κ α} {M : κ → Prop} {P : α → Prop}
    (h : ∀ k, M k ↔ ∃ v, dget d k = some v ∧ P v) (k0 k : κ) :
    M k ∧ k ≠ k0 ↔ ∃ v, dget (ddel d k0) k = some v ∧ P v := by
  rw [dget_ddel, h]; split
  · rename_i e; exact ⟨fun h' => (h'.2 e.symm).elim, fun ⟨_, h', _⟩ => nomatch h'⟩
  · rename_i e; exact and_iff_left (Ne.symm e)

/-- the cached key set after `d[k0] = x`; `s` says whether `k0` belongs to it afterwards -/
theorem cached_dset {d : Dict κ α} {M : κ → Prop} {P : α → Prop} {s : Prop} {k0 : κ} {x : α}
    (h : ∀ k, M k ↔ ∃ v, dget d k = some v ∧ P v) (hnew : P x ↔ s) (hold : M k0 → s) (k : κ) :
    (k = k0 ∧ s) ∨ M k ↔ ∃ v, dget (dset d k0 x) k = some v ∧ P v := by
  rw [dget_dset]; split
  · rename_i e; subst e
    exact ⟨fun h' => ⟨x, rfl, hnew.mpr (h'.elim And.right hold)⟩,
      fun ⟨_, e, p⟩ => Or.inl ⟨rfl, hnew.mp (Option.some.inj e ▸ p)⟩⟩
  · rename_i e; rw [← h]; exact or_iff_right fun h' => e h'.1.symm

theorem mem_of_dget {d : Dict κ α} {k : κ} {v : α} (h : dget d k = some v) : (k, v) ∈ d := by
  induction d with
  | nil => cases h
  | cons p r ih =>
    unfold dget at h
    split at h
    · rename_i e; cases h; subst e; exact List.mem_cons_self
    · exact List.mem_cons_of_mem _ (ih h)

/-- `for x in l: d[key x] = val x`, for keys that are distinct on `l` -/
theorem dget_build {α β : Type} (key : α → κ) (val : α → β) (l : List α) (d0 : Dict κ β)
    (hinj : ∀ x ∈ l, ∀ y ∈ l, key x = key y → x = y) (k : κ) (v : β) :
    dget (l.foldl (fun d x => dset d (key x) (val x)) d0) k = some v ↔
      (∃ x ∈ l, key x = k ∧ val x = v) ∨ (dget d0 k = some v ∧ ∀ y ∈ l, key y ≠ k) := by
  induction l generalizing d0 with
  | nil => simp
  | cons a r ih =>
    simp only [List.foldl_cons]
    rw [ih (dset d0 (key a) (val a)) (fun x hx y hy => hinj x (List.mem_cons_of_mem _ hx) y (List.mem_cons_of_mem _ hy))]
    rw [dget_dset]
    constructor
    · rintro (⟨x, hx, e⟩ | ⟨hd, hall⟩)
      · exact Or.inl ⟨x, List.mem_cons_of_mem _ hx, e⟩
      · split at hd
        · rename_i hk; exact Or.inl ⟨a, List.mem_cons_self, hk, Option.some.inj hd⟩
        · rename_i hk
          exact Or.inr ⟨hd, fun y hy => (List.mem_cons.mp hy).elim (fun e => e ▸ hk) (hall y)⟩
    · rintro (⟨x, hx, e, ev⟩ | ⟨hd, hall⟩)
      · rcases List.mem_cons.mp hx with rfl | hx
        · by_cases hr : ∃ y ∈ r, key y = k
          · obtain ⟨y, hy, ey⟩ := hr
            have : x = y := hinj x List.mem_cons_self y (List.mem_cons_of_mem _ hy) (e.trans ey.symm)
            exact Or.inl ⟨y, hy, ey, this ▸ ev⟩
          · exact Or.inr ⟨by rw [if_pos e, ev], fun y hy ey => hr ⟨y, hy, ey⟩⟩
        · exact Or.inl ⟨x, hx, e, ev⟩
      · refine Or.inr ⟨?_, fun y hy => hall y (List.mem_cons_of_mem _ hy)⟩
        rw [if_neg (hall a List.mem_cons_self)]; exact hd

end dict

theorem replaceFirst_none {l : List Nat} {x y : Nat} : replaceFirst l x y = none ↔ x ∉ l := by
  induction l with
  | nil => simp [replaceFirst]
  | cons a r ih =>
    by_cases h : a = x
    · subst h; simp [replaceFirst]
    · simp [replaceFirst, h, ih, Ne.symm h]

theorem replaceFirst_some_mem {l l' : List Nat} {x y : Nat} (h : replaceFirst l x y = some l') : x ∈ l := by
  refine Decidable.byContradiction fun hx => ?_
  rw [replaceFirst_none.mpr hx] at h; cases h

/-- `l[l.index(x)] = y` on a duplicate-free list: `x` goes, `y` comes -/
theorem replaceFirst_spec {l : List Nat} {x y : Nat} (hn : l.Nodup) (hx : x ∈ l) (hy : y ∉ l) :
    ∃ l', replaceFirst l x y = some l' ∧ l'.Nodup ∧ ∀ z, z ∈ l' ↔ z = y ∨ (z ∈ l ∧ z ≠ x) := by
  induction l with
  | nil => cases hx
  | cons a r ih =>
    have ⟨har, hr⟩ := List.nodup_cons.mp hn
    have hyr : y ∉ r := fun h => hy (List.mem_cons_of_mem _ h)
    have hya : y ≠ a := fun h => hy (h ▸ List.mem_cons_self)
    by_cases hax : a = x
    · subst hax
      refine ⟨y :: r, by simp only [replaceFirst, if_true], List.nodup_cons.mpr ⟨hyr, hr⟩, fun z => ⟨?_, ?_⟩⟩
      · intro h
        exact (List.mem_cons.mp h).imp_right fun h => ⟨List.mem_cons_of_mem _ h, fun e => har (e ▸ h)⟩
      · rintro (e | ⟨h, hne⟩)
        · exact e ▸ List.mem_cons_self
        · exact List.mem_cons_of_mem _ ((List.mem_cons.mp h).resolve_left hne)
    · obtain ⟨r', e, hn', hm⟩ := ih hr ((List.mem_cons.mp hx).resolve_left (Ne.symm hax)) hyr
      refine ⟨a :: r', by simp only [replaceFirst, hax, if_false, e, Option.map_some], ?_, fun z => ⟨?_, ?_⟩⟩
      · exact List.nodup_cons.mpr ⟨fun h => ((hm a).mp h).elim (fun e => hya e.symm) (fun h => har h.1), hn'⟩
      · intro h
        rcases List.mem_cons.mp h with e | h
        · exact Or.inr ⟨e ▸ List.mem_cons_self, e ▸ hax⟩
        · exact ((hm z).mp h).imp_right fun h => ⟨List.mem_cons_of_mem _ h.1, h.2⟩
      · rintro (e | ⟨h, hne⟩)
        · exact List.mem_cons_of_mem _ ((hm z).mpr (Or.inl e))
        · exact (List.mem_cons.mp h).elim (fun e => e ▸ List.mem_cons_self)
            fun h => List.mem_cons_of_mem _ ((hm z).mpr (Or.inr ⟨h, hne⟩))

theorem replaceFirst_self {l : List Nat} {x : Nat} (h : x ∈ l) : replaceFirst l x x = some l := by
  induction l with
  | nil => cases h
  | cons a r ih =>
    unfold replaceFirst
    by_cases e : a = x
    · simp [e]
    · simp [e, ih ((List.mem_cons.mp h).resolve_left (Ne.symm e))]

/-- `Model.Grid.pre` states "a permutation of" on looked-up names, a list of options, against the listed objects under `some` -/
theorem perm_of_map_some {α} {l l0 : List α} (hp : (l.map some).Perm (l0.map some)) : l.Perm l0 := by
  have := hp.filterMap id
  simpa only [List.filterMap_map, Function.comp_def, id, List.filterMap_some] using this

theorem lookupAll_some {κ} [DecidableEq κ] {d : Dict κ Nat} {ks : List κ} {l : List Nat}
    (h : lookupAll d ks = some l) : ks.map (dget d) = l.map some := by
  induction ks generalizing l with
  | nil => simp [lookupAll] at h; subst h; rfl
  | cons k r ih =>
    unfold lookupAll at h
    cases hk : dget d k with
    | none => simp [hk] at h
    | some v =>
      simp only [hk, Option.map_eq_some_iff] at h
      obtain ⟨l', hl', rfl⟩ := h
      simp [hk, ih hl']

theorem lookupAll_none {κ} [DecidableEq κ] {d : Dict κ Nat} {ks : List κ}
    (h : lookupAll d ks = none) : none ∈ ks.map (dget d) := by
  induction ks with
  | nil => simp [lookupAll] at h
  | cons k r ih =>
    unfold lookupAll at h
    cases hd : dget d k with
    | none => simp [hd]
    | some v =>
      simp only [hd, Option.map_eq_none_iff] at h
      simp [ih h]

theorem findOutside_some {l : List Nat} {n : Nat} {p : Nat → Bool} {x : Nat} (h : findOutside l n p = some x) :
    x < n ∧ x ∉ l ∧ p x = true := by
  unfold findOutside at h
  have h1 := List.find?_some h
  have h2 := List.mem_of_find?_eq_some h
  simp only [List.mem_reverse, List.mem_range] at h2
  simp only [Bool.and_eq_true, Bool.not_eq_true', List.contains_eq_mem, decide_eq_false_iff_not] at h1
  exact ⟨h2, h1.1, h1.2⟩

theorem indexOf?_some {l : List Nat} {x i : Nat} (h : indexOf? l x = some i) : l[i]? = some x := by
  induction l generalizing i with
  | nil => simp [indexOf?] at h
  | cons a r ih =>
    unfold indexOf? at h
    split at h
    · rename_i e; cases h; simp [e]
    · simp only [Option.map_eq_some_iff] at h
      obtain ⟨j, hj, rfl⟩ := h
      simp [ih hj]

theorem indexOf?_of_mem {l : List Nat} {x : Nat} (h : x ∈ l) : ∃ i, indexOf? l x = some i := by
  induction l with
  | nil => cases h
  | cons a r ih =>
    unfold indexOf?
    by_cases e : a = x
    · exact ⟨0, by simp [e]⟩
    · obtain ⟨i, hi⟩ := ih ((List.mem_cons.mp h).resolve_left (Ne.symm e))
      exact ⟨i + 1, by simp [e, hi]⟩

section sets
variable {α : Type} [DecidableEq α]

theorem mem_sadd (s : List α) (k k' : α) : k' ∈ sadd s k ↔ k' = k ∨ k' ∈ s := by
  unfold sadd; split
  · exact ⟨Or.inr, fun h => h.elim (fun e => e ▸ ‹k ∈ s›) id⟩
  · simp [or_comm]

theorem nodup_sadd {s : List α} (k : α) (h : s.Nodup) : (sadd s k).Nodup := by
  unfold sadd; split
  · exact h
  · rename_i hk
    exact List.nodup_append.mpr ⟨h, List.pairwise_singleton _ k, fun a ha b hb e => hk (List.mem_singleton.mp hb ▸ e ▸ ha)⟩

end sets

theorem insertSorted_perm (x : Str) (l : List Str) : (insertSorted x l).Perm (x :: l) := by
  induction l with
  | nil => exact List.Perm.refl _
  | cons y r ih =>
    unfold insertSorted
    split
    · exact List.Perm.refl _
    · exact (List.Perm.cons y ih).trans (List.Perm.swap x y r)

theorem sortNames_perm (l : List Str) : (sortNames l).Perm l := by
  induction l with
  | nil => exact List.Perm.refl _
  | cons x r ih => exact (insertSorted_perm x _).trans (List.Perm.cons x ih)

theorem set_getD_self {α} [Inhabited α] (l : List α) (i : Nat) : l.set i (l.getD i default) = l := by
  by_cases h : i < l.length
  · rw [← List.getElem_eq_getD (h := h), List.set_getElem_self]
  · exact List.set_eq_of_length_le (Nat.le_of_not_lt h)

theorem getD_append_one {α} (l : List α) (j : Nat) (v d : α) :
    (l ++ [v]).getD j d = if j < l.length then l.getD j d else if j = l.length then v else d := by
  simp only [List.getD_eq_getElem?_getD, List.getElem?_append, List.getElem?_singleton]
  by_cases h : j < l.length
  · simp only [h, if_true]
  · have : j - l.length = 0 ↔ j = l.length := by omega
    simp only [h, if_false, this]
    split <;> rfl

theorem sumRat_cons (x : Rat) (l : List Rat) : sumRat (x :: l) = x + sumRat l := by
  unfold sumRat; rw [List.foldl_cons, Rat.add_comm 0 x, List.foldl_assoc]

theorem sumRat_nil : sumRat [] = 0 := rfl

theorem sumRat_append (l1 l2 : List Rat) : sumRat (l1 ++ l2) = sumRat l1 + sumRat l2 := by
  induction l1 with
  | nil => exact (Rat.zero_add _).symm
  | cons x r ih => rw [List.cons_append, sumRat_cons, sumRat_cons, ih, Rat.add_assoc]

theorem sumRat_perm {l1 l2 : List Rat} (h : l1.Perm l2) : sumRat l1 = sumRat l2 := by
  induction h with
  | nil => rfl
  | cons x _ ih => rw [sumRat_cons, sumRat_cons, ih]
  | swap x y l => rw [sumRat_cons, sumRat_cons, sumRat_cons, sumRat_cons, ← Rat.add_assoc, ← Rat.add_assoc, Rat.add_comm y x]
  | trans _ _ ih1 ih2 => exact ih1.trans ih2

theorem sumRat_map_update (l : List Nat) (hn : l.Nodup) (f g : Nat → Rat) (b : Nat) (hb : b ∈ l)
    (hfg : ∀ x, x ≠ b → g x = f x) : sumRat (l.map g) = sumRat (l.map f) - f b + g b := by
  induction l with
  | nil => cases hb
  | cons a r ih =>
    have ⟨har, hr⟩ := List.nodup_cons.mp hn
    simp only [List.map_cons, sumRat_cons]
    rcases List.mem_cons.mp hb with e | hb'
    · subst e
      have : r.map g = r.map f := List.map_congr_left (fun x hx => hfg x (fun e => har (e ▸ hx)))
      rw [this]; grind
    · have hab : a ≠ b := fun e => har (e ▸ hb')
      rw [ih hr hb', hfg a hab]; grind

theorem sumRat_map_mul (c : Rat) (l : List Rat) : sumRat (l.map (c * ·)) = c * sumRat l := by
  induction l with
  | nil => exact (Rat.mul_zero c).symm
  | cons x r ih => rw [List.map_cons, sumRat_cons, sumRat_cons, ih, Rat.mul_add]

theorem sumRat_map_div (s : Rat) (l : List Rat) : sumRat (l.map (· / s)) = sumRat l / s := by
  induction l with
  | nil => show (0 : Rat) = 0 / s; rw [Rat.div_def, Rat.zero_mul]
  | cons x r ih => rw [List.map_cons, sumRat_cons, sumRat_cons, ih, Rat.div_def, Rat.div_def, Rat.div_def, Rat.add_mul]

theorem sumRat_normFracs (l : List Rat) (h : sumRat l ≠ 0) : sumRat (normFracs l) = 1 := by
  unfold normFracs; rw [sumRat_map_div, Rat.div_def, Rat.mul_inv_cancel _ h]

theorem normFracs_split (V : Rat) (fracs : List Rat) (hne : fracs ≠ []) (hs : sumRat fracs ≠ 0) :
    V * (normFracs fracs).headD 0 + V * sumRat ((normFracs fracs).drop 1) = V := by
  have h := sumRat_normFracs fracs hs
  cases e : normFracs fracs with
  | nil => exact absurd (List.map_eq_nil_iff.mp e) hne
  | cons x r =>
    rw [e, sumRat_cons] at h
    rw [← Rat.mul_add, List.headD_cons, List.drop_one, List.tail_cons, h, Rat.mul_one]

/-- a volume `s` added to a sum and taken out of one of its terms `v` -/
theorem add_sub_add_sub_cancel (a s v : Rat) : a + s - v + (v - s) = a := by grind

end Proofs.Grid
