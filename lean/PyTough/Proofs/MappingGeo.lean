/-
  C19 helper lemmas about the geometry model: unique names, `block_name_list`,
  the first layer below a column's surface.
-/
import PyTough.Proofs.Mapping
namespace Proofs.Mapping
open Py Model.Mapping

theorem nodupB_iff (l : List Str) : nodupB l = true ↔ l.Nodup := by
  induction l with
  | nil => simp [nodupB]
  | cons a as ih =>
    simp only [nodupB, Bool.and_eq_true, Bool.not_eq_true', List.contains_eq_mem, decide_eq_false_iff_not,
      List.nodup_cons, ih]

structure NamesWF (g : Geo) : Prop where
  colLen : ∀ c ∈ g.cols, c.name.length = colLen g.conv
  layLen : ∀ l ∈ g.lays, l.name.length = layLen g.conv
  colNodup : nodupB (g.cols.map (·.name)) = true
  layNodup : nodupB (g.lays.map (·.name)) = true

theorem namesWF_of {g : Geo} (h : namesOK g = true) : NamesWF g := by
  simp only [namesOK, Bool.and_eq_true, List.all_eq_true, beq_iff_eq] at h
  obtain ⟨⟨⟨hcolLen, hlayLen⟩, hcolNodup⟩, hlayNodup⟩ := h
  exact ⟨hcolLen, hlayLen, hcolNodup, hlayNodup⟩

theorem NamesWF.colsNodup {g : Geo} (h : NamesWF g) : (g.cols.map (·.name)).Nodup := (nodupB_iff _).mp h.colNodup

theorem NamesWF.laysNodup {g : Geo} (h : NamesWF g) : (g.lays.map (·.name)).Nodup := (nodupB_iff _).mp h.layNodup

theorem atmColName_length (cv : Conv) : (atmColName cv).length = colLen cv := by
  cases cv <;> rfl

theorem colName_mem {g : Geo} {c : Col} (hc : c ∈ g.cols) : c.name ∈ atmColName g.conv :: g.cols.map (·.name) :=
  List.mem_cons_of_mem _ (List.mem_map_of_mem hc)

theorem lay0_eq {g : Geo} {l0 : Lay} {rest : List Lay} (hl : g.lays = l0 :: rest) : g.lay0 = .ok l0 := by
  unfold Geo.lay0; rw [hl]

theorem findCol_mem {g : Geo} (h : NamesWF g) {c : Col} (hc : c ∈ g.cols) : g.findCol c.name = .ok c := by
  unfold Geo.findCol
  rw [find?_of_mem_nodup h.colsNodup hc fun _ => beq_iff_eq]

theorem findCol_inv {g : Geo} {n : Str} {c : Col} (h : g.findCol n = .ok c) : c ∈ g.cols ∧ c.name = n := by
  unfold Geo.findCol at h
  split at h
  · rename_i c' hc'
    cases h
    exact ⟨List.mem_of_find?_eq_some hc', by simpa using List.find?_some hc'⟩
  · cases h

theorem findLay_mem {g : Geo} (h : NamesWF g) {l : Lay} (hl : l ∈ g.lays) : g.findLay l.name = .ok l := by
  unfold Geo.findLay
  rw [find?_of_mem_nodup h.laysNodup hl fun _ => beq_iff_eq]

theorem lay_ne_lay0 {g : Geo} (h : NamesWF g) {l0 : Lay} {rest : List Lay} (hl : g.lays = l0 :: rest)
    {l : Lay} (hm : l ∈ rest) : l.name ≠ l0.name := by
  have := h.laysNodup
  rw [hl] at this
  exact fun e => (List.nodup_cons.mp this).1 (List.mem_map.mpr ⟨l, hm, e⟩)

theorem mem_underPairs (g : Geo) (l : Lay) (c : Col) :
    (l, c) ∈ g.underPairs ↔ l ∈ g.lays.drop 1 ∧ c ∈ g.cols ∧ l.bottom < c.surface := by
  simp only [Geo.underPairs, Geo.layerCols, List.mem_flatMap, List.mem_map, List.mem_filter,
    decide_eq_true_eq, Prod.mk.injEq]
  constructor
  · rintro ⟨l', hl', c', ⟨hc', hs⟩, rfl, rfl⟩
    exact ⟨hl', hc', hs⟩
  · rintro ⟨hl, hc, hs⟩
    exact ⟨l, hl, c, ⟨hc, hs⟩, rfl, rfl⟩

/-- the node-count condition of DMPlex order -/
def DmplexOK (g : Geo) : Prop := g.dmplex = true → ∀ c ∈ g.cols, c.numNodes = 4 ∨ c.numNodes = 3

theorem dmplexOK_of {g : Geo} (h : g.dmplex = false ∨ ∀ c ∈ g.cols, c.numNodes = 4 ∨ c.numNodes = 3) : DmplexOK g :=
  fun hd => h.resolve_left (by simp [hd])

theorem dmplexEntry_name {cv : Conv} {p : Lay × Col} {x : Bool × Str} (h : dmplexEntry cv p = .ok x) :
    blockName cv p.1.name p.2.name = .ok x.2 := by
  unfold dmplexEntry at h
  split at h
  · cases h
  · rename_i n hn
    split at h
    · cases h; exact hn
    · split at h
      · cases h; exact hn
      · cases h

theorem underNames_spec {g : Geo} (h : NamesWF g) (hd : DmplexOK g) :
    ∃ un, g.underNames = .ok un ∧
      ∀ n, n ∈ un ↔ ∃ p ∈ g.underPairs, blockName g.conv p.1.name p.2.name = .ok n := by
  have hok : ∀ p ∈ g.underPairs, ∃ m, blockName g.conv p.1.name p.2.name = .ok m := by
    intro p hp
    have := (mem_underPairs g p.1 p.2).mp hp
    exact blockName_ok _ _ _ (h.layLen _ (List.mem_of_mem_drop this.1)) (h.colLen _ this.2.1)
  unfold Geo.underNames
  by_cases hdm : g.dmplex = true
  · rw [if_pos hdm]
    have hok' : ∀ p ∈ g.underPairs, ∃ b, dmplexEntry g.conv p = .ok b := by
      intro p hp
      obtain ⟨m, hm⟩ := hok p hp
      have hc := ((mem_underPairs g p.1 p.2).mp hp).2.1
      unfold dmplexEntry
      rcases hd hdm p.2 hc with h4 | h3
      · exact ⟨(true, m), by simp [hm, h4]⟩
      · exact ⟨(false, m), by simp [hm, h3]⟩
    obtain ⟨bs, hbs⟩ := mapE_ok_of_each _ _ hok'
    rw [hbs]
    refine ⟨_, rfl, ?_⟩
    intro n
    simp only [List.mem_append, List.mem_map, List.mem_filter]
    constructor
    · rintro (⟨x, ⟨hx, _⟩, rfl⟩ | ⟨x, ⟨hx, _⟩, rfl⟩)
      all_goals
        obtain ⟨p, hp, hf⟩ := mapE_mem_right hbs x hx
        exact ⟨p, hp, dmplexEntry_name hf⟩
    · rintro ⟨p, hp, hn⟩
      obtain ⟨x, hx, hf⟩ := mapE_mem_left hbs p hp
      have := dmplexEntry_name hf
      rw [hn] at this
      cases this
      cases h1 : x.1
      · exact Or.inr ⟨x, ⟨hx, by simp [h1]⟩, rfl⟩
      · exact Or.inl ⟨x, ⟨hx, h1⟩, rfl⟩
  · rw [if_neg hdm]
    obtain ⟨bs, hbs⟩ := mapE_ok_of_each (underEntry g.conv) _ hok
    refine ⟨bs, hbs, ?_⟩
    intro n
    constructor
    · intro hn; exact mapE_mem_right hbs n hn
    · rintro ⟨p, hp, hn⟩
      obtain ⟨b, hb, hf⟩ := mapE_mem_left hbs p hp
      unfold underEntry at hf
      rw [hn] at hf; cases hf; exact hb

/-- the column names over which `g` has an atmosphere block -/
def atmCols (g : Geo) : List Str :=
  if g.atm = 0 then [atmColName g.conv] else if g.atm = 1 then g.cols.map (·.name) else []

theorem atmCols_zero {g : Geo} (h0 : g.atm = 0) : atmCols g = [atmColName g.conv] := by
  rw [atmCols, if_pos h0]

theorem atmCols_one {g : Geo} (h1 : g.atm = 1) : atmCols g = g.cols.map (·.name) := by
  rw [atmCols, if_neg (by omega), if_pos h1]

theorem mem_atmCols {g : Geo} {cn : Str} :
    cn ∈ atmCols g ↔ g.atm = 0 ∧ cn = atmColName g.conv ∨ g.atm = 1 ∧ ∃ c ∈ g.cols, cn = c.name := by
  unfold atmCols
  by_cases h0 : g.atm = 0
  · simp [h0]
  · by_cases h1 : g.atm = 1
    · simp [h1, eq_comm]
    · simp [h0, h1]

theorem atmCols_sub {g : Geo} {cn : Str} (h : cn ∈ atmCols g) : cn ∈ atmColName g.conv :: g.cols.map (·.name) := by
  rcases mem_atmCols.mp h with ⟨_, rfl⟩ | ⟨_, c, hc, rfl⟩
  · exact List.mem_cons_self ..
  · exact colName_mem hc

theorem colName_length {g : Geo} (h : NamesWF g) {cn : Str} (hcn : cn ∈ atmColName g.conv :: g.cols.map (·.name)) :
    cn.length = colLen g.conv := by
  rcases List.mem_cons.mp hcn with rfl | hcn
  · exact atmColName_length _
  · obtain ⟨c, hc, rfl⟩ := List.mem_map.mp hcn
    exact h.colLen c hc

theorem atmNames_eq {g : Geo} {l0 : Lay} {rest : List Lay} (hl : g.lays = l0 :: rest) :
    g.atmNames = mapE (blockName g.conv l0.name) (atmCols g) := by
  unfold Geo.atmNames atmCols
  rw [hl]
  by_cases h0 : g.atm = 0
  · simp only [if_pos h0, mapE]
    cases blockName g.conv l0.name (atmColName g.conv) with
    | error e => rfl
    | ok n => rfl
  · by_cases h1 : g.atm = 1
    · simp only [if_neg h0, if_pos h1, mapE_map]
      rfl
    · simp only [if_neg h0, if_neg h1]
      rfl

theorem numAtmBlocks_eq {g : Geo} (h : g.atm ≤ 2) : g.numAtmBlocks = .ok (atmCols g).length := by
  unfold Geo.numAtmBlocks atmCols
  match hh : g.atm with
  | 0 => rfl
  | 1 => rw [if_neg (by omega), if_pos rfl, List.length_map]; rfl
  | 2 => rfl
  | n + 3 => omega

theorem blockNameList_eq {g : Geo} {l0 : Lay} {rest : List Lay} (hl : g.lays = l0 :: rest)
    {an un : List Str} (ha : g.atmNames = .ok an) (hu : g.underNames = .ok un) :
    g.blockNameList = .ok (an ++ un) := by
  unfold Geo.blockNameList
  rw [hl]
  simp only [ha, hu]

/-- `an` and `un` are the two parts of `block_name_list` of `g` (atmosphere layer `l0`), and which names they hold -/
structure BlockNames (g : Geo) (l0 : Lay) (an un : List Str) : Prop where
  atm : g.atmNames = .ok an
  under : g.underNames = .ok un
  all : g.blockNameList = .ok (an ++ un)
  atmE : mapE (blockName g.conv l0.name) (atmCols g) = .ok an
  mem : ∀ n, n ∈ un ↔ ∃ p ∈ g.underPairs, blockName g.conv p.1.name p.2.name = .ok n

theorem blockNames_spec {g : Geo} (h : NamesWF g) (hd : DmplexOK g) {l0 : Lay} {rest : List Lay}
    (hl : g.lays = l0 :: rest) : ∃ an un, BlockNames g l0 an un := by
  obtain ⟨an, han⟩ := mapE_ok_of_each (blockName g.conv l0.name) (atmCols g) fun cn hcn =>
    blockName_ok _ _ _ (h.layLen l0 (by rw [hl]; simp)) (colName_length h (atmCols_sub hcn))
  obtain ⟨un, hun, hm⟩ := underNames_spec h hd
  have ha := (atmNames_eq hl).trans han
  exact ⟨an, un, ha, hun, blockNameList_eq hl ha hun, han, hm⟩

theorem BlockNames.atm0 {g : Geo} {l0 : Lay} {an un : List Str} (hN : BlockNames g l0 an un) (h0 : g.atm = 0) :
    ∃ n, blockName g.conv l0.name (atmColName g.conv) = .ok n ∧ an = [n] := by
  have := hN.atmE
  rw [atmCols_zero h0] at this
  obtain ⟨n, r, rfl, hn, hr⟩ := mapE_cons_ok this
  cases hr
  exact ⟨n, hn, rfl⟩

theorem bottomsDesc_pairwise : ∀ L : List Lay, bottomsDesc L = true → L.Pairwise (fun a b => b.bottom ≤ a.bottom)
  | [], _ => .nil
  | [_], _ => List.pairwise_singleton ..
  | a :: b :: r, h => by
    simp only [bottomsDesc, Bool.and_eq_true, decide_eq_true_eq] at h
    have ih := bottomsDesc_pairwise (b :: r) h.2
    refine List.pairwise_cons.mpr ⟨fun l hl => ?_, ih⟩
    rcases List.mem_cons.mp hl with rfl | hl
    · exact h.1
    · exact Rat.le_trans ((List.pairwise_cons.mp ih).1 l hl) h.1

/-- in a list with descending bottoms, the layers below `z` form a suffix: the element at
    position `length - count` is the first one below `z` -/
theorem first_below (L : List Lay) (z : Rat) (hs : L.Pairwise (fun a b => b.bottom ≤ a.bottom))
    (hk : 1 ≤ (L.filter (fun l => l.bottom < z)).length) :
    ∃ sl, L[L.length - (L.filter (fun l => l.bottom < z)).length]? = some sl ∧
      L.find? (fun l => l.bottom < z) = some sl ∧ sl ∈ L ∧ sl.bottom < z := by
  induction L with
  | nil => simp at hk
  | cons a r ih =>
    obtain ⟨hdesc, hr⟩ := List.pairwise_cons.mp hs
    by_cases ha : a.bottom < z
    · have hall : ∀ l ∈ r, l.bottom < z := fun l hl => Std.lt_of_le_of_lt (hdesc l hl) ha
      have hf : (a :: r).filter (fun l => l.bottom < z) = a :: r := by
        rw [List.filter_eq_self]
        intro l hl
        rcases List.mem_cons.mp hl with rfl | hl
        · simpa using ha
        · simpa using hall l hl
      rw [hf]
      refine ⟨a, by simp, by simp [ha], by simp, ha⟩
    · have hf : (a :: r).filter (fun l => l.bottom < z) = r.filter (fun l => l.bottom < z) := by
        simp [ha]
      rw [hf] at hk ⊢
      obtain ⟨sl, h1, h2, h3, h4⟩ := ih hr hk
      have hle : (r.filter (fun l => l.bottom < z)).length ≤ r.length := List.length_filter_le _ _
      refine ⟨sl, ?_, by simp [ha, h2], by simp [h3], h4⟩
      have : (a :: r).length - (r.filter (fun l => l.bottom < z)).length
          = (r.length - (r.filter (fun l => l.bottom < z)).length) + 1 := by
        simp only [List.length_cons]; omega
      rw [this, List.getElem?_cons_succ]
      exact h1

/-- `column_surface_layer` of a column whose stored `num_layers` is the number of layers
    below its surface (≥ 1): the first underground layer whose bottom is below the surface -/
theorem surfaceLayer_spec {g : Geo} {c : Col} {l0 : Lay} {L : List Lay} (hl : g.lays = l0 :: L)
    (hs : bottomsDesc L = true) (hn : c.numLayers = (L.filter (fun l => l.bottom < c.surface)).length)
    (h1 : 1 ≤ c.numLayers) :
    ∃ sl, g.surfaceLayer c = .ok sl ∧ L.find? (fun l => l.bottom < c.surface) = some sl ∧
      sl ∈ L ∧ sl.bottom < c.surface := by
  obtain ⟨sl, e1, e2, e3, e4⟩ := first_below L c.surface (bottomsDesc_pairwise L hs) (by omega)
  refine ⟨sl, ?_, e2, e3, e4⟩
  have hle : (L.filter (fun l => l.bottom < c.surface)).length ≤ L.length := List.length_filter_le _ _
  unfold Geo.surfaceLayer pyIdx
  rw [hl]
  simp only [List.length_cons]
  have hnn : ¬ ((↑(L.length + 1) : Int) - (↑c.numLayers : Int) < 0) := by omega
  simp only [hnn, if_false]
  have : ((↑(L.length + 1) : Int) - (↑c.numLayers : Int)).toNat = (L.length - c.numLayers) + 1 := by omega
  rw [this, List.getElem?_cons_succ, hn, e1]

end Proofs.Mapping
