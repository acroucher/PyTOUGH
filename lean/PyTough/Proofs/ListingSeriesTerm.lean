/-
  Property C06 ("the call always terminates").  For every family: which parts of history() cannot spin (`NoDivE`) and
  exactly when `history_table` does (`historyTable_diverges_iff`).  For the AUTOUGH2 family (from `Suf` on): the only way
  the call can fail to return is that `skip_to_nonblank` or `skip_to_results_line` runs to the end of the file without
  meeting its stop condition, at a cursor further down the lines the call started on (`history_diverges_at_position`).
  Core Lean only.
-/
import PyTough.Model.ListingHistory
import PyTough.Proofs.ListingFile
import PyTough.Proofs.ListingWholeRun
import PyTough.Proofs.ListingSeriesTimes
import PyTough.Proofs.Literals
namespace Proofs.SeriesTerm
open Py Model Model.Listing

def DivFrom (P : Prop) (env : Rd) {α : Type} (m : C α) : Prop := ∀ c, m env c = .error .diverges → P

/-- for the parts of history() that read no line: the outcome is not `diverges` -/
def NoDivE {α : Type} (x : Except LErr α) : Prop := x ≠ .error .diverges

section closure
variable {P : Prop} {env : Rd} {α β : Type}

theorem DivFrom.read : DivFrom P env (read : C Rd) := by
  intro c h; cases h

theorem DivFrom.throwPy (e : Exc) : DivFrom P env (throw (LErr.py e) : C α) := by
  intro c h; cases h

theorem DivFrom.throwNamed (e : String) : DivFrom P env (throw (LErr.named e) : C α) := by
  intro c h; cases h

end closure

section exc
variable {α β : Type}

theorem NoDivE.ok (a : α) : NoDivE (Except.ok a : Except LErr α) := by
  intro h; cases h

theorem NoDivE.throwPy (e : Exc) : NoDivE (throw (LErr.py e) : Except LErr α) := by
  intro h; cases h

theorem NoDivE.bind {m : Except LErr α} {f : α → Except LErr β} (hm : NoDivE m) (hf : ∀ a, NoDivE (f a)) :
    NoDivE (m >>= f) := by
  intro h
  cases m with
  | error e => exact hm (by cases e <;> first | rfl | cases h)
  | ok a => exact hf a h

theorem NoDivE.ite {c : Prop} [Decidable c] {a b : Except LErr α} (ha : NoDivE a) (hb : NoDivE b) :
    NoDivE (if c then a else b) := by
  split
  · exact ha
  · exact hb

end exc

theorem tablenameFromSpec_nodiv (spec : Str) : NoDivE (tablenameFromSpec spec) := by
  unfold tablenameFromSpec
  split
  · exact .throwPy _
  · extract_lets base
    clear_value base
    split
    · exact .ok _
    · exact .ite (.ok _) (.ok _)

theorem convertItem_nodiv (s : Rd) (k : Nat) (it : Item) : NoDivE (convertItem s k it) := by
  unfold convertItem
  refine .bind (tablenameFromSpec_nodiv _) fun x => ?_
  -- an unknown table name, a table not present, a row not found: `None`
  split
  · split
    · extract_lets found
      clear_value found
      split
      · -- `rest index`: the look-up of the line in the short output, after `row_line` has given `index`
        extract_lets rest
        have hrest : ∀ index, NoDivE (rest index) := by
          intro index
          refine .ite ?_ (.bind (.ok _) fun _ => .ok _)
          split
          · exact .bind (.throwPy _) fun _ => .ok _
          · exact .bind (.ok _) fun _ => .ok _
        clear_value rest
        split
        · exact .ite (.bind (.ok _) hrest) (.ite (.bind (.throwPy _) hrest) (.bind (.ok _) hrest))
        · exact .bind (.ok _) hrest
      · exact .ok _
    · exact .ok _
  · exact .ok _

theorem conv_nodiv (s : Rd) (items : List Item) (k : Nat) : NoDivE (orderedSelection.conv s items k) := by
  induction items generalizing k with
  | nil => exact .ok _
  | cons it r ih => exact .bind (convertItem_nodiv s k it) fun _ => .bind (ih _) fun _ => .ok _

theorem orderedSelection_nodiv (s : Rd) (items : List Item) : NoDivE (orderedSelection s items) :=
  .bind (conv_nodiv s items 0) fun _ => .ok _

/-- `isResultsLine [] e`: the empty string read at end of file is tested like a line -/
theorem skipToResultsLineL_spins_iff (e : Int) (rest : List Str) (n k : Nat) :
    skipToResultsLineL e rest n k = none ↔ (isResultsLine [] e = false ∧ ∀ l ∈ rest, isResultsLine (strip l) e = false) := by
  have hnil := @dropWhile_eq_nil_iff _ (fun l => !isResultsLine (strip l) e) rest
  simp only [Bool.not_eq_true'] at hnil
  rw [Proofs.Whole.skipToResultsLineL_eq, ← hnil, and_comm]
  clear hnil
  dsimp only
  split <;> simp [*]

theorem skipToNonblank_diverges_iff (env : Rd) (cur : Cur) :
    Cu.skipToNonblank env cur = .error .diverges ↔ ∀ l ∈ cur.pos.rest, isBlank l = true := by
  rw [← Proofs.File.skipToNonblank_spins_iff cur.pos.rest cur.pos.no, Proofs.Whole.cu_skipToNonblank_run]
  cases skipToNonblankL cur.pos.rest cur.pos.no with
  | none => exact ⟨fun _ => rfl, fun _ => rfl⟩
  | some p => exact ⟨nofun, nofun⟩

theorem skipToResultsLine_diverges_iff (e : Int) (env : Rd) (cur : Cur) :
    Cu.skipToResultsLine e env cur = .error .diverges ↔
      (isResultsLine [] e = false ∧ ∀ l ∈ cur.pos.rest, isResultsLine (strip l) e = false) := by
  rw [← skipToResultsLineL_spins_iff e cur.pos.rest cur.pos.no 1, Proofs.Whole.cu_skipToResultsLine_run]
  cases skipToResultsLineL e cur.pos.rest cur.pos.no 1 with
  | none => exact ⟨fun _ => rfl, fun _ => rfl⟩
  | some p => exact ⟨nofun, nofun⟩

/-- at cursor `cur` one of the two line scans that have no end-of-file test spins -/
def Spin (env : Rd) (cur : Cur) : Prop :=
  Cu.skipToNonblank env cur = .error .diverges ∨ ∃ e : Int, Cu.skipToResultsLine e env cur = .error .diverges

/-- holds for every `env` (a cursor with no lines left spins in `skip_to_nonblank`): nothing here ties the cursor to the run,
    so statements phrased with it carry no information; `history_diverges_at_position` is the one that does -/
def SpinsAt (env : Rd) : Prop :=
  ∃ cur : Cur, Cu.skipToNonblank env cur = .error .diverges ∨ ∃ e : Int, Cu.skipToResultsLine e env cur = .error .diverges

/-- likewise always true (`rest = []`) -/
def SpinsAtEof : Prop :=
  ∃ rest : List Str, (∀ l ∈ rest, isBlank l = true) ∨
    (∃ e : Int, isResultsLine [] e = false ∧ ∀ l ∈ rest, isResultsLine (strip l) e = false)

theorem Spin.lines {env : Rd} {cur : Cur} (h : Spin env cur) : (∀ l ∈ cur.pos.rest, isBlank l = true) ∨
    (∃ e : Int, isResultsLine [] e = false ∧ ∀ l ∈ cur.pos.rest, isResultsLine (strip l) e = false) := by
  obtain h | ⟨e, h⟩ := h
  · exact .inl ((skipToNonblank_diverges_iff env cur).mp h)
  · exact .inr ⟨e, (skipToResultsLine_diverges_iff e env cur).mp h⟩

/-- the number of floats `skip_to_results_line` looks for in table `tn`; equal to `Proofs.Whole.expectedT tn cols` by `rfl` -/
def expectedFloats (tn : String) (cols : List Str) : Int :=
  let n : Int := if tn = "generation" then 1 else cols.length
  if cols.head? = some ['I'] then n - 1 else n

theorem historyTable_diverges_iff (tn : String) (ts : List Sel) (env : Rd) (c : Cur) :
    historyTable tn ts env c = .error .diverges ↔
      ∃ t, env.tables.lookup tn = some t ∧ t.cols ≠ [] ∧
        isResultsLine [] (expectedFloats tn t.cols) = false ∧
        ∀ l ∈ c.pos.rest, isResultsLine (strip l) (expectedFloats tn t.cols) = false := by
  rw [Proofs.error_iff_map_error _ (·.1), Proofs.SeriesTimes.historyTable_run]
  cases env.tables.lookup tn with
  | none => exact ⟨nofun, fun ⟨_, ht, _⟩ => nomatch ht⟩
  | some t =>
    simp only [Option.some.injEq, exists_eq_left']
    rw [← skipToResultsLineL_spins_iff (expectedFloats tn t.cols) c.pos.rest c.pos.no 1]
    show (match t.cols with
      | [] => .error (.py .indexError)
      | _ :: _ => match skipToResultsLineL (expectedFloats tn t.cols) c.pos.rest c.pos.no 1 with
        | none => .error .diverges
        | some r => _) = Except.error LErr.diverges ↔ _
    cases t.cols with
    | nil => exact ⟨nofun, fun h => absurd rfl h.1⟩
    | cons c0 cs =>
      cases skipToResultsLineL (expectedFloats tn (c0 :: cs)) c.pos.rest c.pos.no 1 with
      | none => exact ⟨fun _ => ⟨List.cons_ne_nil _ _, rfl⟩, fun _ => rfl⟩
      | some r =>
        refine ⟨fun h => ?_, fun h => nomatch h.2⟩
        dsimp only at h
        split at h <;> cases h

/-!
  `Suf c cur`: `cur` is further down the same lines as `c` (its remaining lines are a tail of those of `c`), with the
  same index.  `DivR env m`: a run of `m` that returns has only moved down the lines, and a run that spins does so in
  `skip_to_nonblank` or `skip_to_results_line` at a cursor further down the lines it started on. -/

def Suf (c cur : Cur) : Prop := cur.index = c.index ∧ ∃ k : Nat, cur.pos.rest = c.pos.rest.drop k

theorem Suf.refl (c : Cur) : Suf c c := ⟨rfl, 0, by simp⟩

theorem Suf.trans {a b c : Cur} (h1 : Suf a b) (h2 : Suf b c) : Suf a c := by
  obtain ⟨i1, k1, r1⟩ := h1
  obtain ⟨i2, k2, r2⟩ := h2
  exact ⟨i2.trans i1, k1 + k2, by rw [r2, r1, List.drop_drop]⟩

def DivRat (env : Rd) {α : Type} (m : C α) (c : Cur) : Prop :=
  (∀ a c', m env c = .ok (a, c') → Suf c c') ∧ (m env c = .error .diverges → ∃ cur, Suf c cur ∧ Spin env cur)

def DivR (env : Rd) {α : Type} (m : C α) : Prop := ∀ c, DivRat env m c

section closureR
variable {env : Rd} {α β : Type}

theorem DivRat.of_ok {m : C α} {c : Cur} {a : α} {p : Pos} (h : m env c = .ok (a, { c with pos := p }))
    (hp : p.rest <:+ c.pos.rest) : DivRat env m c := by
  constructor
  · intro a' c' h'
    rw [h] at h'; cases h'
    exact ⟨rfl, _, List.suffix_iff_eq_drop.mp hp⟩
  · intro h'
    rw [h] at h'; cases h'

theorem DivRat.of_error {m : C α} {c : Cur} {e : LErr} (h : m env c = .error e) (he : e = .diverges → Spin env c) :
    DivRat env m c := by
  constructor
  · intro a' c' h'
    rw [h] at h'; cases h'
  · intro h'
    rw [h] at h'
    exact ⟨c, Suf.refl c, he (by injection h')⟩

theorem DivR.pure (a : α) : DivR env (pure a : C α) := fun _ => .of_ok rfl (List.suffix_refl _)

theorem DivR.bind {m : C α} {f : α → C β} (hm : DivR env m) (hf : ∀ a, DivR env (f a)) : DivR env (m >>= f) := by
  intro c
  unfold DivRat
  rw [Proofs.Whole.cu_bind_run]
  cases hmc : m env c with
  | error e =>
    refine ⟨nofun, fun h => ?_⟩
    injection h with he
    exact (hm c).2 (he ▸ hmc)
  | ok v =>
    have h1 := (hm c).1 v.1 v.2 hmc
    refine ⟨fun b c' h => h1.trans ((hf v.1 v.2).1 b c' h), fun h => ?_⟩
    obtain ⟨cur, hs, hsp⟩ := (hf v.1 v.2).2 h
    exact ⟨cur, h1.trans hs, hsp⟩

theorem DivR.readBind {f : Rd → C β} (hf : DivR env (f env)) : DivR env (read >>= f) := hf

theorem DivR.getBind {f : Cur → C β} (hf : ∀ c, DivRat env (f c) c) : DivR env (get >>= f) := hf

theorem DivRat.readBind {f : Rd → C β} {c : Cur} (hf : DivRat env (f env) c) : DivRat env (read >>= f) c := hf

theorem DivR.ite {c : Prop} [Decidable c] {a b : C α} (ha : DivR env a) (hb : DivR env b) : DivR env (if c then a else b) := by
  split
  · exact ha
  · exact hb

theorem DivR.get : DivR env (get : C Cur) := fun _ => .of_ok rfl (List.suffix_refl _)

theorem DivR.read : DivR env (read : C Rd) := fun _ => .of_ok rfl (List.suffix_refl _)

theorem DivR.raise (e : Exc) : DivR env (Cu.raise e : C α) := fun _ => .of_error rfl fun h => nomatch h

theorem DivR.throwPy (e : Exc) : DivR env (throw (LErr.py e) : C α) := DivR.raise e

theorem DivR.throwNamed (e : String) : DivR env (throw (LErr.named e) : C α) := fun _ => .of_error rfl fun h => nomatch h

end closureR

section primR
variable {env : Rd}

theorem skipto_divR (kws : List Str) (start : Nat) : DivR env (Cu.skipto kws start) := by
  refine fun c => .of_ok (p := (skipToL kws start c.pos.rest c.pos.no).2) rfl ?_
  rw [Proofs.Whole.skipToL_eq]
  split
  · exact List.nil_suffix
  · rename_i l r h
    exact (List.suffix_cons l r).trans (h ▸ List.dropWhile_suffix _)

theorem skipto1_divR (kw : String) (start : Nat) : DivR env (Cu.skipto1 kw start) := skipto_divR _ _

theorem skipToBlank_divR : DivR env Cu.skipToBlank := fun c =>
  .of_ok (p := skipToBlankL c.pos.rest c.pos.no) rfl (by rw [Proofs.Whole.skipToBlankL_eq]; exact List.dropWhile_suffix _)

theorem skipToNonblank_divR : DivR env Cu.skipToNonblank := by
  intro c
  have hrun := Proofs.Whole.cu_skipToNonblank_run env c
  rw [Proofs.Whole.skipToNonblankL_eq] at hrun
  by_cases h : c.pos.rest.dropWhile isBlank = []
  · rw [if_pos h] at hrun; exact .of_error hrun fun _ => .inl hrun
  · rw [if_neg h] at hrun; exact .of_ok hrun (List.dropWhile_suffix _)

theorem skipToResultsLine_divR (e : Int) : DivR env (Cu.skipToResultsLine e) := by
  intro c
  have hrun := Proofs.Whole.cu_skipToResultsLine_run e env c
  rw [Proofs.Whole.skipToResultsLineL_eq] at hrun
  by_cases h : c.pos.rest.dropWhile (fun l => !isResultsLine (strip l) e) = [] ∧ isResultsLine [] e = false
  · rw [if_pos h] at hrun; exact .of_error hrun fun _ => .inr ⟨e, hrun⟩
  · rw [if_neg h] at hrun; exact .of_ok hrun (List.dropWhile_suffix _)

theorem readline_divR : DivR env Cu.readline :=
  fun c => .of_ok (Proofs.Whole.cu_readline_any env c) (List.drop_suffix 1 _)

theorem getTable_divR (n : String) : DivR env (Cu.getTable n) := by
  unfold Cu.getTable
  refine .readBind ?_
  split
  · exact .pure _
  · exact .raise _

theorem tableExpectedFloats_divR (n : String) (cols : List Str) : DivR env (Cu.tableExpectedFloats n cols) := by
  unfold Cu.tableExpectedFloats
  extract_lets n
  split
  · exact .raise _
  · exact .pure _

theorem tableCharC_divR (n : String) : DivR env (tableCharC n) := by
  unfold tableCharC
  split
  · exact .raise _
  · exact .pure _

theorem neltUpTo_divR (ft : List String) (l : String) : DivR env (neltUpTo ft l) := by
  unfold neltUpTo
  split
  · exact .raise _
  · exact .pure _

theorem skipToTableAUTOUGH2_divR (tn : String) : DivR env (skipToTableAUTOUGH2 tn) := by
  unfold skipToTableAUTOUGH2
  refine .bind (tableCharC_divR tn) fun tablechar => .readBind (.bind .get fun cur => ?_)
  -- `search kw`: the `skipto`s for the keyword of the table; `choose`: that keyword, for full or for short output
  extract_lets index sz j isShort search choose
  have hsearch : ∀ kw, DivR env (search kw) := by
    intro ⟨keyword, firstChar⟩
    dsimp (config := { zeta := false }) only [search]
    extract_lets last
    have hlast : ∀ u, DivR env (last u) := fun _ =>
      .bind (skipto1_divR _ _) fun _ => .bind (skipto_divR _ _) fun _ => .bind skipToBlank_divR fun _ => skipToNonblank_divR
    exact .ite (.bind (skipto_divR _ _) fun _ => hlast ()) (hlast ())
  have hchoose : ∀ u, DivR env (choose u) := by
    intro u
    refine .ite ?_ (.bind (.pure _) hsearch)
    split
    · exact .bind (.raise _) hsearch
    · split
      · exact .bind (.raise _) hsearch
      · exact .bind (.pure _) hsearch
  exact .ite (.bind (.raise _) hchoose) (hchoose ())

theorem bound_skip_to_table : bound .autough2 "skip_to_table" = "skip_to_table_AUTOUGH2" := by decide +kernel

theorem skipToTable_divR (hfam : env.fam = .autough2) (tn : String) (last : Option String) (nelt : Int) :
    DivR env (skipToTable tn last nelt) := by
  unfold skipToTable
  refine DivR.readBind ?_
  rw [hfam, bound_skip_to_table]
  exact skipToTableAUTOUGH2_divR tn

theorem scanSel_suffix (rv : Str → Except Exc (List FVal)) (co : Str → Option Nat) (ts : List Sel) (index : Int) (line : Str)
    (rest : List Str) (v : List (Nat × FVal) × List Str) (h : scanSel rv co ts index line rest = .ok v) : v.2 <:+ rest := by
  induction ts generalizing index line rest v with
  | nil => simp only [scanSel] at h; cases h; exact List.suffix_refl _
  | cons x ts ih =>
    obtain ⟨lineindex, col, rev, si⟩ := x
    simp only [scanSel] at h
    ok_inv h
    rename_i more rest' hrec
    have hk := ih _ _ _ _ hrec
    simp only at hk ⊢
    split at hk
    · exact hk.trans ((List.tail_suffix _).trans (List.drop_suffix _ _))
    · exact hk

theorem historyTable_divR (tn : String) (ts : List Sel) : DivR env (historyTable tn ts) := by
  unfold historyTable
  refine .bind (getTable_divR _) fun t => .bind (tableExpectedFloats_divR _ _) fun e => ?_
  refine .bind (skipToResultsLine_divR _) fun _ => .bind readline_divR fun line => .getBind fun s => ?_
  refine .readBind ?_
  -- `scanSel` returns a tail of the lines it was given, and the position is set to it
  generalize hx : scanSel _ _ _ _ _ _ = x
  cases x with
  | error e => exact .of_error rfl nofun
  | ok v => exact .of_ok rfl (scanSel_suffix _ _ _ _ _ _ v hx)

theorem tablesAt_divR (hfam : env.fam = .autough2) (s0 : Rd) (ft : List String) (l : List (String × List Sel × List Sel))
    (isShort : Bool) (last : Option String) (nelt : Int) :
    DivR env (historyBody.tablesAt s0 ft l isShort last nelt) := by
  induction l generalizing last nelt with
  | nil => exact DivR.pure _
  | cons x more ih =>
    obtain ⟨tname, ts, tshort⟩ := x
    unfold historyBody.tablesAt
    -- `here nelt'`: the read of this table; `andRest hits`: the tables after it
    extract_lets tablename andRest here
    have hrest : ∀ hits, DivR env (andRest hits) := fun _ => .bind (ih _ _) fun _ => .pure _
    have hhere : ∀ n, DivR env (here n) := fun _ =>
      .bind (skipToTable_divR hfam _ _ _) fun _ => .bind (historyTable_divR _ _) hrest
    refine .ite ?_ (.bind (.pure _) hrest)
    split
    · exact .bind (neltUpTo_divR _ _) hhere
    · exact .bind (.pure _) hhere

/-- **C06, AUTOUGH2 family, the cursor reached**: if `history()` does not return, then it is working on some result
    position `i` of the file (`allpos[i]`, with the index set to `i`) and, at a cursor further down the lines of that
    position, `skip_to_nonblank` or `skip_to_results_line` spins -/
theorem history_diverges_at_position (items : List Item) (short : Bool) (env : Rd) (c : Cur) (hfam : env.fam = .autough2)
    (h : historyC items short env c = .error .diverges) :
    ∃ (i : Nat) (p : Pos) (cur : Cur), env.allpos[i]? = some p ∧ i < env.short.size ∧ cur.index = (i : Int) ∧
      (∃ k : Nat, cur.pos.rest = p.rest.drop k) ∧ Spin env cur := by
  rcases (Proofs.SeriesTimes.historyC_error_iff items short env c .diverges).mp h with h | ⟨tsel, _, _, h⟩
  · exact absurd h (orderedSelection_nodiv env items)
  · -- the reads at the result positions are independent: the one at some position `j` spins
    obtain ⟨j, pb, hj, hv, _⟩ := (Proofs.SeriesTimes.visitAll_error_iff _ _ _).mp h
    unfold Proofs.SeriesTimes.valuesAt at hv
    split at hv
    · split at hv
      · cases hv
      · rename_i e he
        injection hv with hv; subst hv
        obtain ⟨cur, ⟨hi, hk⟩, hsp⟩ := (tablesAt_divR hfam _ _ _ _ _ _ _).2 he
        obtain ⟨hj1, hj2⟩ := List.getElem?_zip_eq_some.mp hj
        refine ⟨j, pb.1, cur, by simpa using hj1, ?_, hi, hk, hsp⟩
        have := (List.getElem?_eq_some_iff.mp hj2).1
        simpa using this
    · cases hv

/-- `history_diverges_at_position` with the position and the cursor's relation to it forgotten; as `SpinsAt env` always holds,
    this says nothing by itself -/
theorem history_diverges_reaches_spin (items : List Item) (short : Bool) (env : Rd) (hfam : env.fam = .autough2) :
    DivFrom (SpinsAt env) env (historyC items short) := by
  intro c h
  obtain ⟨_, _, cur, _, _, _, _, hsp⟩ := history_diverges_at_position items short env c hfam h
  exact ⟨cur, hsp⟩

/-- true also without `h` (a cursor with no lines left); for the cursor of `history_diverges_at_position` use `Spin.lines` -/
theorem history_diverges_at_cursor (items : List Item) (short : Bool) (env : Rd) (c : Cur) (hfam : env.fam = .autough2)
    (h : historyC items short env c = .error .diverges) :
    ∃ cur : Cur, (∀ l ∈ cur.pos.rest, isBlank l = true) ∨
      (∃ e : Int, isResultsLine [] e = false ∧ ∀ l ∈ cur.pos.rest, isResultsLine (strip l) e = false) := by
  obtain ⟨cur, hsp⟩ := history_diverges_reaches_spin items short env hfam c h
  exact ⟨cur, Spin.lines hsp⟩

/-- vacuous, as is the next: `SpinsAt env` and `SpinsAtEof` always hold, so the hypothesis `hno` is never met -/
theorem history_terminates_of_no_spin (items : List Item) (short : Bool) (env : Rd) (c : Cur) (hfam : env.fam = .autough2)
    (hno : ¬ SpinsAt env) : historyC items short env c ≠ .error .diverges :=
  fun h => hno (history_diverges_reaches_spin items short env hfam c h)

theorem history_terminates_of_no_spin_eof (items : List Item) (short : Bool) (env : Rd) (c : Cur) (hfam : env.fam = .autough2)
    (hno : ¬ SpinsAtEof) : historyC items short env c ≠ .error .diverges := by
  intro h
  obtain ⟨cur, hl⟩ := history_diverges_at_cursor items short env c hfam h
  exact hno ⟨cur.pos.rest, hl⟩

end primR

end Proofs.SeriesTerm
