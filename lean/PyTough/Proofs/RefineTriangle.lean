/-
  Sub-columns of a refined TRIANGLE: each is a fixed positive fraction of the parent, for all coordinates
  (barycentric bookkeeping: every vertex of a sub-column is an affine combination of the three corners).
-/
import PyTough.Proofs.Refine
import PyTough.Proofs.ListLemmas
namespace Proofs.Refine
open Model.Geo Model.Refine Gen.RefineTables

abbrev B3 := Rat × Rat × Rat

def cornerBary : Nat → Option B3
  | 0 => some (1, 0, 0)
  | 1 => some (0, 1, 0)
  | 2 => some (0, 0, 1)
  | _ => none

/-- barycentric coordinates of a vertex of a sub-column of a triangle (`none`: not such a vertex) -/
def bary : Vert → Option B3
  | .corner i => cornerBary i
  | .mid i j =>
    match cornerBary i, cornerBary j with
    | some a, some b => some ((a.1 + b.1) / 2, (a.2.1 + b.2.1) / 2, (a.2.2 + b.2.2) / 2)
    | _, _ => none
  | .centre => none

def comb (ρ : Val) (b : B3) : Pt :=
  (b.1 * (ρ.corner 0).1 + b.2.1 * (ρ.corner 1).1 + b.2.2 * (ρ.corner 2).1,
   b.1 * (ρ.corner 0).2 + b.2.1 * (ρ.corner 1).2 + b.2.2 * (ρ.corner 2).2)

theorem corner_bary (ρ : Val) (i : Nat) (b : B3) (h : cornerBary i = some b) : ρ.corner i = comb ρ b := by
  match i, h with
  | 0, h => cases h; simp only [comb, Rat.one_mul, Rat.zero_mul, Rat.add_zero]
  | 1, h => cases h; simp only [comb, Rat.one_mul, Rat.zero_mul, Rat.add_zero, Rat.zero_add]
  | 2, h => cases h; simp only [comb, Rat.one_mul, Rat.zero_mul, Rat.zero_add]
  | n + 3, h => simp [cornerBary] at h

theorem at_bary (ρ : Val) (v : Vert) (b : B3) (h : bary v = some b) : ρ.at v = comb ρ b := by
  cases v with
  | corner i => exact corner_bary ρ i b h
  | centre => simp [bary] at h
  | mid i j =>
    simp only [bary] at h
    split at h
    · rename_i a c hi hj
      cases h
      simp only [Val.at, Pt.mid, Pt.add, Pt.smul, corner_bary ρ i a hi, corner_bary ρ j c hj, comb]
      ext <;> simp <;> grind
    · cases h

/-- the three coefficients of `cross (comb a) (comb b)` on `X01, X12, X20` -/
def k01 (a b : B3) : Rat := a.1 * b.2.1 - b.1 * a.2.1
def k12 (a b : B3) : Rat := a.2.1 * b.2.2 - b.2.1 * a.2.2
def k20 (a b : B3) : Rat := a.2.2 * b.1 - b.2.2 * a.1

theorem cross_comb (ρ : Val) (a b : B3) :
    Pt.cross (comb ρ a) (comb ρ b) =
      k01 a b * Pt.cross (ρ.corner 0) (ρ.corner 1) + k12 a b * Pt.cross (ρ.corner 1) (ρ.corner 2) +
        k20 a b * Pt.cross (ρ.corner 2) (ρ.corner 0) := by
  simp only [Pt.cross, comb, k01, k12, k20]; grind

def baryPoly (p : Poly) : Option (List B3) := p.mapM bary

/-- coefficient sums over the cyclic edges -/
def K (k : B3 → B3 → Rat) (bs : List B3) : Rat := sumRat ((cyc bs).map fun e => k e.1 e.2)

theorem area2_bary (ρ : Val) (p : Poly) (bs : List B3) (h : baryPoly p = some bs) :
    area2 ρ p = K k01 bs * Pt.cross (ρ.corner 0) (ρ.corner 1) + K k12 bs * Pt.cross (ρ.corner 1) (ρ.corner 2) +
      K k20 bs * Pt.cross (ρ.corner 2) (ρ.corner 0) := by
  have hm := mapM_some_map bary (comb ρ) ρ.at (fun v b hb => at_bary ρ v b hb) p bs h
  simp only [area2, hm, shoelace2, cyc_map, List.map_map, K]
  generalize cyc bs = es
  induction es with
  | nil => simp only [List.map_nil, sumRat_nil]; grind
  | cons e t ih =>
    simp only [List.map_cons, sumRat_cons, Function.comp, cross_comb] at ih ⊢
    rw [ih]; grind

/-- decidable certificate: all vertices are barycentric and the three coefficient sums coincide and are positive -/
def triFraction (p : Poly) : Option Rat :=
  match baryPoly p with
  | none => none
  | some bs => if K k01 bs = K k12 bs ∧ K k12 bs = K k20 bs ∧ 0 < K k01 bs then some (K k01 bs) else none

theorem parent3_area2 (ρ : Val) : area2 ρ (parentPoly 3) =
    Pt.cross (ρ.corner 0) (ρ.corner 1) + Pt.cross (ρ.corner 1) (ρ.corner 2) + Pt.cross (ρ.corner 2) (ρ.corner 0) := by
  simp [area2, parentPoly, shoelace2, cyc, cycGo, sumRat, Val.at, List.range, List.range.loop]
  grind

theorem area2_of_triFraction (ρ : Val) (p : Poly) (c : Rat) (h : triFraction p = some c) :
    0 < c ∧ area2 ρ p = c * area2 ρ (parentPoly 3) := by
  unfold triFraction at h
  split at h
  · cases h
  · rename_i bs hb
    split at h
    · rename_i hc
      cases h
      refine ⟨hc.2.2, ?_⟩
      rw [area2_bary ρ p bs hb, parent3_area2, ← hc.2.1, ← hc.1]; grind
    · cases h

theorem triangle_table_fractions :
    ∀ s ∈ sublists (List.range 3), s ≠ [] →
      (match subdivision 3 s with
       | some subs => subs.all fun p => (triFraction p).isSome
       | none => false) = true := by decide +kernel

end Proofs.Refine
