/-
  Proofs for C04 (core Lean only): the announced underground names are the names of the (layer, column) pairs
  with a block; the block the grid holds for each such pair (with distinct names `add_block`
  only appends, so the block list is the concatenation of what the loops built); where the
  connections of the grid come from (`LoopAt`: where the layer loop stands); what `LayersWF` says of two
  adjacent layers (`adjacent_layers`).
-/
import PyTough.Proofs.FromGeoNames
namespace Proofs.FromGeo
open Py Model.FromGeo

theorem mem_layerCols {g : Geo} {lay : Layer} {c : Column} :
    c ∈ layerCols g lay ↔ c ∈ g.columns ∧ lay.bottom < c.surface := by
  simp [layerCols]

theorem mem_layerConns {g : Geo} {lcols : List Column} {k : Conn} :
    k ∈ layerConns g lcols ↔ k ∈ g.conns ∧ k.col0 ∈ lcols ∧ k.col1 ∈ lcols := by
  simp [layerConns]

theorem mem_layerBlockNames {conv : Nat} {lay : Layer} {cols : List Column} {ns : List Str}
    (h : layerBlockNames conv lay cols = .ok ns) {n : Str} :
    n ∈ ns ↔ ∃ c ∈ cols, blockName conv lay.name c.name = .ok n := by
  rw [layerBlockNames_eq] at h
  exact mem_flatMapE_one h

theorem layerBlockNames_col {conv : Nat} {lay : Layer} {cols : List Column} {ns : List Str}
    (h : layerBlockNames conv lay cols = .ok ns) {c : Column} (hc : c ∈ cols) :
    ∃ n ∈ ns, blockName conv lay.name c.name = .ok n := by
  have h' := h
  rw [layerBlockNames_eq] at h'
  obtain ⟨bs, hbs⟩ := flatMapE_ok_iff.1 ⟨ns, h'⟩ c hc
  obtain ⟨n, hn, rfl⟩ := oneE_ok hbs
  exact ⟨n, (mem_layerBlockNames h).2 ⟨c, hc, hn⟩, hn⟩

theorem mem_namesLayerColumn {g : Geo} {ls : List Layer} {u : List Str} (h : namesLayerColumn g ls = .ok u) {n : Str} :
    n ∈ u ↔ ∃ lay ∈ ls, ∃ c ∈ layerCols g lay, blockName g.convention lay.name c.name = .ok n := by
  rw [namesLayerColumn_eq] at h
  rw [mem_flatMapE h]
  constructor
  · rintro ⟨lay, hl, ns, hns, hn⟩
    exact ⟨lay, hl, (mem_layerBlockNames hns).1 hn⟩
  · rintro ⟨lay, hl, hc⟩
    obtain ⟨ns, hns⟩ := flatMapE_ok_iff.1 ⟨u, h⟩ lay hl
    exact ⟨lay, hl, ns, hns, (mem_layerBlockNames hns).2 hc⟩

theorem FreshNames.mem_iff {g : Geo} {a u u0 : List Str} (F : FreshNames g a u u0) {n : Str} :
    n ∈ u ↔ ∃ lay ∈ g.layers, ∃ c ∈ layerCols g lay, blockName g.convention lay.name c.name = .ok n :=
  F.perm.mem_iff.trans (mem_namesLayerColumn F.under)

theorem FreshNames.cover {g : Geo} {a u u0 : List Str} (F : FreshNames g a u u0) {lay : Layer} (hl : lay ∈ g.layers)
    {c : Column} (hc : c ∈ layerCols g lay) : ∃ n ∈ u, blockName g.convention lay.name c.name = .ok n := by
  have h := F.under
  rw [namesLayerColumn_eq] at h
  obtain ⟨ns, hns⟩ := flatMapE_ok_iff.1 ⟨u0, h⟩ lay hl
  obtain ⟨n, _, hn⟩ := layerBlockNames_col hns hc
  exact ⟨n, F.mem_iff.2 ⟨lay, hl, c, hc, hn⟩, hn⟩

theorem parseOk_spec {g : Geo} (h : parseOk g = true) {lay : Layer} (hl : lay ∈ g.layers) {col : Column}
    (hc : col ∈ g.columns) :
    ∃ nm, blockName g.convention lay.name col.name = .ok nm ∧
      findLayer g (layerName g.convention nm) = .ok lay ∧ findColumn g (columnName g.convention nm) = .ok col := by
  unfold parseOk at h
  rw [List.all_eq_true] at h
  have h1 := h lay hl
  rw [List.all_eq_true] at h1
  have h2 := h1 col hc
  split at h2
  · rename_i nm hnm
    simp only [Bool.and_eq_true, decide_eq_true_eq] at h2
    exact ⟨nm, hnm, h2.1, h2.2⟩
  · cases h2

theorem addBlocks_data {g : Geo} {m : BlockMap} {bs : List Block} (hf : Fresh g)
    (hn : (g.blockNames.map (applyMap m)).Nodup) (hp : parseOk g = true) (h : addBlocks g m = .ok bs)
    {lay : Layer} (hl : lay ∈ g.layers) {col : Column} (hc : col ∈ layerCols g lay) {nm : Str}
    (hnm : blockName g.convention lay.name col.name = .ok nm) :
    findBlock bs (applyMap m nm) = .ok ⟨applyMap m nm, blockVolume g lay col, blockCentre g lay col, false⟩ := by
  obtain ⟨a, u, _, F⟩ := fresh_names hf
  obtain ⟨n', hn'u, hn'⟩ := F.cover hl hc
  cases blockName_det hnm hn'
  obtain ⟨nm', hnm', hlay, hcol⟩ := parseOk_spec hp hl (mem_layerCols.1 hc).1
  cases blockName_det hnm hnm'
  obtain ⟨bs0, r, _, hr, rfl⟩ := addBlocks_shape F hn h
  -- the mapped names are distinct: the block built for `nm` is the only one of its name
  exact findBlock_of_mem (b := ⟨applyMap m nm, _, _, false⟩) (addBlocks_names hf hn h ▸ hn)
    (List.mem_append_right _ ((mem_flatMapE_one hr).2 ⟨nm, hn'u, by simp only [underBlock, hlay, hcol]⟩))

/-- where the layer loop of `add_connections` stands: `ls` are the layers still to do, `above` is the one before them in `layerlist`,
    `pre` what comes before that, `first` the loop's first-layer flag -/
structure LoopAt (g : Geo) (pre : List Layer) (above : Layer) (ls : List Layer) (first : Bool) : Prop where
  layers : g.layerlist = pre ++ above :: ls
  flag : first = decide (pre = [])

theorem LoopAt.start (g : Geo) : LoopAt g [] g.layer0 g.layers true := ⟨rfl, rfl⟩

theorem LoopAt.next {g : Geo} {pre : List Layer} {above lay : Layer} {ls : List Layer} {first : Bool}
    (A : LoopAt g pre above (lay :: ls) first) : LoopAt g (pre ++ [above]) lay ls false :=
  ⟨by rw [A.layers]; simp, by simp⟩

/-- connection `c` was built by the vertical loop for some column of some layer, or by the
    horizontal loop for some geometry connection of some layer; `above` is the layer just above
    `lay` in `layerlist`, and the "first layer" flag is `pre = []` -/
def ConnOrigin (g : Geo) (m : BlockMap) (bs : List Block) (c : TConn) : Prop :=
  ∃ pre above lay post, g.layerlist = pre ++ above :: lay :: post ∧
    ((∃ col ∈ layerCols g lay, vertConn g m bs (decide (pre = [])) above lay col = .ok (some c)) ∨
     (∃ k ∈ layerConns g (layerCols g lay), horizConn g m bs lay k = .ok c))

theorem addConnsFrom_mem {g : Geo} {m : BlockMap} {bs : List Block} {pre : List Layer} {above : Layer} {ls : List Layer}
    {first : Bool} (A : LoopAt g pre above ls first) {cs cs' : List TConn}
    (h : addConnsFrom g m bs first above cs ls = .ok cs') {x : TConn} (hx : x ∈ cs') : x ∈ cs ∨ ConnOrigin g m bs x := by
  induction ls generalizing pre above first cs with
  | nil => cases h; exact Or.inl hx
  | cons lay ls ih =>
    obtain ⟨cs1, cs2, hv, hh, h⟩ := addConnsFrom_cons_iff.1 h
    rcases ih A.next h with h1 | h1
    · rcases loopE_mem hh h1 with h2 | ⟨k, hk, bs', hbs', hxk⟩
      · rcases loopE_mem hv h2 with h3 | ⟨col, hcol, bs', hbs', hxc⟩
        · exact Or.inl h3
        · obtain ⟨o, ho, rfl⟩ := optE_ok hbs'
          rw [Option.mem_toList.1 hxc] at ho
          exact Or.inr ⟨pre, above, lay, ls, A.layers, Or.inl ⟨col, hcol, A.flag ▸ ho⟩⟩
      · obtain ⟨c, hc, rfl⟩ := oneE_ok hbs'
        rw [List.mem_singleton.1 hxk]
        exact Or.inr ⟨pre, above, lay, ls, A.layers, Or.inr ⟨k, hk, hc⟩⟩
    · exact Or.inr h1

theorem chain_adjacent : ∀ (ls : List Layer) (l0 : Layer), chainOk l0.bottom ls = true →
    ∀ (pre : List Layer) (above lay : Layer) (post : List Layer), l0 :: ls = pre ++ above :: lay :: post →
      lay.top = above.bottom ∧ lay.bottom < lay.top ∧ lay ∈ ls := by
  intro ls
  induction ls with
  | nil =>
    intro l0 _ pre above lay post h
    have := congrArg List.length h
    simp at this
    omega
  | cons l ls ih =>
    intro l0 hc pre above lay post h
    simp only [chainOk, Bool.and_eq_true, decide_eq_true_eq] at hc
    obtain ⟨⟨htop, hpos⟩, hrest⟩ := hc
    cases pre with
    | nil =>
      simp only [List.nil_append, List.cons.injEq] at h
      obtain ⟨h1, h2, _⟩ := h
      subst h1; subst h2
      exact ⟨htop, hpos, List.mem_cons_self⟩
    | cons p pre =>
      simp only [List.cons_append, List.cons.injEq] at h
      obtain ⟨a, b, c⟩ := ih l hrest pre above lay post h.2
      exact ⟨a, b, List.mem_cons_of_mem _ c⟩

theorem above_mem_layers {g : Geo} {pre : List Layer} {above : Layer} {ls : List Layer}
    (hll : g.layerlist = pre ++ above :: ls) (hpre : pre ≠ []) : above ∈ g.layers := by
  rw [show g.layers = (pre ++ above :: ls).tail from congrArg List.tail hll]
  cases pre with
  | nil => exact absurd rfl hpre
  | cons p pre' => simp

theorem adjacent_layers {g : Geo} (hwf : LayersWF g) {pre : List Layer} {above lay : Layer} {post : List Layer}
    (hll : g.layerlist = pre ++ above :: lay :: post) :
    lay.top = above.bottom ∧ lay.bottom < lay.top ∧ lay ∈ g.layers ∧ above ≠ lay ∧ lay ∉ post := by
  obtain ⟨a, b, c⟩ := chain_adjacent g.layers g.layer0 hwf.2.1 pre above lay post (by simpa [Geo.layerlist] using hll)
  have hnd := nodup_of_map _ _ hwf.2.2
  rw [hll] at hnd
  obtain ⟨habove, hlay⟩ := List.nodup_cons.1 (List.nodup_append.1 hnd).2.1
  exact ⟨a, b, c, fun e => habove (e ▸ List.mem_cons_self), (List.nodup_cons.1 hlay).1⟩

end Proofs.FromGeo
