/-
  C19: `blockMapping_main` — for well-formed geometries (`SrcWF`, `TgtWF`) and outside the two excluded atmosphere combinations
  `block_mapping` returns, with the image of every target block; the statements of Props/C19 about
  `block_mapping` are read off it.
-/
import PyTough.Proofs.MappingBlock
namespace Proofs.Mapping
open Py Model.Mapping

/-- the first stage of `block_mapping`: the column and layer mappings `cm`, `lm`, with what the loop over the block names needs from them -/
structure MapsOK (q : List (Rat × Rat) → Rat × Rat → Nat) (s t : Geo) (cm lm : Dict Str) (g0 s0 : Lay) : Prop where
  -- the tails in the form `underPairs`, `firstBelow` and `NearestLay` have them; passed where a lemma asks for `t.lays = g0 :: grest`
  tlays : t.lays = g0 :: t.lays.drop 1
  slays : s.lays = s0 :: s.lays.drop 1
  colRun : columnMapping q s t = .ok cm
  layRun : layerMapping s t = .ok lm
  cols : ∀ c ∈ t.cols, ∃ C, NearestCol s c.centre C ∧ dget cm c.name = .ok C.name
  -- `column_mapping` enters the atmosphere column name only when both geometries have a single atmosphere block
  atmKey : s.atm = 0 → t.atm = 0 → ∃ v, dget cm (atmColName t.conv) = .ok v
  lay0 : dget lm g0.name = .ok s0.name
  lays : ∀ l ∈ t.lays.drop 1, ∃ S, NearestLay (s.lays.drop 1) l.centre S ∧ dget lm l.name = .ok S.name

theorem mapsOK_exists {q : List (Rat × Rat) → Rat × Rat → Nat} (hq : IsNearest q) {s t : Geo}
    (hs : SrcWF s) (ht : TgtWF t) :
    ∃ cm lm g0 s0, MapsOK q s t cm lm g0 s0 := by
  obtain ⟨g0, grest, hg⟩ := ht.lays
  obtain ⟨s0, s1, rest, hsl⟩ := hs.lays
  have hg' : t.lays = g0 :: t.lays.drop 1 := by rw [hg]; rfl
  have hsl' : s.lays = s0 :: s.lays.drop 1 := by rw [hsl]; rfl
  have hne : s.lays.drop 1 ≠ [] := by rw [hsl]; exact List.cons_ne_nil _ _
  obtain ⟨cm, hcm, hcols, hatm⟩ := columnMapping_spec hq hs.colsNe ht.names.colsNodup
  obtain ⟨lm, hlm, hl0, hlays⟩ := layerMapping_spec hg' hsl' hne ht.names.laysNodup
  refine ⟨cm, lm, g0, s0, hg', hsl', hcm, hlm, hcols, hatm, hl0, fun l hl => ?_⟩
  obtain ⟨S, hS, hn⟩ := nearestLayer_spec hne l
  exact ⟨S, hS, hlays l hl S hn⟩

theorem under_image {q : List (Rat × Rat) → Rat × Rat → Nat} {s t : Geo} (hs : SrcWF s) (ht : TgtWF t)
    {cm lm : Dict Str} {g0 s0 : Lay} (hm : MapsOK q s t cm lm g0 s0)
    {l : Lay} {c : Col} (hp : (l, c) ∈ t.underPairs) :
    ∃ C S L' v, NearestCol s c.centre C ∧ NearestLay (s.lays.drop 1) l.centre S ∧
      (if C.surface ≤ S.bottom then s.firstBelow C = some L' else L' = S) ∧
      (L', C) ∈ s.underPairs ∧ blockName s.conv L'.name C.name = .ok v ∧
      mapOne s t cm lm (rawName t.conv l.name c.name) = .ok v := by
  obtain ⟨hl, hc, _⟩ := (mem_underPairs t l c).mp hp
  obtain ⟨C, hC, hdc⟩ := hm.cols c hc
  obtain ⟨S, hS, hdl⟩ := hm.lays l hl
  obtain ⟨L', h1, h2, v, h3, h4⟩ := mapOne_under hs ht hm.tlays hm.slays hl hc hC.1 hdc hS.1 hdl
  exact ⟨C, S, L', v, hC, hS, h1, h2, h3, h4⟩

theorem tgt_under_name {t : Geo} (ht : TgtWF t) {l : Lay} {c : Col} (hp : (l, c) ∈ t.underPairs) :
    blockName t.conv l.name c.name = .ok (rawName t.conv l.name c.name) := by
  obtain ⟨hl, hc, _⟩ := (mem_underPairs t l c).mp hp
  apply blockName_inert
  exact ht.inert l (List.mem_of_mem_drop hl) c.name (colName_mem hc)

theorem tgt_mem_under {t : Geo} (ht : TgtWF t) {g0 : Lay} {an un : List Str} (hN : BlockNames t g0 an un) (d : Str) :
    d ∈ un ↔ ∃ p ∈ t.underPairs, d = rawName t.conv p.1.name p.2.name := by
  rw [hN.mem]
  refine exists_congr fun p => and_congr_right fun hp => ?_
  rw [tgt_under_name ht hp, Except.ok.injEq, eq_comm]

theorem tgt_atm_name {t : Geo} (ht : TgtWF t) {g0 : Lay} {grest : List Lay} (hg : t.lays = g0 :: grest)
    {cn : Str} (hcn : cn ∈ atmColName t.conv :: t.cols.map (·.name)) :
    blockName t.conv g0.name cn = .ok (rawName t.conv g0.name cn) := by
  apply blockName_inert
  exact ht.inert g0 (by rw [hg]; simp) cn hcn

theorem tgt_atmNames {t : Geo} (ht : TgtWF t) {g0 : Lay} {grest : List Lay} (hg : t.lays = g0 :: grest)
    {an un : List Str} (hN : BlockNames t g0 an un) : an = (atmCols t).map (rawName t.conv g0.name) :=
  Except.ok.inj (hN.atmE.symm.trans (mapE_ok_of_forall _ _ _ fun _ hcn =>
    tgt_atm_name ht hg (atmCols_sub hcn)))

theorem atmOK_iff (s t : Geo) : atmOK s t = true ↔ (t.atm = 0 → s.atm = 0) := by
  simp only [atmOK, Bool.not_eq_true', Bool.and_eq_false_imp, beq_iff_eq, bne_eq_false_iff_eq]

/-- `m`, `cm` are what `block_mapping` returns for `s` onto the well-formed target `t`, with the image of every target block as
    the property describes it; `g0`, `s0` are the atmosphere layers, `an ++ un` and `san ++ sun` the two `block_name_list`s -/
structure Mapped (q : List (Rat × Rat) → Rat × Rat → Nat) (s t : Geo) (m cm : Dict Str) (g0 s0 : Lay)
    (an un san sun : List Str) : Prop where
  run : blockMapping q s t = .ok (m, cm)
  tgt : TgtWF t
  tnames : BlockNames t g0 an un
  snames : BlockNames s s0 san sun
  tlays : t.lays = g0 :: t.lays.drop 1
  slays : s.lays = s0 :: s.lays.drop 1
  cols : ∀ c ∈ t.cols, ∃ C, NearestCol s c.centre C ∧ dget cm c.name = .ok C.name
  under : ∀ l c, (l, c) ∈ t.underPairs →
    ∃ C S L' v, NearestCol s c.centre C ∧ NearestLay (s.lays.drop 1) l.centre S ∧
      (if C.surface ≤ S.bottom then s.firstBelow C = some L' else L' = S) ∧
      (L', C) ∈ s.underPairs ∧ blockName s.conv L'.name C.name = .ok v ∧
      dget m (rawName t.conv l.name c.name) = .ok v
  atmSrc : t.atm = 0 → s.atm = 0
  atm : ∀ cn ∈ atmCols t, ∃ sc v, dget cm cn = .ok sc ∧
    blockName s.conv s0.name (if s.atm = 0 then atmColName s.conv else sc) = .ok v ∧ (s.atm ≤ 1 → v ∈ san) ∧
    dget m (rawName t.conv g0.name cn) = .ok v

namespace Mapped
variable {q : List (Rat × Rat) → Rat × Rat → Nat} {s t : Geo} {m cm : Dict Str} {g0 s0 : Lay} {an un san sun : List Str}
  (M : Mapped q s t m cm g0 s0 an un san sun)
include M

theorem atm_names : an = (atmCols t).map (rawName t.conv g0.name) :=
  tgt_atmNames M.tgt M.tlays M.tnames

/-- an underground target block goes to an underground source block -/
theorem under_name (d : Str) (hd : d ∈ un) : ∃ v ∈ sun, dget m d = .ok v := by
  obtain ⟨p, hp, rfl⟩ := (tgt_mem_under M.tgt M.tnames d).mp hd
  obtain ⟨C, S, L', v, _, _, _, h4, h5, hget⟩ := M.under p.1 p.2 hp
  exact ⟨v, (M.snames.mem v).mpr ⟨(L', C), h4, h5⟩, hget⟩

/-- target with a single atmosphere block: so has the source, and the one goes to the other -/
theorem atm_single (h0 : t.atm = 0) : s.atm = 0 ∧ ∃ v, blockName s.conv s0.name (atmColName s.conv) = .ok v ∧
    t.atmNames = .ok [rawName t.conv g0.name (atmColName t.conv)] ∧ s.atmNames = .ok [v] ∧
    dget m (rawName t.conv g0.name (atmColName t.conv)) = .ok v := by
  have hsa := M.atmSrc h0
  obtain ⟨_, v, _, hv, _, hget⟩ := M.atm _ (atmCols_zero h0 ▸ List.mem_singleton_self _)
  obtain ⟨n, hn, hsan⟩ := M.snames.atm0 hsa
  rw [if_pos hsa] at hv
  cases hn.symm.trans hv
  refine ⟨hsa, v, hv, ?_, by rw [M.snames.atm, hsan], hget⟩
  rw [M.tnames.atm, M.atm_names, atmCols_zero h0]
  rfl

end Mapped

theorem blockMapping_main (q : List (Rat × Rat) → Rat × Rat → Nat) (hq : IsNearest q) (s t : Geo)
    (hs : SrcWF s) (ht : TgtWF t) (ha : atmOK s t = true) :
    ∃ m cm g0 s0 an un san sun, Mapped q s t m cm g0 s0 an un san sun := by
  obtain ⟨cm, lm, g0, s0, hm⟩ := mapsOK_exists hq hs ht
  obtain ⟨an, un, hT⟩ := blockNames_spec ht.names ht.dmplex hm.tlays
  obtain ⟨san, sun, hS⟩ := blockNames_spec hs.names hs.dmplex hm.slays
  have hs0len : s0.name.length = layLen s.conv := hs.names.layLen s0 (by rw [hm.slays]; simp)
  have hatm := (atmOK_iff s t).mp ha
  have han := tgt_atmNames ht hm.tlays hT
  -- the image of the atmosphere block over the column name `cn`, whatever the two atmosphere types
  have hA : ∀ cn ∈ atmCols t, ∃ sc v, dget cm cn = .ok sc ∧
      blockName s.conv s0.name (if s.atm = 0 then atmColName s.conv else sc) = .ok v ∧ (s.atm ≤ 1 → v ∈ san) ∧
      mapOne s t cm lm (rawName t.conv g0.name cn) = .ok v := by
    intro cn hcn
    -- `cn` is a key of the column mapping; unless the source has a single atmosphere block its value names a source column
    obtain ⟨sc, hsc, hcol⟩ : ∃ sc, dget cm cn = .ok sc ∧ (s.atm ≠ 0 → ∃ C ∈ s.cols, sc = C.name) := by
      rcases mem_atmCols.mp hcn with ⟨h0, rfl⟩ | ⟨_, c, hc, rfl⟩
      · obtain ⟨sc, hsc⟩ := hm.atmKey (hatm h0) h0
        exact ⟨sc, hsc, fun hne => absurd (hatm h0) hne⟩
      · obtain ⟨C, hC, hdc⟩ := hm.cols c hc
        exact ⟨C.name, hdc, fun _ => ⟨C, hC.1, rfl⟩⟩
    obtain ⟨hlen, hsrc⟩ : (if s.atm = 0 then atmColName s.conv else sc).length = colLen s.conv ∧
        (s.atm ≤ 1 → (if s.atm = 0 then atmColName s.conv else sc) ∈ atmCols s) := by
      by_cases hs0 : s.atm = 0
      · rw [if_pos hs0, atmCols_zero hs0]
        exact ⟨atmColName_length _, fun _ => List.mem_singleton_self _⟩
      · obtain ⟨C, hC, rfl⟩ := hcol hs0
        rw [if_neg hs0]
        exact ⟨hs.names.colLen C hC, fun hle => atmCols_one (g := s) (by omega) ▸ List.mem_map_of_mem hC⟩
    obtain ⟨v, hv⟩ := blockName_ok s.conv s0.name _ hs0len hlen
    refine ⟨sc, v, hsc, hv, fun hle => ?_, ?_⟩
    · obtain ⟨n, hn, hb⟩ := mapE_mem_left hS.atmE _ (hsrc hle)
      rw [hv] at hb
      exact Except.ok.inj hb ▸ hn
    · exact (mapOne_atm ht hm.tlays hm.slays (colName_length ht.names (atmCols_sub hcn)) hsc hm.lay0).trans hv
  have hall : ∀ d ∈ an ++ un, ∃ v, mapOne s t cm lm d = .ok v := by
    intro d hd
    rcases List.mem_append.mp hd with hd | hd
    · rw [han] at hd
      obtain ⟨cn, hcn, rfl⟩ := List.mem_map.mp hd
      obtain ⟨_, v, _, _, _, hv⟩ := hA cn hcn
      exact ⟨v, hv⟩
    · obtain ⟨p, hp, rfl⟩ := (tgt_mem_under ht hT d).mp hd
      obtain ⟨C, S, L', v, _, _, _, _, _, hv⟩ := under_image hs ht hm hp
      exact ⟨v, hv⟩
  obtain ⟨m, hbm, hget⟩ := blockMapping_assemble hm.colRun hm.layRun hT.all hall
  refine ⟨m, cm, g0, s0, an, un, san, sun, hbm, ht, hT, hS, hm.tlays, hm.slays, hm.cols, ?_, hatm, ?_⟩
  · intro l c hp
    obtain ⟨C, S, L', v, h1, h2, h3, h4, h5, h6⟩ := under_image hs ht hm hp
    have hin : rawName t.conv l.name c.name ∈ un := (tgt_mem_under ht hT _).mpr ⟨(l, c), hp, rfl⟩
    exact ⟨C, S, L', v, h1, h2, h3, h4, h5, hget _ (List.mem_append_right _ hin) v h6⟩
  · intro cn hcn
    obtain ⟨sc, v, h1, h2, h3, h4⟩ := hA cn hcn
    exact ⟨sc, v, h1, h2, h3, hget _ (List.mem_append_left _ (han ▸ List.mem_map_of_mem hcn)) v h4⟩

theorem mapped_of_ok (q : List (Rat × Rat) → Rat × Rat → Nat) (hq : IsNearest q) (s t : Geo)
    (hs : srcOK s = true) (ht : tgtOK t = true) (ha : atmOK s t = true) :
    ∃ m cm g0 s0 an un san sun, Mapped q s t m cm g0 s0 an un san sun :=
  blockMapping_main q hq s t (srcWF_of hs) (tgtWF_of ht) ha

end Proofs.Mapping
