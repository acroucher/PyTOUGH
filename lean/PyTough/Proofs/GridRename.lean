/-
  rename_blocks: the grid stays consistent and describes the same physical network.
-/
import PyTough.Proofs.GridReorder
namespace Proofs.Grid
open Py Model Model.Grid Model.Grid.World

def mapKey (m : Dict Name Name) (k : CName) : CName := (mapName m k.1, mapName m k.2)

theorem mem_mapConn (m : Dict Name Name) (s : List CName) (k' : CName) :
    k' ∈ mapConn m s ↔ ∃ k ∈ s, mapKey m k = k' := by
  induction s with
  | nil => simp [mapConn]
  | cons a r ih =>
    simp only [mapConn, mem_sadd, ih, List.mem_cons, exists_eq_or_imp]
    exact or_congr_left eq_comm

theorem nodup_mapConn (m : Dict Name Name) (s : List CName) : (mapConn m s).Nodup := by
  induction s with
  | nil => exact List.nodup_nil
  | cons a r ih => exact nodup_sadd _ ih

/-- the loop `for blk in self.blocklist` -/
theorem renameLoop_spec (m : Dict Name Name) (w : World) (l : List Nat) (hn : l.Nodup) (hlt : ∀ b ∈ l, b < w.blks.length) :
    ∃ bs, renameLoop m w l = { w with blks := bs } ∧ bs.length = w.blks.length ∧
      ∀ x, bs.getD x default =
        if x ∈ l then { w.bk x with name := mapName m (w.bk x).name, conn := mapConn m (w.bk x).conn } else w.bk x := by
  induction l generalizing w with
  | nil => exact ⟨w.blks, rfl, rfl, fun _ => rfl⟩
  | cons b r ih =>
    have ⟨hbr, hr⟩ := List.nodup_cons.mp hn
    obtain ⟨bs, e, hlen, hbk⟩ := ih (w.setBlk b { w.bk b with name := mapName m (w.bk b).name, conn := mapConn m (w.bk b).conn })
      hr (fun x hx => by rw [setBlk_blks_length]; exact hlt x (List.mem_cons_of_mem _ hx))
    refine ⟨bs, by rw [renameLoop, e]; rfl, by rw [hlen, setBlk_blks_length], fun x => ?_⟩
    rw [hbk x, bk_setBlk]
    by_cases hxb : b = x
    · subst hxb; simp [hbr, hlt b List.mem_cons_self]
    · simp [hxb, Ne.symm hxb]

/-- what `rename_blocks` with the effective map `m` makes of `w` -/
structure Renamed (m : Dict Name Name) (w w' : World) : Prop where
  inv : Grid.Inv w'
  blocklist : w'.blocklist = w.blocklist
  connectionlist : w'.connectionlist = w.connectionlist
  bname : ∀ b ∈ w.blocklist, w'.bname b = mapName m (w.bname b)
  block : ∀ n b, dget w'.block n = some b ↔ b ∈ w.blocklist ∧ mapName m (w.bname b) = n
  connection : ∀ k c, dget w'.connection k = some c ↔ c ∈ w.connectionlist ∧ mapKey m (w.ckey c) = k
  payload : ∀ b, (w'.bk b).volume = (w.bk b).volume ∧ (w'.bk b).rock = (w.bk b).rock ∧ (w'.bk b).centre = (w.bk b).centre
  cons : w'.cons = w.cons
  rocks : w'.rocks = w.rocks

theorem Renamed.phys {m : Dict Name Name} {w w' : World} (R : Renamed m w w') : PhysEq w w' :=
  physEq_of_payload (List.Perm.of_eq R.blocklist) (List.Perm.of_eq R.connectionlist) R.rocks R.payload
    fun c => by simp only [World.cn, R.cons]

/-- `rename_blocks` after `fix_block_mapping`: the loop over the blocks and the two dictionary rebuilds -/
def renameWorld (m : Dict Name Name) (w : World) : World :=
  rebuildConnection (rebuildBlock (renameLoop m w w.blocklist))

theorem renameWorld_spec {w : World} (hI : Grid.Inv w) (m : Dict Name Name)
    (hnd : (w.blocklist.map fun b => mapName m (w.bname b)).Nodup) : Renamed m w (renameWorld m w) := by
  obtain ⟨bs, e, hlen, hbk⟩ := renameLoop_spec m w w.blocklist hI.bl_nodup hI.bl_lt
  rw [renameWorld, e]
  let w' := rebuildConnection (rebuildBlock { w with blks := bs })
  have hbk' : ∀ x ∈ w.blocklist, w'.bk x =
      { w.bk x with name := mapName m (w.bk x).name, conn := mapConn m (w.bk x).conn } := fun x hx => by
    show bs.getD x default = _; rw [hbk, if_pos hx]
  have hnm : ∀ x ∈ w.blocklist, w'.bname x = mapName m (w.bname x) := fun x hx => by
    simp only [World.bname, hbk' x hx]
  have hkey : ∀ c ∈ w.connectionlist, w'.ckey c = mapKey m (w.ckey c) := fun c hc => by
    show (w'.bname (w.cn c).b0, w'.bname (w.cn c).b1) = _
    rw [hnm _ (hI.c_ends c hc).1, hnm _ (hI.c_ends c hc).2.1]; rfl
  have hinj : ∀ x ∈ w.blocklist, ∀ y ∈ w.blocklist, w'.bname x = w'.bname y → x = y := fun x hx y hy e => by
    rw [hnm x hx, hnm y hy] at e
    exact inj_of_nodup_map _ _ hnd x hx y hy e
  -- connections with equal new keys join blocks with equal new names, hence the same blocks
  have hkinj : ∀ x ∈ w.connectionlist, ∀ y ∈ w.connectionlist, w'.ckey x = w'.ckey y → x = y := fun x hx y hy e => by
    have ex := hI.c_ends x hx
    have ey := hI.c_ends y hy
    have e' : (w'.bname (w.cn x).b0, w'.bname (w.cn x).b1) = (w'.bname (w.cn y).b0, w'.bname (w.cn y).b1) := e
    simp only [Prod.mk.injEq] at e'
    refine hI.conReg.key_inj hx hy ?_
    simp only [World.ckey, hinj _ ex.1 _ ey.1 e'.1, hinj _ ex.2.1 _ ey.2.1 e'.2]
  have hB : RegInv w'.bname ⟨w.blocklist, w'.block⟩ := RegInv.build hI.bl_nodup hinj
  have hC : RegInv w'.ckey ⟨w.connectionlist, w'.connection⟩ := RegInv.build hI.cl_nodup hkinj
  refine ⟨?_, rfl, rfl, hnm, fun n b => ?_, fun k c => ?_, fun b => ?_, rfl, rfl⟩
  · exact { hI with
      bl_lt := fun b hb => hlen ▸ hI.bl_lt b hb
      bd_sound := hB.sound, bd_complete := hB.complete, cd_sound := hC.sound, cd_complete := hC.complete
      b_rock := fun b hb => by rw [hbk' b hb]; exact hI.b_rock b hb
      conn_nodup := fun b hb => by rw [hbk' b hb]; exact nodup_mapConn _ _
      conn_iff := fun b hb k' => by
        rw [hbk' b hb]
        show k' ∈ mapConn m (w.bk b).conn ↔ ∃ c ∈ w.connectionlist, w'.ckey c = k' ∧ ((w.cn c).b0 = b ∨ (w.cn c).b1 = b)
        rw [mem_mapConn]
        constructor
        · rintro ⟨k, hk, e⟩
          obtain ⟨c, hc, ec, hm⟩ := (hI.conn_iff b hb k).mp hk
          exact ⟨c, hc, by rw [hkey c hc, ec, e], hm⟩
        · rintro ⟨c, hc, ec, hm⟩
          exact ⟨w.ckey c, (hI.conn_iff b hb _).mpr ⟨c, hc, rfl, hm⟩, by rw [← ec, hkey c hc]⟩ }
  · rw [hB.dget_iff]; exact and_congr_right fun hb => by rw [hnm b hb]
  · rw [hC.dget_iff]; exact and_congr_right fun hc => by rw [hkey c hc]
  · have : w'.bk b = bs.getD b default := rfl
    rw [this, hbk]; split <;> exact ⟨rfl, rfl, rfl⟩

theorem renameBlocks_cases (w : World) (m : Dict Name Name) (fix : Bool) :
    match effectiveMap m fix with
    | some m1 => renameBlocks w m fix = .ok (renameWorld m1 w)
    | none => ∃ e, renameBlocks w m fix = .error (e, w) := by
  unfold effectiveMap renameBlocks
  cases fix with
  | false => rfl
  | true =>
    cases fixBlockMapping m with
    | error e => exact ⟨e, rfl⟩
    | ok m2 => rfl

theorem renameBlocks_eq {w : World} {m m1 : Dict Name Name} {fix : Bool} (hm : effectiveMap m fix = some m1) :
    renameBlocks w m fix = .ok (renameWorld m1 w) := by
  have := renameBlocks_cases w m fix
  rw [hm] at this; exact this

theorem step_renameBlocks {w : World} {m m1 : Dict Name Name} {fix : Bool} (hm : effectiveMap m fix = some m1) :
    step w (.renameBlocks m fix) = { w := renameWorld m1 w } := by
  simp only [step, renameBlocks_eq hm]; rfl

theorem renameBlocks_spec {w : World} (hI : Grid.Inv w) (m : Dict Name Name) (fix : Bool)
    (hpre : pre w (.renameBlocks m fix) = true) :
    Grid.Inv (worldOf (renameBlocks w m fix)) ∧ PhysEq w (worldOf (renameBlocks w m fix)) := by
  unfold pre at hpre
  have hc := renameBlocks_cases w m fix
  cases hm : effectiveMap m fix with
  | some m1 =>
    simp only [hm, decide_eq_true_eq] at hpre hc
    rw [hc]
    have R := renameWorld_spec hI m1 hpre
    exact ⟨R.inv, R.phys⟩
  | none =>
    rw [hm] at hc
    obtain ⟨e, he⟩ := hc
    rw [he]; exact ⟨hI, .refl w⟩

end Proofs.Grid
