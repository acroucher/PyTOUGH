/-
  Flavour conversion (C20), the two converters: the MOP converters as runs of one-position changes (hence position by
  position), the closed forms of convert_to_TOUGH2 and convert_to_AUTOUGH2 and what either has produced when it did
  not raise, which sections are then present and listed after `update_sections`, the FOFT / COFT / GOFT lines written
  and read back, and facts about the generated tables.
-/
import PyTough.Proofs.Convert
namespace Proofs.Convert
open Py Model.Convert Gen.ConvertTables

/-- what AUTOUGH2→TOUGH2 leaves at MOP position `i` when it held `x` -/
def specA2T (mp : Bool) (st : Int) (i : Nat) (x : Int) : Int :=
  if i = 10 ∨ i = 12 then (if x = 2 then 0 else x)
  else if i = 21 then (if mp then 0 else st)
  else if i = 22 ∨ i = 23 ∨ i = 24 then (if x > 0 then 0 else x)
  else if mp = true ∧ (i = 14 ∨ i = 17 ∨ i = 20) then (if x > 0 then 0 else x)
  else x

/-- what TOUGH2→AUTOUGH2 leaves at MOP position `i` -/
def specT2A (mp : Bool) (i : Nat) (x : Int) : Int :=
  if i = 12 then (if x = 2 then 0 else x)
  else if i = 21 ∨ i = 22 ∨ i = 23 ∨ i = 24 then 0
  else if mp = true ∧ (i = 14 ∨ i = 17 ∨ i = 20) then (if x > 0 then 0 else x)
  else x

/-- position `i` after a run of changes, each to one position: the changes made to position `i`, in order -/
theorem getElem?_foldl_modify (steps : List (Nat × (Int → Int))) (l : List Int) (i : Nat) :
    (steps.foldl (fun l s => l.modify s.1 s.2) l)[i]? =
      (l[i]?).map fun x => (steps.filter (·.1 == i)).foldl (fun x s => s.2 x) x := by
  induction steps generalizing l with
  | nil => exact Option.map_id'.symm
  | cons s r ih =>
    rw [List.foldl_cons, ih, List.getElem?_modify, List.filter_cons, Option.map_eq_map, Option.map_map]
    by_cases h : s.1 = i
    · rw [if_pos (beq_iff_eq.mpr h)]
      simp only [h, if_true]
      rfl
    · rw [if_neg (fun hb => h (beq_iff_eq.mp hb))]
      simp only [h, if_false]
      rfl

/-- a run of changes computes `spec` position by position.  `hin` (at each position a step names, the changes made to it compose to
    `spec`) is one equation between two lists of functions, because for a run written out `rfl` proves it: every test of `spec` at a
    numeral is decided by evaluation -/
theorem getElem?_foldl_modify_spec (steps : List (Nat × (Int → Int))) (spec : Nat → Int → Int) (l : List Int) (i : Nat)
    (hin : (steps.map (·.1)).map (fun i x => (steps.filter (·.1 == i)).foldl (fun x s => s.2 x) x) =
      (steps.map (·.1)).map spec)
    (hout : i ∉ steps.map (·.1) → ∀ x, spec i x = x) :
    (steps.foldl (fun l s => l.modify s.1 s.2) l)[i]? = (l[i]?).map (spec i) := by
  rw [getElem?_foldl_modify]
  congr 1
  by_cases hi : i ∈ steps.map (·.1)
  · exact List.map_inj_left.mp hin i hi
  · have hs : steps.filter (·.1 == i) = [] :=
      List.filter_eq_nil_iff.mpr fun s hs hb => hi (List.mem_map.mpr ⟨s, hs, beq_iff_eq.mp hb⟩)
    funext x
    rw [hs, hout hi x]
    rfl

def zero2 (x : Int) : Int := if x = 2 then 0 else x
def zeroPos (x : Int) : Int := if x > 0 then 0 else x

theorem setIf_zero2 (opt : List Int) (j : Nat) : setIf opt j (· == 2) 0 = opt.modify j zero2 := by
  unfold setIf zero2
  simp only [beq_iff_eq]

theorem setIf_zeroPos (opt : List Int) (j : Nat) : setIf opt j (· > 0) 0 = opt.modify j zeroPos := by
  unfold setIf zeroPos
  simp only [decide_eq_true_eq]

/-- the changes `mopA2T` makes, in its order (those made under MP only are `id` without it, so that the positions do not depend on `mp`):
    links the model's chain of `let`s (`mopA2T_eq_steps`) to `specA2T` (`mopA2T_pointwise`) -/
def stepsA2T (mp : Bool) (st : Int) : List (Nat × (Int → Int)) :=
  let onMP (f : Int → Int) : Int → Int := if mp then f else id
  [(10, zero2), (12, zero2), (21, fun _ => st), (22, zeroPos), (23, zeroPos), (24, zeroPos),
    (14, onMP zeroPos), (17, onMP zeroPos), (20, onMP zeroPos), (21, onMP fun _ => 0)]

theorem mopA2T_eq_steps (mp : Bool) (st : Int) (opt : List Int) :
    mopA2T mp st opt = (stepsA2T mp st).foldl (fun l s => l.modify s.1 s.2) opt := by
  unfold mopA2T stepsA2T
  cases mp <;>
    simp only [setIf_zero2, setIf_zeroPos, List.foldl_cons, List.foldl_nil, List.modify_id,
      Bool.false_eq_true, if_false, if_true]

theorem mopA2T_pointwise (mp : Bool) (st : Int) (opt : List Int) (i : Nat) :
    (mopA2T mp st opt)[i]? = (opt[i]?).map (specA2T mp st i) := by
  rw [mopA2T_eq_steps]
  apply getElem?_foldl_modify_spec _ (specA2T mp st)
  · cases mp <;> rfl
  · -- a position that no step names fails every test of `specA2T`
    intro hi x
    simp only [stepsA2T, List.map, List.mem_cons, List.not_mem_nil, or_false, not_or] at hi
    simp only [specA2T, hi, or_self, and_false, if_false]

/-- the changes `mopT2A` makes, in its order, the MP ones `id` without it as in `stepsA2T` -/
def stepsT2A (mp : Bool) : List (Nat × (Int → Int)) :=
  let onMP (f : Int → Int) : Int → Int := if mp then f else id
  [(12, zero2), (22, fun _ => 0), (23, fun _ => 0), (24, fun _ => 0),
    (14, onMP zeroPos), (17, onMP zeroPos), (20, onMP zeroPos), (21, fun _ => 0)]

theorem mopT2A_eq_steps (mp : Bool) (opt : List Int) :
    mopT2A mp opt = (stepsT2A mp).foldl (fun l s => l.modify s.1 s.2) opt := by
  unfold mopT2A stepsT2A
  cases mp <;>
    simp only [setIf_zero2, setIf_zeroPos, List.foldl_cons, List.foldl_nil, List.modify_id,
      Bool.false_eq_true, if_false, if_true]

theorem mopT2A_pointwise (mp : Bool) (opt : List Int) (i : Nat) :
    (mopT2A mp opt)[i]? = (opt[i]?).map (specT2A mp i) := by
  rw [mopT2A_eq_steps]
  apply getElem?_foldl_modify_spec _ (specT2A mp)
  · cases mp <;> rfl
  · intro hi x
    simp only [stepsT2A, List.map, List.mem_cons, List.not_mem_nil, or_false, not_or] at hi
    simp only [specT2A, hi, or_self, and_false, if_false]

/-- the object `convert_to_TOUGH2` leaves when it does not raise -/
def tough2Of (mp : Bool) (st : Int) (d : T2) : T2 :=
  { filename := if mp then INFILE else d.filename
    simulator := []
    sections := (d.sections.erase SIMUL).erase LINEQ
    multi := multiA2T d.multi
    lineq := []
    solver := d.solver
    option := mopA2T mp st d.option
    rocks := if optAt d.option 10 = 2 then scaleRocks d.rocks else d.rocks
    gens := convGensList d.gens
    gendict := convDict d.gens d.gendict
    short := {}
    histBlock := d.short.block.getD d.histBlock
    histCon := d.short.con.getD d.histCon
    histGen := d.short.gen.getD d.histGen
    other := d.other
    blocks := d.blocks }

/-- the simulator strings for which MOP(23) = 1 makes `convert_mulkom_heat_conductivity` run -/
def mulkomSim (sim : Str) : Bool :=
  (AUTOUGH2.isPrefixOf sim && !(AUTOUGH2 ++ ['.', '2']).isPrefixOf sim) || ['M','U','L','K','O','M'].isPrefixOf sim

theorem condCount_eq (sim : Str) (m10 m23 : Int) :
    condCount sim m10 m23 = (if m10 = 2 then 1 else 0) + (if m23 = 1 ∧ mulkomSim sim = true then 1 else 0) := by
  -- of the two tests on MOP(23), `> 0` and `in [0, 1]`, only the value 1 passes both
  have h23 : (decide (m23 > 0) && (m23 == 0 || m23 == 1)) = decide (m23 = 1) := by
    by_cases h : m23 = 1
    · subst h
      rfl
    · rw [decide_eq_false h, Bool.and_eq_false_iff, Bool.or_eq_false_iff]
      simp only [decide_eq_false_iff_not, beq_eq_false_iff_ne]
      omega
  unfold condCount
  show _ + (if (decide (m23 > 0) && mulkomSim sim && (m23 == 0 || m23 == 1)) = true then 1 else 0) = _
  rw [Bool.and_right_comm, h23]
  simp only [beq_iff_eq, Bool.and_eq_true, decide_eq_true_eq]

/-- `convert_to_TOUGH2` clears the simulator string before it converts the parameters, so the MOP(23) rule is dead
    there: only MOP(10) = 2 rescales -/
theorem repeat_condCount_nil {α : Type} (f : α → α) (m10 m23 : Int) (r : α) :
    Nat.repeat f (condCount [] m10 m23) r = if m10 = 2 then f r else r := by
  rw [condCount_eq, show mulkomSim [] = false from rfl, if_neg (c := m23 = 1 ∧ _) (fun h => Bool.false_ne_true h.2),
    Nat.add_zero]
  by_cases h : m10 = 2
  · rw [if_pos h, if_pos h]
    rfl
  · rw [if_neg h, if_neg h]
    rfl

theorem convertToTough2_eq (mp : Bool) (d : T2) :
    convertToTough2 mp d =
      match solverTypeOfLineq d.lineq with
      | .ok st => (tough2Of mp st d, none)
      | .error e => ({ d with filename := if mp then INFILE else d.filename, simulator := [],
                              sections := d.sections.erase SIMUL, multi := multiA2T d.multi }, some e) := by
  have hd : (if mp then { d with filename := INFILE } else d) = { d with filename := if mp then INFILE else d.filename } := by
    cases mp <;> rfl
  unfold convertToTough2 convParamsA2T
  simp only [hd, deleteSection, deleteSectionL]
  cases h : solverTypeOfLineq d.lineq
  · simp
  · simp [tough2Of, shortToHistory, convertGenerators, repeat_condCount_nil]

theorem convertToTough2_inv {mp : Bool} {d d' : T2} (h : convertToTough2 mp d = (d', none)) :
    ∃ st, solverTypeOfLineq d.lineq = .ok st ∧ d' = tough2Of mp st d := by
  rw [convertToTough2_eq] at h
  split at h
  · rename_i st hs
    exact ⟨st, hs, (Prod.mk.inj h).1.symm⟩
  · cases h

/-- the object `convert_to_AUTOUGH2` leaves when it does not raise -/
def autough2Of (mp : Bool) (sim eos : Str) (ty : Int) (d : T2) : T2 :=
  { filename := autough2Filename d.filename
    simulator := ljust sim 10 ++ eos
    sections := insertSectionL (insertSectionL d.sections SIMUL) LINEQ
    multi := multiNumInc (multiSetEos eos d.multi)
    lineq := newLineq ty
    solver := []
    option := mopT2A mp d.option
    rocks := d.rocks
    gens := d.gens
    gendict := d.gendict
    short := { freq := none
               block := keepNonEmpty (d.histBlock.filter Item.isBlk)
               con := keepNonEmpty (d.histCon.filter Item.isCon)
               gen := keepNonEmpty (d.histGen.filter Item.isGen) }
    histBlock := []
    histCon := []
    histGen := []
    other := d.other
    blocks := d.blocks }

theorem convertToAutough2_eq (mp : Bool) (sim eos : Str) (d : T2) :
    convertToAutough2 mp sim eos d =
      match lineqTypeOf (solverTypeT2A mp d.solver d.option) with
      | .ok ty => (autough2Of mp sim eos ty d, none)
      | .error e => ({ d with filename := autough2Filename d.filename, simulator := ljust sim 10 ++ eos,
                              sections := insertSectionL d.sections SIMUL,
                              multi := multiNumInc (multiSetEos eos d.multi) }, some e) := by
  unfold convertToAutough2 convParamsT2A
  simp only [insertSection]
  cases h : lineqTypeOf (solverTypeT2A mp d.solver d.option) <;>
    simp [autough2Of, historyToShort]

theorem convertToAutough2_inv {mp : Bool} {sim eos : Str} {d d' : T2}
    (h : convertToAutough2 mp sim eos d = (d', none)) :
    ∃ ty, lineqTypeOf (solverTypeT2A mp d.solver d.option) = .ok ty ∧ d' = autough2Of mp sim eos ty d := by
  rw [convertToAutough2_eq] at h
  split at h
  · rename_i ty hs
    exact ⟨ty, hs, (Prod.mk.inj h).1.symm⟩
  · cases h

theorem mem_presentSections (d : T2) (k : Str) :
    k ∈ presentSections d ↔ k ∈ sections ∧ dataPresent d k = true := by
  simp [presentSections, List.mem_filter]

/-! the keywords are closed terms: each test `k = SIMUL`, `k = ROCKS`, … of `dataPresent` computes -/

theorem dataPresent_SIMUL (d : T2) : dataPresent d SIMUL = !d.simulator.isEmpty := rfl
theorem dataPresent_LINEQ (d : T2) : dataPresent d LINEQ = !d.lineq.isEmpty := rfl
theorem dataPresent_SOLVR (d : T2) : dataPresent d SOLVR = !d.solver.isEmpty := rfl
theorem dataPresent_SHORT (d : T2) : dataPresent d SHORT = d.short.truthy := rfl
theorem dataPresent_FOFT (d : T2) : dataPresent d FOFT = !d.histBlock.isEmpty := rfl
theorem dataPresent_COFT (d : T2) : dataPresent d COFT = !d.histCon.isEmpty := rfl
theorem dataPresent_GOFT (d : T2) : dataPresent d GOFT = !d.histGen.isEmpty := rfl

/-- a keyword is in the section list after `update_sections` (the first thing `write` does, and the
    list of keywords it then writes) iff its data is present -/
theorem mem_updateSections (d : T2) (k : Str) :
    k ∈ (updateSections d).sections ↔ k ∈ sections ∧ dataPresent d k = true :=
  (mem_updateSectionsL (presentSections d) d.sections k).trans (mem_presentSections d k)

theorem newLineq_type (ty : Int) : Dict.get? (newLineq ty) kType = some (.int ty) := by
  simp [newLineq, lineqKeys, Dict.get?, kType]

theorem lineqTypeOf_mem {v : PyV} {ty : Int} (h : lineqTypeOf v = .ok ty) : ty ∈ lineqTypes := by
  have hm : ∀ n, n < lineqTypes.length → lineqTypes.getD n 0 ∈ lineqTypes := by decide
  unfold lineqTypeOf at h
  cases v with
  | int i =>
    cases Except.ok.inj h
    split
    · exact hm _ (by omega)
    · exact hm 0 (by decide)
  | num q =>
    simp only at h
    split at h
    · cases h
    · cases Except.ok.inj h
      exact hm 0 (by decide)
  | _ => cases h

theorem ljust_append_ne_nil (s e : Str) : (ljust s 10 ++ e).isEmpty = false := by
  cases s with
  | nil => simp [ljust, List.replicate]
  | cons a r => simp [ljust]

theorem keepNonEmpty_eq_some {l l' : List Item} : keepNonEmpty l = some l' ↔ l ≠ [] ∧ l' = l := by
  unfold keepNonEmpty
  cases l <;> simp [eq_comm]

theorem scaleRocks_fields (rs : List Rock) :
    (scaleRocks rs).map (·.name) = rs.map (·.name) ∧ (scaleRocks rs).map (·.porosity) = rs.map (·.porosity) ∧
    (scaleRocks rs).map (·.payload) = rs.map (·.payload) ∧
    (scaleRocks rs).map (·.conductivity) = rs.map (fun r => r.conductivity * (1 - r.porosity)) := by
  simp [scaleRocks, List.map_map, Function.comp_def]

/-- items written one per line by `f` and read back by a reader that keeps the lines it can resolve (`p`) and rebuilds the item (`g`) all come back -/
theorem map_filter_map_self {α β : Type} {f : α → β} {p : β → Bool} {g : β → α} (l : List α)
    (h : ∀ a ∈ l, p (f a) = true ∧ g (f a) = a) : ((l.map f).filter p).map g = l := by
  induction l with
  | nil => rfl
  | cons a r ih =>
    obtain ⟨hp, hg⟩ := h a List.mem_cons_self
    rw [List.map_cons, List.filter_cons_of_pos hp, List.map_cons, hg, ih fun x hx => h x (List.mem_cons_of_mem _ hx)]

/-- the same for a reader that resolves and rebuilds in one step -/
theorem filterMap_map_self {α β : Type} {f : α → β} {g : β → Option α} (l : List α)
    (h : ∀ a ∈ l, g (f a) = some a) : (l.map f).filterMap g = l := by
  induction l with
  | nil => rfl
  | cons a r ih =>
    rw [List.map_cons, List.filterMap_cons_some (h a List.mem_cons_self), ih fun x hx => h x (List.mem_cons_of_mem _ hx)]

def blkText : Item → Str | .blk n => n | _ => []

/-- block objects of the grid survive being written under FOFT/GOFT and read back -/
theorem readNames_writeNames_blocks {blocks : List Str} {l : List Item}
    (h : ∀ it ∈ l, ∃ n, it = .blk n ∧ n ∈ blocks) :
    ∃ lines, writeNames l = some lines ∧ readNames blocks lines = l := by
  refine ⟨l.map blkText, mapM_pure_map _ _ l (fun it hi => by obtain ⟨n, rfl, _⟩ := h it hi; rfl), ?_⟩
  unfold readNames
  split
  · -- no grid: then no item either
    rename_i hb
    cases l with
    | nil => rfl
    | cons x r =>
      obtain ⟨n, _, hn⟩ := h x (List.mem_cons_self ..)
      rw [List.isEmpty_iff.mp hb] at hn
      cases hn
  · exact map_filter_map_self l fun it hi => by
      obtain ⟨n, rfl, hn⟩ := h it hi
      exact ⟨List.contains_iff_mem.mpr hn, rfl⟩

/-- bare names survive when there is no grid -/
theorem readNames_writeNames_names (l : List Item) (h : ∀ it ∈ l, ∃ s, it = .str s) :
    ∃ lines, writeNames l = some lines ∧ readNames [] lines = l := by
  refine ⟨l.map fun it => match it with | .str s => s | _ => [],
    mapM_pure_map _ _ l (fun it hi => by obtain ⟨s, rfl⟩ := h it hi; rfl), ?_⟩
  show List.map Item.str _ = l
  rw [List.map_map]
  exact (List.map_congr_left fun it hi => by obtain ⟨s, rfl⟩ := h it hi; rfl).trans (List.map_id l)

theorem readCons_writeCons {blocks : List Str} {cons : List (Str × Str)} {l : List Item} (hb : blocks ≠ [])
    (h : ∀ it ∈ l, ∃ a b, it = .con a b ∧ (a, b) ∈ cons) :
    ∃ lines, writeCons l = some lines ∧ readCons blocks cons lines = l := by
  refine ⟨l.map fun it => match it with | .con a b => (a, b) | _ => ([], []),
    mapM_pure_map _ _ l (fun it hi => by obtain ⟨a, b, rfl, _⟩ := h it hi; rfl), ?_⟩
  unfold readCons
  rw [if_neg (Bool.eq_false_iff.mp (List.isEmpty_eq_false_iff.mpr hb))]
  exact map_filter_map_self l fun it hi => by
    obtain ⟨a, b, rfl, hm⟩ := h it hi
    exact ⟨List.contains_iff_mem.mpr hm, rfl⟩

/-- every item is a `t2block` of the grid -/
def allGridBlocks (blocks : List Str) (l : List Item) : Bool :=
  l.all fun it => match it with | .blk n => blocks.contains n | _ => false

/-- every item is a `t2connection` of the grid -/
def allGridCons (cons : List (Str × Str)) (l : List Item) : Bool :=
  l.all fun it => match it with | .con a b => cons.contains (a, b) | _ => false

theorem allGridBlocks_spec {blocks : List Str} {l : List Item} (h : allGridBlocks blocks l = true) :
    ∀ it ∈ l, ∃ n, it = .blk n ∧ n ∈ blocks := by
  intro it hi
  have := List.all_eq_true.mp h it hi
  cases it with
  | blk n => exact ⟨n, rfl, by simpa using this⟩
  | _ => cases this

theorem allGridCons_spec {cons : List (Str × Str)} {l : List Item} (h : allGridCons cons l = true) :
    ∀ it ∈ l, ∃ a b, it = .con a b ∧ (a, b) ∈ cons := by
  intro it hi
  have := List.all_eq_true.mp h it hi
  cases it with
  | con a b => exact ⟨a, b, rfl, by simpa using this⟩
  | _ => cases this

/-! ### facts about the generated tables

  The tables hold digits, so the default `99` of `getD` stands for "outside the table" and equals no tabled value. -/

/-- every convertible type is converted to a type TOUGH2 has -/
theorem convert_targets_tough2 : ∀ p ∈ convert, isTough2Type p.2 = true := by decide +kernel

/-- LINEQ type → MOP(21) as evaluated on the real code -/
theorem lineq_to_solver_table :
    (List.range 10).all (fun t => solverTypeOfLineq [(kType, .int t)] == .ok (lineqToSolver.getD t 99)) = true := by decide +kernel

/-- solver type / MOP(21) → LINEQ type as evaluated on the real code -/
theorem solver_to_lineq_table :
    (List.range 10).all (fun t => lineqTypeOf (.int t) == .ok (solverToLineq.getD t 99)) = true := by decide +kernel

/-- the 25 × 10 table of `f` -/
def tabulate (f : Nat → Nat → Nat) : List (List Nat) := (List.range 25).map fun i => (List.range 10).map (f i)

theorem getD_tabulate (f : Nat → Nat → Nat) {i x : Nat} (hi : i < 25) (hx : x < 10) :
    ((tabulate f).getD i []).getD x 99 = f i x := by
  simp only [tabulate, List.getD_eq_getElem?_getD, List.getElem?_map, List.getElem?_range hi, List.getElem?_range hx,
    Option.map_some, Option.getD_some]

/-- number of rescalings when position `i` holds the digit `x` and every other position 0 (`b`: `mulkomSim`) -/
def condDigit (b : Bool) (i x : Nat) : Nat :=
  (if i = 10 ∧ x = 2 then 1 else 0) + (if i = 23 ∧ x = 1 ∧ b = true then 1 else 0)

theorem condCount_digit (sim : Str) (i x : Nat) :
    condCount sim (if i = 10 then (x : Int) else 0) (if i = 23 then (x : Int) else 0) = condDigit (mulkomSim sim) i x := by
  rw [condCount_eq, condDigit]
  have h10 : ((if i = 10 then (x : Int) else 0) = 2) = (i = 10 ∧ x = 2) := by
    split <;> simp [*] <;> omega
  have h23 : ((if i = 23 then (x : Int) else 0) = 1) = (i = 23 ∧ x = 1) := by
    split <;> simp [*] <;> omega
  simp only [h10, h23, and_assoc]

/-- number of conductivity rescalings for each tabled simulator string, position and digit -/
theorem cond_table :
    tblCondA2T.all (fun e => (List.range 25).all fun i => (List.range 10).all fun x =>
      let c := condCount e.1 (if i = 10 then x else 0) (if i = 23 then x else 0)
      c == (e.2.1.getD i []).getD x 99 && c == (e.2.2.getD i []).getD x 99) = true := by
  -- both tables of every entry are the table of the closed form of `condCount`; `b` keeps the prefix tests of `mulkomSim e.1` out of the 25 × 10 points
  have hk : ∀ b, ∀ e ∈ tblCondA2T, mulkomSim e.1 = b → e.2.1 = tabulate (condDigit b) ∧ e.2.2 = e.2.1 := by decide +kernel
  simp only [List.all_eq_true, List.mem_range, Bool.and_eq_true, beq_iff_eq]
  intro e he i hi x hx
  rw [(hk _ e he rfl).2, (hk _ e he rfl).1, getD_tabulate _ hi hx, condCount_digit]
  exact ⟨rfl, rfl⟩

theorem type_names_table : typeNames = [AUTOUGH2, TOUGH2] := rfl

theorem sections_head : sections.head? = some SIMUL := rfl
theorem sections_nodup : sections.Nodup := by decide +kernel
theorem keywords_in_sections :
    [SIMUL, ROCKS, PARAM, LINEQ, SOLVR, MULTI, ELEME, CONNE, GENER, SHORT, FOFT, COFT, GOFT].all sections.contains = true := by decide +kernel

end Proofs.Convert
