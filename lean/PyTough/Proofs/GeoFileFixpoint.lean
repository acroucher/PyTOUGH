/-
  C03 proofs: writing the re-read geometry reproduces the file (`write (canonGeo g) = write g`,
  because rounding is idempotent); and the centres of the re-read layers when every centre is kept.
-/
import PyTough.Proofs.GeoFileRoundtrip
import PyTough.Proofs.GeoFileRounding
namespace Proofs.GeoFile
open Py Model Model.GeoFile Proofs

/-! ### the two writes agree line by line -/

theorem nodeLine_canon {L : Nat} {s : Rat} (hs : s ≠ 0) {n : GNode} (h : NodeOK L s n) :
    nodeLine SP s (canonNode s n) = nodeLine SP s n :=
  lineOf_cons_congr rfl (lineOf_cons_congr (writeField_canonC hs h.x) (lineOf_cons_congr (writeField_canonC hs h.y) rfl))

theorem layerLine_canon {LL : Nat} {s : Rat} (hs : s ≠ 0) {l : GLayer} (h : LayerOK LL s l) (t : Flt) :
    layerLine SP s { canonLayer s l with top := t } = layerLine SP s l :=
  lineOf_cons_congr rfl (lineOf_cons_congr (writeField_canonC hs h.b) (lineOf_cons_congr (writeField_canonC hs h.c) rfl))

theorem wellLine_canon {s : Rat} (hs : s ≠ 0) {name : Str} (hn : WellNameOK name) {p : Flt × Flt × Flt} (h : PosOK s p) :
    wellLine SP s (rjust name 5) (canonPos s p) = wellLine SP s name p :=
  have hr : FieldRT (fS 5) (.str name) (rjust name 5) _ := rjustItem_ok 5 name hn.len hn.nonl
  lineOf_cons_congr ((strItem_ok 5 _ hr.len hr.nonl).w.trans hr.w.symm) (lineOf_cons_congr (writeField_canonC hs h.x)
    (lineOf_cons_congr (writeField_canonC hs h.y) (lineOf_cons_congr (writeField_canonC hs h.z) rfl)))

section
variable (s : Rat) (nodes' : List GNode) (layers' : List GLayer) (c : GColumn)

theorem canonColumn_name : (canonColumn s nodes' layers' c).name = c.name := rfl
theorem canonColumn_nodes : (canonColumn s nodes' layers' c).nodes = c.nodes := rfl
theorem canonColumn_centreSpecified : (canonColumn s nodes' layers' c).centreSpecified = c.centreSpecified := rfl

end

theorem surfaceLine_canon {s : Rat} (hs : s ≠ 0) (nodes' : List GNode) (layers' : List GLayer) {c : GColumn}
    (hd : c.defaultSurface = false) {z : Flt} (hz : c.surface = some z) (hf : fitsC 2 s z = true) :
    surfaceLine SP s (canonColumn s nodes' layers' c) = surfaceLine SP s c := by
  have h1 : (canonColumn s nodes' layers' c).surface = some (canonC 2 s z) := by
    unfold canonColumn; simp [hd, hz]
  unfold surfaceLine
  rw [h1, hz, canonColumn_name]
  exact lineOf_cons_congr rfl (lineOf_cons_congr (writeField_canonC hs hf) rfl)

/-- (`h` is `ColOK.centre`) -/
theorem columnLines_canon {s : Rat} (hs : s ≠ 0) (nodes' : List GNode) (layers' : List GLayer) {c : GColumn}
    (h : c.centreSpecified = 0 ∨ (c.centreSpecified = 1 ∧ ∃ x y, c.centre = .at x y ∧ fitsC 2 s x = true ∧ fitsC 2 s y = true)) :
    columnLines SP s (canonColumn s nodes' layers' c) = columnLines SP s c := by
  unfold columnLines
  rw [canonColumn_name, canonColumn_nodes, canonColumn_centreSpecified]
  rcases h with h0 | ⟨h1, x, y, hc, hx, hy⟩
  · simp only [h0, bne_self_eq_false, Bool.false_eq_true, if_false]
  · have hcen : (canonColumn s nodes' layers' c).centre = .at (canonC 2 s x) (canonC 2 s y) := by
      unfold canonColumn; simp [h1, hc]
    simp only [h1, one_bne_zero, if_true, hcen, hc, bind, Except.bind, pure, Except.pure]
    rw [show lineOf SP.column ([Val.str (ljust c.name 3), Val.int 1, Val.int ↑c.nodes.length] ++
          [((canonC 2 s x).div s).toVal, ((canonC 2 s y).div s).toVal])
        = lineOf SP.column ([Val.str (ljust c.name 3), Val.int 1, Val.int ↑c.nodes.length] ++
          [(x.div s).toVal, (y.div s).toVal]) from
      lineOf_cons_congr rfl (lineOf_cons_congr rfl (lineOf_cons_congr rfl
        (lineOf_cons_congr (writeField_canonC hs hx) (lineOf_cons_congr (writeField_canonC hs hy) rfl))))]

theorem optFlt_roundF {o : Option Flt} (h : ∀ x, o = some x → fitsB (fF 2) x.toVal = true) :
    writeField (fF 2) (optFlt (o.map (roundF 2))) = writeField (fF 2) (optFlt o) := by
  cases o with
  | none => rfl
  | some x => exact (writeField_roundF (h x rfl)).1

theorem writeHeader_canon {h : Header} (hh : HeaderOK h) : writeHeader SP (canonHeader h) = writeHeader SP h := by
  unfold writeHeader
  rw [header_values, header_values]
  -- field by field, in the order of `SP.headerNames`; only the five reals are rounded by the trip
  exact lineOf_cons_congr rfl <| lineOf_cons_congr rfl <| lineOf_cons_congr rfl <|
    lineOf_cons_congr (writeField_roundE hh.vol) <| lineOf_cons_congr (writeField_roundE hh.conn) <|
    lineOf_cons_congr rfl <|
    lineOf_cons_congr (optFlt_roundF hh.gdcx) <| lineOf_cons_congr (optFlt_roundF hh.gdcy) <|
    lineOf_cons_congr rfl <|
    lineOf_cons_congr (writeField_roundF hh.perm).1 <| lineOf_cons_congr rfl rfl

theorem layers_canon {LL : Nat} {s : Rat} (hs : s ≠ 0) : ∀ (ls : List GLayer) (t : Flt), (∀ l ∈ ls, LayerOK LL s l) →
    (layerTops t (ls.map (canonLayer s))).mapM (layerLine SP s) = ls.mapM (layerLine SP s) := by
  intro ls
  induction ls with
  | nil => intro _ _; rfl
  | cons l r ih =>
    intro t h
    simp only [List.map_cons, layerTops, List.mapM_cons]
    rw [layerLine_canon hs (h l (by simp)) t, ih _ (fun x hx => h x (List.mem_cons_of_mem _ hx))]

/-- when every centre is kept, the re-read layers are the plainly rounded ones -/
theorem canonLayersAux_kept (s : Rat) : ∀ (ls : List GLayer) (above : Option GLayer),
    layerCentresKeptAux s above ls = true → canonLayersAux s above ls = ls.map (canonLayer s) := by
  intro ls
  induction ls with
  | nil => intro _ _; rfl
  | cons l r ih =>
    intro above h
    simp only [layerCentresKeptAux, Bool.and_eq_true, Bool.or_eq_true, beq_iff_eq] at h
    have e : canonLayerAt s above l = canonLayer s l := by
      unfold canonLayerAt canonLayer
      by_cases ht : (roundF 2 (l.centre.div s)).truthy = true
      · simp only [ht, if_true]
      · simp only [ht, Bool.false_eq_true, if_false]
        rcases h.1 with h1 | h1
        · exact absurd h1 ht
        · simp only [canonLayer] at h1
          rw [h1]; rfl
    simp only [canonLayersAux, List.map_cons, e]
    rw [ih _ h.2]

theorem canonLayers_mapM {LL : Nat} {s : Rat} (hs : s ≠ 0) (ls : List GLayer) (h : ∀ l ∈ ls, LayerOK LL s l)
    (hk : layerCentresKeptAux s none ls = true) :
    (canonLayers s ls).mapM (layerLine SP s) = ls.mapM (layerLine SP s) := by
  cases ls with
  | nil => rfl
  | cons l r =>
    rw [canonLayers_cons, canonLayersAux_kept s _ none hk]
    exact layers_canon hs (l :: r) _ h

theorem write_canon {g : Geo} {L LL : Nat} {s : Rat} (w : WFP g L LL s) (hk : LayerCentresKept g = true) :
    write (canonGeo g) = write g := by
  have hs : s ≠ 0 := scale_ne_zero w.sc
  have hk' : layerCentresKeptAux s none g.layers = true := by
    unfold LayerCentresKept at hk; rw [w.sOf] at hk; exact hk
  -- every section of the re-read geometry is written as that of `g`
  have hnodes : writeNodes SP s (g.nodes.map (canonNode s)) = writeNodes SP s g.nodes := by
    unfold writeNodes
    rw [mapM_map_congr g.nodes fun n hn => nodeLine_canon hs (w.nodes n hn)]
  have hcols : writeColumns SP s (g.columns.map (canonColumn s (g.nodes.map (canonNode s)) (canonLayers s g.layers)))
      = writeColumns SP s g.columns := by
    unfold writeColumns
    rw [mapM_map_congr g.columns fun c hc => columnLines_canon hs _ _ (w.cols c hc).centre]
  have hlayers : writeLayers SP s (canonLayers s g.layers) = writeLayers SP s g.layers := by
    unfold writeLayers
    rw [canonLayers_mapM hs g.layers w.layers hk']
  have hsurf : writeSurface SP s (g.columns.map (canonColumn s (g.nodes.map (canonNode s)) (canonLayers s g.layers)))
      = writeSurface SP s g.columns := by
    unfold writeSurface
    rw [List.filter_map, mapM_map_congr (g := surfaceLine SP s)]
    · rfl
    · intro c hc
      obtain ⟨hc1, hc2⟩ := List.mem_filter.mp hc
      have hd : c.defaultSurface = false := (Bool.not_eq_true' _).mp hc2
      rcases w.colSurf c hc1 with h | ⟨z, hz, hfz⟩
      · rw [h] at hd; cases hd
      · exact surfaceLine_canon hs _ _ hd hz hfz
  have hwells : writeWells SP s (g.wells.map (canonWell s)) = writeWells SP s g.wells := by
    unfold writeWells
    rw [mapM_map_congr (g := wellLines SP s)]
    intro x hx
    exact mapM_map_congr x.pos fun p hp => wellLine_canon hs (w.wells x hx).name ((w.wells x hx).pos p hp)
  rw [w.canonGeo_eq]
  unfold write writeLines
  rw [specs_eq]
  simp only [bind, Except.bind, show (canonHeader g.hdr).unitType = g.hdr.unitType from rfl, w.sc,
    writeHeader_canon w.hdr, hnodes, hcols, hlayers, hsurf, hwells, List.all_map, List.length_map]
  rfl

theorem canonLayers_centre_kept (s : Rat) (ls : List GLayer) (hk : layerCentresKeptAux s none ls = true) :
    (canonLayers s ls).map (·.centre) = ls.map (fun l => canonC 2 s l.centre) := by
  cases ls with
  | nil => rfl
  | cons l r =>
    rw [canonLayers_cons, canonLayersAux_kept s _ none hk, layerTops_map _ (fun _ _ => rfl), List.map_map]
    rfl

end Proofs.GeoFile
