/-
  The arithmetic of `'%.{p}e'` on an exact fraction `n/d`: the printed pair `fmtEParts` (mantissa,
  exponent).  The idea: "`n/d` lies in decade `e`" (`Decade`, stated without division through
  `tenUp`/`tenDn`) determines `e` (`decade_unique`), so the exponent of a fraction is found by
  exhibiting its decade, and the mantissa is one `roundHalfEven` for either sign of the shift
  (`eM0_eq`).  From these: the printed decimal is a nearest one (`Near`, `NearAt`), it does not change
  when `n` and `d` are scaled, and a decimal of `p+1` digits reprints as itself (`fmtEParts_decimal`,
  `fmtEParts_reprint`).
-/
import PyTough.Model.Fixed
import PyTough.Proofs.FixedDigits
namespace Proofs
open Py Model

theorem roundHalfEven_cases (N D : Nat) :
    (roundHalfEven N D = N / D ∧ 2 * (N % D) ≤ D) ∨ (roundHalfEven N D = N / D + 1 ∧ D ≤ 2 * (N % D)) := by
  unfold roundHalfEven
  simp only
  by_cases h1 : 2 * (N % D) < D
  · rw [if_pos h1]; exact Or.inl ⟨rfl, by omega⟩
  · rw [if_neg h1]
    by_cases h2 : 2 * (N % D) > D
    · rw [if_pos h2]; exact Or.inr ⟨rfl, by omega⟩
    · rw [if_neg h2]
      by_cases h3 : N / D % 2 = 0
      · rw [if_pos h3]; exact Or.inl ⟨rfl, by omega⟩
      · rw [if_neg h3]; exact Or.inr ⟨rfl, by omega⟩

theorem roundHalfEven_bounds {N D L U : Nat} (hD : 0 < D) (hlo : L * D ≤ N) (hhi : N < U * D) :
    L ≤ roundHalfEven N D ∧ roundHalfEven N D ≤ U := by
  have h1 : L ≤ N / D := (Nat.le_div_iff_mul_le hD).mpr hlo
  have h2 : N / D < U := (Nat.div_lt_iff_lt_mul hD).mpr hhi
  rcases roundHalfEven_cases N D with ⟨h, _⟩ | ⟨h, _⟩ <;> rw [h] <;> omega

/-- `M` is a nearest integer to `N/D`:  `|N − M·D| ≤ D/2` -/
def Near (N D M : Nat) : Prop := 2 * N ≤ 2 * (M * D) + D ∧ 2 * (M * D) ≤ 2 * N + D

theorem roundHalfEven_nearest (N D : Nat) (hD : 0 < D) : Near N D (roundHalfEven N D) := by
  unfold Near
  have hdm : N / D * D + N % D = N := by rw [Nat.mul_comm]; exact Nat.div_add_mod N D
  have hm := Nat.mod_lt N hD
  rcases roundHalfEven_cases N D with ⟨h, hr⟩ | ⟨h, hr⟩
  · rw [h]; omega
  · rw [h, Nat.add_mul]; omega

theorem log10Search_eq (n d : Nat) : ∀ fuel k, log10Search n d fuel k =
    ((List.range' k fuel).find? fun j => decide (d ≤ n * 10 ^ j)).getD (k + fuel)
  | 0, _ => rfl
  | fuel + 1, k => by
    rw [log10Search, List.range'_succ, List.find?_cons]
    by_cases h : n * 10 ^ k ≥ d
    · rw [if_pos h, decide_eq_true h]; rfl
    · rw [if_neg h, decide_eq_false h, log10Search_eq n d fuel, Nat.add_right_comm k 1 fuel]; rfl

theorem log10Search_spec (n d fuel k : Nat) (hex : ∃ j, k ≤ j ∧ j < k + fuel ∧ d ≤ n * 10 ^ j) :
    k ≤ log10Search n d fuel k ∧ d ≤ n * 10 ^ (log10Search n d fuel k) ∧
      ∀ j, k ≤ j → j < log10Search n d fuel k → n * 10 ^ j < d := by
  rw [log10Search_eq]
  cases h : (List.range' k fuel).find? fun j => decide (d ≤ n * 10 ^ j) with
  | none =>
    obtain ⟨j, a, b, c⟩ := hex
    simpa [c] using List.find?_range'_eq_none.mp h j a b
  | some r =>
    obtain ⟨a, b, c⟩ := List.find?_range'_eq_some.mp h
    exact ⟨(List.mem_range'_1.mp b).1, of_decide_eq_true a, fun j h1 h2 => by simpa using c j h1 h2⟩

theorem log10Floor_spec (n d : Nat) (hn : 0 < n) (hd : 0 < d) :
    (∃ a : Nat, log10Floor n d = (a : Int) ∧ 10 ^ a * d ≤ n ∧ n < 10 ^ (a + 1) * d) ∨
    (∃ k : Nat, 0 < k ∧ log10Floor n d = -(k : Int) ∧ d ≤ n * 10 ^ k ∧ n * 10 ^ (k - 1) < d) := by
  unfold log10Floor
  by_cases h : n ≥ d
  · left
    rw [if_pos h]
    obtain ⟨hhi, hlo⟩ := natDigits_length_spec (n / d)
    have hL := natDigits_length_pos (n / d)
    refine ⟨(natDigits (n / d)).length - 1, by omega, (Nat.le_div_iff_mul_le hd).mp (hlo (Nat.div_pos h hd)), ?_⟩
    rw [Nat.sub_add_cancel hL]
    exact (Nat.div_lt_iff_lt_mul hd).mp hhi
  · right
    rw [if_neg h]
    -- `n·10^L ≥ 10^L > d` for `L` the digit count of `d`, so the search ends within its fuel
    have hL := natDigits_length_pos d
    have hex : ∃ j, 1 ≤ j ∧ j < 1 + ((natDigits d).length + 1) ∧ d ≤ n * 10 ^ j := by
      refine ⟨(natDigits d).length, hL, by omega, ?_⟩
      have : 1 * 10 ^ (natDigits d).length ≤ n * 10 ^ (natDigits d).length := Nat.mul_le_mul_right _ hn
      have := (natDigits_length_spec d).1
      omega
    obtain ⟨a, b, c⟩ := log10Search_spec n d _ 1 hex
    refine ⟨log10Search n d ((natDigits d).length + 1) 1, a, rfl, b, ?_⟩
    by_cases e : log10Search n d ((natDigits d).length + 1) 1 = 1
    · rw [e]; simp; omega
    · exact c _ (by omega) (by omega)

/-- the rounded mantissa before the carry test: the `let`s of `fmtEParts` word for word, so that
    `fmtEParts_eq` is an unfolding; `eM0_eq` is the form to reason with -/
def eM0 (p n d : Nat) : Nat :=
  let e0 := log10Floor n d
  let sh : Int := p - e0
  if sh ≥ 0 then roundHalfEven (n * 10 ^ sh.toNat) d else roundHalfEven n (d * 10 ^ (-sh).toNat)

theorem fmtEParts_eq (p n d : Nat) (hn : 0 < n) :
    fmtEParts p n d = if eM0 p n d ≥ 10 ^ (p + 1) then (eM0 p n d / 10, log10Floor n d + 1)
      else (eM0 p n d, log10Floor n d) := by
  unfold fmtEParts eM0
  rw [if_neg (Nat.ne_of_gt hn)]

theorem pow10_pos (k : Nat) : 0 < 10 ^ k := Nat.pow_pos (by decide)

/-- `10^t` for an integer `t`, as the fraction `tenUp t / tenDn t` of naturals (one of the two is `1`) -/
def tenUp (t : Int) : Nat := 10 ^ t.toNat
def tenDn (t : Int) : Nat := 10 ^ (-t).toNat

theorem tenUp_pos (t : Int) : 0 < tenUp t := pow10_pos _
theorem tenDn_pos (t : Int) : 0 < tenDn t := pow10_pos _

theorem tenDn_of_nonneg {t : Int} (h : 0 ≤ t) : tenDn t = 1 := by
  unfold tenDn; rw [show (-t).toNat = 0 by omega, Nat.pow_zero]

theorem tenUp_of_neg {t : Int} (h : ¬ 0 ≤ t) : tenUp t = 1 := by
  unfold tenUp; rw [show t.toNat = 0 by omega, Nat.pow_zero]

/-- `10^(s+j) = 10^j · 10^s`, cross-multiplied -/
theorem ten_shift (s : Int) (j : Nat) :
    tenUp (s + j) * tenDn s = 10 ^ j * (tenUp s * tenDn (s + j)) := by
  unfold tenUp tenDn
  rw [← Nat.pow_add, ← Nat.pow_add, ← Nat.pow_add]
  congr 1
  omega

/-- `10^e ≤ n/d < 10^(e+1)`, without division -/
def Decade (n d : Nat) (e : Int) : Prop :=
  tenUp e * d ≤ n * tenDn e ∧ n * tenDn e < 10 * (tenUp e * d)

theorem log10Floor_decade (n d : Nat) (hn : 0 < n) (hd : 0 < d) : Decade n d (log10Floor n d) := by
  unfold Decade tenUp tenDn
  rcases log10Floor_spec n d hn hd with ⟨a, he, h1, h2⟩ | ⟨k, hk, he, h1, h2⟩
  · have e2 : (-(a : Int)).toNat = 0 := by omega
    rw [he, Int.toNat_natCast, e2, Nat.pow_zero, Nat.mul_one]
    rw [Nat.pow_succ, Nat.mul_comm (10 ^ a) 10, Nat.mul_assoc] at h2
    exact ⟨h1, h2⟩
  · obtain ⟨j, rfl⟩ : ∃ j, k = j + 1 := ⟨k - 1, by omega⟩
    have e1 : (-((j + 1 : Nat) : Int)).toNat = 0 := by omega
    have e2 : (-(-((j + 1 : Nat) : Int))).toNat = j + 1 := by omega
    rw [he, e1, e2, Nat.pow_zero, Nat.one_mul]
    rw [Nat.add_sub_cancel] at h2
    refine ⟨h1, ?_⟩
    rw [Nat.pow_succ, ← Nat.mul_assoc]
    omega

theorem decade_unique {n d : Nat} {e e' : Int} (h : Decade n d e) (h' : Decade n d e') : e = e' := by
  -- a value below `10^(e+1)` is not at least `10^e'` for `e' > e`
  have key : ∀ {e e' : Int}, Decade n d e → Decade n d e' → ¬ e < e' := by
    intro e e' h h' hlt
    obtain ⟨j, hj⟩ : ∃ j : Nat, e' = e + ((j + 1 : Nat) : Int) := ⟨(e' - e - 1).toNat, by omega⟩
    have h10 : 10 * (tenUp e * tenDn e') ≤ tenUp e' * tenDn e := by
      rw [hj, ten_shift, Nat.pow_succ, Nat.mul_comm (10 ^ j) 10, Nat.mul_assoc]
      exact Nat.mul_le_mul_left 10 (Nat.le_mul_of_pos_left _ (pow10_pos j))
    exact Nat.lt_irrefl _ (calc
      tenUp e' * d * tenDn e ≤ n * tenDn e' * tenDn e := Nat.mul_le_mul_right _ h'.1
      _ = n * tenDn e * tenDn e' := Nat.mul_right_comm _ _ _
      _ < 10 * (tenUp e * d) * tenDn e' := Nat.mul_lt_mul_of_pos_right h.2 (tenDn_pos _)
      _ = 10 * (tenUp e * tenDn e') * d := by ac_rfl
      _ ≤ tenUp e' * tenDn e * d := Nat.mul_le_mul_right d h10
      _ = tenUp e' * d * tenDn e := Nat.mul_right_comm _ _ _)
  rcases Int.lt_trichotomy e e' with hlt | heq | hgt
  · exact absurd hlt (key h h')
  · exact heq
  · exact absurd hgt (key h' h)

theorem log10Floor_unique {n d : Nat} {e : Int} (hn : 0 < n) (hd : 0 < d) (h : Decade n d e) :
    log10Floor n d = e :=
  decade_unique (log10Floor_decade n d hn hd) h

theorem eM0_eq (p n d : Nat) : eM0 p n d =
    roundHalfEven (n * tenUp (p - log10Floor n d)) (d * tenDn (p - log10Floor n d)) := by
  unfold eM0
  simp only
  by_cases h : (p : Int) - log10Floor n d ≥ 0
  · rw [if_pos h, tenDn_of_nonneg h, Nat.mul_one]; rfl
  · rw [if_neg h, tenUp_of_neg h, Nat.mul_one]; rfl

/-- a value in the decade `e`, scaled by `10^(p-e)`, lies between `10^p` and `10^(p+1)` -/
theorem decade_mantissa {n d : Nat} {e : Int} (p : Nat) (h : Decade n d e) :
    10 ^ p * (d * tenDn (p - e)) ≤ n * tenUp (p - e) ∧
    n * tenUp (p - e) < 10 ^ (p + 1) * (d * tenDn (p - e)) := by
  -- `10^(p-e) · 10^e = 10^p`, cross-multiplied
  have hx : tenUp (p - e) * tenUp e = 10 ^ p * (tenDn (p - e) * tenDn e) := by
    unfold tenUp tenDn
    rw [← Nat.pow_add, ← Nat.pow_add, ← Nat.pow_add]
    congr 1
    omega
  obtain ⟨h1, h2⟩ := h
  have hD := tenDn_pos e
  have hU := tenUp_pos (p - e)
  generalize tenUp (p - e) = Us at *
  generalize tenDn (p - e) = Ds at *
  constructor
  · apply Nat.le_of_mul_le_mul_right _ hD
    calc 10 ^ p * (d * Ds) * tenDn e = 10 ^ p * (Ds * tenDn e) * d := by ac_rfl
      _ = Us * (tenUp e * d) := by rw [← hx]; ac_rfl
      _ ≤ Us * (n * tenDn e) := Nat.mul_le_mul_left _ h1
      _ = n * Us * tenDn e := by ac_rfl
  · apply Nat.lt_of_mul_lt_mul_right (a := tenDn e)
    calc n * Us * tenDn e = Us * (n * tenDn e) := by ac_rfl
      _ < Us * (10 * (tenUp e * d)) := Nat.mul_lt_mul_of_pos_left h2 hU
      _ = 10 * (Us * tenUp e) * d := by ac_rfl
      _ = 10 ^ (p + 1) * (d * Ds) * tenDn e := by rw [hx, Nat.pow_succ]; ac_rfl

theorem eM0_bounds (p n d : Nat) (hn : 0 < n) (hd : 0 < d) :
    10 ^ p ≤ eM0 p n d ∧ eM0 p n d ≤ 10 ^ (p + 1) := by
  obtain ⟨h1, h2⟩ := decade_mantissa p (log10Floor_decade n d hn hd)
  rw [eM0_eq]
  exact roundHalfEven_bounds (Nat.mul_pos hd (tenDn_pos _)) h1 h2

theorem fmtEParts_cases (p n d : Nat) (hn : 0 < n) (hd : 0 < d) :
    (fmtEParts p n d = (eM0 p n d, log10Floor n d) ∧ 10 ^ p ≤ eM0 p n d ∧ eM0 p n d < 10 ^ (p + 1)) ∨
    (fmtEParts p n d = (10 ^ p, log10Floor n d + 1) ∧ eM0 p n d = 10 * 10 ^ p) := by
  rw [fmtEParts_eq p n d hn]
  obtain ⟨h1, h2⟩ := eM0_bounds p n d hn hd
  by_cases h : eM0 p n d ≥ 10 ^ (p + 1)
  · have e : eM0 p n d = 10 * 10 ^ p := by rw [Nat.pow_succ] at h h2; omega
    rw [if_pos h, e, Nat.mul_div_cancel_left _ (by decide)]
    exact Or.inr ⟨rfl, rfl⟩
  · rw [if_neg h]; exact Or.inl ⟨rfl, h1, by omega⟩

theorem fmtEParts_normalised (p n d : Nat) (hn : 0 < n) (hd : 0 < d) :
    10 ^ p ≤ (fmtEParts p n d).1 ∧ (fmtEParts p n d).1 < 10 ^ (p + 1) := by
  rcases fmtEParts_cases p n d hn hd with ⟨e, h⟩ | ⟨e, _⟩ <;> rw [e]
  · exact h
  · exact ⟨Nat.le_refl _, Nat.pow_lt_pow_right (by decide) (by omega)⟩

theorem fmtEParts_zero (p d : Nat) : fmtEParts p 0 d = (0, 0) := by
  unfold fmtEParts; rw [if_pos rfl]

theorem fmtEParts_lt (p n d : Nat) (hd : 0 < d) : (fmtEParts p n d).1 < 10 ^ (p + 1) := by
  rcases Nat.eq_zero_or_pos n with rfl | hn
  · rw [fmtEParts_zero]; exact pow10_pos _
  · exact (fmtEParts_normalised p n d hn hd).2

/-- `m·10^t` is within half a unit of the last place (`10^t`) of `n/d`, without division (`nearAt_iff` is the form to reason with) -/
def NearAt (n d m : Nat) (t : Int) : Prop :=
  if 0 ≤ t then Near n (d * 10 ^ t.toNat) m else Near (n * 10 ^ (-t).toNat) d m

theorem near_carry_num {N D m : Nat} (h : Near (N * 10) D (10 * m)) : Near N D m := by
  unfold Near at *
  have : 10 * m * D = 10 * (m * D) := Nat.mul_assoc _ _ _
  rw [this] at h
  omega

theorem near_carry_den {N D m : Nat} (h : Near N D (10 * m)) : Near N (D * 10) m := by
  unfold Near at *
  have e1 : 10 * m * D = 10 * (m * D) := Nat.mul_assoc _ _ _
  have e2 : m * (D * 10) = 10 * (m * D) := by rw [← Nat.mul_assoc, Nat.mul_comm]
  rw [e1] at h
  rw [e2]
  omega

theorem nearAt_iff (n d m : Nat) (t : Int) : NearAt n d m t ↔ Near (n * tenDn t) (d * tenUp t) m := by
  unfold NearAt
  by_cases ht : 0 ≤ t
  · rw [if_pos ht, tenDn_of_nonneg ht, Nat.mul_one]; rfl
  · rw [if_neg ht, tenUp_of_neg ht, Nat.mul_one]; rfl

theorem nearAt_carry {n d m : Nat} {t : Int} (h : NearAt n d (10 * m) t) : NearAt n d m (t + 1) := by
  rw [nearAt_iff] at h ⊢
  unfold tenUp tenDn at *
  -- the factor 10 goes into the denominator for `t ≥ 0`, out of the numerator for `t < 0`
  by_cases ht : 0 ≤ t
  · rw [show (-(t + 1)).toNat = (-t).toNat by omega, show (t + 1).toNat = t.toNat + 1 by omega, Nat.pow_succ,
      ← Nat.mul_assoc]
    exact near_carry_den h
  · rw [show (t + 1).toNat = t.toNat by omega]
    rw [show (-t).toNat = (-(t + 1)).toNat + 1 by omega, Nat.pow_succ, ← Nat.mul_assoc] at h
    exact near_carry_num h

theorem eM0_near (p n d : Nat) (hd : 0 < d) : NearAt n d (eM0 p n d) (log10Floor n d - p) := by
  rw [nearAt_iff, eM0_eq]
  have e1 : tenDn (log10Floor n d - p) = tenUp (p - log10Floor n d) := by
    unfold tenDn tenUp; rw [Int.neg_sub]
  have e2 : tenUp (log10Floor n d - p) = tenDn (p - log10Floor n d) := by
    unfold tenDn tenUp; rw [Int.neg_sub]
  rw [e1, e2]
  exact roundHalfEven_nearest _ _ (Nat.mul_pos hd (tenDn_pos _))

theorem roundHalfEven_scale (a b c : Nat) (hc : 0 < c) :
    roundHalfEven (a * c) (b * c) = roundHalfEven a b := by
  unfold roundHalfEven
  simp only
  rw [Nat.mul_div_mul_right _ _ hc, Nat.mul_mod_mul_right]
  have e1 : (2 * (a % b * c) < b * c) ↔ (2 * (a % b) < b) := by
    rw [← Nat.mul_assoc]; exact Nat.mul_lt_mul_right hc
  have e2 : (2 * (a % b * c) > b * c) ↔ (2 * (a % b) > b) := by
    rw [← Nat.mul_assoc]; exact Nat.mul_lt_mul_right hc
  simp only [e1, e2]

theorem log10Search_unique {n d k r r' : Nat}
    (h1 : k ≤ r ∧ d ≤ n * 10 ^ r ∧ ∀ j, k ≤ j → j < r → n * 10 ^ j < d)
    (h2 : k ≤ r' ∧ d ≤ n * 10 ^ r' ∧ ∀ j, k ≤ j → j < r' → n * 10 ^ j < d) : r = r' := by
  rcases Nat.lt_trichotomy r r' with h | h | h
  · have := h2.2.2 r h1.1 h; omega
  · exact h
  · have := h1.2.2 r' h2.1 h; omega

theorem decade_scale {n d c : Nat} {e : Int} (hc : 0 < c) (h : Decade n d e) : Decade (n * c) (d * c) e := by
  unfold Decade at *
  rw [← Nat.mul_assoc, Nat.mul_right_comm n c, ← Nat.mul_assoc]
  exact ⟨Nat.mul_le_mul_right c h.1, Nat.mul_lt_mul_of_pos_right h.2 hc⟩

theorem log10Floor_scale (n d c : Nat) (hn : 0 < n) (hd : 0 < d) (hc : 0 < c) :
    log10Floor (n * c) (d * c) = log10Floor n d :=
  log10Floor_unique (Nat.mul_pos hn hc) (Nat.mul_pos hd hc) (decade_scale hc (log10Floor_decade n d hn hd))

theorem eM0_scale (p n d c : Nat) (hn : 0 < n) (hd : 0 < d) (hc : 0 < c) :
    eM0 p (n * c) (d * c) = eM0 p n d := by
  rw [eM0_eq, eM0_eq, log10Floor_scale n d c hn hd hc, Nat.mul_right_comm n c, Nat.mul_right_comm d c,
    roundHalfEven_scale _ _ _ hc]

theorem fmtEParts_scale (p n d c : Nat) (hd : 0 < d) (hc : 0 < c) :
    fmtEParts p (n * c) (d * c) = fmtEParts p n d := by
  rcases Nat.eq_zero_or_pos n with rfl | hn
  · rw [Nat.zero_mul, fmtEParts_zero, fmtEParts_zero]
  · rw [fmtEParts_eq p (n * c) (d * c) (Nat.mul_pos hn hc), fmtEParts_eq p n d hn,
      eM0_scale p n d c hn hd hc, log10Floor_scale n d c hn hd hc]

theorem roundHalfEven_exact (m b : Nat) (hb : 0 < b) : roundHalfEven (m * b) b = m := by
  unfold roundHalfEven
  simp only
  rw [Nat.mul_div_cancel _ hb, Nat.mul_mod_left]
  simp [hb]

/-- the numerator / denominator of the decimal `m·10^t` (as C13 states them; `decNum_eq`, `decDen_eq`: they are `m * tenUp t`, `tenDn t`) -/
def decNum (m : Nat) (t : Int) : Nat := if t ≥ 0 then m * 10 ^ t.toNat else m
def decDen (t : Int) : Nat := if t ≥ 0 then 1 else 10 ^ (-t).toNat

theorem decNum_eq (m : Nat) (t : Int) : decNum m t = m * tenUp t := by
  unfold decNum
  by_cases ht : t ≥ 0
  · rw [if_pos ht]; rfl
  · rw [if_neg ht, tenUp_of_neg ht, Nat.mul_one]

theorem decDen_eq (t : Int) : decDen t = tenDn t := by
  unfold decDen
  by_cases ht : t ≥ 0
  · rw [if_pos ht, tenDn_of_nonneg ht]
  · rw [if_neg ht]; rfl

theorem decDen_pos (t : Int) : 0 < decDen t := decDen_eq t ▸ tenDn_pos t

theorem decNum_pos {m : Nat} (hm : 0 < m) (t : Int) : 0 < decNum m t :=
  decNum_eq m t ▸ Nat.mul_pos hm (tenUp_pos t)

/-- **Reprinting is stable**: `'%.{p}e'` of a decimal that already has exactly `p+1` significant
    digits (`10^p ≤ m < 10^(p+1)`) prints the same digits and the same exponent -/
theorem fmtEParts_decimal (p m : Nat) (t : Int) (hlo : 10 ^ p ≤ m) (hhi : m < 10 ^ (p + 1)) :
    fmtEParts p (decNum m t) (decDen t) = (m, t + p) := by
  have hm : 0 < m := by have := pow10_pos p; omega
  have hU := tenUp_pos t
  have hD := tenDn_pos t
  rw [decNum_eq, decDen_eq]
  -- the decimal exponent of `m·10^t` is `t + p`
  have hlog : log10Floor (m * tenUp t) (tenDn t) = t + p := by
    apply log10Floor_unique (Nat.mul_pos hm hU) hD
    have hX : 0 < tenUp t * tenDn (t + p) := Nat.mul_pos hU (tenDn_pos _)
    unfold Decade
    rw [ten_shift t p, Nat.mul_assoc m]
    constructor
    · exact Nat.mul_le_mul_right _ hlo
    · rw [← Nat.mul_assoc 10, ← Nat.pow_succ']
      exact Nat.mul_lt_mul_of_pos_right hhi hX
  -- rounding at `10^(-t)` is exact
  have hm0 : eM0 p (m * tenUp t) (tenDn t) = m := by
    have e1 : tenUp ((p : Int) - (t + p)) = tenDn t := by unfold tenUp tenDn; congr 2; omega
    have e2 : tenDn ((p : Int) - (t + p)) = tenUp t := by unfold tenUp tenDn; congr 2; omega
    rw [eM0_eq, hlog, e1, e2, Nat.mul_assoc, Nat.mul_comm (tenDn t)]
    exact roundHalfEven_exact m _ (Nat.mul_pos hU hD)
  rw [fmtEParts_eq _ _ _ (Nat.mul_pos hm hU), hm0, if_neg (by omega), hlog]

/-- `hN`, `hDD`: `N/D` is the decimal printed for `n/d`, up to a common factor `j` (as `signed_mkRat_parts` hands it over) -/
theorem fmtEParts_reprint (p : Nat) {n d : Nat} (hn : n ≠ 0) (hd : 0 < d) {N D j : Nat} (hj : 0 < j) (hD : 0 < D)
    (hN : decNum (fmtEParts p n d).1 ((fmtEParts p n d).2 - p) = N * j)
    (hDD : decDen ((fmtEParts p n d).2 - p) = D * j) : fmtEParts p N D = fmtEParts p n d := by
  obtain ⟨hlo, hhi⟩ := fmtEParts_normalised p n d (Nat.pos_of_ne_zero hn) hd
  rw [← fmtEParts_scale p N D j hD hj, ← hN, ← hDD, fmtEParts_decimal p _ _ hlo hhi, Int.sub_add_cancel]

theorem signed_mkRat_parts (neg : Bool) {N D : Nat} (hN : 0 < N) (hD : 0 < D) {r : Rat}
    (hr : r = mkRat (if neg then -(N : Int) else N) D) :
    decide (r < 0) = neg ∧ ∃ j, 0 < j ∧ N = r.num.natAbs * j ∧ D = r.den * j := by
  obtain ⟨j, hj, h1, h2⟩ := Rat.mkRat_num_den (Nat.pos_iff_ne_zero.mp hD)
    (hr.symm : mkRat _ D = ⟨r.num, r.den, r.den_nz, r.reduced⟩)
  have hjp : (0 : Int) < j := Int.natCast_pos.mpr (Nat.pos_of_ne_zero hj)
  refine ⟨?_, j, Nat.pos_of_ne_zero hj, ?_, h2⟩
  · -- the sign is that of the numerator, which the positive factor does not change
    have hs : r < 0 ↔ (if neg then -(N : Int) else N) < 0 := by
      rw [← Rat.not_le, ← Rat.num_nonneg, Int.not_le, h1]
      exact ⟨fun h => Int.mul_neg_of_neg_of_pos h hjp, fun h => Int.neg_of_mul_neg_left h hjp⟩
    cases neg with
    | true => exact decide_eq_true (hs.mpr (by simp; omega))
    | false => exact decide_eq_false fun h => absurd (hs.mp h) (by simp)
  · have := congrArg Int.natAbs h1
    rw [Int.natAbs_mul, Int.natAbs_natCast] at this
    rw [← this]
    cases neg <;> simp

end Proofs
