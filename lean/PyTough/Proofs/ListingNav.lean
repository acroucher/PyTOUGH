/-
  The navigation machine (Model/ListingNav.lean): `set_index` loads the index with Python's wrap applied; the `argmin`
  of `set_time`/`set_step` is the first minimum for any strict weak order (`StrictWeak`), and what makes it a nearest
  value is `NearestOrder` (instances: `Int`, `Rat`).  Core Lean only.
-/
import PyTough.Model.ListingNav
namespace Proofs.Nav
open Py Model.Nav

variable {V E W : Type}

def LoadSetsIndex (N : Nav V E) : Prop := ∀ j v v', N.load j v = .ok v' → N.idx v' = (j : Int)

/-- what re-reading result `j` shows does not depend on what was shown before -/
def Covers (N : Nav V E) (view : V → W) : Prop :=
  ∀ j v v', (N.load j v).map view = (N.load j v').map view

theorem normIdx_natCast (j n : Nat) : (if (j : Int) < 0 then (j : Int) + (n : Int) else (j : Int)).toNat = j := by
  split <;> omega

theorem setIndex_natCast (N : Nav V E) {j : Nat} (hj : j < N.n) (v : V) : setIndex N (j : Int) v = N.load j v := by
  unfold setIndex
  simp only
  rw [if_neg (by omega), normIdx_natCast]

theorem setIndex_norm {N : Nav V E} {i : Int} {v s : V} (h : setIndex N i v = .ok s) :
    ∃ k : Nat, k < N.n ∧ (k : Int) = (if i < 0 then i + (N.n : Int) else i) ∧
      setIndex N (k : Int) v = .ok s ∧ N.load k v = .ok s := by
  unfold setIndex at h
  simp only at h
  split at h
  · cases h
  · rename_i hc
    generalize hk : (if i < 0 then i + (N.n : Int) else i).toNat = k at h
    have hkn : k < N.n := by rw [← hk]; split <;> omega
    exact ⟨k, hkn, by rw [← hk]; split <;> omega, by rw [setIndex_natCast N hkn]; exact h, h⟩

theorem setIndex_idx {N : Nav V E} (hl : LoadSetsIndex N) {i : Int} {v s : V} (h : setIndex N i v = .ok s) :
    N.idx s = if i < 0 then i + (N.n : Int) else i := by
  obtain ⟨k, _, hki, _, hload⟩ := setIndex_norm h
  rw [hl _ _ _ hload, hki]

theorem map_true_ok {x : Except E V} {b : Bool} {s : V} (hx : ((fun v' => (true, v')) <$> x) = .ok (b, s)) :
    b = true ∧ x = .ok s := by
  cases x with
  | error e => cases hx
  | ok a => cases hx; exact ⟨rfl, rfl⟩

theorem setNearest_ok {T : Type} {N : Nav V E} {lt : T → T → Bool} {dist : T → T → T} {vals : List T} {t : T} {v s : V}
    (h : setNearest N lt dist vals t v = .ok s) : ∃ i, nearestIndex lt dist vals t = some i ∧ setIndex N i v = .ok s := by
  unfold setNearest at h
  split at h
  · exact ⟨_, ‹_›, h⟩
  · cases h

section argmin
variable {D : Type} (lt : D → D → Bool)

/-- a strict order in which incomparable elements behave alike (every linear order is one) -/
structure StrictWeak : Prop where
  irrefl : ∀ a, lt a a = false
  trans : ∀ a b c, lt a b = true → lt b c = true → lt a c = true
  negtrans : ∀ a b x, lt a b = true → lt a x = true ∨ lt x b = true

/-- the loop of `argmin` over the elements `ds = l.drop i` of `l`: `best = l[besti]` is the first minimum among the first `i` -/
theorem argminFrom_spec (hlt : StrictWeak lt) (l ds : List D) (i : Nat) (best : D) (besti : Nat)
    (hds : l.drop i = ds) (hbest : l[besti]? = some best) (hbi : besti < i)
    (hmin : ∀ (k : Nat) (d : D), k < i → l[k]? = some d → lt d best = false)
    (hfirst : ∀ (k : Nat) (d : D), k < besti → l[k]? = some d → lt best d = true) :
    ∃ dj, l[argminFrom lt ds i best besti]? = some dj ∧
      (∀ (k : Nat) (d : D), l[k]? = some d → lt d dj = false) ∧
      (∀ (k : Nat) (d : D), k < argminFrom lt ds i best besti → l[k]? = some d → lt dj d = true) := by
  induction ds generalizing i best besti with
  | nil =>
    have hi : l.length ≤ i := List.drop_eq_nil_iff.mp hds
    exact ⟨best, hbest, fun k d hk => hmin k d (by have := (List.getElem?_eq_some_iff.mp hk).1; omega) hk, hfirst⟩
  | cons d r ih =>
    have hd : l[i]? = some d := by rw [← Nat.add_zero i, ← List.getElem?_drop, hds]; rfl
    have hr : l.drop (i + 1) = r := by rw [← List.drop_drop, hds]; rfl
    unfold argminFrom
    split
    · rename_i hdb
      -- `d` is smaller than everything before it: the new first minimum, at index `i`
      refine ih (i + 1) d i hr hd (Nat.lt_succ_self i) ?_ ?_
      · intro k x hk hx
        rcases Nat.lt_succ_iff_lt_or_eq.mp hk with hk | rfl
        · cases hxd : lt x d with
          | false => rfl
          | true => have := hmin k x hk hx; rw [hlt.trans x d best hxd hdb] at this; cases this
        · rw [hd] at hx; cases hx; exact hlt.irrefl _
      · intro k x hk hx
        rcases Nat.lt_or_ge k besti with h1 | h1
        · exact hlt.trans _ _ _ hdb (hfirst k x h1 hx)
        · rcases hlt.negtrans d best x hdb with h | h
          · exact h
          · rw [hmin k x hk hx] at h; cases h
    · rename_i hdb
      refine ih (i + 1) best besti hr hbest (by omega) ?_ hfirst
      intro k x hk hx
      rcases Nat.lt_succ_iff_lt_or_eq.mp hk with hk | rfl
      · exact hmin k x hk hx
      · rw [hd] at hx; cases hx; exact Bool.eq_false_iff.mpr hdb

theorem argmin_spec (hlt : StrictWeak lt) (ds : List D) (hne : ds ≠ []) :
    ∃ dj, ds[argmin lt ds]? = some dj ∧
      (∀ (k : Nat) (d : D), ds[k]? = some d → lt d dj = false) ∧
      (∀ (k : Nat) (d : D), k < argmin lt ds → ds[k]? = some d → lt dj d = true) := by
  cases ds with
  | nil => exact absurd rfl hne
  | cons d r =>
    refine argminFrom_spec lt hlt (d :: r) r 1 d 0 rfl rfl Nat.zero_lt_one ?_ (fun k x hk => absurd hk (Nat.not_lt_zero k))
    intro k x hk hx
    obtain rfl : k = 0 := by omega
    cases hx
    exact hlt.irrefl _

end argmin

section nearest
variable {T : Type} (lt : T → T → Bool) (dist : T → T → T)

/-- the facts about the number type that the nearest-selection argument uses -/
structure NearestOrder : Prop where
  sw : StrictWeak lt
  low : ∀ v0 vk t, lt t v0 = true → lt vk v0 = false → lt (dist vk t) (dist v0 t) = false
  high : ∀ vl vk t, lt vl t = true → lt vl vk = false → lt (dist vk t) (dist vl t) = false

theorem argmin_map_spec (hlt : StrictWeak lt) (f : T → T) (vals : List T) (hne : vals ≠ []) :
    ∃ vk, vals[argmin lt (vals.map f)]? = some vk ∧
      (∀ (j : Nat) (vj : T), vals[j]? = some vj → lt (f vj) (f vk) = false) ∧
      (∀ (j : Nat) (vj : T), j < argmin lt (vals.map f) → vals[j]? = some vj → lt (f vk) (f vj) = true) := by
  obtain ⟨dj, hdj, hmin, hfirst⟩ := argmin_spec lt hlt (vals.map f) (by intro hc; exact hne (List.map_eq_nil_iff.mp hc))
  rw [List.getElem?_map] at hdj
  obtain ⟨vk, hk, rfl⟩ := Option.map_eq_some_iff.mp hdj
  exact ⟨vk, hk, fun j vj hj => hmin j _ (by rw [List.getElem?_map, hj]; rfl),
    fun j vj hja hj => hfirst j _ hja (by rw [List.getElem?_map, hj]; rfl)⟩

/-- the three cases of `set_time(t)`: `t` below the first value, above the last, or `argmin` of the distances -/
theorem nearestIndex_cases (vals : List T) (t : T) (i : Int) (h : nearestIndex lt dist vals t = some i) :
    ∃ v0 vl, vals[0]? = some v0 ∧ vals[vals.length - 1]? = some vl ∧ 0 < vals.length ∧
      ((lt t v0 = true ∧ i = 0) ∨ (lt t v0 = false ∧ lt vl t = true ∧ i = -1) ∨
        (lt t v0 = false ∧ lt vl t = false ∧ i = (argmin lt (vals.map fun v => dist v t) : Nat))) := by
  unfold nearestIndex at h
  split at h
  · rename_i v0 vl hhead hvl
    have h0 : vals[0]? = some v0 := by rw [← List.head?_eq_getElem?]; exact hhead
    have hl : vals[vals.length - 1]? = some vl := by rw [← List.getLast?_eq_getElem?]; exact hvl
    have hpos : 0 < vals.length := (List.getElem?_eq_some_iff.mp h0).1
    refine ⟨v0, vl, h0, hl, hpos, ?_⟩
    cases hlow : lt t v0 with
    | true =>
      rw [hlow, if_pos rfl] at h
      injection h with h
      exact .inl ⟨rfl, h.symm⟩
    | false =>
      rw [hlow, if_neg Bool.false_ne_true] at h
      cases hhigh : lt vl t with
      | true =>
        rw [hhigh, if_pos rfl] at h
        injection h with h
        exact .inr (.inl ⟨rfl, rfl, h.symm⟩)
      | false =>
        rw [hhigh, if_neg Bool.false_ne_true] at h
        injection h with h
        exact .inr (.inr ⟨rfl, rfl, h.symm⟩)
  · cases h

theorem sorted_getElem? (hirr : ∀ a, lt a a = false) {vals : List T} (hsorted : vals.Pairwise (fun a b => lt b a = false))
    {i j : Nat} {a b : T} (hij : i ≤ j) (hi : vals[i]? = some a) (hj : vals[j]? = some b) : lt b a = false := by
  obtain ⟨hi', rfl⟩ := List.getElem?_eq_some_iff.mp hi
  obtain ⟨hj', rfl⟩ := List.getElem?_eq_some_iff.mp hj
  rcases Nat.lt_or_eq_of_le hij with h | rfl
  · exact List.pairwise_iff_getElem.mp hsorted i j hi' hj' h
  · exact hirr _

end nearest

def distRat (a b : Rat) : Rat := if a < b then b - a else a - b

theorem nearestOrder_int : NearestOrder (fun (a b : Int) => decide (a < b)) distInt where
  sw := { irrefl := by intro a; simp, trans := by intro a b c; simp; omega, negtrans := by intro a b x; simp; omega }
  low := by
    intro v0 vk t h1 h2
    have h1' : t < v0 := of_decide_eq_true h1
    have h2' : ¬ vk < v0 := of_decide_eq_false h2
    apply decide_eq_false
    unfold distInt
    split <;> (try split) <;> omega
  high := by
    intro vl vk t h1 h2
    have h1' : vl < t := of_decide_eq_true h1
    have h2' : ¬ vl < vk := of_decide_eq_false h2
    apply decide_eq_false
    unfold distInt
    split <;> (try split) <;> omega

theorem nearestOrder_rat : NearestOrder (fun (a b : Rat) => decide (a < b)) distRat where
  sw := { irrefl := by intro a; simp, trans := by intro a b c; simp; grind, negtrans := by intro a b x; simp; grind }
  low := by intro v0 vk t; simp [distRat]; grind
  high := by intro vl vk t; simp [distRat]; grind

end Proofs.Nav
