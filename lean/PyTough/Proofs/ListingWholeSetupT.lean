/-
  setup_table_TOUGH2 (Model/ListingFile.lean) on the lines of one printed table without repeated headers: the loop
  state after every data line as a pure function of the lines (`stepSt`, `runSt`), one turn of the loop as an equation
  (`setupLoop_step`), and from these that the recorded `header_skiplines` and `skiplines` describe the region that
  read_table_TOUGH2 then reads.  Core Lean only.
-/
import PyTough.Proofs.ListingWhole
namespace Proofs.Whole
open Py Model Model.Listing

/-- the index `setup_table_TOUGH2` files a data line under: the printed index - 1, or the previous one + 1 -/
def indexOfT (start : Option Int) (lastKey : Int) (prev : Int) (line : Str) : Int :=
  match pyInt (sliceO line (some (lastKey + 5)) start) with
  | .ok v => v - 1
  | .error _ => prev + 1

/-- the loop state after the data line in hand (key `key`), `k` lines skipped behind it, next line in hand `line'` -/
def stepSt (start : Option Int) (lastKey : Int) (st : SetupSt) (key : Key) (line' : Str) (k : Nat) : SetupSt :=
  { line := line', count := st.count + 1 + k, index := indexOfT start lastKey st.index st.line,
    longest := if (strip st.line).length > st.longest.length then st.line else st.longest,
    rowdict := dictSet st.rowdict (indexOfT start lastKey st.index st.line) (st.count, key),
    skips := k :: st.skips, ihs := st.ihs }

/-- the second line behind a blank line ends the table: separator, the title, or empty (`''` at end of file) -/
def termT (title : Str) (l : Str) : Bool := isSeparator l || decide (strip l = title) || (strip l).isEmpty

/-- `st.line` is the data line in hand; `h1`, `g1`: no repeated header line among the lines this turn looks at -/
theorem setupLoop_step (cols : List Str) (expected : Int) (start : Option Int) (keypos : List Int) (lastKey : Int)
    (title : Str) (f : Nat) (st : SetupSt) (s : Rd) (key : Key) (l : Str) (r : List Str)
    (hk : keyFromLine st.line keypos = .ok key) (hrest : s.pos.rest = l :: r)
    (h1 : isHeaderLine cols l = false)
    (g1 : isSeparator l = false → isBlank l = true → isHeaderLine cols (r.headD []) = false) :
    setupTableTOUGH2.loop cols expected start keypos lastKey title (f + 1) st s
      = if isSeparator l then .ok (stepSt start lastKey st key l 0, s)
        else if isBlank l then
          if termT title (r.headD []) then
            .ok (stepSt start lastKey st key (r.headD []) 1, { s with pos := ⟨s.pos.no + 1, r⟩ })
          else setupTableTOUGH2.loop cols expected start keypos lastKey title f (stepSt start lastKey st key (r.headD []) 1)
            { s with pos := ⟨s.pos.no + 1 + min 1 r.length, r.drop 1⟩ }
        else setupTableTOUGH2.loop cols expected start keypos lastKey title f (stepSt start lastKey st key l 0)
          { s with pos := ⟨s.pos.no + 1, r⟩ } := by
  conv => lhs; unfold setupTableTOUGH2.loop
  simp only [keyOfLine, hk]
  rw [bind_ok (liftE_ok key s), bind_ok (tell_run s), bind_ok (readline_cons s l r hrest)]
  unfold stepSt indexOfT termT
  -- the index is a `match` on a stuck term in the loop and in `indexOfT`: as a variable it is not evaluated by `rfl`
  generalize pyInt (sliceO st.line (some (lastKey + 5)) start) = v
  -- the loop appends `count - lastcount - 1` to `skiplines`
  have e0 : st.count + 1 - st.count - 1 = 0 := by omega
  have e1 : st.count + 1 + 1 - st.count - 1 = 1 := by omega
  cases h2 : isSeparator l
  · cases h3 : isBlank l
    · -- `l` is the next data line
      simp only [h1, Bool.false_eq_true, if_false, Bool.true_and, if_true, e0]
      rfl
    · -- `l` is blank: the line behind it decides whether the table goes on
      simp only [h1, Bool.false_eq_true, if_false, Bool.true_and, if_true]
      rw [bind_ok (tell_run _), bind_ok (readline_any _)]
      simp only [g1 h2 h3, Bool.false_eq_true, if_false]
      cases (isSeparator (r.headD []) || decide (strip (r.headD []) = title) || (strip (r.headD [])).isEmpty)
      · simp only [Bool.false_eq_true, if_false, e1]
        rfl
      · simp only [if_true]
        rw [bind_ok (seek_run _ _)]
        simp only [Bool.false_eq_true, if_false, Bool.and_false, e1]
        rfl
  · -- `l` is a separator: the table ends, the file goes back in front of `l`
    simp only [h1, Bool.false_eq_true, if_false, Bool.true_and, if_true]
    rw [bind_ok (seek_run _ _)]
    simp only [Bool.false_eq_true, if_false, Bool.and_false, e0]
    rfl

/-- one segment (the lines `sk` skipped behind a data line) in front of the lines `nxt`; `last`: the table ends here.
    At most one blank line is skipped: no repeated column header -/
def segOkT (cols : List Str) (title : Str) (sk : List Str) (last : Bool) (nxt : List Str) : Bool :=
  match sk with
  | [] =>
    match nxt with
    | [] => false
    | l :: _ => !isHeaderLine cols l && (if last then isSeparator l else !isSeparator l && !isBlank l)
  | [b] => !isHeaderLine cols b && !isSeparator b && isBlank b && !isHeaderLine cols (nxt.headD []) &&
           (termT title (nxt.headD []) == last)
  | _ => false

/-- a table body without repeated headers, as the set-up loop of `setup_table_TOUGH2` walks it -/
def segsOkT (cols : List Str) (title : Str) : List (Str × List Str) → List Str → Bool
  | [], _ => true
  | sg :: r, after => segOkT cols title sg.2 r.isEmpty (flat r ++ after) && segsOkT cols title r after

def SegsOkT (cols : List Str) (title : Str) (segs : List (Str × List Str)) (after : List Str) : Prop :=
  segs ≠ [] ∧ segsOkT cols title segs after = true

instance (cols : List Str) (title : Str) (segs : List (Str × List Str)) (after : List Str) :
    Decidable (SegsOkT cols title segs after) := by unfold SegsOkT; infer_instance

/-- `[]` where `key_from_line` raises: the theorems assume `(keyFromLine …).isOk` of every data line -/
def keyOfT (keypos : List Int) (d : Str) : Key :=
  match keyFromLine d keypos with
  | .ok k => k
  | .error _ => []

/-- the state of the set-up loop after the segments `segs` (data line of the first one in hand) -/
def runSt (start : Option Int) (lastKey : Int) (keypos : List Int) (st : SetupSt) :
    List (Str × List Str) → List Str → SetupSt
  | [], _ => st
  | sg :: r, after =>
    runSt start lastKey keypos (stepSt start lastKey st (keyOfT keypos sg.1) ((flat r ++ after).headD []) sg.2.length) r after

theorem keyOfT_ok {keypos : List Int} {d : Str} (h : (keyFromLine d keypos).isOk = true) :
    keyFromLine d keypos = .ok (keyOfT keypos d) := by
  unfold keyOfT
  cases hk : keyFromLine d keypos with
  | ok k => rfl
  | error e => rw [hk] at h; cases h

theorem setupLoop_seg (cols : List Str) (expected : Int) (start : Option Int) (keypos : List Int) (lastKey : Int)
    (title : Str) (f : Nat) (st : SetupSt) (s : Rd) (key : Key) (sk nxt : List Str) (last : Bool)
    (hk : keyFromLine st.line keypos = .ok key) (hrest : s.pos.rest = sk ++ nxt)
    (hseg : segOkT cols title sk last nxt = true) :
    setupTableTOUGH2.loop cols expected start keypos lastKey title (f + 1) st s
      = if last then .ok (stepSt start lastKey st key (nxt.headD []) sk.length, { s with pos := ⟨s.pos.no + sk.length, nxt⟩ })
        else setupTableTOUGH2.loop cols expected start keypos lastKey title f (stepSt start lastKey st key (nxt.headD []) sk.length)
          { s with pos := ⟨s.pos.no + sk.length + min 1 nxt.length, nxt.drop 1⟩ } := by
  unfold segOkT at hseg
  split at hseg
  · split at hseg
    · cases hseg
    · rename_i l r'
      simp only [Bool.and_eq_true, Bool.not_eq_true'] at hseg
      rw [setupLoop_step cols expected start keypos lastKey title f st s key l r' hk hrest hseg.1
        (fun h1 h2 => by cases last <;> simp_all)]
      cases last
      · simp only [Bool.false_eq_true, if_false, Bool.and_eq_true, Bool.not_eq_true'] at hseg
        simp [hseg.2.1, hseg.2.2]
      · simp only [if_true] at hseg
        simp only [hseg.2, if_true, List.headD_cons, List.length_nil, Nat.add_zero]
        rw [rd_pos_eta s _ _ rfl (by simpa using hrest)]
  · rename_i b
    simp only [Bool.and_eq_true, Bool.not_eq_true', beq_iff_eq] at hseg
    obtain ⟨⟨⟨⟨h1, h2⟩, h3⟩, g1⟩, g2⟩ := hseg
    rw [setupLoop_step cols expected start keypos lastKey title f st s key b nxt hk hrest h1 (fun _ _ => g1)]
    simp only [h2, h3, g2, Bool.false_eq_true, if_false, if_true, List.length_cons, List.length_nil, Nat.zero_add]
  · cases hseg

theorem setupLoop_run (cols : List Str) (expected : Int) (start : Option Int) (keypos : List Int) (lastKey : Int)
    (title : Str) (r : List (Str × List Str)) (sk : List Str) (after : List Str) (f : Nat) (st : SetupSt) (s : Rd)
    (hfuel : r.length < f)
    (hrest : s.pos.rest = sk ++ (flat r ++ after))
    (hkeys : ∀ sg ∈ (st.line, sk) :: r, (keyFromLine sg.1 keypos).isOk = true)
    (hok : segsOkT cols title ((st.line, sk) :: r) after = true) :
    setupTableTOUGH2.loop cols expected start keypos lastKey title f st s
      = .ok (runSt start lastKey keypos st ((st.line, sk) :: r) after,
             { s with pos := ⟨s.pos.no + sk.length + (flat r).length, after⟩ }) := by
  induction f generalizing r sk st s with
  | zero => cases hfuel
  | succ f ih =>
    have hk := keyOfT_ok (hkeys (st.line, sk) List.mem_cons_self)
    cases r with
    | nil =>
      simp only [segsOkT, List.isEmpty_nil, Bool.and_true] at hok
      rw [setupLoop_seg cols expected start keypos lastKey title f st s _ sk _ true hk hrest hok]
      simp only [if_true, runSt, flat, List.nil_append, List.length_nil, Nat.add_zero]
    | cons sg r' =>
      simp only [segsOkT, List.isEmpty_cons, Bool.and_eq_true] at hok
      rw [setupLoop_seg cols expected start keypos lastKey title f st s _ sk _ false hk hrest hok.1]
      simp only [Bool.false_eq_true, if_false, flat, List.cons_append, List.headD_cons, List.drop_succ_cons, List.drop_zero]
      rw [ih r' sg.2 _ _ (by simp only [List.length_cons] at hfuel; omega) (List.append_assoc _ _ _)
        (fun x hx => hkeys x (List.mem_cons_of_mem _ hx)) (by simpa [segsOkT] using hok.2)]
      simp only [runSt, flat, List.cons_append, List.headD_cons, List.length_cons, List.length_append]
      congr 4
      omega

theorem runSt_counters (start : Option Int) (lastKey : Int) (keypos : List Int) (st : SetupSt)
    (segs : List (Str × List Str)) (after : List Str) :
    (runSt start lastKey keypos st segs after).count = st.count + (flat segs).length ∧
    (runSt start lastKey keypos st segs after).ihs = st.ihs ∧
    (runSt start lastKey keypos st segs after).skips.reverse = st.skips.reverse ++ segs.map (·.2.length) := by
  induction segs generalizing st with
  | nil => simp [runSt, flat]
  | cons sg r ih =>
    obtain ⟨h1, h2, h3⟩ := ih (stepSt start lastKey st (keyOfT keypos sg.1) ((flat r ++ after).headD []) sg.2.length)
    rw [runSt, h1, h2, h3]
    simp only [stepSt, flat, List.length_cons, List.length_append, List.reverse_cons, List.map_cons, List.append_assoc,
      List.singleton_append, and_true]
    omega

theorem runSt_ihs (start : Option Int) (lastKey : Int) (keypos : List Int) (st : SetupSt)
    (segs : List (Str × List Str)) (after : List Str) :
    (runSt start lastKey keypos st segs after).ihs = st.ihs :=
  (runSt_counters start lastKey keypos st segs after).2.1

theorem runSt_count (start : Option Int) (lastKey : Int) (keypos : List Int) (st : SetupSt)
    (segs : List (Str × List Str)) (after : List Str) :
    (runSt start lastKey keypos st segs after).count = st.count + (flat segs).length :=
  (runSt_counters start lastKey keypos st segs after).1

def headerGoT (flow : List Str) : List Str → List Str → Option (List Str)
  | [], acc => some acc.reverse
  | x :: r, acc =>
    if flow.contains x then
      match acc with
      | [] => none
      | last :: more => headerGoT flow r ((last ++ [' '] ++ x) :: more)
    else headerGoT flow r (x :: acc)

/-- `parse_table_header_TOUGH2` on the column header line: the number of key columns and the column names;
    `none` where the real code raises -/
def headerColsT (plus : Bool) (hdr : Str) : Option (Nat × List Str) :=
  let flow := if plus then [S "Flow", S "Veloc"] else [S "RATE"]
  let headstrs := splitWs (strip hdr)
  let nkeys? := match headstrs.idxOf? (S "INDEX") with
    | some k => some k
    | none => headstrs.idxOf? (S "IND.")
  match nkeys? with
  | none => none
  | some nkeys =>
    match headerGoT flow (headstrs.drop (nkeys + 1)) [] with
    | some cols => some (nkeys, cols)
    | none => none

theorem headerGoT_run (flow : List Str) (L acc cols : List Str) (s : Rd) (h : headerGoT flow L acc = some cols) :
    parseTableHeaderTOUGH2.go flow L acc s = .ok (cols, s) := by
  induction L generalizing acc with
  | nil =>
    simp only [headerGoT, Option.some.injEq] at h
    subst h; rfl
  | cons x r ih =>
    unfold parseTableHeaderTOUGH2.go
    unfold headerGoT at h
    split at h
    · rename_i hc
      rw [if_pos hc]
      split at h
      · cases h
      · exact ih _ h
    · rename_i hc
      rw [if_neg hc]
      exact ih _ h

theorem parseTableHeaderTOUGH2_run (s : Rd) (hdr : Str) (rest : List Str) (nkeys : Nat) (cols : List Str)
    (hrest : s.pos.rest = hdr :: rest) (h : headerColsT (s.fam == Fam.toughplus) hdr = some (nkeys, cols)) :
    parseTableHeaderTOUGH2 s = .ok ((nkeys, cols), { s with pos := ⟨s.pos.no + 1, rest⟩ }) := by
  unfold parseTableHeaderTOUGH2
  rw [bind_ok (isPlus_run s), bind_ok (readline_cons s hdr rest hrest)]
  unfold headerColsT at h
  simp only at h
  split at h
  · cases h
  rename_i k hk
  split at h
  · rename_i cols' hg
    cases h
    -- `INDEX` or, failing that, `IND.` gives the number of keys; both ways continue alike
    cases hi : List.idxOf? (S "INDEX") (splitWs (strip hdr)) with
    | some k' =>
      rw [hi] at hk
      cases hk
      dsimp only
      rw [bind_ok (pure_run _ _), bind_ok (headerGoT_run _ _ _ _ _ hg)]
      rfl
    | none =>
      rw [hi] at hk
      dsimp only at hk ⊢
      rw [hk]
      dsimp only
      rw [bind_ok (pure_run _ _), bind_ok (headerGoT_run _ _ _ _ _ hg)]
      rfl
  · cases h

/-- the table `setup_table_TOUGH2` stores, from the final state of its loop -/
def setupTableOfT (tn : String) (nkeys : Nat) (cols : List Str) (keypos : List Int) (numpos : List (Option Int))
    (headerSkip : Nat) (st : SetupSt) : Table :=
  { mkTable cols ((sortByIndex st.rowdict).map (·.2.2)).toArray nkeys (tn = "connection") with
    keyPos := keypos, numpos := numpos, rowLine := some ((sortByIndex st.rowdict).map (·.2.1)).toArray,
    headerSkip := headerSkip, skips := st.skips.reverse, longest := st.longest }

/-- `keypos.getLast!` is the loop's `lastKey`; `runSt … { line := d0, longest := d0 } …` the state its loop ends in -/
theorem setupTableTOUGH2_run (tn : String) (s : Rd) (hdr : Str) (H : List Str) (d0 : Str) (sk0 : List Str)
    (r : List (Str × List Str)) (after : List Str)
    (nkeys : Nat) (c : Str) (cs : List Str) (start : Option Int) (keypos : List Int) (numpos : List (Option Int))
    (hrest : s.pos.rest = (hdr :: H) ++ (flat ((d0, sk0) :: r) ++ after))
    (hhdr : headerColsT (s.fam == Fam.toughplus) hdr = some (nkeys, c :: cs))
    (hH : ∀ l ∈ H, isResultsLine (strip l) (expectedT tn (c :: cs)) = false)
    (hd0 : isResultsLine (strip d0) (expectedT tn (c :: cs)) = true)
    (hstart : startOfValues d0 (c :: cs) = .ok start)
    (hkp : keyPositions (sliceO d0 none start) nkeys = .ok (some keypos)) (hne : keypos ≠ [])
    (hkeys : ∀ sg ∈ (d0, sk0) :: r, (keyFromLine sg.1 keypos).isOk = true)
    (hok : segsOkT (c :: cs) s.title ((d0, sk0) :: r) after = true)
    (hnp : parseTableLine (runSt start keypos.getLast! keypos { line := d0, longest := d0 } ((d0, sk0) :: r) after).longest
              start (c :: cs) = .ok numpos) :
    setupTableTOUGH2 tn s = .ok ((),
      { s with pos := ⟨s.pos.no + (hdr :: H).length + (flat ((d0, sk0) :: r)).length, after⟩,
               tables := upsert (·.1) s.tables (tn, setupTableOfT tn nkeys (c :: cs) keypos numpos (hdr :: H).length
                 (runSt start keypos.getLast! keypos { line := d0, longest := d0 } ((d0, sk0) :: r) after)),
               tablenames := s.tablenames ++ [tn] }) := by
  unfold setupTableTOUGH2
  rw [bind_ok (parseTableHeaderTOUGH2_run s hdr _ nkeys (c :: cs) hrest hhdr)]
  simp only
  rw [bind_ok (tableExpectedFloats_run tn c cs _)]
  rw [bind_ok (skipToResultsLine_ok _ _ _ _ (skipToResultsLineL_app _ H d0 _ _ 1 hH hd0))]
  rw [bind_ok (readline_cons _ d0 _ rfl)]
  rw [hstart, bind_ok (liftE_ok _ _)]
  rw [hkp, bind_ok (liftE_ok _ _)]
  cases keypos with
  | nil => exact absurd rfl hne
  | cons k0 ks =>
    simp only
    rw [get_bind, get_bind]
    rw [bind_ok (setupLoop_run (c :: cs) _ start (k0 :: ks) _ s.title r sk0 after _ { line := d0, longest := d0 } _
      (by have := flat_length r; simp; omega) (by simp) hkeys hok)]
    simp only
    rw [hnp, bind_ok (liftE_ok _ _), bind_ok (putTable_run _ _ _), modify_run]
    simp only [setupTableOfT, List.length_cons, flat, List.length_append]
    have e1 : 1 + H.length = H.length + 1 := by omega
    have e2 : s.pos.no + 1 + H.length + 1 + sk0.length + (flat r).length
        = s.pos.no + (H.length + 1) + (sk0.length + (flat r).length + 1) := by omega
    rw [e1, e2]

theorem setupTableOfT_skips (tn : String) (nkeys : Nat) (cols : List Str) (keypos : List Int) (numpos : List (Option Int))
    (hs : Nat) (start : Option Int) (lastKey : Int) (st : SetupSt) (segs : List (Str × List Str)) (after : List Str) :
    (setupTableOfT tn nkeys cols keypos numpos hs (runSt start lastKey keypos st segs after)).skips
      = st.skips.reverse ++ segs.map (·.2.length) :=
  (runSt_counters start lastKey keypos st segs after).2.2

theorem setupTableOfT_data_size (tn : String) (nkeys : Nat) (cols : List Str) (keypos : List Int) (numpos : List (Option Int))
    (hs : Nat) (st : SetupSt) :
    (setupTableOfT tn nkeys cols keypos numpos hs st).data.size = (setupTableOfT tn nkeys cols keypos numpos hs st).rows.size := by
  simp only [setupTableOfT, mkTable, Array.size_replicate]

end Proofs.Whole
