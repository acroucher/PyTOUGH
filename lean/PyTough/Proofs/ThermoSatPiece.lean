/-
  Interval enclosures for the branch conditions of `sat_tsat_inverse`: a generic lemma (`Piece.sound`) turns closed
  numeric conditions on one piece `a ≤ ϑ ≤ b` into the branch conditions, and an enclosure of `β`, for every `ϑ` of the piece.  The pieces
  themselves, and the evaluation of the conditions on them, are in ThermoSatCover.lean.
-/
import PyTough.Proofs.ThermoSat
namespace Proofs.Iapws
open Gen.Iapws Model.Thermo Proofs.Thermo

theorem bilinear_ge (x y x1 x2 y1 y2 L : ℝ) (hx1 : x1 ≤ x) (hx2 : x ≤ x2) (hy1 : y1 ≤ y) (hy2 : y ≤ y2)
    (c11 : L ≤ x1 * y1) (c12 : L ≤ x1 * y2) (c21 : L ≤ x2 * y1) (c22 : L ≤ x2 * y2) : L ≤ x * y := by
  rcases le_total 0 y with hy | hy
  · have h1 : x1 * y ≤ x * y := mul_le_mul_of_nonneg_right hx1 hy
    rcases le_total 0 x1 with h | h
    · exact le_trans c11 (le_trans (mul_le_mul_of_nonneg_left hy1 h) h1)
    · exact le_trans c12 (le_trans (mul_le_mul_of_nonpos_left hy2 h) h1)
  · have h1 : x2 * y ≤ x * y := mul_le_mul_of_nonpos_right hx2 hy
    rcases le_total 0 x2 with h | h
    · exact le_trans c21 (le_trans (mul_le_mul_of_nonneg_left hy1 h) h1)
    · exact le_trans c22 (le_trans (mul_le_mul_of_nonpos_left hy2 h) h1)

/-- the hypotheses `hΔ hD hβ hbr hne hg` of `sat_tsat_inverse` at one `ϑ` (`hg` with `p* β⁴` for `sat t`: `sat_toK`) -/
def Branch (ϑ : ℝ) : Prop :=
  0 ≤ satDisc ϑ ∧ satDen ϑ ≠ 0 ∧ 0 ≤ satBeta ϑ ∧
  0 ≤ 2 * tsE (satBeta ϑ * satBeta ϑ) (satBeta ϑ) * ϑ + tsF (satBeta ϑ * satBeta ϑ) (satBeta ϑ) ∧
  tsE (satBeta ϑ * satBeta ϑ) (satBeta ϑ) * ϑ + tsF (satBeta ϑ * satBeta ϑ) (satBeta ϑ) ≠ 0 ∧
  pmin ≤ pstar4 * (satBeta ϑ * satBeta ϑ) * (satBeta ϑ * satBeta ϑ) ∧
  pstar4 * (satBeta ϑ * satBeta ϑ) * (satBeta ϑ * satBeta ϑ) ≤ pcritical

/-- interval data for one piece `a ≤ ϑ ≤ b`: enclosures of `satA`, `satB`, `satC`, of `A C`, of `√Δ` (`slo`, `shi`) and of `β`; `Mg`, `Mh` bound the
    bilinear terms of `2Eϑ + F`, `Eϑ + F` from below (`branch_form_ge`) -/
structure Piece where
  (a b Alo Ahi Blo Bhi Clo Chi ACmax ACmin slo shi βlo βhi Mg Mh : ℝ)

/-- closed numeric conditions on a piece that imply `Branch ϑ` for all `ϑ ∈ [a, b]`.  The constants: `C` increases from 162 on (its slope
    `2 nr4_5 ϑ + nr4_6` is non-negative there), `B` decreases from 353 on (slope `2 nr4_2 ϑ + nr4_3 ≤ 0`, `706 = 2 · 353`: `nr4_signs`); below 353 `B` is
    bounded term by term (`satB_bounds`) -/
def Piece.ok (P : Piece) : Prop :=
  162 ≤ P.a ∧ P.a ≤ P.b ∧
  P.Alo ≤ satA P.a ∧ satA P.b ≤ P.Ahi ∧
  P.Clo ≤ satC P.a ∧ satC P.b ≤ P.Chi ∧ 0 < P.Clo ∧
  ((P.Blo ≤ nr4_2 * (P.b * P.b) + nr4_3 * P.a + nr4_4 ∧ nr4_2 * (P.a * P.a) + nr4_3 * P.b + nr4_4 ≤ P.Bhi) ∨
    (353 ≤ P.a ∧ P.Blo ≤ satB P.b ∧ satB P.a ≤ P.Bhi)) ∧ P.Bhi < 0 ∧
  P.Ahi * P.Chi ≤ P.ACmax ∧ P.Ahi * P.Clo ≤ P.ACmax ∧ P.ACmin ≤ P.Alo * P.Chi ∧ P.ACmin ≤ P.Alo * P.Clo ∧
  0 ≤ P.slo ∧ P.slo * P.slo ≤ P.Bhi * P.Bhi - 4 * P.ACmax ∧ P.Blo * P.Blo - 4 * P.ACmin ≤ P.shi * P.shi ∧ 0 ≤ P.shi ∧
  0 < P.βlo ∧ P.βlo * (-P.Blo + P.shi) ≤ 2 * P.Clo ∧ 2 * P.Chi ≤ P.βhi * (-P.Bhi + P.slo) ∧
  P.Mg ≤ (2 * P.b * nr4_2 + nr4_3) * P.βlo ∧ P.Mg ≤ (2 * P.b * nr4_2 + nr4_3) * P.βhi ∧
  P.Mg ≤ (2 * P.a * nr4_2 + nr4_3) * P.βlo ∧ P.Mg ≤ (2 * P.a * nr4_2 + nr4_3) * P.βhi ∧
  0 ≤ (2 * P.a + nr4_0) * (P.βlo * P.βlo) + P.Mg + (2 * P.a * nr4_5 + nr4_6) ∧
  P.Mh ≤ (P.b * nr4_2 + nr4_3) * P.βlo ∧ P.Mh ≤ (P.b * nr4_2 + nr4_3) * P.βhi ∧
  P.Mh ≤ (P.a * nr4_2 + nr4_3) * P.βlo ∧ P.Mh ≤ (P.a * nr4_2 + nr4_3) * P.βhi ∧
  0 < (P.a + nr4_0) * (P.βlo * P.βlo) + P.Mh + (P.a * nr4_5 + nr4_6) ∧
  pmin ≤ pstar4 * (P.βlo * P.βlo) * (P.βlo * P.βlo) ∧ pstar4 * (P.βhi * P.βhi) * (P.βhi * P.βhi) ≤ pcritical

theorem nr4_signs : (0 : ℝ) < nr4_0 ∧ (nr4_2 : ℝ) < 0 ∧ (0 : ℝ) < nr4_3 ∧ (0 : ℝ) < nr4_5 ∧ (0 : ℝ) ≤ 2 * nr4_5 * 162 + nr4_6 ∧
    (nr4_2 : ℝ) * 706 + nr4_3 ≤ 0 := by
  unfold nr4_0 nr4_2 nr4_3 nr4_5 nr4_6; simp only [tf_lit]; norm_num

theorem quad_mono {α β : ℝ} (γ : ℝ) {lo a x : ℝ} (hα : 0 ≤ α) (hlo : 0 ≤ 2 * α * lo + β) (ha : lo ≤ a) (h : a ≤ x) :
    α * (a * a) + β * a + γ ≤ α * (x * x) + β * x + γ := by
  rw [← sub_nonneg, show α * (x * x) + β * x + γ - (α * (a * a) + β * a + γ) = (x - a) * (α * (x + a) + β) by ring]
  have h1 : α * (2 * lo) ≤ α * (x + a) := mul_le_mul_of_nonneg_left (by linarith only [ha, h]) hα
  exact mul_nonneg (sub_nonneg.mpr h) (by linarith only [h1, hlo])

theorem satA_mono (a ϑ : ℝ) (a0 : 0 ≤ a) (h : a ≤ ϑ) : satA a ≤ satA ϑ := by
  obtain ⟨n0, _⟩ := nr4_signs
  have := quad_mono (α := 1) nr4_1 zero_le_one (by linarith only [n0]) a0 h
  unfold satA
  linarith only [this]

theorem satC_mono (a ϑ : ℝ) (a0 : 162 ≤ a) (h : a ≤ ϑ) : satC a ≤ satC ϑ := by
  obtain ⟨_, _, _, n5, slope, _⟩ := nr4_signs
  exact quad_mono nr4_7 n5.le slope a0 h

theorem satB_anti (a ϑ : ℝ) (a0 : 353 ≤ a) (h : a ≤ ϑ) : satB ϑ ≤ satB a := by
  obtain ⟨_, n2, _, _, _, slope⟩ := nr4_signs
  have := quad_mono (-nr4_4) (neg_nonneg.mpr n2.le) (β := -nr4_3) (by linarith only [slope]) a0 h
  unfold satB
  linarith only [this]

theorem satB_bounds (a b ϑ : ℝ) (a0 : 0 ≤ a) (ha : a ≤ ϑ) (hb : ϑ ≤ b) :
    nr4_2 * (b * b) + nr4_3 * a + nr4_4 ≤ satB ϑ ∧ satB ϑ ≤ nr4_2 * (a * a) + nr4_3 * b + nr4_4 := by
  obtain ⟨_, n2, n3, _, _, _⟩ := nr4_signs
  have h1 := mul_le_mul_of_nonpos_left (mul_self_le_mul_self a0 ha) (le_of_lt n2)
  have h2 := mul_le_mul_of_nonpos_left (mul_self_le_mul_self (le_trans a0 ha) hb) (le_of_lt n2)
  have h3 := mul_le_mul_of_nonneg_left ha (le_of_lt n3)
  have h4 := mul_le_mul_of_nonneg_left hb (le_of_lt n3)
  exact ⟨add_le_add (add_le_add h2 h3) (le_refl _), add_le_add (add_le_add h1 h4) (le_refl _)⟩

theorem prod_bounds (A C Alo Ahi Clo Chi ACmin ACmax : ℝ) (eA1 : Alo ≤ A) (eA2 : A ≤ Ahi) (eC1 : Clo ≤ C) (eC2 : C ≤ Chi)
    (hC : 0 < C) (ac1 : Ahi * Chi ≤ ACmax) (ac2 : Ahi * Clo ≤ ACmax) (ac3 : ACmin ≤ Alo * Chi) (ac4 : ACmin ≤ Alo * Clo) :
    ACmin ≤ A * C ∧ A * C ≤ ACmax := by
  constructor
  · have h1 : Alo * C ≤ A * C := mul_le_mul_of_nonneg_right eA1 (le_of_lt hC)
    rcases le_total 0 Alo with h | h
    · exact le_trans ac4 (le_trans (mul_le_mul_of_nonneg_left eC1 h) h1)
    · exact le_trans ac3 (le_trans (mul_le_mul_of_nonpos_left eC2 h) h1)
  · have h1 : A * C ≤ Ahi * C := mul_le_mul_of_nonneg_right eA2 (le_of_lt hC)
    rcases le_total 0 Ahi with h | h
    · exact le_trans h1 (le_trans (mul_le_mul_of_nonneg_left eC2 h) ac1)
    · exact le_trans h1 (le_trans (mul_le_mul_of_nonpos_left eC1 h) ac2)

theorem neg_sq_bounds (B Blo Bhi : ℝ) (h1 : Blo ≤ B) (h2 : B ≤ Bhi) (h0 : Bhi < 0) : Bhi * Bhi ≤ B * B ∧ B * B ≤ Blo * Blo := by
  have hB : 0 ≤ -B := le_trans (le_of_lt (neg_pos.mpr h0)) (neg_le_neg h2)
  have e1 := mul_self_le_mul_self (le_of_lt (neg_pos.mpr h0)) (neg_le_neg h2)
  have e2 := mul_self_le_mul_self hB (neg_le_neg h1)
  rw [neg_mul_neg, neg_mul_neg] at e1 e2
  exact ⟨e1, e2⟩

/-- Both branch conditions of `tsat` are `E u + F = (u + n₁) β² + (u n₃ + n₄) β + (u n₆ + n₇)` (`u = 2ϑ`, `u = ϑ`): the outer summands increase
    with `u` and `β`, the middle one is bilinear and bounded by `M` at its four corners. -/
theorem branch_form_ge {ua ub u βlo βhi β M : ℝ} (u0 : 0 ≤ ua) (hua : ua ≤ u) (hub : u ≤ ub) (b0 : 0 ≤ βlo) (eb1 : βlo ≤ β) (eb2 : β ≤ βhi)
    (m1 : M ≤ (ub * nr4_2 + nr4_3) * βlo) (m2 : M ≤ (ub * nr4_2 + nr4_3) * βhi)
    (m3 : M ≤ (ua * nr4_2 + nr4_3) * βlo) (m4 : M ≤ (ua * nr4_2 + nr4_3) * βhi) :
    (ua + nr4_0) * (βlo * βlo) + M + (ua * nr4_5 + nr4_6) ≤ tsE (β * β) β * u + tsF (β * β) β := by
  obtain ⟨n0, n2, _, n5, _, _⟩ := nr4_signs
  have e : tsE (β * β) β * u + tsF (β * β) β = (u + nr4_0) * (β * β) + (u * nr4_2 + nr4_3) * β + (u * nr4_5 + nr4_6) := by
    unfold tsE tsF; ring
  have x1 : ub * nr4_2 ≤ u * nr4_2 := mul_le_mul_of_nonpos_right hub n2.le
  have x2 : u * nr4_2 ≤ ua * nr4_2 := mul_le_mul_of_nonpos_right hua n2.le
  have mid : M ≤ (u * nr4_2 + nr4_3) * β :=
    bilinear_ge _ _ (ub * nr4_2 + nr4_3) (ua * nr4_2 + nr4_3) βlo βhi _ (by linarith only [x1]) (by linarith only [x2]) eb1 eb2 m1 m2 m3 m4
  have first : (ua + nr4_0) * (βlo * βlo) ≤ (u + nr4_0) * (β * β) :=
    mul_le_mul (by linarith only [hua]) (mul_self_le_mul_self b0 eb1) (mul_self_nonneg _) (by linarith only [hua, u0, n0])
  have last : ua * nr4_5 ≤ u * nr4_5 := mul_le_mul_of_nonneg_right hua n5.le
  rw [e]
  linarith only [mid, first, last]

theorem Piece.sound (P : Piece) (h : P.ok) (ϑ : ℝ) (ha : P.a ≤ ϑ) (hb : ϑ ≤ P.b) :
    Branch ϑ ∧ 0 < P.βlo ∧ P.βlo ≤ satBeta ϑ ∧ satBeta ϑ ≤ P.βhi := by
  -- one name per conjunct of `Piece.ok`: the enclosures of `A`, `C`, `B`, `A C` (`ac`), `√Δ` (`s`), `β` (`b`); the corner bounds by `Mg`, `Mh` (`g`, `m`); the pressure range (`p`)
  obtain ⟨a162, _, hAlo, hAhi, hClo, hChi, hC0, hBB, hB0, ac1, ac2, ac3, ac4, s0, s1, s2, s3, b0, b1, b2,
    g1, g2, g3, g4, g5, m1, m2, m3, m4, m5, p1, p2⟩ := h
  have a0 : 0 ≤ P.a := le_trans (by norm_num) a162
  have eA1 : P.Alo ≤ satA ϑ := le_trans hAlo (satA_mono _ _ a0 ha)
  have eA2 : satA ϑ ≤ P.Ahi := le_trans (satA_mono _ _ (le_trans a0 ha) hb) hAhi
  have eC1 : P.Clo ≤ satC ϑ := le_trans hClo (satC_mono _ _ a162 ha)
  have eC2 : satC ϑ ≤ P.Chi := le_trans (satC_mono _ _ (le_trans a162 ha) hb) hChi
  have eB : P.Blo ≤ satB ϑ ∧ satB ϑ ≤ P.Bhi := by
    rcases hBB with ⟨hBlo, hBhi⟩ | ⟨a353, hBlo, hBhi⟩
    · obtain ⟨eB1', eB2'⟩ := satB_bounds P.a P.b ϑ a0 ha hb
      exact ⟨le_trans hBlo eB1', le_trans eB2' hBhi⟩
    · exact ⟨le_trans hBlo (satB_anti ϑ P.b (le_trans a353 ha) hb), le_trans (satB_anti P.a ϑ a353 ha) hBhi⟩
  obtain ⟨eB1, eB2⟩ := eB
  have hCpos : 0 < satC ϑ := lt_of_lt_of_le hC0 eC1
  obtain ⟨eAC1, eAC2⟩ := prod_bounds _ _ _ _ _ _ _ _ eA1 eA2 eC1 eC2 hCpos ac1 ac2 ac3 ac4
  obtain ⟨eBB1, eBB2⟩ := neg_sq_bounds _ _ _ eB1 eB2 hB0
  have eD1 : P.slo * P.slo ≤ satDisc ϑ := by unfold satDisc; linarith only [s1, eBB1, eAC2]
  have eD2 : satDisc ϑ ≤ P.shi * P.shi := by unfold satDisc; linarith only [s2, eBB2, eAC1]
  have hD0 : 0 ≤ satDisc ϑ := le_trans (mul_self_nonneg _) eD1
  have eS1 : P.slo ≤ Real.sqrt (satDisc ϑ) := Real.le_sqrt_of_sq_le (by rw [sq]; exact eD1)
  have eS2 : Real.sqrt (satDisc ϑ) ≤ P.shi := by
    rw [Real.sqrt_le_left s3, sq]; exact eD2
  have den0 : 0 < -P.Bhi + P.slo := by linarith only [s0, hB0]
  have den1 : -P.Bhi + P.slo ≤ satDen ϑ := by unfold satDen; linarith only [eB2, eS1]
  have den2 : satDen ϑ ≤ -P.Blo + P.shi := by unfold satDen; linarith only [eB1, eS2]
  have denpos : 0 < satDen ϑ := lt_of_lt_of_le den0 den1
  have bhi0 : 0 < P.βhi := by
    have hc : 0 < P.βhi * (-P.Bhi + P.slo) := by linarith only [b2, hCpos, eC2]
    exact (pos_iff_pos_of_mul_pos hc).mpr den0
  have eb1 : P.βlo ≤ satBeta ϑ := by
    unfold satBeta; rw [le_div_iff₀ denpos]
    have : P.βlo * satDen ϑ ≤ P.βlo * (-P.Blo + P.shi) := mul_le_mul_of_nonneg_left den2 (le_of_lt b0)
    linarith only [this, b1, eC1]
  have eb2 : satBeta ϑ ≤ P.βhi := by
    unfold satBeta; rw [div_le_iff₀ denpos]
    have : P.βhi * (-P.Bhi + P.slo) ≤ P.βhi * satDen ϑ := mul_le_mul_of_nonneg_left den1 (le_of_lt bhi0)
    linarith only [this, b2, eC2]
  have βpos : 0 < satBeta ϑ := lt_of_lt_of_le b0 eb1
  have hG := branch_form_ge (mul_nonneg zero_le_two a0) (mul_le_mul_of_nonneg_left ha zero_le_two)
    (mul_le_mul_of_nonneg_left hb zero_le_two) b0.le eb1 eb2 g1 g2 g3 g4
  have hH := branch_form_ge a0 ha hb b0.le eb1 eb2 m1 m2 m3 m4
  refine ⟨⟨hD0, ne_of_gt denpos, βpos.le, ?_, ne_of_gt (m5.trans_le hH), p1.trans (quartic_strictMono.monotoneOn b0.le βpos.le eb1),
    (quartic_strictMono.monotoneOn βpos.le (βpos.le.trans eb2) eb2).trans p2⟩, b0, eb1, eb2⟩
  rw [mul_comm 2, mul_assoc]
  exact g5.trans hG

theorem Piece.branch (P : Piece) (h : P.ok) (ϑ : ℝ) (ha : P.a ≤ ϑ) (hb : ϑ ≤ P.b) : Branch ϑ := (P.sound h ϑ ha hb).1

theorem thetaOf_mono (T1 T2 : ℝ) (h : T1 ≤ T2) (h2 : T2 < nr4_9) : thetaOf T1 ≤ thetaOf T2 := by
  have w2 : T2 - nr4_9 < 0 := sub_neg.mpr h2
  have w1 : T1 - nr4_9 < 0 := sub_neg.mpr (lt_of_le_of_lt h h2)
  have e : nr4_8 / (T1 - nr4_9) - nr4_8 / (T2 - nr4_9) = nr4_8 * (T2 - T1) / ((T1 - nr4_9) * (T2 - nr4_9)) := by
    rw [div_sub_div _ _ (ne_of_lt w1) (ne_of_lt w2)]; congr 1; ring
  have : nr4_8 * (T2 - T1) / ((T1 - nr4_9) * (T2 - nr4_9)) ≤ 0 :=
    div_nonpos_of_nonpos_of_nonneg (mul_nonpos_of_nonpos_of_nonneg (le_of_lt nr4_8_neg) (sub_nonneg.mpr h))
      (le_of_lt (mul_pos_of_neg_of_neg w1 w2))
  unfold thetaOf
  linarith only [this, e, h]

end Proofs.Iapws
