/-
  `tsat (sat t) = t` on 0.01 .. 373.9 degC without branch hypotheses: the branch conditions are discharged on a cover
  of the saturation interval 273.16 K .. 647.05 K (ThermoSatCover.lean).  `sat` is continuous there, so every pressure between its
  end values is a saturation pressure (intermediate value theorem), which gives `sat (tsat p) = p`; and a checked piece encloses
  `sat` between rationals.
-/
import PyTough.Proofs.ThermoSatCover
import Mathlib.Topology.Order.IntermediateValue
namespace Proofs.Iapws
open Gen.Iapws Model.Thermo Proofs.Thermo Set

/-- the Celsius interval of this file lies inside `sat`'s range -/
theorem on_range (t : ℝ) (h0 : 1 / 100 ≤ t) (h1 : t ≤ 3739 / 10) : 0 ≤ t ∧ t ≤ tcritical :=
  ⟨le_trans (by norm_num) h0, h1.trans tcritical_bounds.1.le⟩

/-- and its image in K inside the cover -/
theorem in_cover (t : ℝ) (h0 : 1 / 100 ≤ t) (h1 : t ≤ 3739 / 10) : Branch (thetaOf (t + tc_k)) :=
  branch_cover (t + tc_k) (le_trans (le_of_eq (by norm_num)) (add_le_add h0 tc_k_bounds.1.le))
    (le_trans (add_le_add h1 tc_k_bounds.2.le) (by norm_num))

/-- saturation pressure as a real function of the Celsius temperature (`satP` of `ThermoIapws.lean`: `satP_eq_satK`) -/
noncomputable def satK (t : ℝ) : ℝ := (sat t).toK

theorem satP_eq_satK (t : ℝ) : satP t = satK t := rfl

theorem satK_eq (t : ℝ) (h0 : 1 / 100 ≤ t) (h1 : t ≤ 3739 / 10) :
    sat t = Ret.num (satK t) ∧ satK t = pstar4 * (satBeta (thetaOf (t + tc_k)) * satBeta (thetaOf (t + tc_k)))
      * (satBeta (thetaOf (t + tc_k)) * satBeta (thetaOf (t + tc_k))) := by
  have e := sat_eq t (on_range t h0 h1).1 (on_range t h0 h1).2
  unfold satK; rw [e]; exact ⟨rfl, rfl⟩

theorem sat_tsat_inverse_on (t : ℝ) (h0 : 1 / 100 ≤ t) (h1 : t ≤ 3739 / 10) : tsat (sat t).toK = Ret.num t := by
  obtain ⟨b1, b2, b3, b4, b5, b67⟩ := in_cover t h0 h1
  obtain ⟨r0, r1⟩ := on_range t h0 h1
  exact sat_tsat_inverse t r0 r1 b1 b2 b3 b4 b5 (by rw [sat_toK t r0 r1]; exact b67)

theorem thetaOf_continuousAt (T : ℝ) (hT : T - nr4_9 ≠ 0) : ContinuousAt thetaOf T := by
  unfold thetaOf
  fun_prop (disch := exact hT)

theorem satBeta_continuousAt (ϑ : ℝ) (hD : satDen ϑ ≠ 0) : ContinuousAt satBeta ϑ := by
  unfold satBeta satDen satDisc satA satB satC at *
  fun_prop (disch := exact hD)

theorem satK_continuousOn : ContinuousOn satK (Icc (1 / 100) (3739 / 10)) := by
  have hβ : ContinuousOn (fun t : ℝ => satBeta (thetaOf (t + tc_k))) (Icc (1 / 100) (3739 / 10)) := fun t ht => by
    have hθ : ContinuousAt (fun t : ℝ => thetaOf (t + tc_k)) t :=
      ContinuousAt.comp (f := fun t : ℝ => t + tc_k) (x := t) (thetaOf_continuousAt _ (T_lt_nr4_9 t (on_range t ht.1 ht.2).2).ne)
        (continuousAt_id.add continuousAt_const)
    exact (ContinuousAt.comp (f := fun t : ℝ => thetaOf (t + tc_k)) (x := t) (satBeta_continuousAt _ (in_cover t ht.1 ht.2).2.1) hθ).continuousWithinAt
  exact ((continuousOn_const.mul (hβ.mul hβ)).mul (hβ.mul hβ)).congr fun t ht => (satK_eq t ht.1 ht.2).2

theorem satK_surj (p : ℝ) (h0 : satK (1 / 100) ≤ p) (h1 : p ≤ satK (3739 / 10)) : ∃ t, 1 / 100 ≤ t ∧ t ≤ 3739 / 10 ∧ satK t = p := by
  obtain ⟨t, ht, e⟩ := intermediate_value_Icc (by norm_num : (1 / 100 : ℝ) ≤ 3739 / 10) satK_continuousOn ⟨h0, h1⟩
  exact ⟨t, ht.1, ht.2, e⟩

theorem tsat_sat_inverse_on (p : ℝ) (h0 : satK (1 / 100) ≤ p) (h1 : p ≤ satK (3739 / 10)) : sat (tsat p).toK = Ret.num p := by
  obtain ⟨t, ht0, ht1, rfl⟩ := satK_surj p h0 h1
  have e := sat_tsat_inverse_on t ht0 ht1
  unfold satK
  rw [e]
  exact (satK_eq t ht0 ht1).1

/-- **At every saturation pressure `p = sat t`, `0.01 ≤ t ≤ 373.9` degC, all hypotheses of `tsat_root` and `tsat_sat_inverse_partial` (`Props/C14.lean`) hold**:
    with `β = satBeta ϑ` the two square roots of `tsat` give back `β`, `tsat`'s quadratic has the root `ϑ` on the branch it takes
    (`tsTheta_eq`), and `sat`'s own root lies on the branch `2Aβ + B = −√Δ ≤ 0`. -/
theorem tsat_hyps_on (t : ℝ) (h0 : 1 / 100 ≤ t) (h1 : t ≤ 3739 / 10) :
    let b := Real.sqrt (Real.sqrt (satK t / pstar4))
    pmin ≤ satK t ∧ satK t ≤ pcritical ∧ 0 ≤ tsDisc (b * b) b ∧ tsDen (b * b) b ≠ 0 ∧
    2 * satA (tsTheta (b * b) b) * b + satB (tsTheta (b * b) b) ≤ 0 ∧
    satA (tsTheta (b * b) b) * b + satB (tsTheta (b * b) b) ≠ 0 ∧
    0 ≤ (tsat (satK t)).toK ∧ (tsat (satK t)).toK ≤ tcritical := by
  obtain ⟨hΔ, hD, hβ, hbr, hne, g1, g2⟩ := in_cover t h0 h1
  obtain ⟨ht0, ht1⟩ := on_range t h0 h1
  have hinv : tsat (satK t) = Ret.num t := sat_tsat_inverse_on t h0 h1
  rw [hinv, (satK_eq t h0 h1).2]
  generalize thetaOf (t + tc_k) = ϑ at hΔ hD hβ hbr hne g1 g2 ⊢
  rw [sqrt_pstar4_quartic, Real.sqrt_mul_self hβ]
  dsimp only
  obtain ⟨hdisc, hden, hth⟩ := tsTheta_eq (satBeta ϑ) ϑ (satPoly_satBeta ϑ hΔ hD) hbr hne
  rw [hth]
  refine ⟨g1, g2, hdisc, hden, ?_, ?_, ht0, ht1⟩
  · rw [satBeta_branch ϑ hΔ hD]
    exact neg_nonpos.mpr (Real.sqrt_nonneg _)
  · -- otherwise `C = −β (Aβ + B) = 0`, so `β = 0` and the pressure would be `0 < pmin`
    intro h
    have hC : satC ϑ = 0 := by
      have := satPoly_satBeta ϑ hΔ hD
      rw [satPoly_quadratic_in_beta] at this
      linear_combination this - satBeta ϑ * h
    have hb0 : satBeta ϑ = 0 := by unfold satBeta; rw [hC, mul_zero, zero_div]
    rw [hb0] at g1
    linarith only [g1, pmin_pos]

theorem satK_piece (ta tb : ℚ) (h : (PieceQ.of ta tb).core) (hb : tb < satQ.n9) (t : ℝ) (ht0 : 1 / 100 ≤ t) (ht1 : t ≤ 3739 / 10)
    (h1 : ta ≤ t + tc_k) (h2 : t + tc_k ≤ tb) :
    ((satQ.pstar * (PieceQ.of ta tb).βlo ^ 4 : ℚ) : ℝ) ≤ satK t ∧ satK t ≤ ((satQ.pstar * (PieceQ.of ta tb).βhi ^ 4 : ℚ) : ℝ) := by
  obtain ⟨hB, b0, lo, hi⟩ := PieceQ.of_sound ta tb h hb (t + tc_k) h1 h2
  have e : satK t = pstar4 * satBeta (thetaOf (t + tc_k)) ^ 4 := by
    rw [(satK_eq t ht0 ht1).2]
    ring
  rw [e]
  push_cast
  rw [satQ.pstar_cast]
  exact ⟨mul_le_mul_of_nonneg_left (pow_le_pow_left₀ (le_of_lt b0) lo 4) (le_of_lt pstar4_pos),
    mul_le_mul_of_nonneg_left (pow_le_pow_left₀ hB.2.2.1 hi 4) (le_of_lt pstar4_pos)⟩

/-- closed conditions for `L ≤ sat t ≤ U` Pa on `tlo ≤ t ≤ thi` degC: the piece over the enclosing Kelvin interval is in order, and
    `p* β⁴` at the two ends of its enclosure of `β` lies within `[L, U]` -/
def SatEncl (tlo thi L U : ℚ) : Prop :=
  1 / 100 ≤ tlo ∧ thi ≤ 3739 / 10 ∧ thi + 27315001 / 100000 < satQ.n9 ∧
  (PieceQ.of (tlo + 27314999 / 100000) (thi + 27315001 / 100000)).core ∧
  L ≤ satQ.pstar * (PieceQ.of (tlo + 27314999 / 100000) (thi + 27315001 / 100000)).βlo ^ 4 ∧
  satQ.pstar * (PieceQ.of (tlo + 27314999 / 100000) (thi + 27315001 / 100000)).βhi ^ 4 ≤ U

instance SatEncl.decidable (tlo thi L U : ℚ) : Decidable (SatEncl tlo thi L U) := by unfold SatEncl; infer_instance

theorem satK_encl {tlo thi L U : ℚ} (h : SatEncl tlo thi L U) {t : ℝ} (h1 : (tlo : ℝ) ≤ t) (h2 : t ≤ thi) :
    (L : ℝ) ≤ satK t ∧ satK t ≤ U := by
  obtain ⟨hlo, hhi, hb, hok, hL, hU⟩ := h
  have hlo' : (1 / 100 : ℝ) ≤ tlo := by simpa using (Rat.cast_le (K := ℝ)).mpr hlo
  have hhi' : (thi : ℝ) ≤ 3739 / 10 := by simpa using (Rat.cast_le (K := ℝ)).mpr hhi
  obtain ⟨a, b⟩ := satK_piece _ _ hok hb t (hlo'.trans h1) (h2.trans hhi')
    (by push_cast; exact add_le_add h1 tc_k_bounds.1.le) (by push_cast; exact add_le_add h2 tc_k_bounds.2.le)
  exact ⟨(Rat.cast_le.mpr hL).trans a, b.trans (Rat.cast_le.mpr hU)⟩

theorem satK_ends : satK (1 / 100) ≤ 613 ∧ 22039000 ≤ satK (3739 / 10) := by
  have lo := (satK_encl (tlo := 1 / 100) (thi := 1 / 100) (L := 0) (U := 613) (by decide +kernel) (t := 1 / 100)
    (by simp) (by simp)).2
  have hi := (satK_encl (tlo := 3739 / 10) (thi := 3739 / 10) (L := 22039000) (U := 22064000) (by decide +kernel) (t := 3739 / 10)
    (by simp) (by simp)).1
  exact ⟨by simpa using lo, by simpa using hi⟩

/-! ### concrete states at which all hypotheses of the saturation-line theorems hold together
  (non-vacuity of `sat_root`, `tsat_root`, `sat_tsat_inverse_partial`, `tsat_sat_inverse_partial` of `Props/C14.lean`): `p = 1 MPa` and `T = 500 K` -/

theorem exP_all :
    let p : ℝ := pstar4
    let b := Real.sqrt (Real.sqrt (p / pstar4))
    pmin ≤ p ∧ p ≤ pcritical ∧ 0 ≤ tsDisc (b * b) b ∧ tsDen (b * b) b ≠ 0 ∧
    2 * satA (tsTheta (b * b) b) * b + satB (tsTheta (b * b) b) ≤ 0 ∧
    satA (tsTheta (b * b) b) * b + satB (tsTheta (b * b) b) ≠ 0 ∧
    0 ≤ (tsat p).toK ∧ (tsat p).toK ≤ tcritical := by
  obtain ⟨t, ht0, ht1, e⟩ := satK_surj pstar4 (le_trans satK_ends.1 (by rw [pstar4_eq]; norm_num)) (le_trans (by rw [pstar4_eq]; norm_num) satK_ends.2)
  have h := tsat_hyps_on t ht0 ht1
  rw [e] at h
  exact h

theorem exT_all :
    let t : ℝ := 500 - tc_k
    0 ≤ t ∧ t ≤ tcritical ∧ 0 ≤ satDisc (thetaOf (t + tc_k)) ∧ satDen (thetaOf (t + tc_k)) ≠ 0 ∧
    0 ≤ satBeta (thetaOf (t + tc_k)) ∧
    0 ≤ 2 * tsE (satBeta (thetaOf (t + tc_k)) * satBeta (thetaOf (t + tc_k))) (satBeta (thetaOf (t + tc_k))) * thetaOf (t + tc_k)
      + tsF (satBeta (thetaOf (t + tc_k)) * satBeta (thetaOf (t + tc_k))) (satBeta (thetaOf (t + tc_k))) ∧
    tsE (satBeta (thetaOf (t + tc_k)) * satBeta (thetaOf (t + tc_k))) (satBeta (thetaOf (t + tc_k))) * thetaOf (t + tc_k)
      + tsF (satBeta (thetaOf (t + tc_k)) * satBeta (thetaOf (t + tc_k))) (satBeta (thetaOf (t + tc_k))) ≠ 0 ∧
    pmin ≤ (sat t).toK ∧ (sat t).toK ≤ pcritical := by
  intro t
  obtain ⟨k0, k1⟩ := tc_k_bounds
  have h0 : 1 / 100 ≤ t := by show (1 / 100 : ℝ) ≤ 500 - tc_k; linarith only [k1]
  have h1 : t ≤ 3739 / 10 := by show (500 : ℝ) - tc_k ≤ 3739 / 10; linarith only [k0]
  obtain ⟨r0, r1⟩ := on_range t h0 h1
  rw [sat_toK t r0 r1]
  exact ⟨r0, r1, in_cover t h0 h1⟩

end Proofs.Iapws
