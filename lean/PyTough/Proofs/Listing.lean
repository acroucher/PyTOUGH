/-
  Look-up in a `listingtable` (Model/Listing.lean): the index `colIdx`/`lastIdx` return holds the name asked for, and a
  cell taken through a row view or a column is the stored value (negated for a reversed key).  Core Lean only.
-/
import PyTough.Model.Listing
namespace Proofs.Listing
open Py Model Model.Listing

theorem colIdx_go_spec (c : Str) (l : List Str) (i : Nat) (acc : Option Nat) (k : Nat)
    (h : colIdx.go c l i acc = some k) : acc = some k ∨ (i ≤ k ∧ l[k - i]? = some c) := by
  induction l generalizing i acc with
  | nil => exact .inl h
  | cons x r ih =>
    rcases ih (i + 1) _ h with h1 | ⟨h1, h2⟩
    · split at h1
      · rename_i hx
        injection h1 with h1; subst h1; subst hx
        exact .inr ⟨Nat.le_refl _, by simp⟩
      · exact .inl h1
    · right
      refine ⟨by omega, ?_⟩
      have : k - i = (k - (i + 1)) + 1 := by omega
      rw [this]; simpa using h2

theorem colIdx_spec {cols : List Str} {c : Str} {k : Nat} (h : colIdx cols c = some k) : cols[k]? = some c := by
  rcases colIdx_go_spec c cols 0 none k h with h1 | ⟨_, h2⟩
  · cases h1
  · simpa using h2

theorem lastIdx_go_spec (rows : Array Key) (key : Key) (n i : Nat) (h : lastIdx.go rows key n = some i) :
    i < n ∧ rows[i]? = some key := by
  induction n with
  | zero => simp [lastIdx.go] at h
  | succ m ih =>
    simp only [lastIdx.go] at h
    split at h
    · rename_i hm
      injection h with h; subst h
      exact ⟨Nat.lt_succ_self _, by simpa using hm⟩
    · obtain ⟨h1, h2⟩ := ih h
      exact ⟨by omega, h2⟩

theorem lastIdx_spec {rows : Array Key} {key : Key} {i : Nat} (h : lastIdx rows key = some i) :
    i < rows.size ∧ rows[i]? = some key :=
  lastIdx_go_spec rows key rows.size i h

theorem rowView_get (t : Table) (i k : Nat) (c : Str) (rowv : Array FVal) (v : FVal) (rev : Bool)
    (hcol : colIdx t.cols c = some k) (hdata : t.data[i]? = some rowv) (hlen : rowv.size = t.cols.length)
    (hv : rowv[k]? = some v) :
    (t.rowView i rev).get c = some (if rev then negF v else v) := by
  have key : ∀ (g : FVal → FVal) (key' : Key), (RowView.mk key' (t.cols.zip (rowv.toList.map g))).get c = some (g v) := by
    intro g key'
    unfold RowView.get
    have hfst : (t.cols.zip (rowv.toList.map g)).map (·.1) = t.cols := List.map_fst_zip (by simp [hlen])
    have hcell : (t.cols.zip (rowv.toList.map g))[k]? = some (c, g v) := by
      rw [List.getElem?_zip_eq_some]
      exact ⟨colIdx_spec hcol, by simp [List.getElem?_map, hv]⟩
    simp only [hfst, hcol, hcell, Option.map_some]
  unfold Table.rowView
  simp only [hdata, Option.getD_some]
  cases rev with
  | false => simpa using key id _
  | true => exact key negF _

theorem rowView_key (t : Table) (i : Nat) (key : Key) (h : t.rows[i]? = some key) :
    (t.rowView i false).key = key ∧ (t.rowView i true).key = pyRevKey key := by
  unfold Table.rowView
  simp [h]

theorem getCol_get (t : Table) (i k : Nat) (c : Str) (rowv : Array FVal) (v : FVal)
    (hcol : colIdx t.cols c = some k) (hdata : t.data[i]? = some rowv) (hv : rowv[k]? = some v) :
    ∃ col, t.getCol c = some col ∧ col[i]? = some v := by
  unfold Table.getCol
  rw [hcol]
  refine ⟨_, rfl, ?_⟩
  rw [List.getElem?_map]
  have : t.data.toList[i]? = some rowv := by simpa using hdata
  rw [this]
  simp [hv]

end Proofs.Listing
