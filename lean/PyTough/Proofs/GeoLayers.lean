/-
  Layer operations. `set_column_num_layers` for every column establishes the layer-count clause, and with the
  `setup_*` calls after it the whole invariant (the tail of `copy_layers_from` and of `refine_layers`);
  `add_layers`, and with it the layer stack `refine_layers` builds, keeps the structural invariant.
-/
import PyTough.Proofs.GeoEdits
namespace Proofs.Geo
open Model.Geo Model.Geo.Geo Py

/-- the structural invariant does not read the columns' surfaces and layer counts -/
theorem Inv0.setSurfaces {g : Geo} (h : Inv0 g) (C' : Array Column) (hs : C'.size = g.C.size)
    (hsame : ∀ j : Nat, { C'[j]! with numLayers := 0, surface := none } = { g.col j with numLayers := 0, surface := none }) :
    Inv0 { g with C := C' } := by
  have hname : ∀ j : Nat, C'[j]!.name = (g.col j).name := fun j => congrArg (·.name) (hsame j)
  refine h.setCols C' g.columnD g.connD hs (fun j => congrArg (fun cl : Column => { cl with name := [] }) (hsame j)) ?_ ?_
  · simp only [hname]; exact h.cols.reg
  · simp only [hname]; exact h.cons.reg

theorem updCol_surf_inv0 {g : Geo} (c : Nat) (f : Column → Column)
    (hf : ∀ x, { (f x) with numLayers := 0, surface := none } = { x with numLayers := 0, surface := none })
    (h : Inv0 g) : Inv0 (g.updCol c f) :=
  h.setSurfaces _ Array.size_modify
    fun j => getElem!_modify_proj g.C c j f (fun cl => { cl with numLayers := 0, surface := none }) hf

/-- a geometry differing from `g` only in the `num_layers` of its columns -/
structure NumLayersFrame (g g' : Geo) : Prop where
  eq : ∃ C', g' = { g with C := C' } ∧ C'.size = g.C.size
  colSame : ∀ j, { (g'.col j) with numLayers := 0 } = { (g.col j) with numLayers := 0 }

theorem NumLayersFrame.refl (g : Geo) : NumLayersFrame g g := ⟨⟨g.C, rfl, rfl⟩, fun _ => rfl⟩

theorem NumLayersFrame.trans {a b c : Geo} (h1 : NumLayersFrame a b) (h2 : NumLayersFrame b c) :
    NumLayersFrame a c := by
  obtain ⟨C1, e1, s1⟩ := h1.eq
  obtain ⟨C2, e2, s2⟩ := h2.eq
  refine ⟨⟨C2, ?_, ?_⟩, fun j => (h2.colSame j).trans (h1.colSame j)⟩
  · rw [e2, e1]
  · rw [s2, e1]; exact s1

theorem NumLayersFrame.surface {g g' : Geo} (h : NumLayersFrame g g') (j : Nat) :
    (g'.col j).surface = (g.col j).surface := congrArg (·.surface) (h.colSame j)

theorem NumLayersFrame.expected {g g' : Geo} (h : NumLayersFrame g g') (j : Nat) :
    g'.expectedNumLayers j = g.expectedNumLayers j := by
  obtain ⟨C', e, _⟩ := h.eq
  simp only [expectedNumLayers, h.surface j]
  subst e
  rfl

theorem updCol_numLayersFrame (g : Geo) (c : Nat) (n : Int) :
    NumLayersFrame g (g.updCol c fun cl => { cl with numLayers := n }) :=
  ⟨⟨_, rfl, Array.size_modify⟩,
    fun j => getElem!_modify_proj g.C c j (fun cl => { cl with numLayers := n })
      (fun cl => { cl with numLayers := 0 }) fun _ => rfl⟩

theorem setColumnNumLayers_spec {g g' : Geo} {c : Nat} (h : g.setColumnNumLayers c = .ok g') :
    NumLayersFrame g g' ∧ (c < g.C.size → (g'.col c).numLayers = g'.expectedNumLayers c) ∧
      ∀ j, c ≠ j → (g'.col j).numLayers = (g.col j).numLayers := by
  unfold setColumnNumLayers at h
  cases hs : (g.col c).surface with
  | none => rw [hs] at h; cases h
  | some s =>
    rw [hs] at h
    cases h
    refine ⟨updCol_numLayersFrame g c _, ?_, ?_⟩
    · intro hc
      simp only [expectedNumLayers]
      simp only [updCol_col, hc, and_self, if_true, hs]
      rfl
    · intro j hne
      rw [updCol_col, if_neg fun e => hne e.1]

/-- `for col in self.columnlist: self.set_column_num_layers(col)` -/
theorem setNumLayers_fold : ∀ (cols : List Nat) (g g' : Geo),
    cols.foldlM (fun (g : Geo) c => g.setColumnNumLayers c) g = .ok g' → (∀ c ∈ cols, c < g.C.size) →
    NumLayersFrame g g' ∧
      ∀ j, (j ∈ cols → (g'.col j).numLayers = g'.expectedNumLayers j) ∧
           (j ∉ cols → (g'.col j).numLayers = (g.col j).numLayers)
  | [], g, g', hf, _ => by
    obtain rfl := foldlM_nil_ok hf
    exact ⟨NumLayersFrame.refl _, fun j => ⟨fun h => absurd h (List.not_mem_nil), fun _ => rfl⟩⟩
  | c :: t, g, g', hf, hb => by
    obtain ⟨g2, h2, hf'⟩ := foldlM_cons_ok hf
    obtain ⟨hfr2, hset, hother⟩ := setColumnNumLayers_spec h2
    have hsz : g2.C.size = g.C.size := by
      obtain ⟨C', e, s⟩ := hfr2.eq; rw [e]; exact s
    obtain ⟨hfr, ih⟩ := setNumLayers_fold t g2 g' hf' (by
      intro x hx; rw [hsz]; exact hb x (List.mem_cons_of_mem _ hx))
    refine ⟨hfr2.trans hfr, fun j => ⟨?_, ?_⟩⟩
    · intro hj
      by_cases hjt : j ∈ t
      · exact (ih j).1 hjt
      · obtain rfl : j = c := (List.mem_cons.mp hj).resolve_right hjt
        rw [(ih j).2 hjt, hset (hb j List.mem_cons_self), hfr.expected j]
    · intro hj
      have hjt : j ∉ t := fun e => hj (List.mem_cons_of_mem _ e)
      have hjc : c ≠ j := fun e => hj (e ▸ List.mem_cons_self)
      rw [(ih j).2 hjt, hother j hjc]

theorem clearLayers_inv0 {g : Geo} (h : Inv0 g) : Inv0 g.clearLayers := by
  unfold clearLayers
  exact { h with lays := ⟨nofun, rfl⟩ }

theorem setNumLayers_setupNames_geoInv {g g2 g' : Geo}
    (h2 : g.columnlist.foldlM (fun (g : Geo) c => g.setColumnNumLayers c) g = .ok g2)
    (h3 : g2.setupNames = .ok g') (h : Inv0 g) : g'.geoInv = true := by
  obtain ⟨hfr, hnl⟩ := setNumLayers_fold _ _ g2 h2 h.cols.lt
  obtain ⟨C', rfl, hs⟩ := hfr.eq
  refine setupNames_geoInv h3 ((inv0_iff _).mpr (h.setSurfaces C' hs
    fun j => congrArg (fun cl : Column => { cl with surface := none }) (hfr.colSame j)))
    ((layersOK_iff _).mpr fun c hcm => (hnl c).1 hcm)

theorem updLay_inv0 {g : Geo} (i : Nat) (f : Layer → Layer) (hf : ∀ l, (f l).name = l.name) (h : Inv0 g) :
    Inv0 (g.updLay i f) := by
  unfold updLay
  exact { h with lays := h.lays.congr Array.size_modify fun j _ => getElem!_modify_proj g.L i j f (·.name) hf }

theorem identifyLayerTops_inv0 {g : Geo} (h : Inv0 g) : Inv0 g.identifyLayerTops := by
  unfold identifyLayerTops
  split
  · exact h
  · rename_i l0 rest _
    exact List.foldlRecOn _ _ (updLay_inv0 l0 _ (fun _ => rfl) h) fun _ h0 p _ => updLay_inv0 p.2 _ (fun _ => rfl) h0

theorem addLayers_inv0 {g g' : Geo} {ths : List Rat} {top : Rat} {left : Bool}
    (ha : g.addLayers ths top left = .ok g') (h : Inv0 g) : Inv0 g' := by
  unfold addLayers at ha
  simp only at ha
  obtain ⟨st, hst, ha⟩ := bind_ok ha
  cases ha
  apply identifyLayerTops_inv0
  refine foldlM_inv (fun s : Geo × Rat × Nat => Inv0 s.1) _ ?_ ths _ st hst
    (addLayer_inv0 _ (clearLayers_inv0 h))
  intro s a s' hs hp
  obtain ⟨nn, _, hs⟩ := bind_ok hs
  cases hs
  exact addLayer_inv0 _ hp

theorem refineLayersStack_inv0 {g g1 : Geo} {atm : Name} {layers : List Name} {f : Nat}
    (hs : g.refineLayersStack layers f = .ok (g1, atm)) (h : Inv0 g) : Inv0 g1 := by
  unfold refineLayersStack at hs
  obtain ⟨sel, _, hs⟩ := bind_ok hs
  split at hs
  · cases hs
  · split at hs
    · cases hs
    · obtain ⟨g2, h2, hs⟩ := bind_ok hs
      cases hs
      exact addLayers_inv0 h2 (clearLayers_inv0 h)

/-- the atmosphere layer gets back a name that none of the freshly generated layers carries (otherwise: known
    finding `registry:dup-name@refine_layers:atm-name-clash`) -/
def NoAtmNameClash (g1 : Geo) (atm : Name) : Prop :=
  ∀ n0 rest, g1.layerlist = n0 :: rest → (g1.layerD.contains atm = false ∨ atm = (g1.lay n0).name)

end Proofs.Geo
