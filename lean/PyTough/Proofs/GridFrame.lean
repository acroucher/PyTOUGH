/-
  The invariant seen as three registries (`RegInv`) plus the links between them, and the ways a
  state may change without disturbing it: the heap grows or is overwritten where the invariant
  does not look (`Inv.frame`; below it the read-after-write equations of `setBlk`, `setCon`,
  `setRock` and of allocation), or one registry is replaced by another consistent one
  (`inv_of_rock_change`, `inv_of_block_change`).
-/
import PyTough.Proofs.GridReg
namespace Proofs.Grid
open Py Model Model.Grid Model.Grid.World

/-- the state a call leaves (whether it returned or raised) -/
def worldOf : R → World
  | .ok w => w
  | .error (_, w) => w

@[simp] theorem worldOf_ok (w : World) : worldOf (Except.ok w) = w := rfl
@[simp] theorem worldOf_error (e : Exc) (w : World) : worldOf (Except.error (e, w)) = w := rfl

theorem ofR_w (r : R) : (Out.ofR r).w = worldOf r := by
  cases r with
  | ok w => rfl
  | error p => rfl

theorem inv_ofR {r : R} (h : Grid.Inv (worldOf r)) : Grid.Inv (Out.ofR r).w := ofR_w r ▸ h

@[simp] theorem grid_withGrid (w : World) (g : Grid) : (w.withGrid g).grid = g := rfl

theorem _root_.Model.Grid.Inv.rockReg {w} (h : Grid.Inv w) : RegInv w.rname ⟨w.rocktypelist, w.rocktype⟩ :=
  ⟨h.rl_nodup, h.rd_sound, h.rd_complete⟩
theorem _root_.Model.Grid.Inv.blockReg {w} (h : Grid.Inv w) : RegInv w.bname ⟨w.blocklist, w.block⟩ :=
  ⟨h.bl_nodup, h.bd_sound, h.bd_complete⟩
theorem _root_.Model.Grid.Inv.conReg {w} (h : Grid.Inv w) : RegInv w.ckey ⟨w.connectionlist, w.connection⟩ :=
  ⟨h.cl_nodup, h.cd_sound, h.cd_complete⟩

/-- the block registry on its own -/
structure BlockInv (w : World) : Prop where
  bl_lt : ∀ b ∈ w.blocklist, b < w.blks.length
  bl_nodup : w.blocklist.Nodup
  bd_sound : ∀ n b, dget w.block n = some b → b ∈ w.blocklist ∧ w.bname b = n
  bd_complete : ∀ b ∈ w.blocklist, dget w.block (w.bname b) = some b

theorem BlockInv.mem_iff {w} (h : BlockInv w) (b : Nat) : b ∈ w.blocklist ↔ ∃ n, dget w.block n = some b :=
  ⟨fun hb => ⟨_, h.bd_complete b hb⟩, fun ⟨n, hn⟩ => (h.bd_sound n b hn).1⟩

theorem inv_emptyGrid (w : World) : Grid.Inv (w.withGrid ⟨[], [], [], [], [], []⟩) :=
  { rl_lt := fun _ h => (nomatch h), bl_lt := fun _ h => (nomatch h), cl_lt := fun _ h => (nomatch h)
    rl_nodup := List.nodup_nil, rd_sound := fun _ _ h => (nomatch h), rd_complete := fun _ h => (nomatch h)
    bl_nodup := List.nodup_nil, bd_sound := fun _ _ h => (nomatch h), bd_complete := fun _ h => (nomatch h)
    b_rock := fun _ h => (nomatch h)
    cl_nodup := List.nodup_nil, cd_sound := fun _ _ h => (nomatch h), cd_complete := fun _ h => (nomatch h)
    c_ends := fun _ h => (nomatch h), conn_nodup := fun _ h => (nomatch h), conn_iff := fun _ h => (nomatch h) }

theorem ckey_mem_conn_iff {w : World} (hI : Grid.Inv w) {b c : Nat} (hb : b ∈ w.blocklist) (hc : c ∈ w.connectionlist) :
    w.ckey c ∈ (w.bk b).conn ↔ ((w.cn c).b0 = b ∨ (w.cn c).b1 = b) := by
  rw [hI.conn_iff b hb]
  exact ⟨fun ⟨c', hc', e, hm⟩ => hI.conReg.key_inj hc' hc e ▸ hm, fun hm => ⟨c, hc, rfl, hm⟩⟩

theorem no_mention_of_conn_nil {w : World} (hI : Grid.Inv w) {b : Nat} (hb : b ∈ w.blocklist)
    (h : (w.bk b).conn = []) : ∀ c ∈ w.connectionlist, (w.cn c).b0 ≠ b ∧ (w.cn c).b1 ≠ b :=
  fun c hc => not_or.mp fun hm => by
    have := (ckey_mem_conn_iff hI hb hc).mpr hm
    rw [h] at this; cases this

theorem nodup_block_names {w : World} (hI : Grid.Inv w) : (w.blocklist.map w.bname).Nodup :=
  nodup_map_on _ _ hI.bl_nodup fun _ ha _ hb e => hI.blockReg.key_inj ha hb e

theorem no_key_of_fresh_name {w : World} (hI : Grid.Inv w) {n0 n1 : Name} (h : dget w.block n1 = none) :
    dget w.connection (n0, n1) = none := by
  cases hd : dget w.connection (n0, n1) with
  | none => rfl
  | some c =>
    have hc := hI.cd_sound _ _ hd
    have := hI.bd_complete _ (hI.c_ends c hc.1).2.1
    rw [show w.bname (w.cn c).b1 = n1 from congrArg Prod.snd hc.2, h] at this; cases this

theorem key_mem_conn_ends {w : World} (hI : Grid.Inv w) {k : CName} {c : Nat} (hd : dget w.connection k = some c) :
    k ∈ (w.bk (w.cn c).b0).conn ∧ k ∈ (w.bk (w.cn c).b1).conn := by
  have hc := hI.cd_sound k c hd
  have ends := hI.c_ends c hc.1
  exact hc.2 ▸ ⟨(ckey_mem_conn_iff hI ends.1 hc.1).mpr (Or.inl rfl), (ckey_mem_conn_iff hI ends.2.1 hc.1).mpr (Or.inr rfl)⟩

/-- The containers are the same, the heap has not shrunk, and the records of the listed objects
    agree in what the invariant reads (names, connection records, connection ends; a block's rock
    type may change to another registered one). -/
theorem _root_.Model.Grid.Inv.frame {w w' : World} (hI : Grid.Inv w) (hg : w'.grid = w.grid)
    (hlr : w.rocks.length ≤ w'.rocks.length) (hlb : w.blks.length ≤ w'.blks.length) (hlc : w.cons.length ≤ w'.cons.length)
    (hr : ∀ r ∈ w.rocktypelist, w'.rname r = w.rname r)
    (hb : ∀ b ∈ w.blocklist, w'.bname b = w.bname b ∧ (w'.bk b).conn = (w.bk b).conn ∧ (w'.bk b).rock ∈ w.rocktypelist)
    (hc : ∀ c ∈ w.connectionlist, w'.cn c = w.cn c) : Grid.Inv w' := by
  have hkey : ∀ c ∈ w.connectionlist, w'.ckey c = w.ckey c := fun c hcl => by
    simp only [World.ckey, hc c hcl, (hb _ (hI.c_ends c hcl).1).1, (hb _ (hI.c_ends c hcl).2.1).1]
  have hR := hI.rockReg.congr hr
  have hB := hI.blockReg.congr fun b h => (hb b h).1
  have hC := hI.conReg.congr hkey
  obtain ⟨rocks, blks, cons, rl, rd, bl, bd, cl, cd⟩ := w'
  simp only [World.grid, Grid.mk.injEq] at hg
  obtain ⟨rfl, rfl, rfl, rfl, rfl, rfl⟩ := hg
  exact
    { rl_lt := fun r h => Nat.lt_of_lt_of_le (hI.rl_lt r h) hlr
      bl_lt := fun b h => Nat.lt_of_lt_of_le (hI.bl_lt b h) hlb
      cl_lt := fun c h => Nat.lt_of_lt_of_le (hI.cl_lt c h) hlc
      rl_nodup := hR.nodup, rd_sound := hR.sound, rd_complete := hR.complete
      bl_nodup := hB.nodup, bd_sound := hB.sound, bd_complete := hB.complete
      b_rock := fun b h => (hb b h).2.2
      cl_nodup := hC.nodup, cd_sound := hC.sound, cd_complete := hC.complete
      c_ends := fun c h => by rw [hc c h]; exact hI.c_ends c h
      conn_nodup := fun b h => by rw [(hb b h).2.1]; exact hI.conn_nodup b h
      conn_iff := fun b h k => by
        rw [(hb b h).2.1, hI.conn_iff b h k]
        exact exists_congr fun c => and_congr_right fun hcl => by rw [hkey c hcl, hc c hcl] }

theorem inv_of_rock_change {w : World} (hI : Grid.Inv w) {l : List Nat} {d : Dict Name Nat}
    (hlt : ∀ r ∈ l, r < w.rocks.length) (hR : RegInv w.rname ⟨l, d⟩) (hu : ∀ b ∈ w.blocklist, (w.bk b).rock ∈ l) :
    Grid.Inv { w with rocktypelist := l, rocktype := d } :=
  { hI with rl_lt := hlt, rl_nodup := hR.nodup, rd_sound := hR.sound, rd_complete := hR.complete, b_rock := hu }

theorem inv_of_block_change {w : World} (hI : Grid.Inv w) {l : List Nat} {d : Dict Name Nat}
    (hlt : ∀ b ∈ l, b < w.blks.length) (hR : RegInv w.bname ⟨l, d⟩)
    (hends : ∀ c ∈ w.connectionlist, (w.cn c).b0 ∈ l ∧ (w.cn c).b1 ∈ l)
    (hl : ∀ b ∈ l, b ∈ w.blocklist ∨ ((w.bk b).rock ∈ w.rocktypelist ∧ (w.bk b).conn = [] ∧
      ∀ c ∈ w.connectionlist, (w.cn c).b0 ≠ b ∧ (w.cn c).b1 ≠ b)) :
    Grid.Inv { w with blocklist := l, block := d } :=
  { hI with
    bl_lt := hlt, bl_nodup := hR.nodup, bd_sound := hR.sound, bd_complete := hR.complete
    c_ends := fun c h => ⟨(hends c h).1, (hends c h).2, (hI.c_ends c h).2.2⟩
    b_rock := fun b h => (hl b h).elim (hI.b_rock b) (·.1)
    conn_nodup := fun b h => (hl b h).elim (hI.conn_nodup b) fun hn => by
      show (w.bk b).conn.Nodup; rw [hn.2.1]; exact List.nodup_nil
    conn_iff := fun b h k => (hl b h).elim (fun h => hI.conn_iff b h k) fun hn => by
      show k ∈ (w.bk b).conn ↔ _
      rw [hn.2.1]
      exact ⟨fun h => (nomatch h), fun ⟨c, hc, _, hm⟩ => (hm.elim (hn.2.2 c hc).1 (hn.2.2 c hc).2).elim⟩ }

theorem inv_of_blocklist_perm {w : World} (hI : Grid.Inv w) {l : List Nat} (hp : l.Perm w.blocklist) :
    Grid.Inv { w with blocklist := l } :=
  inv_of_block_change hI (fun x hx => hI.bl_lt x (hp.mem_iff.mp hx)) (hI.blockReg.relist hp)
    (fun c hc => ⟨hp.mem_iff.mpr (hI.c_ends c hc).1, hp.mem_iff.mpr (hI.c_ends c hc).2.1⟩)
    (fun _ hx => Or.inl (hp.mem_iff.mp hx))

theorem inv_of_connectionlist_perm {w : World} (hI : Grid.Inv w) {l : List Nat} (hp : l.Perm w.connectionlist) :
    Grid.Inv { w with connectionlist := l } :=
  have hC := hI.conReg.relist hp
  { hI with
    cl_lt := fun c h => hI.cl_lt c (hp.mem_iff.mp h)
    cl_nodup := hC.nodup, cd_sound := hC.sound, cd_complete := hC.complete
    c_ends := fun c h => hI.c_ends c (hp.mem_iff.mp h)
    conn_iff := fun b h k => (hI.conn_iff b h k).trans
      (exists_congr fun _ => and_congr_left fun _ => hp.mem_iff.symm) }

@[simp] theorem bk_setBlk (w : World) (b b' : Nat) (v : Blk) :
    (w.setBlk b v).bk b' = if b = b' ∧ b < w.blks.length then v else w.bk b' := by
  simp only [World.setBlk, World.bk]; exact getD_set ..

@[simp] theorem cn_setCon (w : World) (c c' : Nat) (v : Con) :
    (w.setCon c v).cn c' = if c = c' ∧ c < w.cons.length then v else w.cn c' := by
  simp only [World.setCon, World.cn]; exact getD_set ..

@[simp] theorem rk_setRock (w : World) (r r' : Nat) (v : Rock) :
    (w.setRock r v).rk r' = if r = r' ∧ r < w.rocks.length then v else w.rk r' := by
  simp only [World.setRock, World.rk]; exact getD_set ..

@[simp] theorem cn_setBlk (w : World) (b c : Nat) (v : Blk) : (w.setBlk b v).cn c = w.cn c := rfl
@[simp] theorem rk_setBlk (w : World) (b r : Nat) (v : Blk) : (w.setBlk b v).rk r = w.rk r := rfl
@[simp] theorem bk_setCon (w : World) (c b : Nat) (v : Con) : (w.setCon c v).bk b = w.bk b := rfl
@[simp] theorem rk_setCon (w : World) (c r : Nat) (v : Con) : (w.setCon c v).rk r = w.rk r := rfl
@[simp] theorem bk_setRock (w : World) (r b : Nat) (v : Rock) : (w.setRock r v).bk b = w.bk b := rfl
@[simp] theorem cn_setRock (w : World) (r c : Nat) (v : Rock) : (w.setRock r v).cn c = w.cn c := rfl

theorem bname_setBlk_same (w : World) (b b' : Nat) (v : Blk) (h : v.name = w.bname b) :
    (w.setBlk b v).bname b' = w.bname b' := by
  simp only [World.bname, bk_setBlk]; split
  · rename_i hh; rw [h, hh.1]; rfl
  · rfl

theorem ckey_setBlk_same (w : World) (b c : Nat) (v : Blk) (h : v.name = w.bname b) :
    (w.setBlk b v).ckey c = w.ckey c := by
  simp only [World.ckey, cn_setBlk, bname_setBlk_same w b _ v h]

@[simp] theorem setBlk_blks_length (w : World) (b : Nat) (v : Blk) : (w.setBlk b v).blks.length = w.blks.length := by
  simp [World.setBlk]
@[simp] theorem setCon_cons_length (w : World) (c : Nat) (v : Con) : (w.setCon c v).cons.length = w.cons.length := by
  simp [World.setCon]
@[simp] theorem setRock_rocks_length (w : World) (r : Nat) (v : Rock) : (w.setRock r v).rocks.length = w.rocks.length := by
  simp [World.setRock]

theorem setBlk_payload_inv {w : World} (hI : Grid.Inv w) (b : Nat) (v : Blk)
    (hname : v.name = w.bname b) (hconn : v.conn = (w.bk b).conn)
    (hrock : b ∈ w.blocklist → v.rock ∈ w.rocktypelist) : Grid.Inv (w.setBlk b v) := by
  refine hI.frame rfl (Nat.le_refl _) (by simp) (Nat.le_refl _) (fun _ _ => rfl) (fun x hx => ?_) (fun _ _ => rfl)
  refine ⟨bname_setBlk_same w b x v hname, ?_⟩
  rw [bk_setBlk]; split
  · rename_i h; exact ⟨h.1 ▸ hconn, hrock (h.1 ▸ hx)⟩
  · exact ⟨rfl, hI.b_rock x hx⟩

theorem setCon_unlisted_inv {w : World} (hI : Grid.Inv w) {c : Nat} (hc : c ∉ w.connectionlist) (v : Con) :
    Grid.Inv (w.setCon c v) := by
  refine hI.frame rfl (Nat.le_refl _) (Nat.le_refl _) (by simp) (fun _ _ => rfl) (fun x hx => ⟨rfl, rfl, hI.b_rock x hx⟩) ?_
  intro c' hc'
  rw [cn_setCon, if_neg fun h : c = c' ∧ _ => hc (h.1 ▸ hc')]

theorem rk_newRock_old {w : World} (v : Rock) {r : Nat} (hr : r < w.rocks.length) : (w.newRock v).2.rk r = w.rk r := by
  simp only [World.newRock, World.rk, getD_append_one, hr, if_true]
theorem rk_newRock_new (w : World) (v : Rock) : (w.newRock v).2.rk w.rocks.length = v := by
  simp only [World.newRock, World.rk, getD_append_one, Nat.lt_irrefl, if_false, if_true]

theorem bk_newBlk_old {w : World} (v : Blk) {b : Nat} (hb : b < w.blks.length) : (w.newBlk v).2.bk b = w.bk b := by
  simp only [World.newBlk, World.bk, getD_append_one, hb, if_true]
theorem bk_newBlk_new (w : World) (v : Blk) : (w.newBlk v).2.bk w.blks.length = v := by
  simp only [World.newBlk, World.bk, getD_append_one, Nat.lt_irrefl, if_false, if_true]

theorem cn_newCon_old {w : World} (v : Con) {c : Nat} (hc : c < w.cons.length) : (w.newCon v).2.cn c = w.cn c := by
  simp only [World.newCon, World.cn, getD_append_one, hc, if_true]
theorem cn_newCon_new (w : World) (v : Con) : (w.newCon v).2.cn w.cons.length = v := by
  simp only [World.newCon, World.cn, getD_append_one, Nat.lt_irrefl, if_false, if_true]

theorem newRock_inv {w : World} (hI : Grid.Inv w) (v : Rock) : Grid.Inv (w.newRock v).2 :=
  hI.frame rfl (by simp [World.newRock]) (Nat.le_refl _) (Nat.le_refl _)
    (fun r hr => congrArg Rock.name (rk_newRock_old v (hI.rl_lt r hr))) (fun b hb => ⟨rfl, rfl, hI.b_rock b hb⟩) (fun _ _ => rfl)

theorem newBlk_inv {w : World} (hI : Grid.Inv w) (v : Blk) : Grid.Inv (w.newBlk v).2 :=
  hI.frame rfl (Nat.le_refl _) (by simp [World.newBlk]) (Nat.le_refl _) (fun _ _ => rfl)
    (fun b hb => by
      have e := bk_newBlk_old v (hI.bl_lt b hb)
      exact ⟨congrArg Blk.name e, congrArg Blk.conn e, by rw [e]; exact hI.b_rock b hb⟩)
    (fun _ _ => rfl)

theorem newCon_inv {w : World} (hI : Grid.Inv w) (v : Con) : Grid.Inv (w.newCon v).2 :=
  hI.frame rfl (Nat.le_refl _) (Nat.le_refl _) (by simp [World.newCon]) (fun _ _ => rfl)
    (fun b hb => ⟨rfl, rfl, hI.b_rock b hb⟩) (fun c hc => cn_newCon_old v (hI.cl_lt c hc))

end Proofs.Grid
