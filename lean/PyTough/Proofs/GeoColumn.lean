/-
  `add_column` preserves the structural invariant: the new column's nodes learn of it and nothing else refers to it
  yet. The constructor's record is counter-clockwise for either orientation of the node list, because reversing a
  polygon negates its shoelace sum (`shoelace2_reverse`, Proofs/Plane.lean).
-/
import PyTough.Proofs.Plane
import PyTough.Proofs.GeoInv0
namespace Proofs.Geo
open Model.Geo Model.Geo.Geo Py

/-- the node heap after `for node in col.node: node.column.add(col)` -/
theorem mem_cols_after_register (i : Nat) (nodes : List Nat) (N : Array Node) (n y : Nat)
    (hb : ∀ m ∈ nodes, m < N.size) :
    y ∈ ((nodes.foldl (fun N m => N.modify m fun nd => { nd with cols := setAdd nd.cols i }) N)[n]!).cols ↔
      y ∈ (N[n]!).cols ∨ (y = i ∧ n ∈ nodes) := by
  rw [foldl_modify_pred _ (y ∈ ·.cols) (· ∨ y = i) (fun x => mem_setAdd x.cols i y)
    (fun _ => or_self_right) nodes N hb n]
  by_cases hn : n ∈ nodes
  · simp only [hn, if_true, and_true]
  · simp only [hn, if_false, and_false, or_false]

/-- what `add_column` builds for a column record `c` with a new name -/
def addColFresh (g : Geo) (c : Column) : Geo :=
  { g with C := g.C.push c, columnlist := g.columnlist ++ [g.C.size], columnD := g.columnD.set c.name g.C.size,
           N := c.nodes.foldl (fun N m => N.modify m fun nd => { nd with cols := setAdd nd.cols g.C.size }) g.N }

theorem addColumnRec_eq (g : Geo) (c : Column) (hf : g.columnD.contains c.name = false) :
    g.addColumnRec c = addColFresh g c := by
  simp only [addColumnRec, allocColumn, registerColumn, Geo.col, getElem!_push_eq, hf, Bool.false_eq_true, if_false,
    foldl_updNode, addColFresh]

/-- a well-formed new column record: fresh name, nodes of the geometry, counter-clockwise with positive area,
    no back-references yet -/
structure NewColumn (g : Geo) (c : Column) : Prop where
  fresh : g.columnD.contains c.name = false
  nodes : ∀ n ∈ c.nodes, n ∈ g.nodelist
  ccw : 0 < shoelace2 (g.polygon c.nodes)
  area : 0 < c.area
  nbrs : c.nbrs = []
  cons : c.cons = []

variable {g : Geo}

/-- `N'`: any node heap in which exactly the column's nodes learn of it -/
theorem addCol_inv0 (h : Inv0 g) {c : Column} (hc : NewColumn g c) (N' : Array Node) (hs : N'.size = g.N.size)
    (hname : ∀ n : Nat, N'[n]!.name = g.N[n]!.name) (hpos : ∀ n : Nat, N'[n]!.pos = g.N[n]!.pos)
    (hcols : ∀ n y : Nat, y ∈ N'[n]!.cols ↔ y ∈ g.N[n]!.cols ∨ (y = g.C.size ∧ n ∈ c.nodes)) :
    Inv0 { g with C := g.C.push c, columnlist := g.columnlist ++ [g.C.size],
                  columnD := g.columnD.set c.name g.C.size, N := N' } := by
  have hold : ∀ j ∈ g.columnlist, (g.C.push c)[j]! = g.C[j]! := fun j hj => getElem!_push_lt _ _ _ (h.cols.lt j hj)
  have hnew := getElem!_push_eq g.C c
  -- no connection touches the new column
  have hnotouch : ∀ k ∈ g.connlist, g.K[k]!.c0 ≠ g.C.size ∧ g.K[k]!.c1 ≠ g.C.size := fun k hk =>
    ⟨fun e => h.cols.fresh (e ▸ (h.conEnds k hk).1), fun e => h.cols.fresh (e ▸ (h.conEnds k hk).2)⟩
  have hends : ∀ k ∈ g.connlist,
      (g.C.push c)[g.K[k]!.c0]! = g.C[g.K[k]!.c0]! ∧ (g.C.push c)[g.K[k]!.c1]! = g.C[g.K[k]!.c1]! :=
    fun k hk => ⟨hold _ (h.conEnds k hk).1, hold _ (h.conEnds k hk).2⟩
  exact { h with
    nodes := h.nodes.congr hs fun n _ => hname n
    cols := h.cols.push c hc.fresh
    cons := h.cons.congr rfl fun k hk => by simp only [Geo.conKey, Geo.col, Geo.con, hends k hk]
    colNodes := forall_mem_push.mpr ⟨fun j hj => by simp only [Geo.col, hold j hj]; exact h.colNodes j hj, by
      simp only [Geo.col, hnew]; exact hc.nodes⟩
    nodeCols := fun n hn => cached_insert (h.nodeCols n hn) h.cols.fresh (hcols n)
      (fun y hy => by simp only [Geo.col, hold y hy]) (by simp only [Geo.col, hnew])
    conEnds := fun k hk => ⟨List.mem_append_left _ (h.conEnds k hk).1, List.mem_append_left _ (h.conEnds k hk).2⟩
    colCons := forall_mem_push.mpr ⟨fun j hj k => by simp only [Geo.col, hold j hj]; exact h.colCons j hj k, fun k => by
      simp only [Geo.col, Geo.con, hnew, hc.cons, List.not_mem_nil, false_iff, not_and, not_or]
      exact fun hk => hnotouch k hk⟩
    nbrs := forall_mem_push.mpr ⟨fun j hj d => by simp only [Geo.col, hold j hj]; exact h.nbrs j hj d, fun d => by
      simp only [Geo.col, hnew, hc.nbrs, List.not_mem_nil, false_iff]
      exact not_joined hnotouch d⟩
    conNodes := fun k hk => by simp only [Geo.col, Geo.con, hends k hk]; exact h.conNodes k hk
    orient := forall_mem_push.mpr ⟨fun j hj => by
      simp only [Geo.polygon, Geo.node, Geo.col, hold j hj, hpos]; exact h.orient j hj, by
      simp only [Geo.polygon, Geo.node, Geo.col, hnew, hpos]; exact ⟨hc.ccw, hc.area⟩⟩ }

theorem addColFresh_inv0 (c : Column) (hc : NewColumn g c) (h : Inv0 g) : Inv0 (addColFresh g c) := by
  unfold addColFresh
  exact addCol_inv0 h hc _ (foldl_modify_size _ c.nodes g.N)
    (foldl_modify_proj (fun nd : Node => { nd with cols := setAdd nd.cols g.C.size }) (·.name) (fun _ => rfl) c.nodes g.N)
    (foldl_modify_proj (fun nd : Node => { nd with cols := setAdd nd.cols g.C.size }) (·.pos) (fun _ => rfl) c.nodes g.N)
    fun n y => mem_cols_after_register g.C.size c.nodes g.N n y fun m hm => h.nodes.lt m (hc.nodes m hm)

theorem addColumn_inv0 {g' : Geo} {name : Name} {nodes : List Nat} {centre : Option Pt} {surface : Option Rat}
    {nl : Int} (hd : g.addColumn name nodes centre surface nl = .ok g')
    (hfresh : g.columnD.contains name = false) (hnodes : ∀ n ∈ nodes, n ∈ g.nodelist)
    (harea : polygonArea (g.polygon nodes) ≠ 0) (h : Inv0 g) : Inv0 g' := by
  unfold addColumn at hd
  cases hm : g.mkColumn name nodes centre surface with
  | none => rw [hm] at hd; cases hd
  | some c =>
    rw [hm] at hd
    cases hd
    unfold mkColumn at hm
    simp only at hm
    split at hm
    · cases hm
    · cases hm
      rw [addColumnRec_eq _ _ hfresh]
      have ha := polygonArea_eq (g.polygon nodes)
      refine addColFresh_inv0 _ { fresh := hfresh, nodes := ?_, ccw := ?_, area := ?_, nbrs := rfl, cons := rfl } h
      · intro n hn
        simp only at hn
        split at hn
        · exact hnodes n (List.mem_reverse.mp hn)
        · exact hnodes n hn
      · simp only
        split
        · rename_i hneg
          have : g.polygon nodes.reverse = (g.polygon nodes).reverse := by simp [Geo.polygon]
          rw [this, shoelace2_reverse]
          rw [ha] at hneg; grind
        · rename_i hneg
          rw [ha] at hneg harea; grind
      · simp only
        split
        · grind
        · grind

end Proofs.Geo
