/-
  history() over all result times: the loop over the result positions visits every position in turn, what it appends at
  one position depends only on that position, and the series of an item is the concatenation, in time order, of what each
  position contributed for it.  Core Lean only.
-/
import PyTough.Model.ListingHistory
import PyTough.Proofs.ListingWholeRun
namespace Proofs.SeriesTimes
open Py Model Model.Listing Proofs.Whole

abbrev TSel := List (String × List Sel × List Sel)

/-- what history() appends at ONE result position `pb = (file position, is short output)` with index `ipos`: it seeks there and
    sets the index first, so this does not depend on anything read before; `none (-1)` are the start values of the
    loop variables `last_tname`, `nelt`.  `s0` (the reader `historyBody` was given), `ft` (its `fileTablesOf`) and `env` (the
    environment it runs in) are separate arguments as in the model; `historyC` passes one reader for all three -/
def valuesAt (s0 : Rd) (tsel : TSel) (short : Bool) (ft : List String) (env : Rd) (pb : Pos × Bool) (ipos : Nat) :
    Except LErr (List (Nat × FVal)) :=
  if !(pb.2 && !short) then
    match historyBody.tablesAt s0 ft tsel pb.2 none (-1) env ⟨pb.1, ipos⟩ with
    | .ok (h, _) => .ok h
    | .error e => .error e
  else .ok []

/-- the recursion of `historyBody.positions` with the cursor left out; a `List.mapM` over the numbered positions (`visitAll_eq_mapM`) -/
def visitAll (f : Pos × Bool → Nat → Except LErr (List (Nat × FVal))) : List (Pos × Bool) → Nat → Except LErr (List (List (Nat × FVal)))
  | [], _ => .ok []
  | pb :: more, i =>
    match f pb i with
    | .error e => .error e
    | .ok h =>
      match visitAll f more (i + 1) with
      | .error e => .error e
      | .ok r => .ok (h :: r)

theorem visitAll_eq_mapM (f) (ps : List (Pos × Bool)) (i : Nat) :
    visitAll f ps i = (ps.zipIdx i).mapM fun p => f p.1 p.2 := by
  induction ps generalizing i with
  | nil => rfl
  | cons a r ih =>
    rw [List.zipIdx_cons, List.mapM_cons, visitAll, ih]
    cases f a i with
    | error e => rfl
    | ok b => cases (r.zipIdx (i + 1)).mapM (fun p => f p.1 p.2) <;> rfl

theorem visitAll_length (f) (ps : List (Pos × Bool)) (i : Nat) (r) (h : visitAll f ps i = .ok r) : r.length = ps.length := by
  rw [← ((mapM_ok_iff _ _ r).mp (visitAll_eq_mapM f ps i ▸ h)).length_eq, List.length_zipIdx]

theorem visitAll_error_iff (f) (ps : List (Pos × Bool)) (e : LErr) :
    visitAll f ps 0 = .error e ↔
      ∃ j pb, ps[j]? = some pb ∧ f pb j = .error e ∧
        ∀ j' pb', j' < j → ps[j']? = some pb' → ∃ h, f pb' j' = .ok h := by
  rw [visitAll_eq_mapM, mapM_error_iff]
  simp only [List.getElem?_zipIdx, Option.map_eq_some_iff, Nat.zero_add]
  constructor
  · rintro ⟨j, _, ⟨pb, hj, rfl⟩, he, hb⟩
    exact ⟨j, pb, hj, he, fun j' pb' hj' hg => hb j' _ hj' ⟨pb', hg, rfl⟩⟩
  · rintro ⟨j, pb, hj, he, hb⟩
    exact ⟨j, _, ⟨pb, hj, rfl⟩, he, fun j' _ hj' ⟨pb', hg, e'⟩ => e' ▸ hb j' pb' hj' hg⟩

theorem positions_eq (s0 : Rd) (tsel : TSel) (short : Bool) (ft : List String) (ps : List (Pos × Bool)) (ipos : Nat) (env : Rd) (c : Cur) :
    (historyBody.positions s0 tsel short ft ps ipos env c).map (·.1)
      = (visitAll (valuesAt s0 tsel short ft env) ps ipos).map List.flatten := by
  induction ps generalizing ipos c with
  | nil => rfl
  | cons pb more ih =>
    obtain ⟨p, isShort⟩ := pb
    unfold historyBody.positions visitAll
    rw [cu_bind_run, cu_seek_run]
    dsimp only
    rw [cu_bind_run, cu_modify_run, valuesAt]
    dsimp only
    by_cases hb : (!(isShort && !short)) = true
    · rw [if_pos hb, if_pos hb, cu_bind_run]
      cases historyBody.tablesAt s0 ft tsel isShort none (-1) env { pos := p, index := (ipos : Int) } with
      | error e => rfl
      | ok hc =>
        obtain ⟨h, c1⟩ := hc
        dsimp only
        rw [cu_bind_run]
        rcases map_eq_map_cases (ih (ipos + 1) c1) with ⟨e, hA, hV⟩ | ⟨a, v, hA, hV, hav⟩
        · rw [hA, hV]; rfl
        · rw [hA, hV]; simp only [Except.map, List.flatten_cons, hav]; rfl
    · rw [if_neg hb, if_neg hb]
      show Except.map _ ((historyBody.positions s0 tsel short ft more (ipos + 1) >>= fun rest => pure ([] ++ rest)) env _) = _
      rw [cu_bind_run]
      rcases map_eq_map_cases (ih (ipos + 1) { pos := p, index := (ipos : Int) }) with ⟨e, hA, hV⟩ | ⟨a, v, hA, hV, hav⟩
      · rw [hA, hV]; rfl
      · rw [hA, hV]; simp only [Except.map, List.flatten_cons, List.nil_append, hav]; rfl

/-- the tables of the file, in file order (`history()` passes them to the TOUGH+ element-table counter) -/
def fileTablesOf (s0 : Rd) : List String := fileOrder.filter (fun tn => (s0.tables.lookup tn).isSome)

/-- `zip(self._pos, self._short)` -/
def resultPositions (s0 : Rd) : List (Pos × Bool) := s0.allpos.toList.zip s0.short.toList

theorem historyBody_eq (s0 : Rd) (tsel : TSel) (short : Bool) (env : Rd) (c : Cur) :
    (historyBody s0 tsel short env c).map (·.1)
      = (visitAll (valuesAt s0 tsel short (fileTablesOf s0) env) (resultPositions s0) 0).map List.flatten := by
  rw [← positions_eq s0 tsel short (fileTablesOf s0) (resultPositions s0) 0 env ⟨⟨0, env.all⟩, -1⟩]
  rfl

/-- the values of item `k` among what was appended: `[v for (sel_index, v) in hits if sel_index == k]` -/
def seriesOf (k : Nat) (hits : List (Nat × FVal)) : List FVal := (hits.filter (·.1 = k)).map (·.2)

theorem seriesOf_flatten (k : Nat) (hitss : List (List (Nat × FVal))) :
    seriesOf k hitss.flatten = (hitss.map (seriesOf k)).flatten := by
  unfold seriesOf
  rw [List.filter_flatten, List.map_flatten, List.map_map]
  rfl

theorem historyC_run (items : List Item) (short : Bool) (env : Rd) (c : Cur) :
    (historyC items short env c).map (·.1) =
      match orderedSelection env items with
      | .error e => .error e
      | .ok tsel =>
        if tsel.isEmpty then .ok none
        else (visitAll (valuesAt env tsel short (fileTablesOf env) env) (resultPositions env) 0).map fun hitss =>
          some ((List.range items.length).map fun k =>
            (((hitss.map (seriesOf k)).flatten).length == env.fulltimes.size, (hitss.map (seriesOf k)).flatten)) := by
  unfold historyC
  cases orderedSelection env items with
  | error e => rfl
  | ok tsel =>
    dsimp only
    cases tsel.isEmpty with
    | true => rfl
    | false =>
      rw [if_neg Bool.false_ne_true, if_neg Bool.false_ne_true]
      rcases map_eq_map_cases (historyBody_eq env tsel short env c) with ⟨e, hA, hV⟩ | ⟨a, v, hA, hV, hav⟩
      · rw [hA, hV]; rfl
      · obtain ⟨hits, c1⟩ := a
        subst hav
        rw [hA, hV]
        simp only [Except.map, ← seriesOf_flatten]
        rfl

/-- `expected_floats` of history(): the number of value columns (1 for a generation table), not counting an integer column;
    equal to `Proofs.Whole.expectedT tname t.cols` and to `Proofs.SeriesTerm.expectedFloats tname t.cols` by `rfl` -/
def expectedOf (tname : String) (t : Table) : Int :=
  let n : Int := if tname = "generation" then 1 else t.cols.length
  if t.cols.head? = some ['I'] then n - 1 else n

theorem historyTable_run (tname : String) (ts : List Sel) (env : Rd) (c : Cur) :
    (historyTable tname ts env c).map (·.1) =
      match env.tables.lookup tname with
      | none => .error (.py .keyError)
      | some t =>
        match t.cols with
        | [] => .error (.py .indexError)
        | _ :: _ =>
          match skipToResultsLineL (expectedOf tname t) c.pos.rest c.pos.no 1 with
          | none => .error .diverges
          | some r =>
            match scanSel (readTableLineOf env.fam t) (colIdx t.cols) ts 0 (r.2.rest.headD []) r.2.rest.tail with
            | .ok (hits, _) => .ok hits
            | .error e => .error (.py e) := by
  unfold historyTable
  rw [cu_bind_run, cu_getTable_run]
  cases env.tables.lookup tname with
  | none => rfl
  | some t =>
    dsimp only
    rw [cu_bind_run, cu_tableExpectedFloats_run, show expectedT tname t.cols = expectedOf tname t from rfl]
    cases t.cols with
    | nil => rfl
    | cons c0 cs =>
      dsimp only
      rw [cu_bind_run, cu_skipToResultsLine_run]
      cases skipToResultsLineL (expectedOf tname t) c.pos.rest c.pos.no 1 with
      | none => rfl
      | some r =>
        dsimp only
        rw [cu_bind_run, cu_readline_any]
        dsimp only
        rw [List.drop_one, cu_get_bind, cu_read_bind, cu_bind_run]
        dsimp only
        cases scanSel (readTableLineOf env.fam t) (colIdx (c0 :: cs)) ts 0 (r.2.rest.headD []) r.2.rest.tail with
        | error e => rfl
        | ok q => rfl

theorem historyC_error_iff (items : List Item) (short : Bool) (env : Rd) (c : Cur) (e : LErr) :
    historyC items short env c = .error e ↔
      orderedSelection env items = .error e ∨
      ∃ tsel, orderedSelection env items = .ok tsel ∧ tsel.isEmpty = false ∧
        visitAll (valuesAt env tsel short (fileTablesOf env) env) (resultPositions env) 0 = .error e := by
  rw [error_iff_map_error _ (·.1), historyC_run]
  cases orderedSelection env items with
  | error e' => simp
  | ok tsel =>
    cases tsel with
    | nil => simp
    | cons a t => simp [← error_iff_map_error]

end Proofs.SeriesTimes
