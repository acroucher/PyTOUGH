/-
  Lemmas behind Props/C11: the signed areas of sub-columns as one sum over directed edges (`esum`, Proofs/Plane.lean),
  cancellation of interior edges, splitting a side at a point of it.
  No Mathlib here or in the geometry proofs: `grind` serves as the ring normaliser.
-/
import PyTough.Proofs.Plane
import PyTough.Model.Refine
namespace Proofs.Refine
open Model.Geo Model.Refine Gen.RefineTables

theorem esum_cancel (f : Edge → Rat) (anti : ∀ a b, f (b, a) = - f (a, b)) (l : List Edge) :
    esum f (cancel l) = esum f l := by
  induction l with
  | nil => rfl
  | cons e es ih =>
    simp only [cancel]
    split
    · rename_i hmem
      have h1 := esum_erase f (e.2, e.1) (cancel es) hmem
      rw [esum_cons, ← ih]
      have := anti e.1 e.2
      grind
    · rw [esum_cons, esum_cons, ih]

/-- the edge functional "cross product of the two end points" under a valuation -/
def ef (ρ : Val) (e : Edge) : Rat := Pt.cross (ρ.at e.1) (ρ.at e.2)

theorem ef_anti (ρ : Val) (a b : Vert) : ef ρ (b, a) = - ef ρ (a, b) := by
  simp only [ef, Pt.cross]; grind

theorem area2_eq_esum (ρ : Val) (p : Poly) : area2 ρ p = esum (ef ρ) (cyc p) := by
  simp only [area2, shoelace2, esum, cyc_map, List.map_map]
  rfl

theorem sum_area2_eq_esum (ρ : Val) (ps : List Poly) :
    sumRat (ps.map (area2 ρ)) = esum (ef ρ) (polyEdges ps) := by
  simp only [polyEdges, esum, List.map_flatMap, sumRat_flatMap]
  congr 1
  apply List.map_congr_left
  intro p _
  exact area2_eq_esum ρ p

/-- the heart of the tiling argument: if the sub-columns' directed edges cancel down to a
    rearrangement of an edge list `B`, their signed areas add up to the edge sum over `B` -/
theorem sum_area2_of_boundary (ρ : Val) (ps : List Poly) (B : List Edge)
    (h : (cancel (polyEdges ps)).isPerm B = true) :
    sumRat (ps.map (area2 ρ)) = esum (ef ρ) B := by
  rw [sum_area2_eq_esum, ← esum_cancel (ef ρ) (ef_anti ρ)]
  exact esum_perm _ (List.isPerm_iff.mp h)

theorem cross_split_mid (a b : Pt) :
    Pt.cross a (Pt.mid a b) + Pt.cross (Pt.mid a b) b = Pt.cross a b := by
  simp only [Pt.cross, Pt.mid, Pt.smul, Pt.add]; grind

theorem at_normVert_mid (ρ : Val) (i j : Nat) :
    ρ.at (normVert (.mid i j)) = Pt.mid (ρ.corner i) (ρ.corner j) := by
  simp only [normVert]
  split
  · rfl
  · simp only [Val.at, Pt.mid, Pt.add, Pt.smul]
    have h1 : (ρ.corner j).1 + (ρ.corner i).1 = (ρ.corner i).1 + (ρ.corner j).1 := by grind
    have h2 : (ρ.corner j).2 + (ρ.corner i).2 = (ρ.corner i).2 + (ρ.corner j).2 := by grind
    rw [h1, h2]

/-- one side of the refined boundary contributes what the unrefined side does -/
theorem esum_side (ρ : Val) (i j : Nat) (b : Bool) :
    esum (ef ρ) (if b then [(Vert.corner i, normVert (.mid i j)), (normVert (.mid i j), Vert.corner j)]
                 else [(Vert.corner i, Vert.corner j)]) = ef ρ (Vert.corner i, Vert.corner j) := by
  cases b
  · simp only [Bool.false_eq_true, if_false, esum, List.map_cons, List.map_nil, sumRat_cons, sumRat_nil]
    grind
  · simp only [if_true, esum, List.map_cons, List.map_nil, sumRat_cons, sumRat_nil, ef, at_normVert_mid]
    have := cross_split_mid (ρ.corner i) (ρ.corner j)
    simp only [Val.at]
    grind

theorem esum_refBoundary (ρ : Val) (nn : Nat) (sides : List Nat) :
    esum (ef ρ) (refBoundary nn sides) =
      sumRat ((List.range nn).map fun i => ef ρ (Vert.corner i, Vert.corner ((i + 1) % nn))) := by
  simp only [refBoundary, esum, List.map_flatMap, sumRat_flatMap]
  congr 1
  apply List.map_congr_left
  intro i _
  exact esum_side ρ i ((i + 1) % nn) (sides.contains i)

theorem refBoundary_nil (nn : Nat) : refBoundary nn [] = cyc (parentPoly nn) := by
  simp only [parentPoly, cyc_map, cyc_range, refBoundary, List.map_map]
  have : ∀ i : Nat, (([] : List Nat).contains i) = false := fun _ => rfl
  simp only [this]
  exact List.map_eq_flatMap.symm

theorem esum_refBoundary_parent (ρ : Val) (nn : Nat) (sides : List Nat) :
    esum (ef ρ) (refBoundary nn sides) = area2 ρ (parentPoly nn) := by
  rw [esum_refBoundary, ← esum_refBoundary ρ nn [], refBoundary_nil, area2_eq_esum]

theorem triangulate_eq (n : Nat) :
    triangulate n = (List.range n).map fun i => [Vert.corner i, Vert.corner ((i + 1) % n), Vert.centre] := by
  simp only [triangulate, subdivide, List.map_map]
  apply List.map_congr_left
  intro i hi
  simp [Nat.mod_eq_of_lt (List.mem_range.mp hi)]

theorem decompose_ok {nn : Nat} {straight : List Nat} {polys : List Poly}
    (h : decompose nn straight = some (.ok polys)) :
    4 < nn ∧ (polys = triangulate nn ∨ ∃ c ∈ decomposeCases, c.nn = nn ∧
      ∃ s, (s = straight.getD 0 0 ∨ s ∈ straight) ∧ polys = subdivide nn s c.polys) := by
  unfold decompose at h
  split at h
  · cases h
  refine ⟨by omega, ?_⟩
  split at h
  · simp only at h
    split at h
    · cases h; exact Or.inl rfl
    · split at h
      · cases h; exact Or.inl rfl
      · rename_i c hc
        have hc' := List.mem_filter.mp (List.mem_of_find?_eq_some hc)
        refine Or.inr ⟨c, hc'.1, (of_decide_eq_true hc'.2).1, ?_⟩
        split at h
        · cases h; exact ⟨_, Or.inl rfl, rfl⟩
        · split at h
          · cases h
          · rename_i s hs
            cases h
            exact ⟨s, Or.inr (List.mem_filter.mp (List.mem_of_mem_head? hs)).1, rfl⟩
  · cases h; exact Or.inl rfl

theorem area2_triangle_centre (ρ : Val) (i j : Nat) :
    area2 ρ [Vert.corner i, Vert.corner j, Vert.centre] =
      ef ρ (Vert.corner i, Vert.corner j) +
        (Pt.cross (ρ.corner j) ρ.centre - Pt.cross (ρ.corner i) ρ.centre) := by
  simp only [area2, shoelace2, List.map_cons, List.map_nil, cyc, cycGo, sumRat_cons, sumRat_nil, ef, Val.at,
    Pt.cross]
  grind

theorem mem_sublists {α} {s l : List α} : s ∈ sublists l ↔ s.Sublist l := by
  constructor
  · induction l generalizing s with
    | nil => intro h; simp [sublists] at h; subst h; exact .slnil
    | cons a t ih =>
      intro h
      simp only [sublists, List.mem_append, List.mem_map] at h
      rcases h with ⟨s', hs', rfl⟩ | h
      · exact (ih hs').cons_cons a
      · exact (ih h).cons a
  · intro h
    induction h with
    | slnil => simp [sublists]
    | cons a _ ih => simp only [sublists, List.mem_append]; exact Or.inr ih
    | cons_cons a _ ih => simp only [sublists, List.mem_append, List.mem_map]; exact Or.inl ⟨_, ih, rfl⟩

end Proofs.Refine
