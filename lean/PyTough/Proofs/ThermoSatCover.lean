/-
  The branch conditions of `sat_tsat_inverse` on 273.15999 K ≤ T ≤ 647.0501 K.  The interval is cut into pieces; the numbers of
  the `Piece` between two cut points are computed from the two temperatures in rational arithmetic, and what `Piece.ok` asks of
  them beyond their construction are closed inequalities between rationals, which the kernel evaluates.
-/
import PyTough.Proofs.ThermoSatPiece
namespace Proofs.Iapws
open Gen.Iapws Model.Thermo Proofs.Thermo

/-- the constants of the saturation equation (`nr4_0 … nr4_9`, `pmin`, `pstar4`, `pcritical`) as rationals -/
structure SatConsts where
  (n0 n1 n2 n3 n4 n5 n6 n7 n8 n9 pmin pstar pcrit : ℚ)

def satQ : SatConsts :=
  ⟨@nr4_0 ℚ ratLits, @nr4_1 ℚ ratLits, @nr4_2 ℚ ratLits, @nr4_3 ℚ ratLits, @nr4_4 ℚ ratLits, @nr4_5 ℚ ratLits, @nr4_6 ℚ ratLits,
    @nr4_7 ℚ ratLits, @nr4_8 ℚ ratLits, @nr4_9 ℚ ratLits, 2688143202191409 / 4398046511104, @pstar4 ℚ ratLits, @pcritical ℚ ratLits⟩

namespace satQ
theorem n0_cast : (satQ.n0 : ℝ) = nr4_0 := ratLits_lit _ _ _
theorem n1_cast : (satQ.n1 : ℝ) = nr4_1 := ratLits_lit _ _ _
theorem n2_cast : (satQ.n2 : ℝ) = nr4_2 := ratLits_lit _ _ _
theorem n3_cast : (satQ.n3 : ℝ) = nr4_3 := ratLits_lit _ _ _
theorem n4_cast : (satQ.n4 : ℝ) = nr4_4 := ratLits_lit _ _ _
theorem n5_cast : (satQ.n5 : ℝ) = nr4_5 := ratLits_lit _ _ _
theorem n6_cast : (satQ.n6 : ℝ) = nr4_6 := ratLits_lit _ _ _
theorem n7_cast : (satQ.n7 : ℝ) = nr4_7 := ratLits_lit _ _ _
theorem n8_cast : (satQ.n8 : ℝ) = nr4_8 := ratLits_lit _ _ _
theorem n9_cast : (satQ.n9 : ℝ) = nr4_9 := ratLits_lit _ _ _
theorem pstar_cast : (satQ.pstar : ℝ) = pstar4 := ratLits_lit _ _ _
theorem pcrit_cast : (satQ.pcrit : ℝ) = pcritical := ratLits_lit _ _ _
theorem pmin_cast : (satQ.pmin : ℝ) = pmin := by unfold pmin satQ; norm_num
end satQ

def thetaQ (T : ℚ) : ℚ := T + satQ.n8 / (T - satQ.n9)
def satAQ (ϑ : ℚ) : ℚ := ϑ * ϑ + satQ.n0 * ϑ + satQ.n1
def satBQ (ϑ : ℚ) : ℚ := satQ.n2 * (ϑ * ϑ) + satQ.n3 * ϑ + satQ.n4
def satCQ (ϑ : ℚ) : ℚ := satQ.n5 * (ϑ * ϑ) + satQ.n6 * ϑ + satQ.n7

theorem thetaQ_cast (T : ℚ) : ((thetaQ T : ℚ) : ℝ) = thetaOf T := by
  unfold thetaQ thetaOf
  rw [← satQ.n8_cast, ← satQ.n9_cast]
  push_cast
  rfl

theorem satA_cast (ϑ : ℚ) : satA ϑ = (satAQ ϑ : ℚ) := by
  unfold satA satAQ
  rw [← satQ.n0_cast, ← satQ.n1_cast]
  push_cast
  rfl

theorem satB_cast (ϑ : ℚ) : satB ϑ = (satBQ ϑ : ℚ) := by
  unfold satB satBQ
  rw [← satQ.n2_cast, ← satQ.n3_cast, ← satQ.n4_cast]
  push_cast
  rfl

theorem satC_cast (ϑ : ℚ) : satC ϑ = (satCQ ϑ : ℚ) := by
  unfold satC satCQ
  rw [← satQ.n5_cast, ← satQ.n6_cast, ← satQ.n7_cast]
  push_cast
  rfl

/-- `Piece` with rational data -/
structure PieceQ where
  (a b Alo Ahi Blo Bhi Clo Chi ACmax ACmin slo shi βlo βhi Mg Mh : ℚ)

namespace PieceQ

def toReal (P : PieceQ) : Piece :=
  ⟨P.a, P.b, P.Alo, P.Ahi, P.Blo, P.Bhi, P.Clo, P.Chi, P.ACmax, P.ACmin, P.slo, P.shi, P.βlo, P.βhi, P.Mg, P.Mh⟩

/-- Newton's iteration for the integer square root.  Only a guess: `core` checks what is made of it. -/
def sqrtIter : ℕ → ℕ → ℕ → ℕ
  | 0, _, g => g
  | k + 1, n, g => sqrtIter k n ((g + n / g) / 2)

/-- The piece for the temperatures `ta ≤ T ≤ tb`: `a`, `b` are the values of `ϑ` at the two ends, the square root of the
    discriminant is enclosed between integers, and every other number is the tightest that `Piece.ok` admits. -/
def of (ta tb : ℚ) : PieceQ :=
  let a := thetaQ ta
  let b := thetaQ tb
  let Alo := satAQ a
  let Ahi := satAQ b
  let Blo := if 353 ≤ a then satBQ b else satQ.n2 * (b * b) + satQ.n3 * a + satQ.n4
  let Bhi := if 353 ≤ a then satBQ a else satQ.n2 * (a * a) + satQ.n3 * b + satQ.n4
  let Clo := satCQ a
  let Chi := satCQ b
  let ACmax := max (Ahi * Chi) (Ahi * Clo)
  let ACmin := min (Alo * Chi) (Alo * Clo)
  let dlo := (Bhi * Bhi - 4 * ACmax).floor.toNat
  let dhi := (Blo * Blo - 4 * ACmin).floor.toNat
  -- the settled guess is within 1 of the integer square root, and `dhi` was rounded down: hence `− 1`, `+ 2`
  let slo := (sqrtIter 40 dlo dlo : ℚ) - 1
  let shi := (sqrtIter 40 dhi dhi : ℚ) + 2
  let βlo := 2 * Clo / (-Blo + shi)
  let βhi := 2 * Chi / (-Bhi + slo)
  let ga := 2 * a * satQ.n2 + satQ.n3
  let gb := 2 * b * satQ.n2 + satQ.n3
  let ha := a * satQ.n2 + satQ.n3
  let hb := b * satQ.n2 + satQ.n3
  ⟨a, b, Alo, Ahi, Blo, Bhi, Clo, Chi, ACmax, ACmin, slo, shi, βlo, βhi,
    min (min (gb * βlo) (gb * βhi)) (min (ga * βlo) (ga * βhi)), min (min (hb * βlo) (hb * βhi)) (min (ha * βlo) (ha * βhi))⟩

/-- the conditions of `Piece.ok` (over ℚ) that a piece `of ta tb` does not meet by construction, and `0 < -Blo + shi`, which makes `βlo` a quotient
    by a positive number -/
def core (P : PieceQ) : Prop :=
  162 ≤ P.a ∧ P.a ≤ P.b ∧ 0 < P.Clo ∧ P.Bhi < 0 ∧
  0 ≤ P.slo ∧ P.slo * P.slo ≤ P.Bhi * P.Bhi - 4 * P.ACmax ∧ P.Blo * P.Blo - 4 * P.ACmin ≤ P.shi * P.shi ∧ 0 ≤ P.shi ∧
  0 < -P.Blo + P.shi ∧
  0 ≤ (2 * P.a + satQ.n0) * (P.βlo * P.βlo) + P.Mg + (2 * P.a * satQ.n5 + satQ.n6) ∧
  0 < (P.a + satQ.n0) * (P.βlo * P.βlo) + P.Mh + (P.a * satQ.n5 + satQ.n6) ∧
  satQ.pmin ≤ satQ.pstar * (P.βlo * P.βlo) * (P.βlo * P.βlo) ∧ satQ.pstar * (P.βhi * P.βhi) * (P.βhi * P.βhi) ≤ satQ.pcrit

instance (P : PieceQ) : Decidable P.core := by unfold core; infer_instance

theorem ok_of (ta tb : ℚ) (h : (of ta tb).core) : (of ta tb).toReal.ok := by
  obtain ⟨a162, hab, hC, hB, s0, s1, s2, s3, d1, g5, m5, p1, p2⟩ := h
  unfold Piece.ok toReal
  dsimp only
  simp only [satA_cast, satB_cast, satC_cast]
  rw [← satQ.n0_cast, ← satQ.n2_cast, ← satQ.n3_cast, ← satQ.n4_cast, ← satQ.n5_cast, ← satQ.n6_cast, ← satQ.pmin_cast, ← satQ.pstar_cast,
    ← satQ.pcrit_cast]
  -- every conjunct is now an inequality between casts of rationals: move the casts outward, and what is left is about `of ta tb` over ℚ
  -- (the target type of the two numeral lemmas is fixed, or they would rewrite their own right sides again)
  simp only [Rat.cast_le, Rat.cast_lt, ← Rat.cast_mul, ← Rat.cast_add, ← Rat.cast_sub, ← Rat.cast_neg,
    ← @Rat.cast_ofNat ℝ _, ← @Rat.cast_zero ℝ _]
  have d2 : 0 < -(of ta tb).Bhi + (of ta tb).slo := add_pos_of_pos_of_nonneg (neg_pos.mpr hB) s0
  have hBB : ((of ta tb).Blo ≤ satQ.n2 * ((of ta tb).b * (of ta tb).b) + satQ.n3 * (of ta tb).a + satQ.n4 ∧
        satQ.n2 * ((of ta tb).a * (of ta tb).a) + satQ.n3 * (of ta tb).b + satQ.n4 ≤ (of ta tb).Bhi) ∨
      (353 ≤ (of ta tb).a ∧ (of ta tb).Blo ≤ satBQ (of ta tb).b ∧ satBQ (of ta tb).a ≤ (of ta tb).Bhi) := by
    by_cases h353 : 353 ≤ (of ta tb).a
    · exact Or.inr ⟨h353, le_of_eq (if_pos h353), ge_of_eq (if_pos h353)⟩
    · exact Or.inl ⟨le_of_eq (if_neg h353), ge_of_eq (if_neg h353)⟩
  exact ⟨a162, hab, le_refl _, le_refl _, le_refl _, le_refl _, hC, hBB, hB,
    le_max_left _ _, le_max_right _ _, min_le_left _ _, min_le_right _ _, s0, s1, s2, s3,
    div_pos (mul_pos two_pos hC) d1, le_of_eq (div_mul_cancel₀ _ (ne_of_gt d1)), ge_of_eq (div_mul_cancel₀ _ (ne_of_gt d2)),
    le_trans (min_le_left _ _) (min_le_left _ _), le_trans (min_le_left _ _) (min_le_right _ _),
    le_trans (min_le_right _ _) (min_le_left _ _), le_trans (min_le_right _ _) (min_le_right _ _), g5,
    le_trans (min_le_left _ _) (min_le_left _ _), le_trans (min_le_left _ _) (min_le_right _ _),
    le_trans (min_le_right _ _) (min_le_left _ _), le_trans (min_le_right _ _) (min_le_right _ _), m5, p1, p2⟩

theorem of_sound (ta tb : ℚ) (h : (of ta tb).core) (hb : tb < satQ.n9) (T : ℝ) (h1 : ta ≤ T) (h2 : T ≤ tb) :
    Branch (thetaOf T) ∧ 0 < ((of ta tb).βlo : ℝ) ∧ ((of ta tb).βlo : ℝ) ≤ satBeta (thetaOf T) ∧ satBeta (thetaOf T) ≤ ((of ta tb).βhi : ℝ) := by
  have hb' : (tb : ℝ) < nr4_9 := by
    rw [← satQ.n9_cast]
    exact_mod_cast hb
  -- `ϑ` increases with `T`, and the ends of the piece are its values at `ta`, `tb`
  have ma : (of ta tb).toReal.a ≤ thetaOf T := (thetaQ_cast ta).le.trans (thetaOf_mono _ _ h1 (h2.trans_lt hb'))
  have mb : thetaOf T ≤ (of ta tb).toReal.b := (thetaOf_mono _ _ h2 hb').trans (thetaQ_cast tb).ge
  have hP := ok_of ta tb h
  exact Piece.sound _ hP _ ma mb

end PieceQ

/-- `l` lists the cut points above the temperature `t`; the pieces between them are checked one after the other until `e` is reached -/
def covers (e : ℚ) : ℚ → List ℚ → Bool
  | _, [] => false
  | t, tb :: l => decide ((PieceQ.of t tb).core ∧ tb < satQ.n9) && (decide (e ≤ tb) || covers e tb l)

theorem covers_branch (e : ℚ) (T : ℝ) (hN : T ≤ e) : ∀ (l : List ℚ) (t : ℚ), covers e t l = true → (t : ℝ) ≤ T → Branch (thetaOf T)
  | [], _, h, _ => absurd h Bool.false_ne_true
  | tb :: l, t, h, h0 => by
    rw [covers, Bool.and_eq_true, Bool.or_eq_true, decide_eq_true_eq, decide_eq_true_eq] at h
    obtain ⟨⟨hok, hb⟩, hrest⟩ := h
    by_cases hT : T ≤ tb
    · exact (PieceQ.of_sound t tb hok hb T h0 hT).1
    · rcases hrest with he | hl
      · exact absurd (le_trans hN (by exact_mod_cast he)) hT
      · exact covers_branch e T hN l tb hl (le_of_lt (not_le.mp hT))

/-- cut points (in K) of a cover of 273.15999 K … 647.0501 K; any list that `covers` accepts would serve -/
def satCuts : List ℚ := [
  273.18, 273.25, 273.48, 274.2, 276.6, 284, 308, 382, 484, 531, 560, 580, 595, 606, 614, 620, 625, 629, 632, 634.6,
  636.7, 638.4, 639.8, 641, 642, 642.8, 643.5, 644.09, 644.58, 644.99, 645.3, 645.59, 645.8, 646, 646.17, 646.3,
  646.42, 646.52, 646.6, 646.68, 646.74, 646.79, 646.839, 646.88, 646.91, 646.94, 646.965, 646.986, 647.003, 647.017,
  647.029, 647.039, 647.048, 647.0501]

theorem branch_cover (T : ℝ) (h0 : (27315999 / 100000 : ℝ) ≤ T) (hN : T ≤ (6470501 / 10000 : ℝ)) : Branch (thetaOf T) := by
  have c : covers 647.0501 273.15999 satCuts = true := by decide +kernel
  exact covers_branch _ T (le_trans hN (le_of_eq (by norm_num))) _ _ c (le_trans (le_of_eq (by norm_num)) h0)

end Proofs.Iapws
