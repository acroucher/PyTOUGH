/-
  `inv_step`: every operation of the edit alphabet preserves the invariant under `pre`, and the
  invariant holds of the empty grid.
-/
import PyTough.Proofs.GridBuild
import PyTough.Proofs.GridRename
import PyTough.Proofs.GridMincAll
namespace Proofs.Grid
open Py Model Model.Grid Model.Grid.World

theorem inv_empty : Grid.Inv World.empty := inv_emptyGrid World.empty

/-- the operations that build a second grid (addition, embedding).  They are kept out of
    `inv_step_core` so that it shows which cases need nothing beyond the method-level lemmas; their
    step lemmas (`GridBuild`) follow the building of the second grid through `Fresh`. -/
def isSum : Op → Bool
  | .addGrid _ _ => true
  | .embed _ _ _ _ => true
  | .embedStandalone _ _ _ _ _ => true
  | _ => false

theorem inv_step_core {w : World} (hI : Grid.Inv w) (op : Op) (hpre : pre w op = true) (hs : isSum op = false) :
    Grid.Inv (step w op).w := by
  cases op with
  -- for the three constructor-and-add calls `step` is `stepBasic` and `pre` is `preBasic`, by unfolding
  | addRocktype nm tag => exact stepBasic_inv hI (.addRocktype nm tag) hpre
  | deleteRocktype nm =>
    simp only [pre, Bool.not_eq_true'] at hpre
    exact inv_ofR (deleteRocktype_inv hI nm (rockNameInUse_eq_false hpre))
  | renameRocktype a b => exact inv_ofR (renameRocktype_inv hI a b)
  | cleanRocktypes => exact inv_ofR (cleanRocktypes_inv hI)
  | sortRocktypes => exact inv_ofR (sortRocktypes_inv hI)
  | addBlock nm rock vol centre => exact stepBasic_inv hI (.addBlock nm rock vol centre) hpre
  | deleteBlock nm => exact inv_ofR (deleteBlock_inv hI nm)
  | demoteBlock nms => exact inv_ofR (demoteBlock_inv hI nms)
  | addConnection n0 n1 p => exact stepBasic_inv hI (.addConnection n0 n1 p) hpre
  | deleteConnection n0 n1 => exact inv_ofR (deleteConnection_inv hI (n0, n1))
  | reorder bs cs => exact inv_ofR (reorder_spec hI bs cs (pre_reorder_eq_true hpre).1 (pre_reorder_eq_true hpre).2).1
  | renameBlocks m fix => exact inv_ofR (renameBlocks_spec hI m fix hpre).1
  | minc args =>
    simp only [step]
    have := minc_inv hI args
    split at this
    · rename_i w' cols heq; simp only [heq]; exact this
    · rename_i e w' heq; simp only [heq]; exact this
  | addGrid s l => cases hs
  | embed s h b p => cases hs
  | embedStandalone s h b p v => cases hs
  -- the rest hand an existing object to `add_*`: there `step` is `stepReuse`
  | _ => exact stepReuse_inv hI _ hpre

theorem inv_step {w : World} (hI : Grid.Inv w) (op : Op) (hpre : pre w op = true) : Grid.Inv (step w op).w := by
  cases op with
  | addGrid s l => exact step_addGrid_inv hI s l hpre
  | embed s h b p => exact step_embed_inv hI s h b p hpre
  | embedStandalone s h b p v => exact step_embedStandalone_inv hI s h b p v hpre
  | _ => exact inv_step_core hI _ hpre rfl

end Proofs.Grid
