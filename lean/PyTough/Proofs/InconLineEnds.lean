/-
  C13: the text of the file and its lines (`splitLines`, universal newlines).
  A file whose lines are "clean" (each ends with its only `'\n'` and contains no `'\r'`) is split
  back into exactly these lines, and so is the same text with every `'\n'` replaced by `"\r\n"`
  (`crlf`) or by `'\r'` (`crOnly`).
-/
import PyTough.Model.Incon
namespace Proofs.Incon
open Py Model Model.Incon

/-- the text with DOS line ends: every `'\n'` becomes `"\r\n"` -/
def crlf : Str → Str
  | [] => []
  | c :: r => if c = '\n' then '\r' :: '\n' :: crlf r else c :: crlf r

/-- the text with old-Mac line ends: every `'\n'` becomes `'\r'` -/
def crOnly : Str → Str
  | [] => []
  | c :: r => (if c = '\n' then '\r' else c) :: crOnly r

/-- a line as `write` emits it: some text without `'\n'` or `'\r'`, then the newline -/
def CleanLine (l : Str) : Prop := ∃ body, l = body ++ ['\n'] ∧ ∀ c ∈ body, c ≠ '\n' ∧ c ≠ '\r'

theorem cleanLine_iff (l : Str) :
    CleanLine l ↔ l.getLast? = some '\n' ∧ ∀ c ∈ l.dropLast, c ≠ '\n' ∧ c ≠ '\r' := by
  constructor
  · rintro ⟨body, rfl, hb⟩
    rw [List.getLast?_concat, List.dropLast_concat]
    exact ⟨rfl, hb⟩
  · rintro ⟨hl, hb⟩
    obtain ⟨body, rfl⟩ := List.getLast?_eq_some_iff.mp hl
    rw [List.dropLast_concat] at hb
    exact ⟨body, rfl, hb⟩

instance : DecidablePred CleanLine := fun l => decidable_of_iff _ (cleanLine_iff l).symm

theorem norm_nil : splitLines.norm [] = [] := by unfold splitLines.norm; rfl

theorem norm_crlf_cons (r : Str) : splitLines.norm ('\r' :: '\n' :: r) = '\n' :: splitLines.norm r := by
  rw [splitLines.norm]

theorem norm_other {c : Char} (hc : c ≠ '\r') (r : Str) : splitLines.norm (c :: r) = c :: splitLines.norm r := by
  rw [splitLines.norm]
  · intro r' h; exact absurd h hc
  · intro h; exact absurd h hc

theorem norm_cr_cons {r : Str} (hr : ∀ r', r ≠ '\n' :: r') : splitLines.norm ('\r' :: r) = '\n' :: splitLines.norm r := by
  rw [splitLines.norm]
  intro r' h; cases h; exact hr r' rfl

theorem crOnly_head (t : Str) : ∀ r', crOnly t ≠ '\n' :: r' := by
  intro r' h
  cases t with
  | nil => simp [crOnly] at h
  | cons c r =>
    unfold crOnly at h
    by_cases hc : c = '\n'
    · rw [if_pos hc] at h; cases h
    · rw [if_neg hc] at h; cases h; exact hc rfl

/-- a text without `'\r'` is what universal newlines make of it and of its DOS and old-Mac forms -/
theorem norm_line_ends : ∀ t : Str, (∀ c ∈ t, c ≠ '\r') →
    splitLines.norm t = t ∧ splitLines.norm (crlf t) = t ∧ splitLines.norm (crOnly t) = t := by
  intro t
  induction t with
  | nil => intro _; exact ⟨norm_nil, norm_nil, norm_nil⟩
  | cons c r ih =>
    intro h
    obtain ⟨i1, i2, i3⟩ := ih (fun c' hc' => h c' (List.mem_cons_of_mem _ hc'))
    have hc' := norm_other (h c (by simp))
    unfold crlf crOnly
    refine ⟨by rw [hc', i1], ?_, ?_⟩
    · by_cases hc : c = '\n'
      · rw [if_pos hc, norm_crlf_cons, i2, hc]
      · rw [if_neg hc, hc', i2]
    · by_cases hc : c = '\n'
      · rw [if_pos hc, norm_cr_cons (crOnly_head r), i3, hc]
      · rw [if_neg hc, hc', i3]

theorem go_nil_nil : splitLines.go [] [] = [] := by unfold splitLines.go; rfl

theorem go_line : ∀ (body cur rest : Str), (∀ c ∈ body, c ≠ '\n') →
    splitLines.go cur (body ++ '\n' :: rest) = (cur.reverse ++ body ++ ['\n']) :: splitLines.go [] rest := by
  intro body
  induction body with
  | nil =>
    intro cur rest _
    rw [List.nil_append, splitLines.go]
    simp
  | cons c r ih =>
    intro cur rest h
    rw [List.cons_append, splitLines.go, if_neg (h c (by simp)),
      ih (c :: cur) rest (fun c' hc' => h c' (List.mem_cons_of_mem _ hc'))]
    simp

theorem go_lines : ∀ lines : List Str, (∀ l ∈ lines, CleanLine l) → splitLines.go [] lines.flatten = lines := by
  intro lines
  induction lines with
  | nil => intro _; exact go_nil_nil
  | cons l r ih =>
    intro h
    obtain ⟨body, rfl, hb⟩ := h l (by simp)
    rw [List.flatten_cons, List.append_assoc, List.singleton_append,
      go_line body [] _ (fun c hc => (hb c hc).1), ih (fun l' hl' => h l' (List.mem_cons_of_mem _ hl'))]
    simp

theorem flatten_no_cr (lines : List Str) (h : ∀ l ∈ lines, CleanLine l) : ∀ c ∈ lines.flatten, c ≠ '\r' := by
  intro c hc
  obtain ⟨l, hl, hcl⟩ := List.mem_flatten.mp hc
  obtain ⟨body, rfl, hb⟩ := h l hl
  rcases List.mem_append.mp hcl with h' | h'
  · exact (hb c h').2
  · rw [List.mem_singleton.mp h']; decide

theorem splitLines_clean (lines : List Str) (h : ∀ l ∈ lines, CleanLine l) :
    splitLines lines.flatten = lines ∧ splitLines (crlf lines.flatten) = lines ∧
    splitLines (crOnly lines.flatten) = lines := by
  obtain ⟨h1, h2, h3⟩ := norm_line_ends _ (flatten_no_cr lines h)
  unfold splitLines
  rw [h1, h2, h3, go_lines lines h]
  exact ⟨rfl, rfl, rfl⟩

end Proofs.Incon
