/-
  Values read from the fields of a row: `read_table_line_TOUGH2` slices at the inferred boundaries and
  reads each slice with `fortran_float`; `read_table_line_AUTOUGH2` splits at whitespace.  Core Lean only.
-/
import PyTough.Model.Listing
import PyTough.Proofs.FortranReals
namespace Proofs.Values
open Py Model Model.Listing

theorem rstripBy_append_all (p : Char → Bool) (a t : Str) (ht : ∀ c ∈ t, p c = true) :
    rstripBy p (a ++ t) = rstripBy p a := by
  unfold rstripBy
  rw [List.reverse_append, List.dropWhile_append_of_pos (fun c hc => ht c (List.mem_reverse.mp hc))]

theorem stripBy_append_all (p : Char → Bool) (s t : Str) (ht : ∀ c ∈ t, p c = true) :
    stripBy p (s ++ t) = stripBy p s := by
  by_cases hs : ∀ c ∈ s, p c = true
  · rw [stripBy_all p s hs, stripBy_all p _ (List.forall_mem_append.mpr ⟨hs, ht⟩)]
  · -- `s` has a character that stays, so `lstrip` stops inside `s`
    obtain ⟨c, hc, hpc⟩ : ∃ c ∈ s, p c = false := by simpa using hs
    have hne : (s.dropWhile p).isEmpty = false :=
      List.isEmpty_eq_false_iff_exists_mem.mpr ⟨c, mem_dropWhile_of_not hc hpc⟩
    unfold stripBy lstripBy
    rw [List.dropWhile_append, hne, if_neg Bool.false_ne_true, rstripBy_append_all p _ t ht]

theorem pyFloat_append_ws (s t : Str) (ht : ∀ c ∈ t, isNumWs c = true) : pyFloat (s ++ t) = pyFloat s := by
  unfold pyFloat
  rw [stripBy_append_all isNumWs s t ht]

/-- used with `t` the line terminator behind the last field of a row -/
theorem fortranFloat_append_ws (s t : Str) (ht : ∀ c ∈ t, isNumWs c = true) :
    fortranFloat (s ++ t) = fortranFloat s := by
  unfold fortranFloat
  rw [pyFloat_append_ws s t ht]
  have : strip (s ++ t) = strip s := stripBy_append_all isStrWs s t (fun c hc => by unfold isStrWs; rw [ht c hc]; rfl)
  rw [this]

/-- `fortran_float(field)` as a total function (it never raises: C16) -/
def readField (s : Str) : FVal :=
  match fortranFloat s with
  | .ok o => fvalOf o
  | .error _ => zero

theorem readField_spec (s : Str) : (fvalOf <$> fortranFloat s) = .ok (readField s) := by
  obtain ⟨o, ho⟩ := Proofs.fortranFloat_total s
  unfold readField; rw [ho]; rfl

/-- the entries of `Table.numpos` are Python slice bounds (`Option Int`) -/
def natPos (b : Nat) : Option Int := some (Int.ofNat b)

theorem sliceBound_nat (n b : Nat) : sliceBound n (Int.ofNat b) = min b n := by
  unfold sliceBound
  have h0 : ¬ ((Int.ofNat b) < 0) := by simp
  simp only [h0, if_false]
  by_cases h : b > n
  · have : (Int.ofNat b) > (n : Int) := by simp; omega
    rw [if_pos this]; omega
  · have : ¬ (Int.ofNat b) > (n : Int) := by simp; omega
    rw [if_neg this]; simp; omega

theorem slice_min (s : Str) (a b : Nat) : slice s (min a s.length) (min b s.length) = slice s a b := by
  unfold slice
  by_cases ha : a ≤ s.length
  · rw [Nat.min_eq_left ha]
    by_cases hb : b ≤ s.length
    · rw [Nat.min_eq_left hb]
    · have hb' : s.length ≤ b := by omega
      rw [Nat.min_eq_right hb']
      rw [List.take_of_length_le (by simp), List.take_of_length_le (by simp; omega)]
  · have ha' : s.length ≤ a := by omega
    rw [Nat.min_eq_right ha', List.drop_of_length_le (Nat.le_refl _), List.drop_of_length_le ha']
    simp

theorem sliceO_nat (s : Str) (a b : Nat) : sliceO s (natPos a) (natPos b) = slice s a b := by
  unfold sliceO natPos
  simp only [sliceBound_nat, slice_min]

theorem sliceO_from (pre r : Str) : sliceO (pre ++ r) (some (pre.length : Int)) none = r := by
  have := sliceBound_nat (pre ++ r).length pre.length
  simp only [Int.ofNat_eq_natCast] at this
  simp only [sliceO, this]
  unfold slice
  rw [Nat.min_eq_left (by simp), List.drop_left]
  exact List.take_of_length_le (by simp)

/-- the slices `read_table_line_TOUGH2` takes: between consecutive boundaries -/
def fieldTexts (row : Str) (bs : List Nat) : List Str := (bs.zip bs.tail).map fun p => slice row p.1 p.2

theorem fieldTexts_length (row : Str) (bs : List Nat) : (fieldTexts row bs).length = bs.length - 1 := by
  simp only [fieldTexts, List.length_map, List.length_zip, List.length_tail]
  omega

theorem fieldsOf_nat (row : Str) (bs : List Nat) : fieldsOf row (bs.map natPos) = fieldTexts row bs := by
  induction bs with
  | nil => rfl
  | cons a r ih =>
    cases r with
    | nil => rfl
    | cons b r' =>
      simp only [List.map_cons, fieldsOf, fieldTexts, List.tail_cons, List.zip_cons_cons] at ih ⊢
      rw [sliceO_nat, ih]

theorem mapM_readField (l : List Str) :
    l.mapM (fun s => fvalOf <$> fortranFloat s) = .ok (l.map readField) :=
  Proofs.mapM_pure_map _ readField l fun s _ => readField_spec s

theorem readTableLineTOUGH2_eq (row : Str) (ncols : Nat) (bs : List Nat) :
    readTableLineTOUGH2 row ncols (bs.map natPos)
      = .ok ((fieldTexts row bs).map readField ++ List.replicate (ncols - (bs.length - 1)) zero) := by
  unfold readTableLineTOUGH2
  rw [fieldsOf_nat, mapM_readField]
  simp [bind, Except.bind, pure, Except.pure]

theorem fieldTexts_get (row : Str) (bs : List Nat) (k a b : Nat) (ha : bs[k]? = some a) (hb : bs[k + 1]? = some b) :
    (fieldTexts row bs)[k]? = some (slice row a b) := by
  rw [fieldTexts, List.getElem?_map, (List.getElem?_zip_eq_some (z := (a, b))).mpr ⟨ha, by rw [List.getElem?_tail, hb]⟩]
  rfl

theorem splitWs_go_ws (ws s : Str) (hws : ∀ c ∈ ws, isStrWs c = true) : splitWs.go (ws ++ s) [] = splitWs.go s [] := by
  induction ws with
  | nil => rfl
  | cons x r ih =>
    simp only [List.cons_append, splitWs.go]
    rw [if_pos (hws x List.mem_cons_self)]
    simp only [List.isEmpty_nil, if_true]
    exact ih (fun c hc => hws c (List.mem_cons_of_mem _ hc))

theorem splitWs_go_tok (tok s cur : Str) (ht : ∀ c ∈ tok, isStrWs c = false) :
    splitWs.go (tok ++ s) cur = splitWs.go s (tok.reverse ++ cur) := by
  induction tok generalizing cur with
  | nil => rfl
  | cons x r ih =>
    simp only [List.cons_append, splitWs.go]
    have hx : ¬ (isStrWs x = true) := by rw [ht x List.mem_cons_self]; simp
    rw [if_neg hx, ih (x :: cur) (fun c hc => ht c (List.mem_cons_of_mem _ hc))]
    simp

theorem splitWs_go_trailing (s ws cur : Str) (hws : ∀ c ∈ ws, isStrWs c = true) :
    splitWs.go (s ++ ws) cur = splitWs.go s cur := by
  induction s generalizing cur with
  | nil =>
    cases ws with
    | nil => rfl
    | cons w r =>
      -- the rest of the whitespace is passed over with nothing in hand
      have hr := splitWs_go_ws r [] fun c hc => hws c (List.mem_cons_of_mem _ hc)
      rw [List.append_nil] at hr
      simp only [List.nil_append, splitWs.go, if_pos (hws w List.mem_cons_self), hr, List.isEmpty_nil, if_true]
  | cons x r ih =>
    simp only [List.cons_append, splitWs.go]
    split
    · split <;> rw [ih]
    · rw [ih]

theorem splitWs_go_tok_ws (tok s : Str) (w : Char) (hne : tok ≠ []) (ht : ∀ c ∈ tok, isStrWs c = false)
    (hw : isStrWs w = true) : splitWs.go (tok ++ w :: s) [] = tok :: splitWs.go s [] := by
  rw [splitWs_go_tok tok _ [] ht]
  have : tok.reverse.isEmpty = false := by
    cases tok with
    | nil => exact absurd rfl hne
    | cons _ _ => simp
  simp only [List.append_nil, splitWs.go, if_pos hw, this, Bool.false_eq_true, if_false, List.reverse_reverse]

/-- tokens with the whitespace that follows each of them -/
def joinToks (toks : List (Str × Str)) : Str := toks.flatMap (fun p => p.1 ++ p.2)

/-- every token is non-empty and free of whitespace, every separator is whitespace, and every separator but the
    last is non-empty -/
def ToksOk : List (Str × Str) → Prop
  | [] => True
  | [p] => p.1 ≠ [] ∧ (∀ c ∈ p.1, isStrWs c = false) ∧ (∀ c ∈ p.2, isStrWs c = true)
  | p :: q :: r => p.1 ≠ [] ∧ (∀ c ∈ p.1, isStrWs c = false) ∧ (∀ c ∈ p.2, isStrWs c = true) ∧ p.2 ≠ [] ∧ ToksOk (q :: r)

theorem splitWs_go_toks (toks : List (Str × Str)) (h : ToksOk toks) : splitWs.go (joinToks toks) [] = toks.map (·.1) := by
  induction toks with
  | nil => rfl
  | cons p r ih =>
    cases r with
    | nil =>
      obtain ⟨h1, h2, h3⟩ := h
      simp only [joinToks, List.flatMap_cons, List.flatMap_nil, List.append_nil, List.map_cons, List.map_nil]
      -- the whitespace behind the last token is dropped; the end of the string then acts as a separator
      rw [splitWs_go_trailing p.1 p.2 [] h3, ← List.append_nil p.1, splitWs_go_tok p.1 [] [] h2]
      cases hp : p.1 with
      | nil => exact absurd hp h1
      | cons _ _ => simp [splitWs.go]
    | cons q r' =>
      obtain ⟨h1, h2, h3, h4, h5⟩ := h
      have ih' := ih h5
      simp only [joinToks, List.flatMap_cons, List.map_cons] at ih' ⊢
      cases hw : p.2 with
      | nil => exact absurd hw h4
      | cons w ws =>
        rw [hw] at h3
        rw [List.append_assoc, List.cons_append,
          splitWs_go_tok_ws p.1 _ w h1 h2 (h3 w List.mem_cons_self),
          splitWs_go_ws ws _ (fun c hc => h3 c (List.mem_cons_of_mem _ hc)), ih']

theorem splitWs_strip (s : Str) : splitWs (strip s) = splitWs s := by
  obtain ⟨a, b, hs, ha, hb⟩ := stripBy_decomp isStrWs s
  unfold splitWs strip
  conv => rhs; rw [hs, List.append_assoc]
  rw [splitWs_go_ws a _ ha, splitWs_go_trailing _ b [] hb]

end Proofs.Values
