/-
  C03 proofs: the sections whose records take one line each and only add to the geometry (VERTICES,
  CONNECTIONS, WELLS), written and read back: the items of a record, the line written, the step of the
  reader's loop on that line, and the section as an instance of `simpleSection`.
-/
import PyTough.Proofs.GeoFileLines
namespace Proofs.GeoFile
open Py Model Model.GeoFile Proofs

/-! ### VERTICES -/

def nodeItems (s : Rat) (n : GNode) : List Item := [nameItem n.name, coordItem 2 s n.x, coordItem 2 s n.y]

structure NodeOK (L : Nat) (s : Rat) (n : GNode) : Prop where
  name : NameShape L n.name
  x : fitsC 2 s n.x = true
  y : fitsC 2 s n.y = true

theorem nodeItems_ok {L : Nat} {s : Rat} {n : GNode} (hL : L ≤ 3) (h : NodeOK L s n) : ItemsOK (nodeItems s n) :=
  itemsOK_cons (nameItem_ok hL h.name) (itemsOK_cons (coordItem_ok h.x) (itemsOK_cons (coordItem_ok h.y) itemsOK_nil))

theorem nodeLine_eq {L : Nat} {s : Rat} {n : GNode} (hL : L ≤ 3) (h : NodeOK L s n) :
    nodeLine SP s n = .ok (recText (nodeItems s n) ++ ['\n']) :=
  lineOf_items (nodeItems s n) rfl rfl (nodeItems_ok hL h)

theorem nodeStep_line {L : Nat} {s : Rat} {n : GNode} (hL : L ≤ 3) (h : NodeOK L s n) (g : Geo) (tail : Str) :
    nodeStep SP L s g (recText (nodeItems s n) ++ tail) = .ok (addNode g (canonNode s n)) := by
  unfold nodeStep
  rw [parse_items (fs := SP.node) (nodeItems s n) rfl (nodeItems_ok hL h) tail]
  simp only [nodeItems, List.map_cons, List.map_nil, strOf_nameItem, fltOf_coordItem, bind, Except.bind, pure, Except.pure,
    fixName_ljust h.name]
  rfl

theorem foldl_addNode (ns : List GNode) (g : Geo) (hd : (g.nodes.map (·.name) ++ ns.map (·.name)).Nodup) :
    ns.foldl addNode g = { g with nodes := g.nodes ++ ns } :=
  foldl_insertNew (·.name) addNode (fun l => { g with nodes := l })
    (fun l n h => by unfold addNode; rw [lookupNode_none h]; rfl) ns g.nodes hd

theorem canonNode_name (s : Rat) (n : GNode) : (canonNode s n).name = n.name := rfl

theorem map_canonNode_name (s : Rat) (ns : List GNode) : (ns.map (canonNode s)).map (·.name) = ns.map (·.name) := by
  simp [canonNode_name]

theorem readSection_verti {g : Geo} {L LL : Nat} {s : Rat} (env : Env g L LL s) (ns : List GNode)
    (hok : ∀ n ∈ ns, NodeOK L s n) (hd : (g.nodes.map (·.name) ++ ns.map (·.name)).Nodup) (tail : List Str) :
    readSection SP .verti g (recTextLines (nodeItems s) ns ++ ['\n'] :: tail)
      = .ok ({ g with nodes := g.nodes ++ ns.map (canonNode s) }, tail) := by
  unfold readSection
  simp only [env.cl, env.ll, env.sc, bind, Except.bind]
  have := simpleSection (nodeStep SP L s) (fun g n => addNode g (canonNode s n)) (nodeItems s)
    ns g tail (by
      intro pre a post e
      have ha : NodeOK L s a := hok a (by rw [e]; simp)
      exact ⟨nonblank_of_name ha.name _, fun extra => nodeStep_line env.hL ha _ _⟩)
  rw [this]
  congr 2
  rw [← List.foldl_map (f := canonNode s) (g := addNode)]
  apply foldl_addNode
  rw [map_canonNode_name]; exact hd

/-! ### CONNECTIONS -/

def connItems (k : Str × Str) : List Item := [nameItem k.1, nameItem k.2]

theorem connItems_ok {L : Nat} {k : Str × Str} (hL : L ≤ 3) (h1 : NameShape L k.1) (h2 : NameShape L k.2) :
    ItemsOK (connItems k) :=
  itemsOK_cons (nameItem_ok hL h1) (itemsOK_cons (nameItem_ok hL h2) itemsOK_nil)

theorem connectionLine_eq {L : Nat} {k : Str × Str} (hL : L ≤ 3) (h1 : NameShape L k.1) (h2 : NameShape L k.2) :
    connectionLine SP k = .ok (recText (connItems k) ++ ['\n']) :=
  lineOf_items (connItems k) rfl rfl (connItems_ok hL h1 h2)

theorem connectionStep_line {L : Nat} {k : Str × Str} (hL : L ≤ 3) (h1 : NameShape L k.1) (h2 : NameShape L k.2)
    (g : Geo) (hc1 : (lookupColumn g.columns k.1).isSome = true) (hc2 : (lookupColumn g.columns k.2).isSome = true)
    (tail : Str) :
    connectionStep SP L g (recText (connItems k) ++ tail) = .ok (addConnection g k) := by
  unfold connectionStep
  rw [parse_items (fs := SP.connection) (connItems k) rfl (connItems_ok hL h1 h2) tail]
  simp only [connItems, List.map_cons, List.map_nil, List.mapM_cons, List.mapM_nil, strOf_nameItem, bind, Except.bind,
    pure, Except.pure, fixName_ljust h1, fixName_ljust h2, List.any_cons, List.any_nil]
  obtain ⟨a, h1'⟩ := Option.isSome_iff_exists.mp hc1
  obtain ⟨b, h2'⟩ := Option.isSome_iff_exists.mp hc2
  simp [h1', h2']

theorem foldl_addConnection (ks : List (Str × Str)) (g : Geo) (hd : (g.connections ++ ks).Nodup) :
    ks.foldl addConnection g = { g with connections := g.connections ++ ks } :=
  foldl_insertNew id addConnection (fun l => { g with connections := l })
    (fun l k h => by unfold addConnection; rw [if_neg (by simpa using h)]) ks g.connections (by simpa using hd)

theorem addConnection_columns (g : Geo) (k : Str × Str) : (addConnection g k).columns = g.columns := by
  unfold addConnection; split <;> rfl

theorem readSection_conne {g : Geo} {L LL : Nat} {s : Rat} (env : Env g L LL s) (ks : List (Str × Str))
    (hok : ∀ k ∈ ks, NameShape L k.1 ∧ NameShape L k.2 ∧ k.1 ∈ g.columns.map (·.name) ∧ k.2 ∈ g.columns.map (·.name))
    (hd : (g.connections ++ ks).Nodup) (tail : List Str) :
    readSection SP .conne g (recTextLines connItems ks ++ ['\n'] :: tail)
      = .ok ({ g with connections := g.connections ++ ks }, tail) := by
  unfold readSection
  simp only [env.cl, env.ll, env.sc, bind, Except.bind]
  have := simpleSection (connectionStep SP L) addConnection connItems
    ks g tail (by
      intro pre a post e
      obtain ⟨h1, h2, h3, h4⟩ := hok a (by rw [e]; simp)
      refine ⟨nonblank_of_name h1 _, fun extra => ?_⟩
      apply connectionStep_line env.hL h1 h2
      · rw [lookupColumn_isSome, foldl_keeps Geo.columns addConnection_columns]; exact h3
      · rw [lookupColumn_isSome, foldl_keeps Geo.columns addConnection_columns]; exact h4)
  rw [this, foldl_addConnection ks g hd]

/-! ### WELLS -/

def wellItems (s : Rat) (name : Str) (p : Flt × Flt × Flt) : List Item :=
  [rjustItem 5 name, coordItem 1 s p.1, coordItem 1 s p.2.1, coordItem 1 s p.2.2]

def canonPos (s : Rat) (p : Flt × Flt × Flt) : Flt × Flt × Flt := (canonC 1 s p.1, canonC 1 s p.2.1, canonC 1 s p.2.2)

structure PosOK (s : Rat) (p : Flt × Flt × Flt) : Prop where
  x : fitsC 1 s p.1 = true
  y : fitsC 1 s p.2.1 = true
  z : fitsC 1 s p.2.2 = true

structure WellNameOK (name : Str) : Prop where
  len : name.length ≤ 5
  nonl : '\n' ∉ name

theorem wellItems_ok {s : Rat} {name : Str} {p : Flt × Flt × Flt} (hn : WellNameOK name) (hp : PosOK s p) :
    ItemsOK (wellItems s name p) :=
  itemsOK_cons (rjustItem_ok 5 name hn.len hn.nonl)
    (itemsOK_cons (coordItem_ok hp.x) (itemsOK_cons (coordItem_ok hp.y) (itemsOK_cons (coordItem_ok hp.z) itemsOK_nil)))

theorem wellLine_eq {s : Rat} {name : Str} {p : Flt × Flt × Flt} (hn : WellNameOK name) (hp : PosOK s p) :
    wellLine SP s name p = .ok (recText (wellItems s name p) ++ ['\n']) :=
  lineOf_items (wellItems s name p) rfl rfl (wellItems_ok hn hp)

theorem wellStep_line {s : Rat} {name : Str} {p : Flt × Flt × Flt} (hn : WellNameOK name) (hp : PosOK s p)
    (g : Geo) (tail : Str) :
    wellStep SP s g (recText (wellItems s name p) ++ tail)
      = .ok { g with wells := addWellPos g.wells (rjust name 5) (canonPos s p) } := by
  unfold wellStep
  rw [parse_items (fs := SP.well) (wellItems s name p) rfl (wellItems_ok hn hp) tail]
  simp only [wellItems, List.map_cons, List.map_nil, strOf_rjustItem, fltOf_coordItem, bind, Except.bind, pure, Except.pure]
  rfl

theorem dot_mem_textF (w p : Nat) (hp : p ≠ 0) (x : Flt) : '.' ∈ textF w p x := by
  simp [textF, pad, rjust, fmtFBody, hp]

theorem nonblank_wellItems (s : Rat) (name : Str) (p : Flt × Flt × Flt) :
    ∃ c ∈ recText (wellItems s name p), isStrWs c = false := by
  refine ⟨'.', List.mem_flatten.mpr ⟨(coordItem 1 s p.1).text, ?_, dot_mem_textF 10 1 (by decide) _⟩, by decide⟩
  simp [wellItems]

/-! ### folding the track points into wells -/

def addPos (s : Rat) (ws : List GWell) (np : Str × (Flt × Flt × Flt)) : List GWell := addWellPos ws (rjust np.1 5) (canonPos s np.2)

def wellPairs (ws : List GWell) : List (Str × (Flt × Flt × Flt)) := ws.flatMap fun w => w.pos.map fun p => (w.name, p)

theorem addWellPos_new {ws : List GWell} {name : Str} (h : name ∉ ws.map (·.name)) (p : Flt × Flt × Flt) :
    addWellPos ws name p = ws ++ [{ name := name, pos := [p] }] := by
  unfold addWellPos
  rw [if_neg (mt (any_key_iff (key := GWell.name)).mp h)]

theorem addWellPos_last {ws : List GWell} {name : Str} (h : name ∉ ws.map (·.name)) (acc : List (Flt × Flt × Flt))
    (p : Flt × Flt × Flt) :
    addWellPos (ws ++ [{ name := name, pos := acc }]) name p = ws ++ [{ name := name, pos := acc ++ [p] }] := by
  unfold addWellPos
  rw [if_pos (by simp)]
  rw [List.map_append]
  congr 1
  · have : ∀ w ∈ ws, (if w.name = name then ({ w with pos := w.pos ++ [p] } : GWell) else w) = id w := by
      intro w hw
      rw [if_neg]; rfl
      intro e
      exact h (List.mem_map.mpr ⟨w, hw, by simpa using e⟩)
    rw [List.map_congr_left this, List.map_id]
  · simp

theorem fold_track (s : Rat) {ws : List GWell} {name : Str} (h : rjust name 5 ∉ ws.map (·.name)) :
    ∀ (ps : List (Flt × Flt × Flt)) (acc : List (Flt × Flt × Flt)),
    (ps.map fun p => (name, p)).foldl (addPos s) (ws ++ [{ name := rjust name 5, pos := acc }])
      = ws ++ [{ name := rjust name 5, pos := acc ++ ps.map (canonPos s) }] := by
  intro ps
  induction ps with
  | nil => intro acc; simp
  | cons p r ih =>
    intro acc
    simp only [List.map_cons, List.foldl_cons, addPos]
    rw [addWellPos_last h, ih]
    simp

theorem fold_wells (s : Rat) : ∀ (ws : List GWell) (ws0 : List GWell),
    (ws0.map (·.name) ++ ws.map (fun w => rjust w.name 5)).Nodup → (∀ w ∈ ws, w.pos ≠ []) →
    (wellPairs ws).foldl (addPos s) ws0 = ws0 ++ ws.map (canonWell s) := by
  intro ws
  induction ws with
  | nil => intro ws0 _ _; simp [wellPairs]
  | cons w r ih =>
    intro ws0 hd hne
    have hw : rjust w.name 5 ∉ ws0.map (·.name) := not_mem_of_nodup_append_cons hd
    have hpos := hne w (by simp)
    cases hp : w.pos with
    | nil => exact absurd hp hpos
    | cons p0 ps =>
      have e1 : wellPairs (w :: r) = (w.name, p0) :: (ps.map fun p => (w.name, p)) ++ wellPairs r := by
        simp [wellPairs, hp]
      rw [e1, List.cons_append, List.foldl_cons, List.foldl_append]
      have e2 : addPos s ws0 (w.name, p0) = ws0 ++ [{ name := rjust w.name 5, pos := [canonPos s p0] }] :=
        addWellPos_new hw _
      rw [e2, fold_track s hw ps [canonPos s p0]]
      have e3 : ({ name := rjust w.name 5, pos := [canonPos s p0] ++ ps.map (canonPos s) } : GWell) = canonWell s w := by
        unfold canonWell canonPos
        rw [hp]; rfl
      rw [e3, ih (ws0 ++ [canonWell s w])]
      · simp
      · simpa [canonWell, List.append_assoc] using hd
      · intro x hx; exact hne x (List.mem_cons_of_mem _ hx)

theorem foldl_wells_geo (s : Rat) (pairs : List (Str × (Flt × Flt × Flt))) (g : Geo) :
    pairs.foldl (fun g np => { g with wells := addWellPos g.wells (rjust np.1 5) (canonPos s np.2) }) g
      = { g with wells := pairs.foldl (addPos s) g.wells } :=
  List.foldl_hom (fun ws => { g with wells := ws }) fun _ _ => rfl

structure WellOK (s : Rat) (w : GWell) : Prop where
  name : WellNameOK w.name
  ne : w.pos ≠ []
  pos : ∀ p ∈ w.pos, PosOK s p

def wellTextLines (s : Rat) (ws : List GWell) : List Str :=
  recTextLines (fun np => wellItems s np.1 np.2) (wellPairs ws)

theorem wellPair_ok {s : Rat} {ws : List GWell} (hok : ∀ w ∈ ws, WellOK s w) {np : Str × (Flt × Flt × Flt)}
    (h : np ∈ wellPairs ws) : WellNameOK np.1 ∧ PosOK s np.2 := by
  unfold wellPairs at h
  obtain ⟨w, hw, hm⟩ := List.mem_flatMap.mp h
  obtain ⟨p, hp, rfl⟩ := List.mem_map.mp hm
  exact ⟨(hok w hw).name, (hok w hw).pos p hp⟩

theorem readSection_wells {g : Geo} {L LL : Nat} {s : Rat} (env : Env g L LL s) (ws : List GWell)
    (hok : ∀ w ∈ ws, WellOK s w) (hd : (g.wells.map (·.name) ++ ws.map (fun w => rjust w.name 5)).Nodup) (tail : List Str) :
    readSection SP .wells g (wellTextLines s ws ++ ['\n'] :: tail)
      = .ok ({ g with wells := g.wells ++ ws.map (canonWell s) }, tail) := by
  unfold readSection
  simp only [env.cl, env.ll, env.sc, bind, Except.bind]
  have := simpleSection (wellStep SP s) (fun g np => { g with wells := addWellPos g.wells (rjust np.1 5) (canonPos s np.2) })
    (fun np => wellItems s np.1 np.2) (wellPairs ws) g tail (by
      intro pre a post e
      obtain ⟨hn, hp⟩ := wellPair_ok hok (np := a) (by rw [e]; simp)
      exact ⟨nonblank_wellItems s _ _, fun extra => wellStep_line hn hp _ _⟩)
  unfold wellTextLines
  rw [this, foldl_wells_geo, fold_wells s ws g.wells hd (fun w hw => (hok w hw).ne)]

end Proofs.GeoFile
