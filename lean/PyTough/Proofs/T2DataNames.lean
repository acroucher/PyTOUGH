/-
  C01 proofs: block names on the way out (`unfix_blockname`) and in (`fix_blockname`),
  and the sections that are lists of names (FOFT, COFT, GOFT).
-/
import PyTough.Proofs.T2DataSections
import PyTough.Proofs.NamesFix
namespace Proofs.T2
open Py Model Model.T2 Proofs Proofs.Incon
open Gen.Sections (Rec)

/-- the name a block comes back with after one write (`unfix_blockname`) / read (`fix_blockname`) cycle -/
def cycleName (n : Str) : Str :=
  match fixBlockname (unfixBlockname n) with
  | .ok c => c
  | .error _ => n

/-- for five-character names the cycle never fails, and it is idempotent: the second cycle changes nothing
    (this is why the second written file equals the first) -/
theorem cycle_ok {n : Str} (h : n.length = 5) :
    fixBlockname (unfixBlockname n) = .ok (cycleName n) ∧ (cycleName n).length = 5 ∧
      cycleName (cycleName n) = cycleName n ∧ unfixBlockname (cycleName n) = unfixBlockname n := by
  -- said once, so that the four clauses are not each compared through the two definitions
  rw [show cycleName = Proofs.Names.cycleName from rfl]
  exact Proofs.Names.cycle_ok h

theorem slice_kw (kw : Str) (h : kw.length = 5) : slice (nl kw) 0 5 = kw :=
  slice_append_left kw ['\n'] 5 h

theorem slice5_name {n : Str} (h : n.length = 5) (tail : Str) : slice (unfixBlockname n ++ tail) 0 5 = unfixBlockname n :=
  slice_append_left (unfixBlockname n) tail 5 (Names.unfix_length h)

theorem name_line {n : Str} (h : n.length = 5) (tail : Str) :
    fixBlockname (slice (unfixBlockname n ++ tail) 0 5) = .ok (cycleName n) := by
  rw [slice5_name h]
  exact (cycle_ok h).1

theorem name_line2 {n m : Str} (hn : n.length = 5) (hm : m.length = 5) (tail : Str) :
    fixBlockname (slice (unfixBlockname n ++ unfixBlockname m ++ tail) 5 10) = .ok (cycleName m) := by
  have h1 := Names.unfix_length hn
  have h2 := Names.unfix_length hm
  have := slice_mid (unfixBlockname n) (unfixBlockname m) tail
  rw [h1, h2] at this
  rw [this]
  exact (cycle_ok hm).1

/-- a name with a visible character in its written form (every real block name) -/
def Visible (n : Str) : Prop := n.length = 5 ∧ isBlank (unfixBlockname n) = false

theorem visible_line {n : Str} (h : Visible n) (tail : Str) : isBlank (unfixBlockname n ++ tail) = false :=
  not_blank_append h.2

/-- one line per item and a closing line, as the text of one-line records -/
theorem lines_as_records {α : Type} (f : α → Str) (l : List α) (t : Str) (rest : List Str) :
    l.map f ++ [t] ++ rest = (l.map fun a => [f a]).flatten ++ t :: rest := by
  rw [← List.flatMap_def, ← List.map_eq_flatMap]; simp

/-- FOFT / GOFT: the history-block (or history-generator) list written under its
    keyword reads back as the same names in the same order (each through one unfix/fix cycle) — as bare
    names when the object has no grid yet, as the grid's blocks when it has (names the grid does not hold are dropped) -/
theorem section_roundtrip_history_blocks (kw : Str) (blocks : List Block) (items : List HItem) (hne : items ≠ [])
    (hv : ∀ i ∈ items, Visible i.name) :
    ReadsBack kw (writeHistoryBlocks kw items) (readHistoryBlocks blocks)
      (if blocks.isEmpty then items.map (fun i => { isObj := false, name := cycleName i.name })
       else ((items.map (fun i => cycleName i.name)).filter fun n => blocks.any (·.name == n)).map
              (fun n => { isObj := true, name := n })) := by
  have he := List.isEmpty_eq_false_iff.mpr hne
  refine ⟨items.map (fun i => nl (unfixBlockname i.name)) ++ [nl []], ?_, fun rest => ?_⟩
  · unfold writeHistoryBlocks; rw [he]; simp
  · unfold readHistoryBlocks
    rw [lines_as_records]
    have hrt : ∀ i ∈ items, RecordRT id (fun _ => false)
        (fun line (_ : List Str) => do pure (← fixBlockname (slice line 0 5), 0))
        (fun i => [nl (unfixBlockname i.name)]) (fun i => cycleName i.name) i := by
      intro i hi
      refine ⟨nl (unfixBlockname i.name), [], rfl, ?_, rfl, ?_⟩
      · exact visible_line (hv i hi) _
      · intro rest'
        show (do pure (← fixBlockname (slice (unfixBlockname i.name ++ ['\n']) 0 5), 0)) = _
        rw [name_line (hv i hi).1]
        rfl
    rw [untilBlank_roundtrip id (fun _ => false) _ _ _ items hrt (nl []) (Or.inl isBlank_nl_nil) rest]
    simp only [bind, Except.bind, pure, Except.pure]
    cases hb : blocks.isEmpty <;> simp [List.map_map, Function.comp_def]

/-- COFT for an object without grid (`readHistoryConns [] []`: the pairs stay bare names) -/
theorem section_roundtrip_COFT (items : List HConn) (hne : items ≠ [])
    (hv : ∀ i ∈ items, Visible i.n1 ∧ i.n2.length = 5) :
    ReadsBack c!"COFT" (writeHistoryConns items) (readHistoryConns [] [])
      (items.map (fun i => { isObj := false, n1 := cycleName i.n1, n2 := cycleName i.n2 })) := by
  have he := List.isEmpty_eq_false_iff.mpr hne
  refine ⟨items.map (fun i => nl (unfixBlockname i.n1 ++ unfixBlockname i.n2)) ++ [nl []], ?_, fun rest => ?_⟩
  · unfold writeHistoryConns; rw [he]; simp
  · unfold readHistoryConns
    rw [lines_as_records]
    have hrt : ∀ i ∈ items, RecordRT id (fun _ => false)
        (fun line (_ : List Str) => do pure ((← fixBlockname (slice line 0 5), ← fixBlockname (slice line 5 10)), 0))
        (fun i => [nl (unfixBlockname i.n1 ++ unfixBlockname i.n2)]) (fun i => (cycleName i.n1, cycleName i.n2)) i := by
      intro i hi
      refine ⟨nl (unfixBlockname i.n1 ++ unfixBlockname i.n2), [], rfl, ?_, rfl, ?_⟩
      · unfold nl; rw [List.append_assoc]; exact visible_line (hv i hi).1 _
      · intro rest'
        show (do pure ((← fixBlockname (slice (unfixBlockname i.n1 ++ unfixBlockname i.n2 ++ ['\n']) 0 5),
                        ← fixBlockname (slice (unfixBlockname i.n1 ++ unfixBlockname i.n2 ++ ['\n']) 5 10)), 0)) = _
        rw [name_line2 (hv i hi).1.1 (hv i hi).2, List.append_assoc, name_line (hv i hi).1.1]
        rfl
    rw [untilBlank_roundtrip id (fun _ => false) _ _ _ items hrt (nl []) (Or.inl isBlank_nl_nil) rest]
    simp [bind, Except.bind, pure, Except.pure, List.map_map, Function.comp_def]

end Proofs.T2
