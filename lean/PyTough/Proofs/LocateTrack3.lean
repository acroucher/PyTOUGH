/-
  Proofs about the model of column_track (continued): a column crossed over more than the clip
  tolerance is listed; the track of the reversed line; soundness of the decidable hypothesis checkers
  of Model/Track.lean.
-/
import PyTough.Proofs.LocateTrack2

namespace Proofs.Track
open Model.Locate Model.Track Proofs.Locate

theorem roundSqrt_zero : roundSqrt 0 = .ok 0 := by decide +kernel

theorem roundSqrt_pos {D : Rat} {k : Nat} (hD : 1 < D) (h : roundSqrt D = .ok k) : 1 ≤ k := by
  have := (roundSqrt_bounds (le_trans zero_le_one hD.le) h).1
  rcases Nat.eq_zero_or_pos k with rfl | hp
  · rw [Nat.cast_zero] at this
    exact absurd (hD.trans_le this) (by norm_num)
  · exact hp

/-- the line crosses the polygon at exactly two points (what a convex column and a line through none of
    its vertices give): `n`, the nearer to the line's start, and `f`, in either order along the boundary;
    their parameters are inside the line and further apart than the clip tolerance 1e-3 × (longest side) -/
structure LongPair (poly : Poly) (a b : Pt) (n f : Cross) : Prop where
  two : crossings poly a b = [n, f] ∨ crossings poly a b = [f, n]
  lo : 0 ≤ n.t
  le : n.t ≤ f.t
  hi : f.t ≤ 1
  long : maxSideSq poly / 1000000 < (f.t - n.t) * (f.t - n.t) * distSq a b
  side : 0 < maxSideSq poly

/-- both crossings are reported, the nearer one first -/
theorem lpiT_two {poly : Poly} {a b : Pt} {n f : Cross} {pts : List Cross} (hp : LongPair poly a b n f)
    (h : linePolygonIntersectionsT poly a b = .ok pts) : pts = [n, f] := by
  have hS := hp.side
  have an : n.t.abs = n.t := Rat.abs_of_nonneg hp.lo
  have af : f.t.abs = f.t := Rat.abs_of_nonneg (le_trans hp.lo hp.le)
  -- measured from the nearer crossing, `(1000 d)²` is 0 for it and more than 1 for the farther one
  have hDn : nondimSq (distSq a b) (maxSideSq poly) n.t n = 0 := by
    simp only [nondimSq, if_pos hS, an, sub_self, zero_mul, zero_div]
  have hDf : 1 < nondimSq (distSq a b) (maxSideSq poly) n.t f := by
    simp only [nondimSq, if_pos hS, af]
    rw [div_mul_eq_mul_div, one_lt_div hS]
    linarith only [hp.long]
  unfold linePolygonIntersectionsT at h
  -- `np.unique` puts the bucket 0 of the nearer crossing before the bucket `k ≥ 1` of the farther one
  rcases hp.two with e | e
  · simp only [e, tMin, List.map_cons, List.map_nil, List.foldl_cons, List.foldl_nil, an, af, min_self, min_eq_left hp.le,
      roundAll, hDn, roundSqrt_zero] at h
    cases hk : roundSqrt (nondimSq (distSq a b) (maxSideSq poly) n.t f) with
    | unstable w => rw [hk] at h; cases h
    | ok k =>
      simp only [hk] at h
      cases h
      rw [insertUnique, insertUnique, if_neg (Nat.not_lt_zero k), if_neg (Nat.ne_of_gt (roundSqrt_pos hDf hk))]
      rfl
  · simp only [e, tMin, List.map_cons, List.map_nil, List.foldl_cons, List.foldl_nil, an, af, min_self, min_eq_right hp.le,
      roundAll, hDn, roundSqrt_zero] at h
    cases hk : roundSqrt (nondimSq (distSq a b) (maxSideSq poly) n.t f) with
    | unstable w => rw [hk] at h; cases h
    | ok k =>
      simp only [hk] at h
      cases h
      rw [insertUnique, insertUnique, if_pos (Nat.lt_of_succ_le (roundSqrt_pos hDf hk))]
      rfl

theorem longEnough_true {poly : Poly} {L2 tin tout : Rat} {r : Bool}
    (h : longEnough poly L2 tin tout = .ok r)
    (hl : maxSideSq poly / 1000000 < (tout.abs - tin.abs) * (tout.abs - tin.abs) * L2) : r = true := by
  unfold longEnough at h
  simp only at h
  split at h
  · cases h
  · cases h; simpa using hl

/-- with first crossing `n` and last crossing `f` inside the line, the chosen entry and exit
    parameters are inside the line too, and at least as far apart -/
theorem ioOf_bounds (a b : Pt) {n f : Cross} (hn0 : 0 ≤ n.t) (hf1 : f.t ≤ 1) (isS isE : Bool) :
    0 ≤ (ioOf a b n f isS isE).1.t ∧ (ioOf a b n f isS isE).1.t ≤ n.t ∧
    f.t ≤ (ioOf a b n f isS isE).2.t ∧ (ioOf a b n f isS isE).2.t ≤ 1 := by
  cases isS with
  | true => exact ⟨le_refl _, hn0, le_refl _, hf1⟩
  | false =>
    cases isE with
    | true => exact ⟨hn0, le_refl _, hf1, le_refl _⟩
    | false => exact ⟨hn0, le_refl _, le_refl _, hf1⟩

/-- the entry of a column whose reported crossings are `n` and `f`, inside the line and further apart
    than the clip tolerance -/
theorem colSeg_two {g : Geo} {a b : Pt} {ci : Nat} {n f : Cross}
    (hl : linePolygonIntersectionsT (g.poly ci) a b = .ok [n, f]) (hn0 : 0 ≤ n.t) (hnf : n.t ≤ f.t) (hf1 : f.t ≤ 1)
    (hlong : maxSideSq (g.poly ci) / 1000000 < (f.t - n.t) * (f.t - n.t) * distSq a b)
    (isS isE : Bool) {r : Option Seg} (h : colSeg g a b ci isS isE = .ok r) :
    r = some (segOf ci a b n f isS isE) := by
  rw [colSeg_eq (f := f) hl rfl rfl] at h
  obtain ⟨i0, i1, i2, _⟩ := ioOf_bounds a b hn0 hf1 isS isE
  generalize (ioOf a b n f isS isE).1.t = ti at h i0 i1
  generalize (ioOf a b n f isS isE).2.t = tu at h i2
  have hspan : (f.t - n.t) * (f.t - n.t) ≤ (tu.abs - ti.abs) * (tu.abs - ti.abs) := by
    rw [Rat.abs_of_nonneg i0, Rat.abs_of_nonneg (le_trans (le_trans (le_trans i0 i1) hnf) i2)]
    exact mul_self_le_mul_self (sub_nonneg.mpr hnf) (by linarith only [i1, i2])
  have := lt_of_lt_of_le hlong (mul_le_mul_of_nonneg_right hspan (distSq_nonneg a b))
  split at h
  · cases h
  · injection h with h; exact h.symm
  · rename_i hle
    cases longEnough_true hle this

/-- the hypothesis under which a crossed column must be listed -/
def CrossedLong (g : Geo) (a b : Pt) (ci : Nat) : Prop := ∃ n f, LongPair (g.poly ci) a b n f

/-- such a column always contributes an entry, whether it is the start column, the end column or neither -/
theorem colSeg_listed {g : Geo} {a b : Pt} {ci : Nat} (hc : CrossedLong g a b ci) (isS isE : Bool) {r : Option Seg}
    (h : colSeg g a b ci isS isE = .ok r) : ∃ s, r = some s ∧ s.col = ci := by
  obtain ⟨n, f, hp⟩ := hc
  obtain ⟨pts, hl⟩ := colSeg_lpiT h
  rw [lpiT_two hp hl] at hl
  exact ⟨_, colSeg_two hl hp.lo hp.le hp.hi hp.long isS isE h, rfl⟩

/-- the same entry seen from the other end of the line -/
def flipSeg (s : Seg) : Seg := ⟨s.col, s.pout, s.pin, 1 - s.sout, 1 - s.sin⟩

theorem flipSeg_flipSeg (s : Seg) : flipSeg (flipSeg s) = s := by
  cases s
  simp only [flipSeg, Seg.mk.injEq, true_and]
  constructor <;> ring

theorem distSq_comm (a b : Pt) : distSq a b = distSq b a := by unfold distSq; ring

theorem LongPair.rev {poly : Poly} {a b : Pt} {n f : Cross} (h : LongPair poly a b n f) :
    LongPair poly b a (Cross.rev f) (Cross.rev n) where
  two := by
    rw [crossings_reverse]
    rcases h.two with e | e
    · rw [e]; exact Or.inr rfl
    · rw [e]; exact Or.inl rfl
  lo := sub_nonneg.mpr h.hi
  le := sub_le_sub_left h.le 1
  hi := sub_le_self 1 h.lo
  long := by
    have e : ((Cross.rev n).t - (Cross.rev f).t) * ((Cross.rev n).t - (Cross.rev f).t) = (f.t - n.t) * (f.t - n.t) := by
      simp only [Cross.rev]; ring
    rw [e, distSq_comm b a]
    exact h.long
  side := h.side

theorem ioOf_rev (a b : Pt) (n f : Cross) (isS isE : Bool) (h : ¬ (isS = true ∧ isE = true)) :
    ioOf b a (Cross.rev f) (Cross.rev n) isE isS = (Cross.rev (ioOf a b n f isS isE).2, Cross.rev (ioOf a b n f isS isE).1) := by
  unfold ioOf Cross.rev
  cases isS <;> cases isE <;> simp at h ⊢

theorem longEnough_congr {poly : Poly} {L2 L2' ti tu ti' tu' : Rat} (hL : L2 = L2')
    (h : (tu.abs - ti.abs) * (tu.abs - ti.abs) = (tu'.abs - ti'.abs) * (tu'.abs - ti'.abs)) :
    longEnough poly L2 ti tu = longEnough poly L2' ti' tu' := by
  unfold longEnough
  simp only [h, hL]

/-- a column whose first and last reported crossings `n`, `f` lie inside the line in this order, and are
    reported last and first for the reversed line, gives the same entry, flipped, for the reversed line -/
theorem colSeg_reverse {g : Geo} {a b : Pt} {ci : Nat} {n f : Cross} {cs cs' : List Cross}
    (hl : linePolygonIntersectionsT (g.poly ci) a b = .ok cs) (hn : cs.head? = some n) (hf : cs.getLast? = some f)
    (hl' : linePolygonIntersectionsT (g.poly ci) b a = .ok cs')
    (hf' : cs'.head? = some (Cross.rev f)) (hn' : cs'.getLast? = some (Cross.rev n))
    (hn0 : 0 ≤ n.t) (hnf : n.t ≤ f.t) (hf1 : f.t ≤ 1)
    (isS isE : Bool) (hse : ¬ (isS = true ∧ isE = true)) {r r' : Option Seg}
    (h : colSeg g a b ci isS isE = .ok r) (h' : colSeg g b a ci isE isS = .ok r') : r' = r.map flipSeg := by
  rw [colSeg_eq hl hn hf] at h
  rw [colSeg_eq hl' hf' hn'] at h'
  have hflip : segOf ci b a (Cross.rev f) (Cross.rev n) isE isS = flipSeg (segOf ci a b n f isS isE) := by
    unfold segOf
    rw [ioOf_rev a b n f isS isE hse]
    rfl
  obtain ⟨i0, i1, i2, i3⟩ := ioOf_bounds a b hn0 hf1 isS isE
  have hlong : longEnough (g.poly ci) (distSq b a) (ioOf b a (Cross.rev f) (Cross.rev n) isE isS).1.t (ioOf b a (Cross.rev f) (Cross.rev n) isE isS).2.t
      = longEnough (g.poly ci) (distSq a b) (ioOf a b n f isS isE).1.t (ioOf a b n f isS isE).2.t := by
    rw [ioOf_rev a b n f isS isE hse]
    apply longEnough_congr (distSq_comm b a)
    simp only [Cross.rev]
    rw [Rat.abs_of_nonneg (sub_nonneg.mpr (le_trans i1 (le_trans hnf hf1))), Rat.abs_of_nonneg (sub_nonneg.mpr i3),
      Rat.abs_of_nonneg i0, Rat.abs_of_nonneg (le_trans (le_trans hn0 hnf) i2)]
    ring
  rw [hlong, hflip] at h'
  split at h
  · cases h
  · rename_i hle
    rw [hle] at h'
    injection h with h; injection h' with h'
    rw [← h, ← h']; rfl
  · rename_i hle
    rw [hle] at h'
    injection h with h; injection h' with h'
    rw [← h, ← h']; rfl

theorem lpiT_nil {poly : Poly} {a b : Pt} (hcs : crossings poly a b = []) :
    linePolygonIntersectionsT poly a b = .ok [] := by
  unfold linePolygonIntersectionsT
  rw [hcs]

theorem lpiT_one {poly : Poly} {a b : Pt} {c : Cross} {pts : List Cross} (hcs : crossings poly a b = [c])
    (h : linePolygonIntersectionsT poly a b = .ok pts) : pts = [c] := by
  unfold linePolygonIntersectionsT at h
  rw [hcs] at h
  simp only [roundAll] at h
  split at h
  · cases h
  · rename_i uniq hu
    cases h
    split at hu
    · cases hu
      simp [insertUnique]
    · cases hu

/-- `col == start_col` at the time column `ci` is processed, when at most one column contains the
    line's start point -/
theorem flag_eq {g : Geo} {p : Pt} {ci : Nat} {o : Option Nat} (hu : UniqueAt g p)
    (hinv : ∀ c, o = some c → g.containsPoint c p = true) :
    ((if o.isNone && g.containsPoint ci p then some ci else o) == some ci) = g.containsPoint ci p := by
  cases o with
  | none => cases g.containsPoint ci p <;> simp
  | some c =>
    cases hcp : g.containsPoint ci p with
    | true => simp [hu c ci (hinv c rfl) hcp]
    | false =>
      have : c ≠ ci := fun h => by rw [← h, hinv c rfl] at hcp; cases hcp
      simpa using this

/-- when each end point is in at most one column, the flags `colSeg` is called with do not depend on the
    state of the loop -/
theorem Asked.flags {g : Geo} {a b : Pt} {ci : Nat} {r : Option Seg} (hua : UniqueAt g a) (hub : UniqueAt g b)
    (h : Asked g a b ci r) : colSeg g a b ci (g.containsPoint ci a) (g.containsPoint ci b) = .ok r := by
  obtain ⟨_, st, hE, hseg⟩ := h
  have hs : ((markEnds g a b ci st).startCol == some ci) = g.containsPoint ci a := flag_eq hua hE.start
  have he : ((markEnds g a b ci st).endCol == some ci) = g.containsPoint ci b := flag_eq hub hE.stop
  rw [hs, he] at hseg
  exact hseg

/-- the hypotheses of the direction-independence theorem (the driver evaluates their Boolean form `revHypB` on
    every explored line; `revHypB_sound`) -/
structure RevHyp (g : Geo) (a b : Pt) : Prop where
  notInOne : ∀ c, ¬ (g.containsPoint c a = true ∧ g.containsPoint c b = true)
  uniqueA : UniqueAt g a
  uniqueB : UniqueAt g b
  boxSym : ∀ ci, ci < g.ncols → lineIntersectsRectangle (g.bbox ci) a b = lineIntersectsRectangle (g.bbox ci) b a
  clean : ∀ ci, ci < g.ncols → lineIntersectsRectangle (g.bbox ci) a b = some true →
    crossings (g.poly ci) a b = [] ∨ CrossedLong g a b ci ∨
    ∃ c, crossings (g.poly ci) a b = [c] ∧ 0 ≤ c.t ∧ c.t ≤ 1

theorem RevHyp.symm {g : Geo} {a b : Pt} (h : RevHyp g a b) : RevHyp g b a where
  notInOne := fun c hc => h.notInOne c ⟨hc.2, hc.1⟩
  uniqueA := h.uniqueB
  uniqueB := h.uniqueA
  boxSym := fun ci hci => (h.boxSym ci hci).symm
  clean := fun ci hci hl => by
    rcases h.clean ci hci (by rw [h.boxSym ci hci]; exact hl) with hn | ⟨n, f, hp⟩ | ⟨c, hc, h0, h1⟩
    · left; rw [crossings_reverse, hn]; rfl
    · right; left; exact ⟨_, _, hp.rev⟩
    · right; right
      exact ⟨Cross.rev c, by rw [crossings_reverse, hc]; rfl, sub_nonneg.mpr h1, sub_le_self 1 h0⟩

theorem track_reverse_imp {g : Geo} {a b : Pt} {T T' : List Seg} (hyp : RevHyp g a b)
    (h : columnTrack g a b = .ok T) (h' : columnTrack g b a = .ok T') :
    ∀ s ∈ T, flipSeg s ∈ T' := by
  have hyp' := hyp.symm
  intro s hs
  obtain ⟨hlt, happ⟩ := (columnTrack_spec h).appended s hs
  rcases happ with ⟨ha, hb, _⟩ | hask
  · exact absurd ⟨ha, hb⟩ (hyp.notInOne s.col)
  -- the column's entry for the line, and for the reversed line
  have hseg := hask.flags hyp.uniqueA hyp.uniqueB
  have hlir' : lineIntersectsRectangle (g.bbox s.col) b a = some true := by rw [← hyp.boxSym _ hlt]; exact hask.1
  obtain ⟨r', hask', hr'⟩ := (columnTrack_spec h').asked.resolve_left (fun ⟨c, hc⟩ => hyp'.notInOne c hc) s.col hlt hlir'
  have hseg' := hask'.flags hyp'.uniqueA hyp'.uniqueB
  suffices r' = some (flipSeg s) from hr' _ this
  obtain ⟨pts, hl⟩ := colSeg_lpiT hseg
  obtain ⟨pts', hl'⟩ := colSeg_lpiT hseg'
  have hse := hyp.notInOne s.col
  rcases hyp.clean _ hlt hask.1 with hn | ⟨n, f, hp⟩ | ⟨c, hc, hc0, hc1⟩
  · rw [colSeg_nil (lpiT_nil hn)] at hseg; cases hseg
  · rw [lpiT_two hp hl] at hl
    rw [lpiT_two hp.rev hl'] at hl'
    exact colSeg_reverse hl rfl rfl hl' rfl rfl hp.lo hp.le hp.hi _ _ hse hseg hseg'
  · rw [lpiT_one hc hl] at hl
    rw [lpiT_one (by rw [crossings_reverse, hc]; rfl) hl'] at hl'
    exact colSeg_reverse hl rfl rfl hl' rfl rfl hc0 le_rfl hc1 _ _ hse hseg hseg'

theorem crossedLongB_sound {g : Geo} {a b : Pt} {ci : Nat} (h : crossedLongB g a b ci = true) : CrossedLong g a b ci := by
  unfold crossedLongB at h
  split at h
  · rename_i c1 c2 hcs
    simp only [Bool.and_eq_true, decide_eq_true_eq] at h
    obtain ⟨⟨⟨⟨⟨h1, h2⟩, h3⟩, h4⟩, h5⟩, h6⟩ := h
    rcases le_total c1.t c2.t with hle | hle
    · exact ⟨c1, c2, Or.inl hcs, h1, hle, h4, h5, h6⟩
    · exact ⟨c2, c1, Or.inr hcs, h3, hle, h2, by rw [← neg_sub, neg_mul_neg]; exact h5, h6⟩
  · cases h

theorem uniqueAtB_sound {g : Geo} {p : Pt} (h : uniqueAtB g p = true) : UniqueAt g p := by
  unfold uniqueAtB at h
  simp only [decide_eq_true_eq] at h
  intro c1 c2 h1 h2
  have m1 : c1 ∈ (List.range g.ncols).filter fun c => g.containsPoint c p :=
    List.mem_filter.mpr ⟨List.mem_range.mpr (containsPoint_lt h1), h1⟩
  have m2 : c2 ∈ (List.range g.ncols).filter fun c => g.containsPoint c p :=
    List.mem_filter.mpr ⟨List.mem_range.mpr (containsPoint_lt h2), h2⟩
  generalize (List.range g.ncols).filter (fun c => g.containsPoint c p) = l at h m1 m2
  match l, h, m1, m2 with
  | [x], _, m1, m2 =>
    simp only [List.mem_singleton] at m1 m2
    rw [m1, m2]
  | x :: y :: t, h, _, _ => simp only [List.length_cons] at h; omega

theorem notInOneB_sound {g : Geo} {a b : Pt} (h : notInOneB g a b = true) :
    ∀ c, ¬ (g.containsPoint c a = true ∧ g.containsPoint c b = true) := by
  unfold notInOneB at h
  rw [List.all_eq_true] at h
  intro c ⟨h1, h2⟩
  have := h c (List.mem_range.mpr (containsPoint_lt h1))
  simp [h1, h2] at this

theorem revHypB_sound {g : Geo} {a b : Pt} (h : revHypB g a b = true) : RevHyp g a b := by
  unfold revHypB at h
  simp only [Bool.and_eq_true] at h
  obtain ⟨⟨⟨⟨h1, h2⟩, h3⟩, h4⟩, h5⟩ := h
  refine ⟨notInOneB_sound h1, uniqueAtB_sound h2, uniqueAtB_sound h3, ?_, ?_⟩
  · intro ci hci
    unfold boxSymB at h4
    rw [List.all_eq_true] at h4
    have := h4 ci (List.mem_range.mpr hci)
    simpa using this
  · intro ci hci hl
    unfold cleanB at h5
    rw [List.all_eq_true] at h5
    have := h5 ci (List.mem_range.mpr hci)
    simp only [hl, beq_self_eq_true, Bool.not_true, Bool.false_or, Bool.or_eq_true, List.isEmpty_iff] at this
    rcases this with (h | h) | h
    · exact Or.inl h
    · exact Or.inr (Or.inl (crossedLongB_sound h))
    · right; right
      unfold oneCrossB at h
      split at h
      · rename_i c hc
        simp only [Bool.and_eq_true, decide_eq_true_eq] at h
        exact ⟨c, hc, h.1, h.2⟩
      · cases h

theorem orderedB_sound : ∀ (l : List Seg) (lo : Rat), orderedB lo l = true → Ordered lo l := by
  intro l
  induction l with
  | nil => intro lo h; simpa [orderedB, Ordered] using h
  | cons s r ih =>
    intro lo h
    simp only [orderedB, Bool.and_eq_true, decide_eq_true_eq] at h
    exact ⟨h.1.1, h.1.2, ih _ h.2⟩

/-- (for computing examples) when the loop's list is already sorted, `column_track` returns it -/
theorem columnTrack_of_sorted {g : Geo} {a b : Pt} {st : TState}
    (h : trackLoop g a b (List.range g.ncols) {} = .ok st) (ht : sortTie st.track = false)
    (hs : st.track.Pairwise fun s s' => decide (s.tin ≤ s'.tin) = true) : columnTrack g a b = .ok st.track := by
  unfold columnTrack
  rw [h]
  simp only [ht, Bool.false_eq_true, if_false]
  rw [List.mergeSort_of_pairwise hs]

end Proofs.Track
