/-
  C03 proofs: GRID.  A column record is followed by one line per node, so `read_columns` has a loop of
  its own (one turn: `readColumnsLoop_step`; the run is `loop_run`); the column object it builds is the
  column before LAYERS and SURFA touch it (`preColumn`).
-/
import PyTough.Proofs.GeoFileLines
namespace Proofs.GeoFile
open Py Model Model.GeoFile Proofs

def centreItems (s : Rat) (c : GColumn) : List Item :=
  if c.centreSpecified != 0 then
    match c.centre with
    | .at x y => [coordItem 2 s x, coordItem 2 s y]
    | _ => []
  else [noneItem (fF 2), noneItem (fF 2)]

def columnItems (s : Rat) (c : GColumn) : List Item :=
  [nameItem c.name, intItem 1 c.centreSpecified, intItem 2 c.nodes.length] ++ centreItems s c

/-- the column before the LAYERS / SURFA sections touch it -/
def preColumn (s : Rat) (nodes' : List GNode) (c : GColumn) : GColumn :=
  { name := c.name, nodes := c.nodes, centreSpecified := c.centreSpecified,
    centre := (if c.centreSpecified != 0 then
        match c.centre with
        | .at x y => .at (canonC 2 s x) (canonC 2 s y)
        | o => o
      else centroidCentre nodes' c.nodes),
    surface := none, defaultSurface := true, numLayers := 0 }

/-- What `columnOK` says of a column, in the form the item lemmas take.
    `nodes'`: the list the column's node names are looked up in (the reader's own nodes at GRID; `WFP.cols`
    takes the rounded nodes of the geometry) -/
structure ColOK (L : Nat) (s : Rat) (nodes' : List GNode) (c : GColumn) : Prop where
  name : NameShape L c.name
  nn : c.nodes.length ≤ 99
  found : ∀ nm ∈ c.nodes, NameShape L nm ∧ ∃ nd, lookupNode nodes' nm = some nd
  centre : c.centreSpecified = 0 ∨ (c.centreSpecified = 1 ∧ ∃ x y, c.centre = .at x y ∧ fitsC 2 s x = true ∧ fitsC 2 s y = true)
  orient : 0 ≤ polygonArea (nodePositions nodes' c.nodes)

theorem columnItems_spec {L : Nat} {s : Rat} {nodes' : List GNode} {c : GColumn} (hL : L ≤ 3) (h : ColOK L s nodes' c) :
    ItemsOK (columnItems s c) ∧ (columnItems s c).map (·.spec) = SP.column := by
  have hname := nameItem_ok hL h.name
  have hnn : ItemOK (intItem 2 c.nodes.length) := intItem_ok (fits_nat (by decide) (by have := h.nn; omega))
  have hnone := noneItem_ok (fF 2) (.inr (.inr rfl))
  unfold columnItems centreItems
  rcases h.centre with h0 | ⟨h1, x, y, hc, hx, hy⟩
  · rw [h0]
    exact ⟨itemsOK_cons hname (itemsOK_cons (intItem_ok (by decide)) (itemsOK_cons hnn
      (itemsOK_cons hnone (itemsOK_cons hnone itemsOK_nil)))), rfl⟩
  · rw [h1, hc]
    exact ⟨itemsOK_cons hname (itemsOK_cons (intItem_ok (by decide)) (itemsOK_cons hnn
      (itemsOK_cons (coordItem_ok hx) (itemsOK_cons (coordItem_ok hy) itemsOK_nil)))), rfl⟩

def colNodeLine (nm : Str) : Str := recText [nameItem nm] ++ ['\n']

def columnTextLines (s : Rat) (c : GColumn) : List Str :=
  (recText (columnItems s c) ++ ['\n']) :: c.nodes.map colNodeLine

theorem one_bne_zero : ((1 : Int) != 0) = true := rfl

/-- (`h` is `ColOK.centre`) -/
theorem columnLines_run {s : Rat} {c : GColumn}
    (h : c.centreSpecified = 0 ∨ (c.centreSpecified = 1 ∧ ∃ x y, c.centre = .at x y ∧ fitsC 2 s x = true ∧ fitsC 2 s y = true)) :
    columnLines SP s c = (do
      let l ← lineOf SP.column ((columnItems s c).map (·.val))
      let nl ← c.nodes.mapM fun n => lineOf SP.columnNode [.str (ljust n 3)]
      pure (l :: nl)) := by
  unfold columnLines columnItems centreItems
  rcases h with h0 | ⟨h1, x, y, hc, _, _⟩
  · simp only [h0, bne_self_eq_false, Bool.false_eq_true, if_false, pure_bind]
    rfl
  · simp only [h1, hc, one_bne_zero, if_true, pure_bind]
    rfl

theorem columnLines_eq {L : Nat} {s : Rat} {nodes' : List GNode} {c : GColumn} (hL : L ≤ 3) (h : ColOK L s nodes' c) :
    columnLines SP s c = .ok (columnTextLines s c) := by
  rw [columnLines_run h.centre, lineOf_items (columnItems s c) (columnItems_spec hL h).2 rfl (columnItems_spec hL h).1,
    mapM_pure_map (fun n => lineOf SP.columnNode [.str (ljust n 3)]) colNodeLine c.nodes fun nm hnm =>
      lineOf_items [nameItem nm] rfl rfl (itemsOK_cons (nameItem_ok hL (h.found nm hnm).1) itemsOK_nil)]
  rfl

/-! ### reading the node list of a column -/

theorem readColumnNodes_run {L : Nat} (hL : L ≤ 3) (g : Geo) : ∀ (names : List Str) (tail : List Str),
    (∀ nm ∈ names, NameShape L nm ∧ ∃ nd, lookupNode g.nodes nm = some nd) →
    readColumnNodes SP L g names.length (names.map colNodeLine ++ tail)
      = .ok (names.filterMap (lookupNode g.nodes), tail) := by
  intro names
  induction names with
  | nil => intro tail _; rfl
  | cons nm r ih =>
    intro tail h
    obtain ⟨hs, nd, hnd⟩ := h nm (by simp)
    simp only [List.length_cons, List.map_cons, List.cons_append, readColumnNodes, readline_cons]
    rw [show colNodeLine nm = recText [nameItem nm] ++ ['\n'] from rfl,
      parse_items (fs := SP.columnNode) [nameItem nm] rfl (itemsOK_cons (nameItem_ok hL hs) itemsOK_nil) ['\n']]
    simp only [List.map_cons, List.map_nil, strOf_nameItem, bind, Except.bind, fixName_ljust hs, hnd]
    rw [ih tail (fun x hx => h x (List.mem_cons_of_mem _ hx))]
    simp [hnd, pure, Except.pure]

/-! ### the column object -/

theorem lookupNode_name {ns : List GNode} {nm : Str} {nd : GNode} (h : lookupNode ns nm = some nd) : nd.name = nm := by
  unfold lookupNode at h
  simpa using List.find?_some h

theorem filterMap_lookup_names {ns : List GNode} : ∀ (names : List Str),
    (∀ nm ∈ names, ∃ nd, lookupNode ns nm = some nd) →
    (names.filterMap (lookupNode ns)).map (·.name) = names := by
  intro names
  induction names with
  | nil => intro _; rfl
  | cons nm r ih =>
    intro h
    obtain ⟨nd, hnd⟩ := h nm (by simp)
    rw [List.filterMap_cons, hnd]
    simp only [List.map_cons, lookupNode_name hnd]
    rw [ih (fun x hx => h x (List.mem_cons_of_mem _ hx))]

theorem mkColumn_eq {L : Nat} {s : Rat} {nodes' : List GNode} {c : GColumn} (h : ColOK L s nodes' c) :
    mkColumn c.name (c.nodes.filterMap (lookupNode nodes'))
      (if c.centreSpecified != 0 then
        match c.centre with
        | .at x y => some (canonC 2 s x, canonC 2 s y)
        | _ => none
       else none) = preColumn s nodes' c := by
  have hnames := filterMap_lookup_names (ns := nodes') c.nodes (fun nm hnm => (h.found nm hnm).2)
  have hpoly : (c.nodes.filterMap (lookupNode nodes')).map (fun n => (n.x.toRat, n.y.toRat)) = nodePositions nodes' c.nodes := rfl
  have hor : ¬ polygonArea (nodePositions nodes' c.nodes) < 0 := Rat.not_lt.mpr h.orient
  have hempty : (c.nodes.filterMap (lookupNode nodes')).isEmpty = c.nodes.isEmpty :=
    List.isEmpty_map.symm.trans (congrArg List.isEmpty hnames)
  unfold mkColumn preColumn
  simp only [hpoly, hnames, if_neg hor]
  rcases h.centre with h0 | ⟨h1, x, y, hc, _, _⟩
  · simp only [h0, bne_self_eq_false, Bool.false_eq_true, if_false, hempty, centroidCentre]
  · simp only [h1, one_bne_zero, if_true, hc]

/-! ### the loop of `read_columns` -/

theorem addColumn_nodes (g : Geo) (c : GColumn) : (addColumn g c).nodes = g.nodes := by
  unfold addColumn; split <;> rfl

theorem foldl_addColumn (cs : List GColumn) (g : Geo) (hd : (g.columns.map (·.name) ++ cs.map (·.name)).Nodup) :
    cs.foldl addColumn g = { g with columns := g.columns ++ cs } :=
  foldl_insertNew (·.name) addColumn (fun l => { g with columns := l })
    (fun l c h => by unfold addColumn; rw [lookupColumn_none h]; rfl) cs g.columns hd

theorem readColumnsLoop_blank (L : Nat) (s : Rat) (fuel : Nat) (g : Geo) (line : Str) (ls : List Str)
    (h : isBlank line = true) : readColumnsLoop SP L s (fuel + 1) g line ls = .ok (g, ls) := by
  simp [readColumnsLoop, h]

/-- one turn of the loop on the record of column `c` -/
theorem readColumnsLoop_step {L : Nat} {s : Rat} (hL : L ≤ 3) (g : Geo) (c : GColumn) (h : ColOK L s g.nodes c)
    (fuel : Nat) (extra : Str) (rest : List Str) :
    readColumnsLoop SP L s (fuel + 1) g (recText (columnItems s c) ++ '\n' :: extra) (c.nodes.map colNodeLine ++ rest)
      = readColumnsLoop SP L s fuel (addColumn g (preColumn s g.nodes c)) (readline rest).1 (readline rest).2 := by
  obtain ⟨ch, hch, hws⟩ := nonblank_of_name h.name ([intItem 1 c.centreSpecified, intItem 2 c.nodes.length] ++ centreItems s c)
  have hnb : isBlank (recText (columnItems s c) ++ '\n' :: extra) = false :=
    isBlank_false_of_mem (c := ch) (List.mem_append_left _ hch) hws
  rw [readColumnsLoop]
  simp only [hnb, Bool.false_eq_true, if_false]
  rw [parse_items (columnItems s c) (columnItems_spec hL h).2 (columnItems_spec hL h).1 ('\n' :: extra)]
  have hnodes := readColumnNodes_run hL g c.nodes rest (fun nm hnm => h.found nm hnm)
  have hmk := mkColumn_eq h
  rcases h.centre with h0 | ⟨h1, x, y, hc, _, _⟩
  · have hv : (columnItems s c).map (·.read) = [.str (ljust c.name 3), .int 0, .int c.nodes.length, .none, .none] := by
      simp [columnItems, centreItems, h0, nameItem, strItem, intItem, noneItem]
    rw [hv]
    simp only [h0, bne_self_eq_false, Bool.false_eq_true, if_false] at hmk
    simp only [strOf, truthyInt, bne_self_eq_false, Bool.false_eq_true, if_false, intOf, bind, Except.bind, pure, Except.pure,
      Int.toNat_natCast, hnodes, fixName_ljust h.name, hmk]
  · have hv : (columnItems s c).map (·.read) = [.str (ljust c.name 3), .int 1, .int c.nodes.length,
        (coordItem 2 s x).read, (coordItem 2 s y).read] := by
      simp [columnItems, centreItems, h1, hc, nameItem, strItem, intItem]
    rw [hv]
    simp only [h1, one_bne_zero, if_true, hc] at hmk
    simp only [strOf, truthyInt, one_bne_zero, if_true, fltOf_coordItem, intOf, bind, Except.bind, pure, Except.pure,
      Int.toNat_natCast, hnodes, fixName_ljust h.name]
    rw [← hmk]
    rfl

def gridTextLines (s : Rat) (cs : List GColumn) : List Str := cs.flatMap (columnTextLines s)

theorem foldl_preColumn (s : Rat) (cs : List GColumn) (g : Geo) :
    cs.foldl (fun g c => addColumn g (preColumn s g.nodes c)) g = (cs.map (preColumn s g.nodes)).foldl addColumn g := by
  induction cs generalizing g with
  | nil => rfl
  | cons c r ih =>
    rw [List.foldl_cons, ih, addColumn_nodes]
    rfl

theorem readSection_grid {g : Geo} {L LL : Nat} {s : Rat} (env : Env g L LL s) (cs : List GColumn)
    (hok : ∀ c ∈ cs, ColOK L s g.nodes c) (hd : (g.columns.map (·.name) ++ cs.map (·.name)).Nodup) (tail : List Str) :
    readSection SP .grid g (gridTextLines s cs ++ ['\n'] :: tail)
      = .ok ({ g with columns := g.columns ++ cs.map (preColumn s g.nodes) }, tail) := by
  unfold readSection
  simp only [env.cl, env.ll, env.sc, bind, Except.bind]
  have := loop_run (readColumnsLoop SP L s) (fun g c => addColumn g (preColumn s g.nodes c))
    (fun c => recText (columnItems s c)) (fun c => c.nodes.map colNodeLine) (fun n g line ls => readColumnsLoop_blank L s n g line ls)
    cs g ((readline (gridTextLines s cs ++ ['\n'] :: tail)).2.length + 2) padstring tail padstring_line isBlank_padded_newline
    (by
      -- the fuel is the number of lines left and two more; every column takes at least one line
      have := length_le_flatMap (columnTextLines s) cs fun _ _ => List.cons_ne_nil _ _
      unfold gridTextLines
      rw [length_readline, List.length_append, List.length_cons]
      omega)
    (fun pre c post e n extra ls =>
      readColumnsLoop_step env.hL _ c (by
        rw [foldl_keeps Geo.nodes fun g c => addColumn_nodes g _]; exact hok c (by rw [e]; simp)) n extra ls)
  unfold gridTextLines columnTextLines
  unfold gridTextLines columnTextLines recLines at this
  rw [this, foldl_preColumn, foldl_addColumn]
  have hn : (cs.map (preColumn s g.nodes)).map (·.name) = cs.map (·.name) := by
    simp [preColumn]
  rw [hn]; exact hd

end Proofs.GeoFile
