/-
  setup_table_AUTOUGH2 (Model/ListingFile.lean) on the lines of one printed table: the layout it records is one for
  which read_table_AUTOUGH2 reads the same region completely.  Core Lean only.
-/
import PyTough.Proofs.ListingWholeAut
import PyTough.Proofs.Literals
namespace Proofs.Whole
open Py Model Model.Listing

/-- the column names behind `INDEX`: a word starting with a lower-case character is glued to the previous name -/
def headerGoA : List Str → List Str → Except Exc (List Str)
  | [], acc => .ok acc.reverse
  | s :: r, acc =>
    match s with
    | [] => .error .indexError
    | c :: _ =>
      if c = upperChar c then headerGoA r (s :: acc)
      else match acc with
        | [] => .error .indexError
        | last :: more => headerGoA r ((last ++ [' '] ++ s) :: more)

/-- `parse_table_header_AUTOUGH2` on the header line: the number of keys and the column names -/
def headerColsA (hdr : Str) : Except Exc (Nat × List Str) :=
  match (splitWs (strip hdr)).idxOf? (S "INDEX") with
  | some k =>
    match headerGoA ((splitWs (strip hdr)).drop (k + 1)) [] with
    | .ok cols => .ok (k, cols)
    | .error e => .error e
  | none => .error .valueError

theorem headerGoA_eq (ws acc : List Str) :
    parseTableHeaderAUTOUGH2.go ws acc = liftE (headerGoA ws acc) := by
  induction ws generalizing acc with
  | nil => rfl
  | cons w r ih =>
    cases w with
    | nil => rfl
    | cons c cs =>
      unfold parseTableHeaderAUTOUGH2.go headerGoA
      simp only
      split
      · exact ih _
      · cases acc with
        | nil => rfl
        | cons last more => exact ih _

theorem parseTableHeaderAUTOUGH2_run (s : Rd) (hdr : Str) (r : List Str) (nkeys : Nat) (cols : List Str)
    (hrest : s.pos.rest = hdr :: r) (hh : headerColsA hdr = .ok (nkeys, cols)) :
    parseTableHeaderAUTOUGH2 s = .ok ((nkeys, cols), { s with pos := ⟨s.pos.no + 1, r⟩ }) := by
  unfold parseTableHeaderAUTOUGH2
  rw [bind_ok (readline_cons s hdr r hrest)]
  unfold headerColsA at hh
  split at hh
  · rename_i k hk
    split at hh
    · rename_i cols' hc
      cases hh
      simp only [hk]
      rw [bind_ok (pure_run nkeys _)]
      rw [headerGoA_eq, hc]
      rfl
    · cases hh
  · cases hh

/-- as in `autLoop_run`: the line in hand is `(D ++ [term]).headD []` -/
theorem setupLoopA_run (kw : Str) (keypos : List Int) (D : List Str) (term : Str) (tail : List Str)
    (fuel : Nat) (acc ks : List Key) (s : Rd)
    (hfuel : D.length < fuel)
    (hD : ∀ d ∈ D, slice d 1 6 ≠ kw) (hterm : slice term 1 6 = kw)
    (hrest : s.pos.rest = (D ++ [term]).tail ++ tail)
    (hks : D.map (fun d => keyFromLine d keypos) = ks.map .ok) :
    setupTableAUTOUGH2.loop kw keypos fuel ((D ++ [term]).headD []) acc s
      = .ok (acc.reverse ++ ks, { s with pos := ⟨s.pos.no + D.length, tail⟩ }) := by
  induction fuel generalizing D acc ks s with
  | zero => cases hfuel
  | succ f ih =>
    cases D with
    | nil =>
      cases ks with
      | cons _ _ => simp at hks
      | nil =>
        simp only [List.nil_append, List.headD_cons, List.tail_cons] at hrest ⊢
        unfold setupTableAUTOUGH2.loop
        have hc : (slice term 1 6 != kw) = false := by simp [hterm]
        simp only [hc]
        simp only [List.length_nil, List.append_nil]
        rw [rd_pos_eta s (s.pos.no + 0) tail rfl hrest]
        rfl
    | cons d D' =>
      cases ks with
      | nil => simp at hks
      | cons k kr =>
        simp only [List.map_cons, List.cons.injEq] at hks
        obtain ⟨hk, hkr⟩ := hks
        simp only [List.cons_append, List.headD_cons, List.tail_cons] at hrest ⊢
        unfold setupTableAUTOUGH2.loop
        have hc : (slice d 1 6 != kw) = true := by simpa using hD d List.mem_cons_self
        simp only [hc, if_true]
        unfold keyOfLine
        rw [hk, bind_ok (liftE_ok k s)]
        rw [bind_ok (readline_headD s (D' ++ [term]) tail (by simp) hrest)]
        rw [ih D' (k :: acc) kr { s with pos := ⟨s.pos.no + 1, (D' ++ [term]).tail ++ tail⟩ }
          (by simp only [List.length_cons] at hfuel; omega)
          (fun x hx => hD x (List.mem_cons_of_mem _ hx)) rfl hkr]
        simp only [List.reverse_cons, List.append_assoc, List.singleton_append, List.length_cons]
        have e : s.pos.no + 1 + D'.length = s.pos.no + (D'.length + 1) := by omega
        rw [e]

def setupTableA (tn : String) (nkeys : Nat) (cols : List Str) (start : Option Int) (keypos : List Int) (ks : List Key) : Table :=
  { mkTable cols ks.toArray nkeys (tn = "connection") with keyPos := keypos, numpos := [start] }

/-- the conditions of the set-up on the lines of a region (header line, first data line, further data lines,
    terminator), for the layout `nkeys cols start keypos` and the keys `ks`: decidable on concrete lines -/
def SetupRegionA (tn : String) (hdr d0 : Str) (D' : List Str) (term : Str)
    (nkeys : Nat) (cols : List Str) (start : Option Int) (keypos : List Int) (ks : List Key) : Prop :=
  headerColsA hdr = .ok (nkeys, cols) ∧
  startOfValues d0 cols = .ok start ∧
  (splitWs (strip (sliceO d0 start none))).length = cols.length ∧
  keyPositions (sliceO d0 none start) nkeys = .ok (some keypos) ∧
  keypos ≠ [] ∧
  (∀ d ∈ d0 :: D', slice d 1 6 ≠ keyword5 tn) ∧ slice term 1 6 = keyword5 tn ∧
  (d0 :: D').map (fun d => keyFromLine d keypos) = ks.map .ok

instance (tn : String) (hdr d0 : Str) (D' : List Str) (term : Str)
    (nkeys : Nat) (cols : List Str) (start : Option Int) (keypos : List Int) (ks : List Key) :
    Decidable (SetupRegionA tn hdr d0 D' term nkeys cols start keypos ks) := by
  unfold SetupRegionA; infer_instance

/-- the lines of the table from its first line: three lines, the column header `hdr`, one line `u`, the data lines
    `d0 :: D'`, the terminator `term`, then `tail` -/
theorem setupTableAUTOUGH2_run (tn : String) (s : Rd) (a1 a2 a3 hdr u d0 : Str) (D' : List Str) (term : Str) (tail : List Str)
    (nkeys : Nat) (cols : List Str) (start : Option Int) (keypos : List Int) (ks : List Key)
    (hrest : s.pos.rest = a1 :: a2 :: a3 :: hdr :: u :: (((d0 :: D') ++ [term]) ++ tail))
    (hreg : SetupRegionA tn hdr d0 D' term nkeys cols start keypos ks) :
    setupTableAUTOUGH2 tn s = .ok ((),
      { s with pos := ⟨s.pos.no + 5 + (d0 :: D').length + 1 + min 1 tail.length, tail.drop 1⟩,
               tables := upsert (·.1) s.tables (tn, setupTableA tn nkeys cols start keypos ks),
               tablenames := s.tablenames ++ [tn] }) := by
  obtain ⟨hh, hst, hnv, hkp, hne, hD, hterm, hks⟩ := hreg
  unfold setupTableAUTOUGH2
  simp only
  rw [bind_ok (skiplines_run 3 s)]
  rw [bind_ok (parseTableHeaderAUTOUGH2_run _ hdr (u :: (((d0 :: D') ++ [term]) ++ tail)) nkeys cols (by simp [hrest]) hh)]
  simp only
  rw [bind_ok (readline_cons _ u _ rfl)]
  rw [bind_ok (readline_cons _ d0 ((D' ++ [term]) ++ tail) (by simp))]
  rw [hst, bind_ok (liftE_ok start _)]
  rw [if_pos hnv.symm]
  rw [hkp, bind_ok (liftE_ok (some keypos) _)]
  cases keypos with
  | nil => exact absurd rfl hne
  | cons k0 kr =>
    simp only
    rw [get_bind]
    have hl := setupLoopA_run (keyword5 tn) (k0 :: kr) (d0 :: D') term tail
    simp only [List.cons_append, List.headD_cons, List.tail_cons] at hl
    rw [bind_ok (hl _ [] ks _ (by simp; omega) hD hterm rfl hks)]
    rw [bind_ok (putTable_run _ _ _), bind_ok (modify_run _ _), bind_ok (readline_any _)]
    rw [pure_run]
    simp only [List.reverse_nil, List.nil_append, setupTableA]
    congr 4
    simp only [hrest, List.length_cons]
    omega

theorem setupTableA_cols (tn : String) (nkeys : Nat) (cols : List Str) (start : Option Int) (keypos : List Int) (ks : List Key) :
    (setupTableA tn nkeys cols start keypos ks).cols = cols := rfl
theorem setupTableA_rows (tn : String) (nkeys : Nat) (cols : List Str) (start : Option Int) (keypos : List Int) (ks : List Key) :
    (setupTableA tn nkeys cols start keypos ks).rows = ks.toArray := rfl
theorem setupTableA_numpos (tn : String) (nkeys : Nat) (cols : List Str) (start : Option Int) (keypos : List Int) (ks : List Key) :
    (setupTableA tn nkeys cols start keypos ks).numpos = [start] := rfl
theorem setupTableA_keyPos (tn : String) (nkeys : Nat) (cols : List Str) (start : Option Int) (keypos : List Int) (ks : List Key) :
    (setupTableA tn nkeys cols start keypos ks).keyPos = keypos := rfl
theorem setupTableA_numKeys (tn : String) (nkeys : Nat) (cols : List Str) (start : Option Int) (keypos : List Int) (ks : List Key) :
    (setupTableA tn nkeys cols start keypos ks).numKeys = nkeys := rfl
theorem setupTableA_data_size (tn : String) (nkeys : Nat) (cols : List Str) (start : Option Int) (keypos : List Int) (ks : List Key) :
    (setupTableA tn nkeys cols start keypos ks).data.size = (setupTableA tn nkeys cols start keypos ks).rows.size := by
  simp [setupTableA, mkTable]
theorem setupTableA_data (tn : String) (nkeys : Nat) (cols : List Str) (start : Option Int) (keypos : List Int) (ks : List Key) :
    (setupTableA tn nkeys cols start keypos ks).data = Array.replicate ks.length (Array.replicate cols.length zero) := by
  simp [setupTableA, mkTable]

theorem SetupRegionA.rows_length {tn : String} {hdr d0 : Str} {D' : List Str} {term : Str}
    {nkeys : Nat} {cols : List Str} {start : Option Int} {keypos : List Int} {ks : List Key}
    (h : SetupRegionA tn hdr d0 D' term nkeys cols start keypos ks) : ks.length = (d0 :: D').length := by
  obtain ⟨_, _, _, _, _, _, _, hkeys⟩ := h
  simpa using (congrArg List.length hkeys).symm

theorem setup_table_AUTOUGH2_whole (tn : String) (s : Rd) (a1 a2 a3 hdr u d0 : Str) (D' : List Str) (term : Str) (tail : List Str)
    (nkeys : Nat) (cols : List Str) (start : Option Int) (keypos : List Int) (ks : List Key)
    (hrest : s.pos.rest = a1 :: a2 :: a3 :: hdr :: u :: (((d0 :: D') ++ [term]) ++ tail))
    (hreg : SetupRegionA tn hdr d0 D' term nkeys cols start keypos ks) :
    ∃ s' t, setupTableAUTOUGH2 tn s = .ok ((), s') ∧
      s'.pos.no = s.pos.no + 5 + (d0 :: D').length + 1 + min 1 tail.length ∧ s'.pos.rest = tail.drop 1 ∧
      s'.tables.lookup tn = some t ∧
      t = setupTableA tn nkeys cols start keypos ks ∧
      t.cols = cols ∧ t.rows = ks.toArray ∧ t.rows.size = (d0 :: D').length ∧ t.numKeys = nkeys ∧
      t.keyPos = keypos ∧ t.numpos = [start] ∧ t.data.size = t.rows.size ∧
      (∀ m, m ≠ tn → s'.tables.lookup m = s.tables.lookup m) ∧
      s'.tablenames = s.tablenames ++ [tn] ∧
      s' = { s with pos := s'.pos, tables := s'.tables, tablenames := s'.tablenames } := by
  refine ⟨_, _, setupTableAUTOUGH2_run tn s a1 a2 a3 hdr u d0 D' term tail nkeys cols start keypos ks hrest hreg,
    rfl, rfl, by rw [lookup_upsert, if_pos rfl], rfl, rfl, rfl, ?_, rfl, rfl, rfl, setupTableA_data_size _ _ _ _ _ _,
    fun m hm => by rw [lookup_upsert, if_neg hm], rfl, rfl⟩
  simpa [setupTableA, mkTable] using hreg.rows_length

/-- the link between set-up and reading: the table recorded by the set-up on a region satisfies the table-dependent
    clauses (the last three) of `RegionAOk` for the data lines of the same region, as soon as every data
    line splits into one value per column behind the recorded start (`hok`, a condition on the printed lines alone) -/
theorem setupTableA_reads (tn : String) (hdr d0 : Str) (D' : List Str) (term : Str)
    (nkeys : Nat) (cols : List Str) (start : Option Int) (keypos : List Int) (ks : List Key)
    (hreg : SetupRegionA tn hdr d0 D' term nkeys cols start keypos ks)
    (hok : ∀ d ∈ d0 :: D', (rowOfLineA cols.length start d).isSome = true) :
    let t := setupTableA tn nkeys cols start keypos ks
    (∀ d ∈ d0 :: D', (rowOfLineA t.cols.length (t.numpos.headD none) d).isSome = true) ∧
    (d0 :: D').length ≤ t.rows.size ∧ t.data.size = t.rows.size := by
  refine ⟨hok, ?_, setupTableA_data_size _ _ _ _ _ _⟩
  have := hreg.rows_length
  simp only [setupTableA, mkTable, List.size_toArray]
  omega

theorem setup_then_read_AUTOUGH2 (tn : String) (s : Rd) (a1 a2 a3 hdr u d0 : Str) (D' : List Str) (term : Str) (tail : List Str)
    (nkeys : Nat) (cols : List Str) (start : Option Int) (keypos : List Int) (ks : List Key)
    (hrest : s.pos.rest = a1 :: a2 :: a3 :: hdr :: u :: (((d0 :: D') ++ [term]) ++ tail))
    (hreg : SetupRegionA tn hdr d0 D' term nkeys cols start keypos ks)
    (hok : ∀ d ∈ d0 :: D', (rowOfLineA cols.length start d).isSome = true) :
    ∃ s' t, setupTableAUTOUGH2 tn s = .ok ((), s') ∧ s'.tables.lookup tn = some t ∧
      (∀ d ∈ d0 :: D', (rowOfLineA t.cols.length (t.numpos.headD none) d).isSome = true) ∧
      (d0 :: D').length ≤ t.rows.size ∧ t.data.size = t.rows.size ∧
      (∀ d ∈ d0 :: D', slice d 1 6 ≠ keyword5 tn) ∧ slice term 1 6 = keyword5 tn := by
  obtain ⟨s', t, hrun, _, _, hl, ht, _⟩ := setup_table_AUTOUGH2_whole tn s a1 a2 a3 hdr u d0 D' term tail nkeys cols start keypos ks hrest hreg
  have h := setupTableA_reads tn hdr d0 D' term nkeys cols start keypos ks hreg hok
  subst ht
  obtain ⟨_, _, _, _, _, hdata, hterm, _⟩ := hreg
  exact ⟨s', _, hrun, hl, h.1, h.2.1, h.2.2, hdata, hterm⟩

-- `SetupRegionA` and `hok` of `setupTableA_reads` on a table of two printed rows
example : SetupRegionA "element" " ELEMENT INDEX P T X\n".toList
    "    AA  1         1      0.29971E+08      0.39992E+03 -0.10000E+01\r\n".toList
    ["    AA  2         2      0.29000E+08      0.10000E+03  0.00000E+00\r\n".toList] " EEEEEEEEEEEEEEE\n".toList
    1 [['P'], ['T'], ['X']] (some 24) [4] [["AA  1".toList], ["AA  2".toList]] := by
  decide_lits

example : ∀ d ∈ ["    AA  1         1      0.29971E+08      0.39992E+03 -0.10000E+01\r\n".toList,
    "    AA  2         2      0.29000E+08      0.10000E+03  0.00000E+00\r\n".toList],
    (rowOfLineA 3 (some 24) d).isSome = true := by
  decide_lits

end Proofs.Whole
