/-
  What an array holds after `modify` / `push` and after a fold of `modify`s, for the heaps of the geometry; membership
  in `setAdd` / `setDiscard`. `geoInv0` taken apart: each Boolean clause as a proposition (`*_iff`); `SameStructure`
  (operations that only move things keep names, lists, dictionaries and cross-references); `setupNames`, the two
  `setup_*` calls in a row.
-/
import PyTough.Model.GeoInv
import PyTough.Proofs.ListLemmas
namespace Proofs.Geo
open Model.Geo Model.Geo.Geo Py

theorem getElem!_modify {α} [Inhabited α] (a : Array α) (i j : Nat) (f : α → α) :
    (a.modify i f)[j]! = if i = j ∧ i < a.size then f a[j]! else a[j]! := by
  by_cases hj : j < a.size
  · by_cases e : i = j
    · subst e; simp [hj, Array.getElem_modify]
    · simp [hj, e, Array.getElem_modify]
  · have : ¬(i = j ∧ i < a.size) := fun h => hj (h.1 ▸ h.2)
    simp [hj, this]

theorem getElem!_modify_modify {α} [Inhabited α] (a : Array α) (i j x : Nat) (f h : α → α) (hi : i < a.size)
    (hj : j < a.size) (hne : i ≠ j) :
    ((a.modify i f).modify j h)[x]! = if x = i then f a[x]! else if x = j then h a[x]! else a[x]! := by
  simp only [getElem!_modify, Array.size_modify, hi, hj, and_true]
  by_cases e0 : x = i
  · subst e0; simp [Ne.symm hne]
  · by_cases e1 : x = j
    · subst e1; simp [e0, hne]
    · simp [e0, e1, Ne.symm e0, Ne.symm e1]

/-- two rounds of changes at the same two places -/
theorem getElem!_modify4 {α} [Inhabited α] (a : Array α) (i j x : Nat) (f h f' h' : α → α) (hi : i < a.size)
    (hj : j < a.size) (hne : i ≠ j) :
    ((((a.modify i f).modify j h).modify i f').modify j h')[x]! =
      if x = i then f' (f a[x]!) else if x = j then h' (h a[x]!) else a[x]! := by
  rw [getElem!_modify_modify _ _ _ _ _ _ (by simp [hi]) (by simp [hj]) hne, getElem!_modify_modify _ _ _ _ _ _ hi hj hne]
  by_cases e0 : x = i
  · simp [e0]
  · by_cases e1 : x = j
    · simp [e1, Ne.symm hne]
    · simp [e0, e1]

theorem getElem!_modify_proj {α β} [Inhabited α] (a : Array α) (i j : Nat) (f : α → α) (π : α → β)
    (hπ : ∀ x, π (f x) = π x) : π (a.modify i f)[j]! = π a[j]! := by
  rw [getElem!_modify]
  split
  · exact hπ _
  · rfl

theorem getElem!_push_lt {α} [Inhabited α] (a : Array α) (x : α) (j : Nat) (h : j < a.size) :
    (a.push x)[j]! = a[j]! := by
  simp [h, Nat.lt_succ_of_lt h, Array.getElem_push]

theorem getElem!_push_eq {α} [Inhabited α] (a : Array α) (x : α) : (a.push x)[a.size]! = x := by
  simp [Array.getElem_push]

theorem foldl_modify_get {α} [Inhabited α] (f : α → α) : ∀ (l : List Nat) (a : Array α), l.Nodup → (∀ i ∈ l, i < a.size) →
    ∀ j, (l.foldl (fun a n => a.modify n f) a)[j]! = if j ∈ l then f a[j]! else a[j]!
  | [], a, _, _, j => by simp
  | n :: t, a, hn, hb, j => by
    have hn' := List.nodup_cons.mp hn
    have ih := foldl_modify_get f t (a.modify n f) hn'.2 (by intro i hi; simpa using hb i (List.mem_cons_of_mem _ hi)) j
    simp only [List.foldl_cons, ih, getElem!_modify, hb n List.mem_cons_self, and_true]
    by_cases hjn : j = n
    · subst hjn; simp [hn'.1]
    · simp [hjn, Ne.symm hjn]

/-- `f` applied at the listed places, perhaps repeatedly at one place (`foldl_modify_get` wants them distinct), for a
    property `P` that `f` changes by an idempotent `φ` -/
theorem foldl_modify_pred {α} [Inhabited α] (f : α → α) (P : α → Prop) (φ : Prop → Prop)
    (hf : ∀ x, P (f x) ↔ φ (P x)) (hφ : ∀ p, φ (φ p) ↔ φ p) : ∀ (l : List Nat) (a : Array α),
    (∀ m ∈ l, m < a.size) → ∀ n, P (l.foldl (fun a m => a.modify m f) a)[n]! ↔ if n ∈ l then φ (P a[n]!) else P a[n]!
  | [], _, _, _ => by simp
  | m :: t, a, hb, n => by
    have hm := hb m List.mem_cons_self
    rw [List.foldl_cons, foldl_modify_pred f P φ hf hφ t (a.modify m f)
      (fun x hx => by rw [Array.size_modify]; exact hb x (List.mem_cons_of_mem _ hx)) n, getElem!_modify]
    simp only [hm, and_true]
    by_cases e : m = n
    · subst e; simp only [if_true, hf, hφ, List.mem_cons_self, ite_self]
    · simp only [e, if_false, List.mem_cons, Ne.symm e, false_or]

theorem foldl_modify_size {α} (f : α → α) (l : List Nat) (a : Array α) :
    (l.foldl (fun a n => a.modify n f) a).size = a.size :=
  List.foldlRecOn l _ (motive := fun b : Array α => b.size = a.size) rfl fun _ hb _ _ => Array.size_modify.trans hb

theorem foldl_modify_proj {α β} [Inhabited α] (f : α → α) (π : α → β) (hπ : ∀ x, π (f x) = π x)
    (l : List Nat) (a : Array α) (j : Nat) : π (l.foldl (fun a n => a.modify n f) a)[j]! = π a[j]! :=
  List.foldlRecOn l _ (motive := fun b => π b[j]! = π a[j]!) rfl fun b hb n _ =>
    (getElem!_modify_proj b n j f π hπ).trans hb

theorem modify_congr {α} [Inhabited α] (a : Array α) (i : Nat) (f f' : α → α)
    (h : i < a.size → f a[i]! = f' a[i]!) : a.modify i f = a.modify i f' := by
  apply Array.ext
  · simp
  · intro j h1 _
    rw [Array.size_modify] at h1
    simp only [Array.getElem_modify]
    split
    · rename_i e; subst e
      simpa only [getElem!_pos, h1] using h h1
    · rfl

theorem modify_id {α} [Inhabited α] (a : Array α) (i : Nat) (f : α → α) (h : i < a.size → f a[i]! = a[i]!) :
    a.modify i f = a := by
  rw [modify_congr a i f id h]
  exact Array.ext (by simp) fun j _ _ => by simp [Array.getElem_modify]

theorem mem_setAdd (s : List Nat) (x y : Nat) : y ∈ setAdd s x ↔ y ∈ s ∨ y = x := by
  unfold setAdd
  split
  · rename_i h
    simp only [List.contains_eq_mem, decide_eq_true_eq] at h
    constructor
    · exact Or.inl
    · rintro (h' | rfl)
      · exact h'
      · exact h
  · simp

theorem setAdd_of_mem (s : List Nat) (x : Nat) (h : x ∈ s) : setAdd s x = s := by
  simp [setAdd, h]

theorem mem_setDiscard (s : List Nat) (x y : Nat) : y ∈ setDiscard s x ↔ y ∈ s ∧ y ≠ x := by
  simp [setDiscard]

theorem updCol_col (g : Geo) (c : Nat) (f : Column → Column) (j : Nat) :
    (g.updCol c f).col j = if c = j ∧ c < g.C.size then f (g.col j) else g.col j :=
  getElem!_modify ..

theorem updCol_con (g : Geo) (c : Nat) (f : Column → Column) (j : Nat) : (g.updCol c f).con j = g.con j := rfl

theorem updCol_Csize (g : Geo) (c : Nat) (f : Column → Column) : (g.updCol c f).C.size = g.C.size := by
  simp [updCol]

theorem col_with (g2 : Geo) (d : Dict (Name × Name)) (l : List Nat) (j : Nat) :
    ({ g2 with connD := d, connlist := l } : Geo).col j = g2.col j := rfl

theorem foldl_updNode (f : Node → Node) (l : List Nat) (g : Geo) :
    l.foldl (fun g n => g.updNode n f) g = { g with N := l.foldl (fun N n => N.modify n f) g.N } :=
  List.foldl_hom (fun N => { g with N := N }) fun _ _ => rfl

theorem foldl_updCol (f : Column → Column) (l : List Nat) (g : Geo) :
    l.foldl (fun g n => g.updCol n f) g = { g with C := l.foldl (fun C n => C.modify n f) g.C } :=
  List.foldl_hom (fun C => { g with C := C }) fun _ _ => rfl

theorem foldl_updLay (f : Layer → Layer) (l : List Nat) (g : Geo) :
    l.foldl (fun g n => g.updLay n f) g = { g with L := l.foldl (fun L n => L.modify n f) g.L } :=
  List.foldl_hom (fun L => { g with L := L }) fun _ _ => rfl

theorem geoInv0_iff (g : Geo) : g.geoInv0 = true ↔
    g.heapOK = true ∧ g.registriesOK = true ∧ g.nodeColsOK = true ∧ g.colConsOK = true ∧ g.nbrsOK = true ∧
      g.conNodesOK = true ∧ g.orientOK = true := by
  simp only [geoInv0, Bool.and_eq_true, and_assoc]

theorem geoInv_iff (g : Geo) : g.geoInv = true ↔ g.geoInv0 = true ∧ g.layersOK = true ∧ g.namesFresh = true := by
  simp only [geoInv, Bool.and_eq_true, and_assoc]

theorem heapOK_iff (g : Geo) : g.heapOK = true ↔
    (∀ n ∈ g.nodelist, n < g.N.size) ∧ (∀ c ∈ g.columnlist, c < g.C.size) ∧ (∀ k ∈ g.connlist, k < g.K.size) ∧
      (∀ l ∈ g.layerlist, l < g.L.size) ∧ ∀ w ∈ g.welllist, w < g.W.size := by
  simp only [heapOK, Bool.and_eq_true, List.all_eq_true, decide_eq_true_eq, and_assoc]

theorem registriesOK_iff (g : Geo) : g.registriesOK = true ↔
    regOK g.nodelist g.nodeD (fun i => (g.node i).name) = true ∧
    regOK g.columnlist g.columnD (fun i => (g.col i).name) = true ∧
    regOK g.layerlist g.layerD (fun i => (g.lay i).name) = true ∧
    regOK g.welllist g.wellD (fun i => (g.well i).name) = true ∧
    regOK g.connlist g.connD g.conKey = true := by
  simp only [registriesOK, Bool.and_eq_true, and_assoc]

theorem nodeColsOK_iff (g : Geo) : g.nodeColsOK = true ↔
    (∀ c ∈ g.columnlist, ∀ n ∈ (g.col c).nodes, n ∈ g.nodelist) ∧
    ∀ n ∈ g.nodelist, (∀ c ∈ (g.node n).cols, c ∈ g.columnlist ∧ n ∈ (g.col c).nodes) ∧
      ∀ c ∈ g.columnlist, n ∈ (g.col c).nodes → c ∈ (g.node n).cols := by
  simp only [nodeColsOK, Bool.and_eq_true, List.all_eq_true, List.contains_eq_mem, decide_eq_true_eq,
    Bool.or_eq_true, Bool.not_eq_true', decide_eq_false_iff_not, ← Decidable.imp_iff_not_or]

theorem colConsOK_iff (g : Geo) : g.colConsOK = true ↔
    (∀ k ∈ g.connlist, (g.con k).c0 ∈ g.columnlist ∧ (g.con k).c1 ∈ g.columnlist) ∧
    ∀ c ∈ g.columnlist,
      (∀ k ∈ (g.col c).cons, k ∈ g.connlist ∧ ((g.con k).c0 = c ∨ (g.con k).c1 = c)) ∧
      ∀ k ∈ g.connlist, ((g.con k).c0 = c ∨ (g.con k).c1 = c) → k ∈ (g.col c).cons := by
  simp only [colConsOK, Bool.and_eq_true, List.all_eq_true, List.contains_eq_mem, decide_eq_true_eq,
    Bool.or_eq_true, Bool.not_eq_true', Bool.or_eq_false_iff, decide_eq_false_iff_not, ← not_or, ← Decidable.imp_iff_not_or]

/-- connection `k` runs between the columns `c` and `d`, in either direction -/
def joins (g : Geo) (k c d : Nat) : Prop :=
  ((g.con k).c0 = c ∧ (g.con k).c1 = d) ∨ ((g.con k).c0 = d ∧ (g.con k).c1 = c)

theorem joined_iff (g : Geo) (c d : Nat) : g.joined c d = true ↔ ∃ k ∈ g.connlist, joins g k c d := by
  simp only [joined, joins, List.any_eq_true, Bool.or_eq_true, Bool.and_eq_true, decide_eq_true_eq]

theorem nbrsOK_iff (g : Geo) : g.nbrsOK = true ↔
    ∀ c ∈ g.columnlist, (∀ d ∈ (g.col c).nbrs, g.joined c d = true) ∧
      ∀ d ∈ g.columnlist, g.joined c d = true → d ∈ (g.col c).nbrs := by
  simp only [nbrsOK, Bool.and_eq_true, List.all_eq_true, List.contains_eq_mem, decide_eq_true_eq,
    Bool.or_eq_true, Bool.not_eq_true', ← Bool.not_eq_true, ← Decidable.imp_iff_not_or]

theorem conNodesOK_iff (g : Geo) : g.conNodesOK = true ↔
    ∀ k ∈ g.connlist, ∃ a b, (g.con k).nodes = some (a, b) ∧ a ≠ b ∧
      isSide (g.col (g.con k).c0).nodes a b = true ∧ isSide (g.col (g.con k).c1).nodes a b = true := by
  simp only [conNodesOK, List.all_eq_true]
  refine forall₂_congr fun k _ => ?_
  cases (g.con k).nodes with
  | none => simp
  | some p =>
    obtain ⟨a, b⟩ := p
    simp [and_assoc]

/-- every column is counter-clockwise with positive area -/
def Oriented (g : Geo) : Prop := ∀ c ∈ g.columnlist, 0 < shoelace2 (g.polygon (g.col c).nodes) ∧ 0 < (g.col c).area

theorem orientOK_iff (g : Geo) : g.orientOK = true ↔ Oriented g := by
  simp only [orientOK, Oriented, List.all_eq_true, Bool.and_eq_true, decide_eq_true_eq]

theorem layersOK_iff (g : Geo) : g.layersOK = true ↔
    ∀ c ∈ g.columnlist, (g.col c).numLayers = g.expectedNumLayers c := by
  simp only [layersOK, List.all_eq_true, decide_eq_true_eq]

theorem namesFresh_iff (g : Geo) : g.namesFresh = true ↔
    g.computeBlockNames = .ok g.blockNames ∧ g.computeConnNames = .ok g.connNames := by
  simp only [namesFresh, blocksFresh, connsFresh, Bool.and_eq_true, beq_iff_eq]

variable {g g' : Geo}

theorem layersOK_congr (hc : g'.columnlist = g.columnlist) (hl : g'.layerlist = g.layerlist)
    (hsurf : ∀ j, (g'.col j).surface = (g.col j).surface) (hnl : ∀ j, (g'.col j).numLayers = (g.col j).numLayers)
    (hbot : ∀ l, (g'.lay l).bottom = (g.lay l).bottom) : g'.layersOK = g.layersOK := by
  have he : ∀ j, g'.expectedNumLayers j = g.expectedNumLayers j := fun j => by
    simp only [Geo.expectedNumLayers, hl, hsurf, hbot]
  simp only [Geo.layersOK, hc, hnl, he]

/-- `g'` has the same objects, lists, dictionaries, names and cross-references as `g`
    (positions, centres, surfaces, areas, layer counts and elevations may differ) -/
structure SameStructure (g g' : Geo) : Prop where
  convention : g'.convention = g.convention
  atmosType : g'.atmosType = g.atmosType
  nodelist : g'.nodelist = g.nodelist
  nodeD : g'.nodeD = g.nodeD
  columnlist : g'.columnlist = g.columnlist
  columnD : g'.columnD = g.columnD
  connlist : g'.connlist = g.connlist
  connD : g'.connD = g.connD
  layerlist : g'.layerlist = g.layerlist
  layerD : g'.layerD = g.layerD
  welllist : g'.welllist = g.welllist
  wellD : g'.wellD = g.wellD
  K : g'.K = g.K
  Nsize : g'.N.size = g.N.size
  Csize : g'.C.size = g.C.size
  Lsize : g'.L.size = g.L.size
  Wsize : g'.W.size = g.W.size
  nodeName : ∀ i, (g'.node i).name = (g.node i).name
  nodeCols : ∀ i, (g'.node i).cols = (g.node i).cols
  colName : ∀ i, (g'.col i).name = (g.col i).name
  colNodes : ∀ i, (g'.col i).nodes = (g.col i).nodes
  colCons : ∀ i, (g'.col i).cons = (g.col i).cons
  colNbrs : ∀ i, (g'.col i).nbrs = (g.col i).nbrs
  layName : ∀ i, (g'.lay i).name = (g.lay i).name
  wellName : ∀ i, (g'.well i).name = (g.well i).name

theorem SameStructure.con (h : SameStructure g g') (k : Nat) : g'.con k = g.con k := by
  simp only [Geo.con, h.K]

theorem SameStructure.conKey (h : SameStructure g g') (k : Nat) : g'.conKey k = g.conKey k := by
  simp only [Geo.conKey, h.con, h.colName]

theorem SameStructure.joined (h : SameStructure g g') (c d : Nat) : g'.joined c d = g.joined c d := by
  simp only [Geo.joined, h.connlist, h.con]

theorem SameStructure.meshValid (h : SameStructure g g') : g'.meshValid = g.meshValid := by
  simp only [Geo.meshValid, Geo.noMissing, Geo.noExtra, Geo.noOrphans, Geo.shareSide, h.columnlist, h.connlist,
    h.nodelist, h.colNodes, h.con, h.joined]

theorem bind_ok {α β} {x : Except Exc α} {f : α → Except Exc β} {b : β}
    (h : (x >>= f) = .ok b) : ∃ a, x = .ok a ∧ f a = .ok b :=
  bind_ok_iff.mp h

theorem setupNames_spec (h : g.setupNames = .ok g') :
    ∃ b c, g.computeBlockNames = .ok b ∧ ({ g with blockNames := b } : Geo).computeConnNames = .ok c ∧
      g' = { g with blockNames := b, connNames := c } := by
  unfold setupNames at h
  obtain ⟨g1, h1, h2⟩ := bind_ok h
  unfold setupBlockNames at h1
  obtain ⟨b, hb, h1'⟩ := bind_ok h1
  cases h1'
  unfold setupConnNames at h2
  obtain ⟨c, hc, h2'⟩ := bind_ok h2
  cases h2'
  exact ⟨b, c, hb, hc, rfl⟩

theorem setupNames_fresh (h : g.setupNames = .ok g') : g'.namesFresh = true := by
  obtain ⟨b, c, hb, hc, rfl⟩ := setupNames_spec h
  rw [namesFresh_iff]
  -- by unfolding: `computeBlockNames` reads neither name list, `computeConnNames` reads `blockNames` and not `connNames`
  exact ⟨hb, hc⟩

theorem setupNames_last_fresh {α} {x : Except Exc α} {k : α → Geo} {g' : Geo}
    (h : (x >>= fun a => (k a).setupNames) = .ok g') : g'.namesFresh = true := by
  obtain ⟨a, -, h2⟩ := bind_ok h
  exact setupNames_fresh h2

theorem setupNames_geoInv0 (hs : g.setupNames = .ok g') (h : g.geoInv0 = true) : g'.geoInv0 = true := by
  obtain ⟨b, c, -, -, rfl⟩ := setupNames_spec hs
  exact h

theorem setupNames_geoInv (hs : g.setupNames = .ok g') (h0 : g.geoInv0 = true)
    (hl : g.layersOK = true) : g'.geoInv = true := by
  refine (geoInv_iff g').mpr ⟨setupNames_geoInv0 hs h0, ?_, setupNames_fresh hs⟩
  obtain ⟨b, c, -, -, rfl⟩ := setupNames_spec hs
  exact hl

end Proofs.Geo
