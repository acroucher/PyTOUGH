/-
  C01 proofs: SHORT (short-output selections, resolved against the grid and the generators while reading).
-/
import PyTough.Proofs.T2DataNames
namespace Proofs.T2
open Py Model Model.T2 Proofs Proofs.Incon
open Gen.Sections (Rec)

/-- the lists of one SHORT section, in the order they are written -/
inductive ShortGrp where
  | blk (ns : List Str)
  | con (ps : List (Str × Str))
  | gen (ps : List (Str × Str))

def ShortGrp.lines : ShortGrp → List Str
  | .blk ns => nl c!"ELEME" :: ns.map (fun n => nl (unfixBlockname n))
  | .con ps => nl c!"CONNE" :: ps.map (fun n => nl (unfixBlockname n.1 ++ unfixBlockname n.2))
  | .gen ps => nl c!"GENER" :: ps.map (fun n => nl (unfixBlockname n.1 ++ unfixBlockname n.2))

def ShortGrp.apply (s : Short) : ShortGrp → Short
  | .blk ns => { s with block := some (ns.map cycleName) }
  | .con ps => { s with connection := some (ps.map fun p => (cycleName p.1, cycleName p.2)) }
  | .gen ps => { s with generator := some (ps.map fun p => (cycleName p.1, cycleName p.2)) }

/-- a written name that cannot be taken for one of SHORT's sub-keywords -/
def NotSubKw (n : Str) : Prop := shortKeywords.contains (unfixBlockname n) = false

/-- a list the SHORT writer and reader agree on: visible names of blocks / connections / generators that the
    object (already read: in-file mesh, GENER before SHORT) holds -/
def ShortGrp.Good (blocks : List Block) (conns : List Conn) (gens : List Gener) : ShortGrp → Prop
  | .blk ns => ∀ n ∈ ns, Visible n ∧ NotSubKw n ∧ blocks.any (·.name == cycleName n) = true
  | .con ps => ∀ p ∈ ps, Visible p.1 ∧ p.2.length = 5 ∧ NotSubKw p.1 ∧
      conns.any (fun c => c.b1 == cycleName p.1 && c.b2 == cycleName p.2) = true
  | .gen ps => ∀ p ∈ ps, Visible p.1 ∧ p.2.length = 5 ∧ NotSubKw p.1 ∧
      gens.any (fun g => g.block == cycleName p.1 && g.name == cycleName p.2) = true

theorem shortItems_read {α β : Type} (item : Str → Except Exc (Option β)) (enc : α → Str) (canon : α → β)
    (as : List α) (h : ∀ a ∈ as, isBlank (enc a) = false ∧ shortKeywords.contains (slice (enc a) 0 5) = false ∧
      item (enc a) = .ok (some (canon a)))
    (t : Str) (ht : isBlank t = true ∨ shortKeywords.contains (slice t 0 5) = true) (rest : List Str) :
    readShortItems item (as.map enc ++ t :: rest) = .ok (as.map canon, t, rest) := by
  induction as with
  | nil =>
    simp only [List.map_nil, List.nil_append, readShortItems]
    rcases ht with hb | hk
    · simp only [hb, ↓reduceIte]
    · cases hb : isBlank t
      · simp only [Bool.false_eq_true, ↓reduceIte, hk]
      · simp only [↓reduceIte]
  | cons a as ih =>
    obtain ⟨h1, h2, h3⟩ := h a (by simp)
    simp only [List.map_cons, List.cons_append, readShortItems, h1, h2, h3, Bool.false_eq_true, ↓reduceIte,
      ih (fun b hb => h b (List.mem_cons_of_mem _ hb))]

theorem pairItems_read (item : Str → Except Exc (Option (Str × Str))) (found : Str → Str → Bool)
    (hitem : ∀ l, item l = (do
      let n1 ← fixBlockname (slice l 0 5)
      let n2 ← fixBlockname (slice l 5 10)
      pure (if found n1 n2 then some (n1, n2) else none)))
    (ps : List (Str × Str))
    (hg : ∀ p ∈ ps, Visible p.1 ∧ p.2.length = 5 ∧ NotSubKw p.1 ∧ found (cycleName p.1) (cycleName p.2) = true)
    (t : Str) (ht : isBlank t = true ∨ shortKeywords.contains (slice t 0 5) = true) (r : List Str) :
    readShortItems item (ps.map (fun n => nl (unfixBlockname n.1 ++ unfixBlockname n.2)) ++ t :: r) =
      .ok (ps.map (fun p => (cycleName p.1, cycleName p.2)), t, r) := by
  refine shortItems_read item _ _ ps (fun p hp => ?_) t ht r
  obtain ⟨hv, h2, hk, hin⟩ := hg p hp
  have hsl : slice (nl (unfixBlockname p.1 ++ unfixBlockname p.2)) 0 5 = unfixBlockname p.1 := by
    unfold nl; rw [List.append_assoc]; exact slice5_name hv.1 _
  refine ⟨by unfold nl; rw [List.append_assoc]; exact visible_line hv _, by rw [hsl]; exact hk, ?_⟩
  have e2 : fixBlockname (slice (nl (unfixBlockname p.1 ++ unfixBlockname p.2)) 5 10) = .ok (cycleName p.2) :=
    name_line2 hv.1 h2 ['\n']
  simp only [hitem, hsl, (cycle_ok hv.1).1, e2, bind, Except.bind, pure, Except.pure, hin, ↓reduceIte]

theorem grp_head_kw (g : ShortGrp) : ∃ kw tl, g.lines = nl kw :: tl ∧ shortKeywords.contains kw = true ∧ kw.length = 5 := by
  cases g <;> exact ⟨_, _, rfl, by decide, rfl⟩

theorem next_is_stop (gs : List ShortGrp) (rest : List Str) :
    ∃ t r, (gs.map ShortGrp.lines).flatten ++ nl [] :: rest = t :: r ∧
      (isBlank t = true ∨ shortKeywords.contains (slice t 0 5) = true) := by
  cases gs with
  | nil => exact ⟨nl [], rest, rfl, Or.inl isBlank_nl_nil⟩
  | cons g gs =>
    obtain ⟨kw, tl, hl, hk, h5⟩ := grp_head_kw g
    refine ⟨nl kw, tl ++ ((gs.map ShortGrp.lines).flatten ++ nl [] :: rest), by simp [hl], Or.inr ?_⟩
    rw [slice_kw kw h5]; exact hk

theorem shortLoop_groups (blocks : List Block) (conns : List Conn) (gens : List Gener) :
    ∀ (gs : List ShortGrp), (∀ g ∈ gs, g.Good blocks conns gens) → ∀ (fuel : Nat), gs.length < fuel →
      ∀ (s : Short) (rest : List Str) (t : Str) (r : List Str),
        (gs.map ShortGrp.lines).flatten ++ nl [] :: rest = t :: r →
        shortLoop blocks conns gens fuel s t r = .ok (gs.foldl ShortGrp.apply s, rest) := by
  intro gs
  induction gs with
  | nil =>
    intro _ fuel hf s rest t r h
    simp only [List.map_nil, List.flatten_nil, List.nil_append, List.cons.injEq] at h
    obtain ⟨rfl, rfl⟩ := h
    cases fuel with
    | zero => simp at hf
    | succ fuel => simp [shortLoop, isBlank_nl_nil]
  | cons g gs ih =>
    intro hg fuel hf s rest t r h
    cases fuel with
    | zero => simp at hf
    | succ fuel =>
      obtain ⟨t', r', hnext, hstop⟩ := next_is_stop gs rest
      have hih := ih (fun x hx => hg x (List.mem_cons_of_mem _ hx)) fuel (by simpa using hf)
      have hgg := hg g (by simp)
      cases g with
      | blk ns =>
        simp only [List.map_cons, List.flatten_cons, ShortGrp.lines, List.cons_append, List.append_assoc, List.cons.injEq] at h
        obtain ⟨rfl, rfl⟩ := h
        rw [hnext]
        have hitems := shortItems_read (shortBlockItem blocks) (fun n => nl (unfixBlockname n)) cycleName ns (by
          intro n hn
          obtain ⟨hv, hk, hin⟩ := hgg n hn
          have hsl : slice (nl (unfixBlockname n)) 0 5 = unfixBlockname n := slice5_name hv.1 _
          refine ⟨visible_line hv _, by rw [hsl]; exact hk, ?_⟩
          unfold shortBlockItem
          simp only [hsl, (cycle_ok hv.1).1, bind, Except.bind, pure, Except.pure, hin, ↓reduceIte]) t' hstop r'
        simp +decide only [shortLoop, ↓reduceIte, hitems, List.foldl_cons, ShortGrp.apply]
        exact hih _ rest t' r' hnext
      | con ps =>
        simp only [List.map_cons, List.flatten_cons, ShortGrp.lines, List.cons_append, List.append_assoc, List.cons.injEq] at h
        obtain ⟨rfl, rfl⟩ := h
        rw [hnext]
        have hitems := pairItems_read (shortConnItem conns) (fun n1 n2 => conns.any (fun c => c.b1 == n1 && c.b2 == n2))
          (fun _ => rfl) ps hgg t' hstop r'
        simp +decide only [shortLoop, ↓reduceIte, hitems, List.foldl_cons, ShortGrp.apply]
        exact hih _ rest t' r' hnext
      | gen ps =>
        simp only [List.map_cons, List.flatten_cons, ShortGrp.lines, List.cons_append, List.append_assoc, List.cons.injEq] at h
        obtain ⟨rfl, rfl⟩ := h
        rw [hnext]
        have hitems := pairItems_read (shortGenItem gens) (fun n1 n2 => gens.any (fun g => g.block == n1 && g.name == n2))
          (fun _ => rfl) ps hgg t' hstop r'
        simp +decide only [shortLoop, ↓reduceIte, hitems, List.foldl_cons, ShortGrp.apply]
        exact hih _ rest t' r' hnext

def f2d : FieldSpec := { raw := ['2'], width := 2, left := false, prec := none, typ := 'd' }

def gsOf (s : Short) : List ShortGrp :=
  (match s.block with | some ns => [ShortGrp.blk ns] | none => []) ++
  (match s.connection with | some ps => [ShortGrp.con ps] | none => []) ++
  (match s.generator with | some ps => [ShortGrp.gen ps] | none => [])

/-- the text written after `SHORT` on the header line -/
abbrev freqText (s : Short) : Except Exc Str := shortFreqText s

/-- the frequency the reader gets from columns 6-7 of the header line -/
def canonFreq (s : Short) : Val :=
  match freqText s with
  | .ok t => if t.isEmpty then .none else (match readField .default 'd' t with | .ok p => p.toVal | .error _ => .none)
  | .error _ => .none

structure ShortShape (T : Tabs) : Prop where
  kind : RecShape T c!"short" 2
  x : (fieldAt T c!"short" 0).typ = 'x'
  wx : (fieldAt T c!"short" 0).width = 5
  d : (fieldAt T c!"short" 1).typ = 'd'
  wd : (fieldAt T c!"short" 1).width = 2

instance (T : Tabs) : Decidable (ShortShape T) :=
  decidable_of_iff (_ ∧ _ ∧ _ ∧ _ ∧ _) ⟨fun ⟨h1, h2, h3, h4, h5⟩ => ⟨h1, h2, h3, h4, h5⟩, fun h => ⟨h.kind, h.x, h.wx, h.d, h.wd⟩⟩

theorem short_header_read {T : Tabs} (hs : ShortShape T) (line : Str) :
    readValues .default (recOf T c!"short") line =
      (readField .default 'd' ((line.drop 5).take 2)).map fun p => [Val.none, p.toVal] := by
  unfold readValues
  rw [hs.kind.fs_eq]
  simp only [fieldsFrom, Nat.reduceAdd, parseString_cons, parseString_nil, hs.wx, hs.wd, hs.x, hs.d]
  cases readField .default 'd' ((line.drop 5).take 2) <;> rfl

/-- a SHORT section the writer and reader agree on: a frequency that is absent / zero or prints in two columns,
    and lists of names the object holds -/
structure GoodShort (blocks : List Block) (conns : List Conn) (gens : List Gener) (s : Short) : Prop where
  nonempty : s.isEmpty = false
  freq : ∃ t, freqText s = .ok t ∧ (t = [] ∨ t.length = 2)
  lists : ∀ g ∈ gsOf s, g.Good blocks conns gens

theorem writeShort_eq (s : Short) (hne : s.isEmpty = false) (t : Str) (ht : freqText s = .ok t) :
    writeShort s = .ok (nl (c!"SHORT" ++ t) :: ((gsOf s).map ShortGrp.lines).flatten ++ [nl []]) := by
  unfold writeShort
  rw [hne]
  simp only [Bool.false_eq_true, ↓reduceIte, bind, Except.bind, pure, Except.pure, ht, gsOf]
  cases s.block <;> cases s.connection <;> cases s.generator <;>
    simp only [ShortGrp.lines, List.map_cons, List.map_nil, List.flatten_cons, List.flatten_nil, List.append_nil, List.nil_append,
      List.cons_append, List.append_assoc]

theorem short_header_vals {T : Tabs} (hs : ShortShape T) (s : Short) {t : Str} (ht : freqText s = .ok t)
    (htl : t = [] ∨ t.length = 2) :
    readValues .default (recOf T c!"short") (nl (c!"SHORT" ++ t)) = .ok [.none, canonFreq s] := by
  rw [short_header_read hs]
  unfold canonFreq
  rw [ht]
  rcases htl with rfl | h2
  · rfl
  · obtain ⟨a, b, rfl⟩ := length_eq_two h2
    obtain ⟨p, hp⟩ := readField_total .default (typ := 'd') (Or.inr (Or.inl rfl)) [a, b]
    show (readField .default 'd' [a, b]).map _ = _
    simp only [hp, Except.map, List.isEmpty_cons, Bool.false_eq_true, ↓reduceIte]

/-- the lists after a header line in whose columns 6-7 the reader finds the frequency (the line as written, or
    padded when PARAM read it ahead) -/
theorem short_lists_read {T : Tabs} (hs : ShortShape T)
    (blocks : List Block) (conns : List Conn) (gens : List Gener) (s s0 : Short) (hg : GoodShort blocks conns gens s)
    {header : Str} (hhead : readValues .default (recOf T c!"short") header = .ok [.none, canonFreq s]) (rest : List Str) :
    readShort .default T blocks conns gens s0 header (((gsOf s).map ShortGrp.lines).flatten ++ [nl []] ++ rest) =
      .ok ((gsOf s).foldl ShortGrp.apply { s0 with frequency := some (canonFreq s) }, rest) := by
  obtain ⟨t', r', hnext, _⟩ := next_is_stop (gsOf s) rest
  unfold readShort
  have hbody : ((gsOf s).map ShortGrp.lines).flatten ++ [nl []] ++ rest = t' :: r' := by
    rw [List.append_assoc]; exact hnext
  rw [hbody]
  simp only [hs.kind.get, bind, Except.bind, hhead, List.length_cons, List.length_nil, readline,
    show (0 + 1 + 1 > 1) = True by decide, ↓reduceIte, List.getD_cons_succ, List.getD_cons_zero]
  have hlen : (gsOf s).length < (t' :: r').length + 2 := by
    have h1 : ((gsOf s).map ShortGrp.lines).length ≤ ((gsOf s).map ShortGrp.lines).flatten.length :=
      flatten_length_ge _ (by
        intro ls hls
        obtain ⟨g, _, rfl⟩ := List.mem_map.mp hls
        cases g <;> simp [ShortGrp.lines])
    have h2 := congrArg List.length hnext
    simp only [List.length_append, List.length_cons, List.length_map] at h1 h2 ⊢
    omega
  exact shortLoop_groups blocks conns gens (gsOf s) hg.lists _ hlen _ rest t' r' hnext

/-- SHORT (with the mesh and the generators already read): the header line with its
    frequency and the lists of blocks, connections and generators read back list by list, every name resolved
    against the grid, and the closing blank line is consumed -/
theorem section_roundtrip_SHORT {T : Tabs} (hs : ShortShape T)
    (blocks : List Block) (conns : List Conn) (gens : List Gener) (s s0 : Short) (hg : GoodShort blocks conns gens s)
    (rest : List Str) :
    ∃ header body, writeShort s = .ok (header :: body) ∧
      readShort .default T blocks conns gens s0 header (body ++ rest) =
        .ok ((gsOf s).foldl ShortGrp.apply { s0 with frequency := some (canonFreq s) }, rest) :=
  let ⟨t, ht, htl⟩ := hg.freq
  ⟨_, _, writeShort_eq s hg.nonempty t ht, short_lists_read hs blocks conns gens s s0 hg (short_header_vals hs s ht htl) rest⟩

end Proofs.T2
