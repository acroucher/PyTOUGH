/-
  C01: the section kinds of the keyword-loop composition.  What reading a section does to the reader's object
  (`stepCanon`) and under which side conditions (`GoodStep`), kind by kind, and the plain kinds — keyword line,
  body, a reader that consumes exactly the body — put into the uniform shape `StepRT`.
-/
import PyTough.Proofs.T2WholeChain
import PyTough.Proofs.T2DataTables
namespace Proofs.T2
open Py Model Model.T2 Proofs Proofs.Incon
open Gen.Sections (Rec)

def canonBlocks (bs : List Block) : List Block :=
  (bs.map (canonBlock (fieldAt mainTabs c!"blocks" 1) (fieldAt mainTabs c!"blocks" 2) (fieldAt mainTabs c!"blocks" 4)
    (fieldAt mainTabs c!"blocks" 5) (fieldAt mainTabs c!"blocks" 6) (fieldAt mainTabs c!"blocks" 7) (fieldAt mainTabs c!"blocks" 8)
    (fieldAt mainTabs c!"blocks" 9))).foldl addBlock []

def canonConns (cs : List Conn) : List Conn :=
  (cs.map (canonConn (fieldAt mainTabs c!"connections" 2) (fieldAt mainTabs c!"connections" 3) (fieldAt mainTabs c!"connections" 4)
    (fieldAt mainTabs c!"connections" 5) (fieldAt mainTabs c!"connections" 6) (fieldAt mainTabs c!"connections" 7)
    (fieldAt mainTabs c!"connections" 8) (fieldAt mainTabs c!"connections" 9) (fieldAt mainTabs c!"connections" 10))).foldl addConn []

abbrev pr1 (d : T2Data) : Rec := recOf mainTabs (if d.autough2 then c!"param1_autough2" else c!"param1")
abbrev pr2 : Rec := recOf mainTabs c!"param2"
abbrev pr3 : Rec := recOf mainTabs c!"param3"
abbrev fts : FieldSpec := fieldAt mainTabs c!"timestep" 0
abbrev fdi : FieldSpec := fieldAt mainTabs c!"default_incons" 0

def canonParam (d d0 : T2Data) : T2Data :=
  { d0 with parameter := paramAfter3 (pr1 d) pr2 pr3 d d0, option := d.option,
            timestep := canonTimesteps (pr1 d) pr2 fts d d0,
            defaultIncons := d.defaultIncons.map (canonV fdi) }

/-- no continuation line of the default initial conditions is blank or begins like a keyword -/
def ParamCont (d : T2Data) : Prop :=
  ∀ dil, (if d.defaultIncons.length > 0 then
            writeChunks (recOf mainTabs c!"default_incons") 4 d.defaultIncons d.defaultIncons.length
              ((d.defaultIncons.length + 3) / 4)
          else .ok [nl []]) = .ok dil →
    ∀ l ∈ dil.drop 1, isBlank (padstring l) = false ∧ paramStops.any (startsWith (padstring l)) = false

def canonRocks (rs : List Rock) : List Rock :=
  (rs.map (canonRock (recOf mainTabs c!"rocks1.1") (fieldAt mainTabs c!"rocks1" 2) (fieldAt mainTabs c!"rocks1" 3)
    (fieldAt mainTabs c!"rocks1" 4) (fieldAt mainTabs c!"rocks1" 5) (fieldAt mainTabs c!"rocks1" 6) (fieldAt mainTabs c!"rocks1" 7)
    (fieldAt mainTabs c!"rocks1" 8) (fieldAt mainTabs c!"rocks1.2" 0) (fieldAt mainTabs c!"rocks1.2" 2))).foldl addRock []

def canonGeners (gs : List Gener) : List Gener :=
  gs.map (canonGener (fun i => fieldAt mainTabs c!"generator" i) (fieldAt mainTabs c!"generation_times" 0)
    (fieldAt mainTabs c!"generation_rates" 0) (fieldAt mainTabs c!"generation_enthalpy" 0))

def canonDict (rec : Str) (d d0 : Dict) : Dict :=
  absorb (recOf mainTabs rec).names (canonVals (recOf mainTabs rec) (lineVals (recOf mainTabs rec) d)) d0

def canonTimes (o o0 : OutputTimes) (ts : List Val) : OutputTimes :=
  { d := absorb (recOf mainTabs c!"output_times1").names
           (canonVals (recOf mainTabs c!"output_times1") (lineVals (recOf mainTabs c!"output_times1") o.d)) o0.d,
    time := some (ts.map (canonV (fieldAt mainTabs c!"output_times2" 0))) }

def canonSelection (s : Selection) : Selection :=
  { integer := s.integer.map (canonV (fieldAt mainTabs c!"selec1" 0)) ++ List.replicate (16 - s.integer.length) Val.none,
    float := s.float.map (canonV (fieldAt mainTabs c!"selec2" 0)) ++
               List.replicate (((s.float.length + 8 - 1) / 8) * 8 - s.float.length) Val.none }

/-- the initial conditions `write_incons` writes: those of the object's blocks, in block order -/
def writtenIncons (d : T2Data) : List Incon := d.blocks.filterMap fun b => d.incon.find? (·.name == b.name)

def canonIncons (es d0 : List Incon) : List Incon :=
  (es.map (canonIncon (recOf mainTabs c!"incon2") (fieldAt mainTabs c!"incon1" 1) (fieldAt mainTabs c!"incon1" 2)
    (fieldAt mainTabs c!"incon1" 3))).foldl setIncon d0

def canonIndom (d d0 : Indom) : Indom :=
  (d.map (fun e => (e.1, e.2.map (canonV (fieldAt mainTabs c!"indom2" 0))))).foldl setIndom d0

abbrev multiName (d : T2Data) : Str := if d.autough2 then c!"multi_autough2" else c!"multi"

def canonDiffusion (rows rows0 : List (List Val)) : List (List Val) :=
  rows0 ++ rows.map (·.map (canonV (fieldAt mainTabs c!"diffusion" 0)))

/-- history items read back: bare names before the grid is read, the grid's blocks of those names after -/
def canonHistory (items : List HItem) (blocks : List Block) : List HItem :=
  if blocks.isEmpty then items.map (fun i => { isObj := false, name := cycleName i.name })
  else ((items.map (fun i => cycleName i.name)).filter fun n => blocks.any (·.name == n)).map
         (fun n => { isObj := true, name := n })

def canonMeshMaker (mm : List MeshMaker) : List MeshMaker :=
  mm.map (canonMesh (recOf mainTabs c!"equid") (recOf mainTabs c!"logar") (fieldAt mainTabs c!"radii2" 0)
    (fieldAt mainTabs c!"layer2" 0) (fieldAt mainTabs c!"xyz1" 0) (fieldAt mainTabs c!"xyz2" 3) (fieldAt mainTabs c!"xyz3" 0)
    (fieldAt mainTabs c!"part1" 0) (fieldAt mainTabs c!"part1" 3) (fieldAt mainTabs c!"part2" 0))

abbrev GoodMeshEntry (m : MeshMaker) : Prop :=
  GoodMesh (recOf mainTabs c!"equid") (recOf mainTabs c!"logar") (fieldAt mainTabs c!"radii2" 0) (fieldAt mainTabs c!"xyz2" 0)
    (fieldAt mainTabs c!"xyz2" 2) (fieldAt mainTabs c!"xyz2" 3) (fieldAt mainTabs c!"part1" 1) (fieldAt mainTabs c!"part1" 2) m

/-- the simulator string the reader gets from the line after SIMUL -/
def canonSimulator (d : T2Data) : Str := rstripNewline (slice (nl (strip d.simulator)) 0 80)

/-- the section kinds composed: all 23 (COFT only while the reader holds no grid: `GoodStep`) -/
def wholeKinds : List Str :=
  [c!"ROCKS", c!"PARAM", c!"MOMOP", c!"START", c!"NOVER", c!"ELEME", c!"CONNE", c!"GENER", c!"LINEQ", c!"SOLVR",
   c!"RPCAP", c!"TIMES", c!"SELEC", c!"INCON", c!"INDOM",
   c!"MULTI", c!"DIFFU", c!"FOFT", c!"GOFT", c!"COFT", c!"MESHM", c!"SHORT", c!"SIMUL"]

/-- what reading the section `kw` written for `d` does to the reader's object `d0` -/
def stepCanon (d : T2Data) (kw : Str) (d0 : T2Data) : T2Data :=
  if kw = c!"ROCKS" then { d0 with rocks := canonRocks d.rocks }
  else if kw = c!"PARAM" then canonParam d d0
  else if kw = c!"MOMOP" then { d0 with moreOption := d.moreOption }
  else if kw = c!"START" then { d0 with start := true }
  else if kw = c!"NOVER" then { d0 with noversion := true }
  else if kw = c!"ELEME" then { d0 with blocks := canonBlocks d.blocks }
  else if kw = c!"CONNE" then { d0 with conns := canonConns d.conns }
  else if kw = c!"GENER" then { d0 with gens := canonGeners d.gens }
  else if kw = c!"LINEQ" then { d0 with lineq := canonDict c!"lineq" d.lineq d0.lineq }
  else if kw = c!"SOLVR" then { d0 with solver := canonDict c!"solver" d.solver d0.solver }
  else if kw = c!"RPCAP" then
    { d0 with rpcap := ⟨d.rpcap.rp.map (canonRP (fieldAt mainTabs c!"relative_permeability" 0) (fieldAt mainTabs c!"relative_permeability" 2)),
                        d.rpcap.cp.map (canonRP (fieldAt mainTabs c!"capillarity" 0) (fieldAt mainTabs c!"capillarity" 2))⟩ }
  else if kw = c!"TIMES" then { d0 with outputTimes := canonTimes d.outputTimes d0.outputTimes (d.outputTimes.time.getD []) }
  else if kw = c!"SELEC" then { d0 with selection := d.selection.map canonSelection }
  else if kw = c!"INCON" then { d0 with incon := canonIncons (writtenIncons d) d0.incon }
  else if kw = c!"INDOM" then { d0 with indom := canonIndom d.indom d0.indom }
  else if kw = c!"MULTI" then
    { d0 with multi := match stripEos (canonDict (multiName d) d.multi d0.multi) with | .ok m => m | .error _ => d0.multi }
  else if kw = c!"DIFFU" then { d0 with diffusion := canonDiffusion d.diffusion d0.diffusion }
  else if kw = c!"FOFT" then { d0 with historyBlock := canonHistory d.historyBlock d0.blocks }
  else if kw = c!"GOFT" then { d0 with historyGen := canonHistory d.historyGen d0.blocks }
  else if kw = c!"COFT" then
    { d0 with historyConn := d.historyConn.map (fun i => { isObj := false, n1 := cycleName i.n1, n2 := cycleName i.n2 }) }
  else if kw = c!"MESHM" then { d0 with meshmaker := d0.meshmaker ++ canonMeshMaker d.meshmaker }
  else if kw = c!"SHORT" then
    { d0 with short := (gsOf d.short).foldl ShortGrp.apply { d0.short with frequency := some (canonFreq d.short) } }
  else if kw = c!"SIMUL" then { d0 with simulator := canonSimulator d }
  else d0

/-- the side conditions of the section `kw` of `d` (those of its `section_roundtrip_…` theorem), on the reader's
    object `d0` at the moment the section is met -/
def GoodStep (d : T2Data) (kw : Str) (d0 : T2Data) : Prop :=
  if kw = c!"ROCKS" then (∀ rt ∈ d.rocks, GoodRock (fieldAt mainTabs c!"rocks1" 1) rt) ∧ (∀ rt ∈ d.rocks, ∃ ls, writeRock mainTabs rt = .ok ls)
  else if kw = c!"PARAM" then GoodParam (pr1 d) pr2 fts fdi d d0 ∧ (∃ lines, writeParameters mainTabs d = .ok lines) ∧ ParamCont d
  else if kw = c!"MOMOP" then GoodOptions 21 d.moreOption ∧ ∃ lines, writeMoreOptions mainTabs d = .ok lines
  else if kw = c!"START" then d.start = true
  else if kw = c!"NOVER" then d.noversion = true
  else if kw = c!"ELEME" then (∀ b ∈ d.blocks, GoodBlock d0.rocks b) ∧ (∀ b ∈ d.blocks, ∃ l, writeBlock mainTabs b = .ok l)
  else if kw = c!"CONNE" then (∀ c ∈ d.conns, GoodConn d0.blocks c) ∧ (∀ c ∈ d.conns, ∃ l, writeConn mainTabs c = .ok l)
  else if kw = c!"GENER" then d.gens ≠ [] ∧
    (∀ g ∈ d.gens, GoodGener (fun i => fieldAt mainTabs c!"generator" i) (fieldAt mainTabs c!"generation_times" 0)
            (fieldAt mainTabs c!"generation_rates" 0) (fieldAt mainTabs c!"generation_enthalpy" 0) g) ∧
    (∀ g ∈ d.gens, ∃ ls, writeGener mainTabs g = .ok ls)
  else if kw = c!"LINEQ" then d.lineq ≠ [] ∧ ∃ lines, writeDictSection mainTabs c!"LINEQ" c!"lineq" d.lineq = .ok lines
  else if kw = c!"SOLVR" then d.solver ≠ [] ∧ ∃ lines, writeDictSection mainTabs c!"SOLVR" c!"solver" d.solver = .ok lines
  else if kw = c!"RPCAP" then ∃ rp cp, d.rpcap = ⟨some rp, some cp⟩ ∧ rp.params.length ≤ 7 ∧ cp.params.length ≤ 7 ∧
    ∃ lines, writeRPCap mainTabs ⟨some rp, some cp⟩ = .ok lines
  else if kw = c!"TIMES" then ∃ ts, d.outputTimes.time = some ts ∧
    d.outputTimes.d.get c!"num_times_specified" = some (.int (Int.ofNat ts.length)) ∧
    (canonTimes d.outputTimes d0.outputTimes ts).d.get c!"num_times_specified" = some (.int (Int.ofNat ts.length)) ∧
    (∀ x ∈ ts, canonV (fieldAt mainTabs c!"output_times2" 0) x ≠ Val.none) ∧
    ∃ lines, writeTimes mainTabs d.outputTimes = .ok lines
  else if kw = c!"SELEC" then ∃ s, d.selection = some s ∧ GoodSelection (fieldAt mainTabs c!"selec1" 0) s ∧
    ∃ lines, writeSelection mainTabs (some s) = .ok lines
  else if kw = c!"INCON" then d.incon ≠ [] ∧ (∀ e ∈ writtenIncons d, GoodName e.name) ∧
    (∀ e ∈ writtenIncons d, ∃ ls, writeIncon mainTabs e = .ok ls)
  else if kw = c!"INDOM" then d.indom ≠ [] ∧ (∀ e ∈ d.indom, GoodIndom (fieldAt mainTabs c!"indom2" 0) e) ∧
    (∀ e ∈ d.indom, ∃ ls, writeIndomEntry mainTabs e = .ok ls)
  else if kw = c!"MULTI" then d0.autough2 = d.autough2 ∧ d.multi ≠ [] ∧
    (∃ lines, writeDictSection mainTabs c!"MULTI" (multiName d) d.multi = .ok lines) ∧
    ∃ m, stripEos (canonDict (multiName d) d.multi d0.multi) = .ok m
  else if kw = c!"DIFFU" then d.diffusion ≠ [] ∧ ∃ np,
    d0.multi.get c!"num_components" = some (.int (Int.ofNat d.diffusion.length)) ∧
    d0.multi.get c!"num_phases" = some (.int (Int.ofNat np)) ∧ (∀ row ∈ d.diffusion, row.length = np ∧ np ≤ 8) ∧
    ∃ lines, writeDiffusion mainTabs d.diffusion = .ok lines
  else if kw = c!"FOFT" then d.historyBlock ≠ [] ∧ ∀ i ∈ d.historyBlock, Visible i.name
  else if kw = c!"GOFT" then d.historyGen ≠ [] ∧ ∀ i ∈ d.historyGen, Visible i.name
  else if kw = c!"COFT" then d.historyConn ≠ [] ∧ (∀ i ∈ d.historyConn, Visible i.n1 ∧ i.n2.length = 5) ∧
    d0.blocks = [] ∧ d0.conns = []
  else if kw = c!"MESHM" then d.meshmaker ≠ [] ∧ (∀ m ∈ d.meshmaker, GoodMeshEntry m) ∧
    ∃ lss, d.meshmaker.mapM (writeMeshEntry mainTabs) = .ok lss
  else if kw = c!"SHORT" then GoodShort d0.blocks d0.conns d0.gens d.short
  else if kw = c!"SIMUL" then d.simulator ≠ [] ∧ canonSimulator d ≠ []
  else True

theorem wholeKinds_sections : ∀ kw, kw ∈ wholeKinds → kw ∈ allSections := by decide +kernel

theorem stepRT_plain {d : T2Data} {kw : Str} {d0 d1 : T2Data} (body : List Str)
    (hw : writeSection mainTabs d kw = .ok (nl kw :: body))
    (hr : ∀ line tail, readSection .default none d0 kw line (body ++ tail) = .ok (d1, none, tail))
    (hx : d1.extraPrecision = []) (hk : kw ∈ allSections := by decide +kernel) : StepRT d kw d0 d1 :=
  ⟨⟨nl kw, body, hw, hdrOf_nl _ (List.mem_append_left _ hk), fun line _ tail _ => ⟨none, tail, hr line tail, Or.inl ⟨rfl, rfl⟩⟩⟩, hx⟩

theorem stepRT_of_readsBack {d : T2Data} {kw : Str} {d0 d1 : T2Data} {α : Type} {lines : List Str}
    {rd : List Str → Except Exc (α × List Str)} {a : α}
    (hw : writeSection mainTabs d kw = .ok lines) (hrb : ReadsBack kw lines rd a)
    (hrd : ∀ line ls rest, rd ls = .ok (a, rest) → readSection .default none d0 kw line ls = .ok (d1, none, rest))
    (hx : d1.extraPrecision = []) (hk : kw ∈ allSections := by decide +kernel) : StepRT d kw d0 d1 := by
  obtain ⟨body, rfl, h⟩ := hrb
  exact stepRT_plain body hw (fun line tail => hrd line _ tail (h tail)) hx hk

theorem stepRT_ROCKS (d d0 : T2Data) (hxp : d0.extraPrecision = []) (hg : GoodStep d c!"ROCKS" d0) :
    StepRT d c!"ROCKS" d0 (stepCanon d c!"ROCKS" d0) := by
  simp +decide only [GoodStep, stepCanon, ↓reduceIte] at hg ⊢
  obtain ⟨lines, hw, hrb⟩ := rocks_readsBack (rock_shape mainTabs (Or.inl rfl)) d.rocks hg.1 hg.2
  refine stepRT_of_readsBack hw hrb (fun line ls rest h => ?_) hxp
  simp +decide only [readSection, readGridSection, hxp, List.contains_nil, Bool.and_false, ↓reduceIte,
    h, bind, Except.bind, pure, Except.pure]
  rfl

theorem stepRT_ELEME (d d0 : T2Data) (hxp : d0.extraPrecision = []) (hg : GoodStep d c!"ELEME" d0) :
    StepRT d c!"ELEME" d0 (stepCanon d c!"ELEME" d0) := by
  simp +decide only [GoodStep, stepCanon, ↓reduceIte] at hg ⊢
  obtain ⟨lines, hw, hrb⟩ := blocks_readsBack (block_shape mainTabs (Or.inl rfl)) d0.rocks d.blocks hg.1 hg.2
  refine stepRT_of_readsBack hw hrb (fun line ls rest h => ?_) hxp
  simp +decide only [readSection, readGridSection, hxp, List.contains_nil, Bool.and_false, ↓reduceIte,
    h, bind, Except.bind, pure, Except.pure]
  rfl

theorem stepRT_CONNE (d d0 : T2Data) (hxp : d0.extraPrecision = []) (hg : GoodStep d c!"CONNE" d0) :
    StepRT d c!"CONNE" d0 (stepCanon d c!"CONNE" d0) := by
  simp +decide only [GoodStep, stepCanon, ↓reduceIte] at hg ⊢
  obtain ⟨lines, hw, hrb⟩ := conns_readsBack (conn_shape mainTabs (Or.inl rfl)) d0.blocks d.conns hg.1 hg.2
  refine stepRT_of_readsBack hw hrb (fun line ls rest h => ?_) hxp
  simp +decide only [readSection, readGridSection, hxp, List.contains_nil, Bool.and_false, ↓reduceIte,
    h, bind, Except.bind, pure, Except.pure]
  rfl

theorem stepRT_GENER (d d0 : T2Data) (hxp : d0.extraPrecision = []) (hg : GoodStep d c!"GENER" d0) :
    StepRT d c!"GENER" d0 (stepCanon d c!"GENER" d0) := by
  simp +decide only [GoodStep, stepCanon, ↓reduceIte] at hg ⊢
  obtain ⟨hne, hgood, hwr⟩ := hg
  obtain ⟨lines, hw, hrb⟩ := geners_readsBack (gener_shape mainTabs (Or.inl rfl)) d.gens hne hgood hwr
  refine stepRT_of_readsBack hw hrb (fun line ls rest h => ?_) hxp
  simp +decide only [readSection, readGridSection, hxp, List.contains_nil, Bool.and_false, ↓reduceIte,
    h, bind, Except.bind, pure, Except.pure]
  rfl

theorem stepRT_RPCAP (d d0 : T2Data) (hxp : d0.extraPrecision = []) (hg : GoodStep d c!"RPCAP" d0) :
    StepRT d c!"RPCAP" d0 (stepCanon d c!"RPCAP" d0) := by
  simp +decide only [GoodStep, stepCanon, ↓reduceIte] at hg ⊢
  obtain ⟨rp, cp, hrp, hl1, hl2, lines, hw⟩ := hg
  have h1 := rp_shape mainTabs (Or.inl rfl) c!"relative_permeability" (Or.inl rfl)
  have h2 := rp_shape mainTabs (Or.inl rfl) c!"capillarity" (Or.inr rfl)
  have hw' : writeSection mainTabs d c!"RPCAP" = .ok lines := by
    simp +decide only [writeSection, hrp, ↓reduceIte]
    exact hw
  refine stepRT_of_readsBack hw' (section_roundtrip_RPCAP h1 h2 rp cp hl1 hl2 hw) (fun line ls rest h => ?_) hxp
  simp +decide only [readSection, readGridSection, hxp, List.contains_nil, Bool.and_false, ↓reduceIte,
    h, hrp, bind, Except.bind, pure, Except.pure, Option.map_some]

theorem stepRT_START (d d0 : T2Data) (hxp : d0.extraPrecision = []) (hg : GoodStep d c!"START" d0) :
    StepRT d c!"START" d0 (stepCanon d c!"START" d0) := by
  simp +decide only [GoodStep, stepCanon, ↓reduceIte] at hg ⊢
  refine stepRT_plain [] ?_ (fun line tail => ?_) hxp
  · simp +decide only [writeSection, hg, ↓reduceIte]
  · simp +decide only [readSection, hxp, List.contains_nil, Bool.and_false, ↓reduceIte,
      List.nil_append]

theorem stepRT_NOVER (d d0 : T2Data) (hxp : d0.extraPrecision = []) (hg : GoodStep d c!"NOVER" d0) :
    StepRT d c!"NOVER" d0 (stepCanon d c!"NOVER" d0) := by
  simp +decide only [GoodStep, stepCanon, ↓reduceIte] at hg ⊢
  refine stepRT_plain [] ?_ (fun line tail => ?_) hxp
  · simp +decide only [writeSection, hg, ↓reduceIte]
  · simp +decide only [readSection, hxp, List.contains_nil, Bool.and_false, ↓reduceIte,
      List.nil_append]

theorem stepRT_MOMOP (d d0 : T2Data) (hxp : d0.extraPrecision = []) (hg : GoodStep d c!"MOMOP" d0) :
    StepRT d c!"MOMOP" d0 (stepCanon d c!"MOMOP" d0) := by
  simp +decide only [GoodStep, stepCanon, ↓reduceIte] at hg ⊢
  obtain ⟨hopt, lines, hw⟩ := hg
  refine stepRT_of_readsBack hw (section_roundtrip_MOMOP momop_shape d d0 hopt hw) (fun line ls rest h => ?_) hxp
  simp +decide only [readSection, hxp, List.contains_nil, Bool.and_false, ↓reduceIte, h]

theorem stepRT_LINEQ (d d0 : T2Data) (hxp : d0.extraPrecision = []) (hg : GoodStep d c!"LINEQ" d0) :
    StepRT d c!"LINEQ" d0 (stepCanon d c!"LINEQ" d0) := by
  simp +decide only [GoodStep, stepCanon, ↓reduceIte] at hg ⊢
  obtain ⟨hne, lines, hw⟩ := hg
  have hr := dict_recs c!"lineq" (Or.inl rfl)
  refine stepRT_of_readsBack hw (section_roundtrip_dict hr _ d.lineq d0.lineq hne hw) (fun line ls rest h => ?_) hxp
  simp +decide only [readSection, hxp, List.contains_nil, Bool.and_false, ↓reduceIte, h, bind, Except.bind, pure, Except.pure]
  rfl

theorem stepRT_SOLVR (d d0 : T2Data) (hxp : d0.extraPrecision = []) (hg : GoodStep d c!"SOLVR" d0) :
    StepRT d c!"SOLVR" d0 (stepCanon d c!"SOLVR" d0) := by
  simp +decide only [GoodStep, stepCanon, ↓reduceIte] at hg ⊢
  obtain ⟨hne, lines, hw⟩ := hg
  have hr := dict_recs c!"solver" (Or.inr (Or.inl rfl))
  refine stepRT_of_readsBack hw (section_roundtrip_dict hr _ d.solver d0.solver hne hw) (fun line ls rest h => ?_) hxp
  simp +decide only [readSection, hxp, List.contains_nil, Bool.and_false, ↓reduceIte, h, bind, Except.bind, pure, Except.pure]
  rfl

theorem stepRT_MULTI (d d0 : T2Data) (hxp : d0.extraPrecision = []) (hg : GoodStep d c!"MULTI" d0) :
    StepRT d c!"MULTI" d0 (stepCanon d c!"MULTI" d0) := by
  simp +decide only [GoodStep, stepCanon, ↓reduceIte] at hg ⊢
  obtain ⟨hfl, hne, ⟨lines, hw⟩, m, hm⟩ := hg
  simp only [hm]
  have hr := dict_recs (multiName d) (Or.inr (Or.inr (by unfold multiName; cases d.autough2 <;> simp)))
  refine stepRT_of_readsBack hw (section_roundtrip_dict hr _ d.multi d0.multi hne hw) (fun line ls rest h => ?_) hxp
  unfold canonDict at hm
  unfold multiName at h hm
  simp +decide only [readSection, hxp, List.contains_nil, Bool.and_false, ↓reduceIte, hfl, h, hm, bind,
    Except.bind, pure, Except.pure]

theorem stepRT_TIMES (d d0 : T2Data) (hxp : d0.extraPrecision = []) (hg : GoodStep d c!"TIMES" d0) :
    StepRT d c!"TIMES" d0 (stepCanon d c!"TIMES" d0) := by
  simp +decide only [GoodStep, stepCanon, ↓reduceIte] at hg ⊢
  obtain ⟨ts, htime, hn, hkeep, hx, lines, hw⟩ := hg
  refine stepRT_of_readsBack hw (section_roundtrip_TIMES main_times_rec (main_chunk (by decide)) d.outputTimes
    d0.outputTimes ts htime hn hkeep hx hw) (fun line ls rest h => ?_) hxp
  simp +decide only [readSection, hxp, List.contains_nil, Bool.and_false, ↓reduceIte, h, htime, bind, Except.bind,
    pure, Except.pure, Option.getD_some]
  rfl

theorem stepRT_SELEC (d d0 : T2Data) (hxp : d0.extraPrecision = []) (hg : GoodStep d c!"SELEC" d0) :
    StepRT d c!"SELEC" d0 (stepCanon d c!"SELEC" d0) := by
  simp +decide only [GoodStep, stepCanon, ↓reduceIte] at hg ⊢
  obtain ⟨s, hs, hgs, lines, hw⟩ := hg
  have hw' : writeSection mainTabs d c!"SELEC" = .ok lines := by
    simp +decide only [writeSection, hs, ↓reduceIte]
    exact hw
  refine stepRT_of_readsBack hw' (section_roundtrip_SELEC (main_chunk (by decide)) (main_chunk (by decide)) s hgs hw) (fun line ls rest h => ?_) hxp
  simp +decide only [readSection, hxp, List.contains_nil, Bool.and_false, ↓reduceIte, h, hs, bind, Except.bind,
    pure, Except.pure, Option.map_some]
  rfl

theorem stepRT_INCON (d d0 : T2Data) (hxp : d0.extraPrecision = []) (hg : GoodStep d c!"INCON" d0) :
    StepRT d c!"INCON" d0 (stepCanon d c!"INCON" d0) := by
  simp +decide only [GoodStep, stepCanon, ↓reduceIte] at hg ⊢
  obtain ⟨hne, hn, hwr⟩ := hg
  obtain ⟨lines, hw, hrb⟩ := incons_readsBack incon_shape d.blocks d.incon d0.incon hne hn hwr
  refine stepRT_of_readsBack hw hrb (fun line ls rest h => ?_) hxp
  simp +decide only [readSection, hxp, List.contains_nil, Bool.and_false, ↓reduceIte, h, bind, Except.bind, pure, Except.pure]
  rfl

theorem stepRT_INDOM (d d0 : T2Data) (hxp : d0.extraPrecision = []) (hg : GoodStep d c!"INDOM" d0) :
    StepRT d c!"INDOM" d0 (stepCanon d c!"INDOM" d0) := by
  simp +decide only [GoodStep, stepCanon, ↓reduceIte] at hg ⊢
  obtain ⟨hne, hgood, hwr⟩ := hg
  obtain ⟨lines, hw, hrb⟩ := indom_readsBack (main_chunk (by decide)) d.indom d0.indom hne hgood hwr
  refine stepRT_of_readsBack hw hrb (fun line ls rest h => ?_) hxp
  simp +decide only [readSection, hxp, List.contains_nil, Bool.and_false, ↓reduceIte, h, bind, Except.bind, pure, Except.pure]
  rfl

theorem stepRT_DIFFU (d d0 : T2Data) (hxp : d0.extraPrecision = []) (hg : GoodStep d c!"DIFFU" d0) :
    StepRT d c!"DIFFU" d0 (stepCanon d c!"DIFFU" d0) := by
  simp +decide only [GoodStep, stepCanon, ↓reduceIte] at hg ⊢
  obtain ⟨hne, np, hnc, hnp, hrow, lines, hw⟩ := hg
  refine stepRT_of_readsBack hw (section_roundtrip_DIFFU (main_chunk (by decide)) d0.multi d.diffusion d0.diffusion hne np hnc hnp hrow hw)
    (fun line ls rest h => ?_) hxp
  simp +decide only [readSection, hxp, List.contains_nil, Bool.and_false, ↓reduceIte, h, bind, Except.bind, pure, Except.pure]
  rfl

theorem stepRT_FOFT (d d0 : T2Data) (hxp : d0.extraPrecision = []) (hg : GoodStep d c!"FOFT" d0) :
    StepRT d c!"FOFT" d0 (stepCanon d c!"FOFT" d0) := by
  simp +decide only [GoodStep, stepCanon, ↓reduceIte] at hg ⊢
  have hw : writeSection mainTabs d c!"FOFT" = .ok (writeHistoryBlocks c!"FOFT" d.historyBlock) := by
    simp +decide only [writeSection, ↓reduceIte]
  refine stepRT_of_readsBack hw (section_roundtrip_history_blocks c!"FOFT" d0.blocks d.historyBlock hg.1 hg.2)
    (fun line ls rest h => ?_) hxp
  simp +decide only [readSection, hxp, List.contains_nil, Bool.and_false, ↓reduceIte, h, bind, Except.bind, pure, Except.pure]
  rfl

theorem stepRT_GOFT (d d0 : T2Data) (hxp : d0.extraPrecision = []) (hg : GoodStep d c!"GOFT" d0) :
    StepRT d c!"GOFT" d0 (stepCanon d c!"GOFT" d0) := by
  simp +decide only [GoodStep, stepCanon, ↓reduceIte] at hg ⊢
  have hw : writeSection mainTabs d c!"GOFT" = .ok (writeHistoryBlocks c!"GOFT" d.historyGen) := by
    simp +decide only [writeSection, ↓reduceIte]
  refine stepRT_of_readsBack hw (section_roundtrip_history_blocks c!"GOFT" d0.blocks d.historyGen hg.1 hg.2)
    (fun line ls rest h => ?_) hxp
  simp +decide only [readSection, hxp, List.contains_nil, Bool.and_false, ↓reduceIte, h, bind, Except.bind, pure, Except.pure]
  rfl

theorem stepRT_COFT (d d0 : T2Data) (hxp : d0.extraPrecision = []) (hg : GoodStep d c!"COFT" d0) :
    StepRT d c!"COFT" d0 (stepCanon d c!"COFT" d0) := by
  simp +decide only [GoodStep, stepCanon, ↓reduceIte] at hg ⊢
  obtain ⟨hne, hv, hb, hc⟩ := hg
  have hw : writeSection mainTabs d c!"COFT" = .ok (writeHistoryConns d.historyConn) := by
    simp +decide only [writeSection, ↓reduceIte]
  refine stepRT_of_readsBack hw (section_roundtrip_COFT d.historyConn hne hv) (fun line ls rest h => ?_) hxp
  simp +decide only [readSection, hxp, List.contains_nil, Bool.and_false, ↓reduceIte, hb, hc, h, bind, Except.bind,
    pure, Except.pure]

end Proofs.T2
