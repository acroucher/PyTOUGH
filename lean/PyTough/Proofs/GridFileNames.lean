/-
  The block names' trip through a data file, seen as a `rename_blocks`.
-/
import PyTough.Proofs.GridRename
import PyTough.Proofs.InconNames
namespace Proofs.Grid
open Py Model Model.Grid Model.Grid.World

/-- the name a block has after the grid was written to a TOUGH2 data file (`unfix_blockname`) and
    read back (`fix_blockname`); equal by `rfl` to `Proofs.Names.cycleName` (NamesFix, in scope here), so `Proofs.Names.cycle_ok`
    speaks of it -/
def fileName (n : Str) : Str :=
  match Names.fixBlockname (Names.unfixBlockname n) with
  | .ok c => c
  | .error _ => n

/-- what the write/read of the names amounts to: every block renamed to the name it comes back with -/
def fileNameMap (w : World) : Dict Name Name := w.blocklist.map fun b => (w.bname b, fileName (w.bname b))

theorem fileName_canonical {n : Str} (h : Proofs.Incon.Canonical n) : fileName n = n := by
  unfold fileName
  rw [Proofs.Incon.fix_unfix_canonical n h]

theorem dget_map_pair {α : Type} (l : List α) (f : α → Name) (g : Name → Name) {a : α} (ha : a ∈ l) :
    dget (l.map fun x => (f x, g (f x))) (f a) = some (g (f a)) := by
  induction l with
  | nil => cases ha
  | cons x r ih =>
    simp only [List.map_cons, dget]
    by_cases e : f x = f a
    · rw [if_pos e, e]
    · rw [if_neg e]
      exact ih ((List.mem_cons.mp ha).resolve_left fun h => e (h ▸ rfl))

theorem mapName_fileNameMap (w : World) {b : Nat} (hb : b ∈ w.blocklist) :
    mapName (fileNameMap w) (w.bname b) = fileName (w.bname b) := by
  unfold mapName fileNameMap
  rw [dget_map_pair w.blocklist w.bname fileName hb]

theorem pre_fileNameMap {w : World} (hnd : (w.blocklist.map fun b => fileName (w.bname b)).Nodup) :
    pre w (.renameBlocks (fileNameMap w) false) = true := by
  unfold pre
  simp only [effectiveMap, Bool.false_eq_true, if_false, decide_eq_true_eq]
  rw [List.map_congr_left fun b hb => mapName_fileNameMap w hb]; exact hnd

end Proofs.Grid
