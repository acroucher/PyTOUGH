/-
  `add_layers` (C17).  It names its layers by the numbers after 0, skipping the one whose name is
  the surface layer's: its loop is `mapM'` of the layer generator over that list (`layerNums`), so
  `GenSpec.mapM'_eq` gives the result in closed form (`addLayers_run`).  Hence the names are distinct,
  well formed and different from the surface layer name, and the loop fails only with the naming
  error, exactly when the name space is exhausted.  Also `uniqstring`.
-/
import PyTough.Proofs.NamesBlocks
namespace Proofs.Names
open Py Model.Names

section
variable {g : Nat → Except Exc Str} {cap : Nat} {nm : Nat → Str} {good : Str → Prop}

/-- the number after `num`: the next one, or the one after it when the next one has the surface layer's name -/
def nextNum (g : Nat → Except Exc Str) (surf : Str) (num : Nat) : Nat :=
  if g (num + 1) = .ok surf then num + 2 else num + 1

/-- the numbers of `m` layers named after number `num` -/
def layerNums (g : Nat → Except Exc Str) (surf : Str) : Nat → Nat → List Nat
  | 0, _ => []
  | m + 1, num => nextNum g surf num :: layerNums g surf m (nextNum g surf num)

variable {surf : Str}

/-- only one number has the surface layer's name, so at most one is skipped -/
theorem nextNum_spec (hg : GenSpec g cap nm good) (num : Nat) :
    g (nextNum g surf num) ≠ .ok surf ∧
    (nextNum g surf num = num + 1 ∨ (nextNum g surf num = num + 2 ∧ g (num + 1) = .ok surf)) := by
  unfold nextNum
  by_cases h1 : g (num + 1) = .ok surf
  · rw [if_pos h1]
    refine ⟨fun h2 => ?_, Or.inr ⟨rfl, h1⟩⟩
    have := hg.inj_ok h1 h2
    omega
  · rw [if_neg h1]
    exact ⟨h1, Or.inl rfl⟩

/-- the last conjunct is there for the induction only: after a skip it gives `k ≤ num + m + 1` -/
theorem layerNums_spec (hg : GenSpec g cap nm good) : ∀ (m num : Nat),
    (layerNums g surf m num).length = m ∧ (layerNums g surf m num).Pairwise (· < ·) ∧
    ∀ k ∈ layerNums g surf m num, num < k ∧ g k ≠ .ok surf ∧ k ≤ num + m + 1 ∧
      ((∀ j, num < j → g j ≠ .ok surf) → k ≤ num + m) := by
  intro m
  induction m with
  | zero => intro num; simp [layerNums]
  | succ m ih =>
    intro num
    obtain ⟨i1, i2, i3⟩ := ih (nextNum g surf num)
    obtain ⟨hne, hn⟩ := nextNum_spec (surf := surf) hg num
    refine ⟨by simp [layerNums, i1], List.pairwise_cons.mpr ⟨fun k hk => (i3 k hk).1, i2⟩, ?_⟩
    intro k hk
    rcases hn with hn | ⟨hn, hs⟩
    · -- nothing skipped
      rcases List.mem_cons.mp hk with rfl | hk
      · exact ⟨by omega, hne, by omega, fun _ => by omega⟩
      · obtain ⟨a, b, c, d⟩ := i3 k hk
        exact ⟨by omega, b, by omega, fun hj => by have := d fun j hj' => hj j (by omega); omega⟩
    · -- `num + 1` skipped: no later number has the surface layer's name
      have hno : ∀ j, num + 1 < j → g j ≠ .ok surf := fun j hj e => by
        have := hg.inj_ok hs e
        omega
      rcases List.mem_cons.mp hk with rfl | hk
      · exact ⟨by omega, hne, by omega, fun hj => absurd hs (hj _ (by omega))⟩
      · obtain ⟨a, b, _, d⟩ := i3 k hk
        have := d fun j hj => hno j (by omega)
        exact ⟨by omega, b, by omega, fun hj => absurd hs (hj _ (by omega))⟩

end

section
variable {conv : Nat} {left : Bool} {chars : Str} {spaces : Bool} {surf : Str}
variable {g : Nat → Except Exc Str} {cap : Nat} {nm : Nat → Str} {good : Str → Prop}

/-- (`g` stands for the layer generator at the loop's arguments, `hgen`: the statements then speak of `g` and `GenSpec g` only) -/
theorem nextLayerName_find (hgen : ∀ k, layerNameFromNumber conv k left chars spaces = g k) : ∀ (fuel num : Nat),
    nextLayerName conv left chars spaces surf fuel num =
      match (List.range' (num + 1) fuel).find? fun k => decide (g k ≠ .ok surf) with
      | none => .error .generic
      | some k => match g k with
        | .error e => .error e
        | .ok name => .ok (name, k)
  | 0, _ => rfl
  | fuel + 1, num => by
    rw [nextLayerName, hgen, nextLayerName_find hgen fuel, List.range'_succ, List.find?_cons]
    cases hg : g (num + 1) with
    | error e => rw [decide_eq_true (by simp)]; simp only [hg]
    | ok n1 =>
      dsimp only
      by_cases hs : n1 = surf
      · rw [if_pos hs, hs, decide_eq_false (by simp)]
      · rw [if_neg hs, decide_eq_true (by simpa using hs)]; simp only [hg]

/-- two iterations of the `while` loop suffice (`add_layers` allows three) -/
theorem nextLayerName_eq (hgen : ∀ k, layerNameFromNumber conv k left chars spaces = g k)
    (hg : GenSpec g cap nm good) (fuel num : Nat) :
    nextLayerName conv left chars spaces surf (fuel + 2) num =
      match g (nextNum g surf num) with
      | .error e => .error e
      | .ok name => .ok (name, nextNum g surf num) := by
  have hne := (nextNum_spec (surf := surf) hg num).1
  have : (List.range' (num + 1) (fuel + 2)).find? (fun k => decide (g k ≠ .ok surf)) = some (nextNum g surf num) := by
    unfold nextNum at hne ⊢
    by_cases h1 : g (num + 1) = .ok surf
    · rw [if_pos h1] at hne ⊢
      simp [List.range'_succ, h1, hne]
    · rw [if_neg h1]
      simp [List.range'_succ, h1]
  rw [nextLayerName_find hgen, this]

theorem addLayersLoop_eq (hgen : ∀ k, layerNameFromNumber conv k left chars spaces = g k)
    (hg : GenSpec g cap nm good) : ∀ (m num : Nat),
    addLayersLoop conv left chars spaces surf m num = mapM' g (layerNums g surf m num)
  | 0, _ => rfl
  | m + 1, num => by
    unfold addLayersLoop layerNums mapM'
    rw [nextLayerName_eq hgen hg]
    cases g (nextNum g surf num) with
    | error e => rfl
    | ok name =>
      simp only [addLayersLoop_eq hgen hg m]
      cases mapM' g (layerNums g surf m (nextNum g surf num)) <;> rfl

end

theorem mem_uniqstring (s : Str) (c : Char) : c ∈ uniqstring s ↔ c ∈ s := by
  induction s with
  | nil => simp [uniqstring]
  | cons a r ih =>
    simp only [uniqstring, List.mem_cons, List.mem_filter, ih]
    constructor
    · rintro (h | ⟨h, _⟩)
      · exact Or.inl h
      · exact Or.inr h
    · rintro (h | h)
      · exact Or.inl h
      · by_cases hca : c = a
        · exact Or.inl hca
        · exact Or.inr ⟨h, by simpa using hca⟩

theorem nodup_uniqstring (s : Str) : (uniqstring s).Nodup := by
  induction s with
  | nil => simp [uniqstring]
  | cons a r ih =>
    simp only [uniqstring]
    refine List.nodup_cons.mpr ⟨?_, ?_⟩
    · simp
    · exact List.Pairwise.sublist List.filter_sublist ih

theorem uniqstring_of_nodup {s : Str} (h : s.Nodup) : uniqstring s = s := by
  induction s with
  | nil => rfl
  | cons a r ih =>
    have ⟨h1, h2⟩ := List.nodup_cons.mp h
    simp only [uniqstring, ih h2]
    congr 1
    rw [List.filter_eq_self]
    intro c hc
    have : c ≠ a := fun e => h1 (e ▸ hc)
    simpa using this

theorem addLayers_eq (conv m : Nat) (left : Bool) (chars : Str) (spaces : Bool) :
    addLayers conv m left chars spaces =
      match addLayersLoop conv left (uniqstring chars) spaces (surfaceLayerName conv) m 0 with
      | .error e => .error e
      | .ok names => .ok (surfaceLayerName conv :: names) := rfl

theorem addLayers_run {conv : Nat} (hconv : conv < 4) (m : Nat) (left : Bool) {chars : Str} {spaces : Bool}
    (h : AlphabetOK (uniqstring chars) spaces) :
    addLayers conv m left chars spaces =
      if ∀ k ∈ layerNums (fun k => layerNameFromNumber conv k left (uniqstring chars) spaces) (surfaceLayerName conv) m 0,
          k ≤ layerCapacity conv (uniqstring chars).length spaces then
        .ok (surfaceLayerName conv ::
          (layerNums (fun k => layerNameFromNumber conv k left (uniqstring chars) spaces) (surfaceLayerName conv) m 0).map
            (layerNm conv (uniqstring chars) spaces left))
      else .error .naming := by
  have hg := genSpec_layer hconv h left
  rw [addLayers_eq, addLayersLoop_eq (fun _ => rfl) hg, hg.mapM'_eq]
  generalize layerNums _ _ m 0 = ks
  by_cases hk : ∀ k ∈ ks, k ≤ layerCapacity conv (uniqstring chars).length spaces
  · rw [if_pos hk, if_pos hk]
  · rw [if_neg hk, if_neg hk]

theorem addLayers_spec {conv : Nat} (hconv : conv < 4) (m : Nat) (left : Bool) {chars : Str} {spaces : Bool}
    (h : AlphabetOK (uniqstring chars) spaces) :
    ((∃ names, addLayers conv m left chars spaces = .ok (surfaceLayerName conv :: names) ∧
        names.length = m ∧ (surfaceLayerName conv :: names).Nodup ∧ ∀ x ∈ names, LayWF conv (uniqstring chars) x) ∨
      addLayers conv m left chars spaces = .error .naming) ∧
    (m + 1 ≤ layerCapacity conv (uniqstring chars).length spaces → ∃ names, addLayers conv m left chars spaces = .ok names) ∧
    (layerCapacity conv (uniqstring chars).length spaces < m → addLayers conv m left chars spaces = .error .naming) := by
  have hg := genSpec_layer hconv h left
  obtain ⟨n1, n2, n3⟩ := layerNums_spec (surf := surfaceLayerName conv) hg m 0
  rw [addLayers_run hconv m left h]
  split
  next hk =>
    refine ⟨Or.inl ⟨_, rfl, by rw [List.length_map, n1], List.nodup_cons.mpr ⟨fun hmem => ?_,
      List.pairwise_map.mpr (n2.imp fun hab e => Nat.ne_of_lt hab (hg.inj e))⟩, fun x hx => ?_⟩, fun _ => ⟨_, rfl⟩, fun hex => ?_⟩
    · obtain ⟨k, hkm, e⟩ := List.mem_map.mp hmem
      exact (n3 k hkm).2.1 (hg.ok_iff.mpr ⟨hk k hkm, e⟩)
    · obtain ⟨k, hkm, rfl⟩ := List.mem_map.mp hx
      exact hg.wf k (hk k hkm)
    · -- `m` distinct numbers, all from 1 to the capacity
      have := List.Nodup.length_le_of_subset (n2.imp Nat.ne_of_lt)
        (l₂ := List.range' 1 (layerCapacity conv (uniqstring chars).length spaces)) fun k hkm =>
          List.mem_range'_1.mpr ⟨(n3 k hkm).1, by have := hk k hkm; omega⟩
      rw [n1, List.length_range'] at this
      omega
  next hk =>
    refine ⟨Or.inr rfl, fun hroom => absurd (fun k hkm => ?_) hk, fun _ => rfl⟩
    have := (n3 k hkm).2.2.1
    omega

end Proofs.Names
