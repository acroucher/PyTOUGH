/-
  reorder (block permutation, connection permutation with reversals): the grid stays consistent
  and describes the same physical network, also when the call raises part-way.
-/
import PyTough.Model.GridPhys
import PyTough.Proofs.GridOpsCon
namespace Proofs.Grid
open Py Model Model.Grid Model.Grid.World

theorem conSig_flipCon (con : Con) (h : con.b0 ≠ con.b1) : conSig (flipCon con) = conSig con := by
  unfold conSig flipCon
  by_cases h1 : con.b0 ≤ con.b1
  · have h2 : ¬ con.b1 ≤ con.b0 := fun h3 => h (Nat.le_antisymm h1 h3)
    simp only [h1, h2, if_true, if_false]
    congr 1
    cases con.dircos with
    | none => rfl
    | some x => simp [Rat.neg_neg]
  · have h2 : con.b1 ≤ con.b0 := Nat.le_of_not_le h1
    simp only [h1, h2, if_true, if_false]

theorem _root_.Model.Grid.PhysEq.refl (w : World) : PhysEq w w := ⟨List.Perm.refl _, List.Perm.refl _, fun _ => rfl, fun _ => rfl⟩

-- the fields of `PhysEq w w'` read `w'.x = … w.x`, later state on the left: hence `h23 … .trans h12 …`
theorem _root_.Model.Grid.PhysEq.trans {w1 w2 w3 : World} (h12 : PhysEq w1 w2) (h23 : PhysEq w2 w3) : PhysEq w1 w3 :=
  ⟨h23.blocks.trans h12.blocks, h23.connections.trans h12.connections,
   fun b => (h23.blk b).trans (h12.blk b), fun c => (h23.con c).trans (h12.con c)⟩

theorem physEq_of_payload {w w' : World} (hb : w'.blocklist.Perm w.blocklist)
    (hc : w'.connectionlist.Perm w.connectionlist) (hr : w'.rocks = w.rocks)
    (hblk : ∀ b, (w'.bk b).volume = (w.bk b).volume ∧ (w'.bk b).rock = (w.bk b).rock ∧ (w'.bk b).centre = (w.bk b).centre)
    (hcon : ∀ c, conSig (w'.cn c) = conSig (w.cn c)) : PhysEq w w' := by
  refine ⟨hb, hc, fun b => ?_, hcon⟩
  obtain ⟨h1, h2, h3⟩ := hblk b
  simp only [blkPhys, h1, h2, h3, World.rname, World.rk, hr]

theorem connReplace_ok {w : World} {b : Nat} {orig names : CName} (hb : b < w.blks.length)
    (hk : orig ∈ (w.bk b).conn) :
    connReplace w b orig names =
      some (w.setBlk b { w.bk b with conn := sadd ((w.bk b).conn.erase orig) names }) := by
  simp only [connReplace, connRemove, hk, if_true, World.connAdd, bk_setBlk, hb, and_self]
  simp only [World.setBlk, List.set_set]

/-- the state after the reversal branch: connection `c`, found under `orig`, now under `names`;
    `conWorld` takes the two ends in the order of the flipped record -/
def flipWorld (w : World) (c : Nat) (orig names : CName) : World :=
  conWorld w (w.cons.set c (flipCon (w.cn c))) (w.cn c).b1 (w.cn c).b0 (fun s => sadd (s.erase orig) names)
    w.connectionlist (dset (ddel w.connection orig) names c)

theorem flipConnection_ok {w : World} (hI : Grid.Inv w) {c : Nat} {orig names : CName}
    (hd : dget w.connection orig = some c) :
    flipConnection w c orig names = .ok (flipWorld w c orig names) := by
  have hc := hI.cd_sound orig c hd
  have ends := hI.c_ends c hc.1
  have hlt0 := hI.bl_lt _ ends.1
  have hlt1 := hI.bl_lt _ ends.2.1
  obtain ⟨hk0, hk1⟩ := key_mem_conn_ends hI hd
  have hne := ends.2.2
  unfold flipConnection
  have e1 : (flipCon (w.cn c)).b0 = (w.cn c).b1 := rfl
  have e2 : (flipCon (w.cn c)).b1 = (w.cn c).b0 := rfl
  simp only [e1, e2]
  rw [connReplace_ok (w := w.setCon c (flipCon (w.cn c))) (by simpa [World.setCon] using hlt1) (by simpa using hk1)]
  simp only []
  rw [connReplace_ok (by simpa [World.setCon, World.setBlk] using hlt0)
        (by simp only [bk_setBlk, bk_setCon, Ne.symm hne, false_and, if_false]; exact hk0)]
  simp only [bk_setBlk, bk_setCon, Ne.symm hne, false_and, if_false]
  rfl

theorem getD_flip {w : World} {c : Nat} (hc : c < w.cons.length) (x : Nat) :
    (w.cons.set c (flipCon (w.cn c))).getD x default = if x = c then flipCon (w.cn c) else w.cn x := by
  simp only [World.cn, getD_set, hc, and_true, eq_comm]

theorem flipWorld_inv {w : World} (hI : Grid.Inv w) {c : Nat} {names : CName}
    (hc : c ∈ w.connectionlist) (horig : w.ckey c = (names.2, names.1))
    (hnone : dget w.connection names = none) :
    Grid.Inv (flipWorld w c (names.2, names.1) names) := by
  have ends := hI.c_ends c hc
  have hd : dget w.connection (names.2, names.1) = some c := horig ▸ hI.cd_complete c hc
  have hcn := getD_flip (hI.cl_lt c hc)
  have hnames : (w.bname (w.cn c).b1, w.bname (w.cn c).b0) = names := by
    simp only [World.ckey, Prod.mk.injEq] at horig
    exact Prod.ext horig.2 horig.1
  -- mentions are symmetric in the two ends
  have hment : ∀ y x, (((w.cons.set c (flipCon (w.cn c))).getD y default).b0 = x ∨
      ((w.cons.set c (flipCon (w.cn c))).getD y default).b1 = x) ↔ ((w.cn y).b0 = x ∨ (w.cn y).b1 = x) := fun y x => by
    rw [hcn]; split
    · rename_i e; subst e; exact Or.comm
    · exact Iff.rfl
  refine conWorld_inv hI ends.2.1 ends.1 (fun s h => nodup_sadd _ (h.erase _))
    (fun x hx => by simp only [List.length_set]; exact hI.cl_lt x hx) ?_ (fun x hx => ?_) (fun x hx k => ?_)
  · refine hI.conReg.rekey hd hnone ?_ (fun y _ hy => ?_)
    · rw [ckey_conWorld, hcn, if_pos rfl]; exact hnames
    · rw [ckey_conWorld, hcn, if_neg hy]; rfl
  · rw [hcn]; split
    · exact ⟨ends.2.1, ends.1, Ne.symm ends.2.2⟩
    · exact hI.c_ends x hx
  · have hE : (x = (w.cn c).b1 ∨ x = (w.cn c).b0) ↔ ((w.cn c).b0 = x ∨ (w.cn c).b1 = x) :=
      Or.comm.trans (or_congr eq_comm eq_comm)
    have hQ := conn_iff_dict hI hx
    simp only [hment]
    refine Iff.trans ?_ (cached_dset (cached_ddel hQ (names.2, names.1)) hE.symm (fun h => ?_) k)
    · split
      · rw [mem_sadd, (hI.conn_nodup x hx).mem_erase_iff]; exact or_congr (and_iff_left ‹_›).symm and_comm
      · -- only the two ends of `c` hold its key
        rename_i hx01
        refine ⟨fun h => Or.inr ⟨h, fun e => hx01 (hE.mpr ?_)⟩, fun h => h.elim (fun h => (hx01 h.2).elim) And.left⟩
        exact (ckey_mem_conn_iff hI hx hc).mp (horig ▸ e ▸ h)
    · obtain ⟨c', hd', _⟩ := (hQ _).mp h.1
      rw [hnone] at hd'; cases hd'

theorem flipWorld_phys {w : World} (hI : Grid.Inv w) {c : Nat} (hc : c ∈ w.connectionlist) (orig names : CName) :
    PhysEq w (flipWorld w c orig names) := by
  refine physEq_of_payload (List.Perm.refl _) (List.Perm.refl _) rfl (fun b => ?_) (fun x => ?_)
  · have e := bk_conWorld w (w.cons.set c (flipCon (w.cn c))) (w.cn c).b1 (w.cn c).b0
      (fun s => sadd (s.erase orig) names) w.connectionlist (dset (ddel w.connection orig) names c) b
    exact ⟨(congrArg Blk.volume e :), (congrArg Blk.rock e :), (congrArg Blk.centre e :)⟩
  · show conSig ((w.cons.set c (flipCon (w.cn c))).getD x default) = _
    rw [getD_flip (hI.cl_lt c hc)]; split
    · rename_i e; subst e; exact conSig_flipCon _ (hI.c_ends x hc).2.2
    · rfl

theorem resolveCon_flipWorld {w : World} {c : Nat} {names : CName}
    (hd : dget w.connection (names.2, names.1) = some c) (hnone : dget w.connection names = none) (k : CName) :
    resolveCon (flipWorld w c (names.2, names.1) names) k = resolveCon w k := by
  -- `names` and its swap exchange their entries, so either resolves to `c` before and after; any other key, and its swap, reads as before
  have hon : (names.2, names.1) ≠ names := by intro e; rw [e] at hd; rw [hd] at hnone; cases hnone
  have hno : names ≠ (names.2, names.1) := Ne.symm hon
  simp only [resolveCon, flipWorld, conWorld, dget_dset, dget_ddel]
  by_cases e1 : names = k
  · subst e1; simp [hnone, hd]
  · by_cases e2 : (names.2, names.1) = k
    · subst e2; simp [hno, hd]
    · have e3 : names ≠ (k.2, k.1) := by
        intro e; apply e2; rw [e]
      have e4 : (names.2, names.1) ≠ (k.2, k.1) := by
        intro e; apply e1; simp only [Prod.mk.injEq] at e; exact Prod.ext e.2 e.1
      simp [e1, e2, e3, e4]

/-- the loop over `connection_names`, whether it completes or raises -/
theorem reorderConnections_spec {w : World} (hI : Grid.Inv w) (cs : List CName) (acc : List Nat) :
    match reorderConnections w cs acc with
    | .ok (w', acc') => Grid.Inv w' ∧ PhysEq w w' ∧ w'.connectionlist = w.connectionlist ∧
        w'.blocklist = w.blocklist ∧ acc'.map some = acc.map some ++ cs.map (resolveCon w)
    | .error (e, w') => Grid.Inv w' ∧ PhysEq w w' ∧ w'.connectionlist = w.connectionlist ∧
        w'.blocklist = w.blocklist ∧ e = .generic ∧ ∃ k ∈ cs, resolveCon w k = none := by
  induction cs generalizing w acc with
  | nil => simp [reorderConnections, hI, PhysEq.refl]
  | cons names r ih =>
    -- one turn: the name is found, as it stands or reversed, and the loop goes on from `w1` with `c` appended; or it raises
    have turn : (∃ w1 c, reorderConnections w (names :: r) acc = reorderConnections w1 r (acc ++ [c]) ∧ Grid.Inv w1 ∧
          PhysEq w w1 ∧ w1.connectionlist = w.connectionlist ∧ w1.blocklist = w.blocklist ∧
          (∀ k, resolveCon w1 k = resolveCon w k) ∧ resolveCon w names = some c) ∨
        (reorderConnections w (names :: r) acc = .error (.generic, w) ∧ resolveCon w names = none) := by
      cases hd : dget w.connection names with
      | some c =>
        exact Or.inl ⟨w, c, by simp only [reorderConnections, hd], hI, .refl w, rfl, rfl, fun _ => rfl, by simp only [resolveCon, hd]⟩
      | none =>
        cases hd2 : dget w.connection (names.2, names.1) with
        | none => exact Or.inr ⟨by simp only [reorderConnections, hd, hd2], by simp only [resolveCon, hd, hd2]⟩
        | some c =>
          have hc := hI.cd_sound _ _ hd2
          exact Or.inl ⟨_, c, by simp only [reorderConnections, hd, hd2, flipConnection_ok hI hd2], flipWorld_inv hI hc.1 hc.2 hd,
            flipWorld_phys hI hc.1 _ names, rfl, rfl, resolveCon_flipWorld hd2 hd, by simp only [resolveCon, hd, hd2]⟩
    rcases turn with ⟨w1, c, hstep, hI1, hp, hcl, hbl, hr, hres⟩ | ⟨hstep, hres⟩
    · rw [hstep]
      have := ih hI1 (acc ++ [c])
      split at this
      · obtain ⟨i1, i2, i3, i4, i5⟩ := this
        exact ⟨i1, hp.trans i2, i3.trans hcl, i4.trans hbl, by rw [i5]; simp [hres, hr]⟩
      · obtain ⟨i1, i2, i3, i4, i5, k, hk, hn⟩ := this
        exact ⟨i1, hp.trans i2, i3.trans hcl, i4.trans hbl, i5, k, List.mem_cons_of_mem _ hk, (hr k).symm.trans hn⟩
    · rw [hstep]
      exact ⟨hI, .refl w, rfl, rfl, rfl, names, List.mem_cons_self, hres⟩

/-- the connection half of `reorder`, from the state `w1` the block half leaves -/
def reorderCons (w1 : World) (cs : List CName) : R :=
  if cs.isEmpty then .ok w1
  else match reorderConnections w1 cs [] with
    | .error e => .error e
    | .ok (w2, acc) => .ok { w2 with connectionlist := acc }

theorem reorder_eq (w : World) (bs : List Name) (cs : List CName) :
    reorder w bs cs =
      if bs.isEmpty then reorderCons w cs
      else match lookupAll w.block bs with
        | none => .error (.keyError, w)
        | some l => reorderCons { w with blocklist := l } cs := by
  unfold reorder reorderCons
  cases bs.isEmpty with
  | true => rfl
  | false => cases lookupAll w.block bs <;> rfl

theorem reorderCons_spec {w1 : World} (hI1 : Grid.Inv w1) (cs : List CName)
    (hc : cs.isEmpty = true ∨ (∃ k ∈ cs, resolveCon w1 k = none) ∨
          (cs.map (resolveCon w1)).Perm (w1.connectionlist.map some)) :
    Grid.Inv (worldOf (reorderCons w1 cs)) ∧ PhysEq w1 (worldOf (reorderCons w1 cs)) ∧
    ((∃ k ∈ cs, resolveCon w1 k = none) →
      ∃ w', reorderCons w1 cs = .error (.generic, w') ∧ w'.connectionlist = w1.connectionlist) := by
  unfold reorderCons
  by_cases he : cs.isEmpty = true
  · rw [if_pos he]
    refine ⟨hI1, .refl w1, fun ⟨k, hk, _⟩ => ?_⟩
    rw [List.isEmpty_iff.mp he] at hk; cases hk
  · rw [if_neg he]
    have := reorderConnections_spec hI1 cs []
    split at this
    · rename_i w2 acc heq
      obtain ⟨hI2, hp, hcl2, hbl2, hacc⟩ := this
      simp only [List.map_nil, List.nil_append] at hacc
      -- every name designated a connection, so none was unknown and the names were a permutation
      have hres : ¬ ∃ k ∈ cs, resolveCon w1 k = none := fun ⟨k, hk, hn⟩ => by
        have : none ∈ acc.map some := hacc ▸ List.mem_map.mpr ⟨k, hk, hn⟩
        simp at this
      have hperm : (acc.map some).Perm (w1.connectionlist.map some) :=
        hacc ▸ (hc.resolve_left he).resolve_left hres
      have hacc' := perm_of_map_some hperm
      simp only [heq]
      exact ⟨inv_of_connectionlist_perm hI2 (hcl2 ▸ hacc'), ⟨hp.blocks, hacc', hp.blk, hp.con⟩, fun h => absurd h hres⟩
    · rename_i e w2 heq
      obtain ⟨i1, i2, i3, _, i5, _⟩ := this
      simp only [heq]
      exact ⟨i1, i2, fun _ => ⟨w2, by rw [i5], i3⟩⟩

/-- **`reorder(block_names, connection_names)`** for ANY arguments in which an unknown name
    occurs, or which are permutations.  An unknown block name raises at once; an unknown connection
    pair raises after some connections were reversed — each reversal is itself consistent.  In every
    case the grid is consistent and describes the same physical network; the third clause: the
    unknown pair raises the generic exception and the connection list is not reassigned. -/
theorem reorder_spec {w : World} (hI : Grid.Inv w) (bs : List Name) (cs : List CName)
    (hb : bs.isEmpty = true ∨ lookupAll w.block bs = none ∨ (bs.map (dget w.block)).Perm (w.blocklist.map some))
    (hc : cs.isEmpty = true ∨ (∃ k ∈ cs, resolveCon w k = none) ∨
          (cs.map (resolveCon w)).Perm (w.connectionlist.map some)) :
    Grid.Inv (worldOf (reorder w bs cs)) ∧ PhysEq w (worldOf (reorder w bs cs)) ∧
    (bs.isEmpty = true ∨ lookupAll w.block bs ≠ none → (∃ k ∈ cs, resolveCon w k = none) →
      ∃ w', reorder w bs cs = .error (.generic, w') ∧ w'.connectionlist = w.connectionlist) := by
  rw [reorder_eq]
  by_cases he : bs.isEmpty = true
  · rw [if_pos he]
    have h1 := reorderCons_spec hI cs hc
    exact ⟨h1.1, h1.2.1, fun _ => h1.2.2⟩
  · rw [if_neg he]
    cases hl : lookupAll w.block bs with
    | none => exact ⟨hI, .refl w, fun h => absurd rfl (h.resolve_left he)⟩
    | some l =>
      have hperm := (hb.resolve_left he).resolve_left (by rw [hl]; exact fun h => nomatch h)
      rw [lookupAll_some hl] at hperm
      have hl' := perm_of_map_some hperm
      -- `resolveCon` reads the connection dictionary only, so `hc` speaks of the new state as well
      have h1 := reorderCons_spec (w1 := { w with blocklist := l }) (inv_of_blocklist_perm hI hl') cs hc
      have h2 : PhysEq w { w with blocklist := l } := ⟨hl', .refl _, fun _ => rfl, fun _ => rfl⟩
      exact ⟨h1.1, h2.trans h1.2.1, fun _ => h1.2.2⟩

theorem pre_reorder_eq_true {w : World} {bs : List Name} {cs : List CName} (hpre : pre w (.reorder bs cs) = true) :
    (bs.isEmpty = true ∨ lookupAll w.block bs = none ∨ (bs.map (dget w.block)).Perm (w.blocklist.map some)) ∧
    (cs.isEmpty = true ∨ (∃ k ∈ cs, resolveCon w k = none) ∨ (cs.map (resolveCon w)).Perm (w.connectionlist.map some)) := by
  unfold pre at hpre
  simp only [Bool.and_eq_true, Bool.or_eq_true, List.isPerm_iff] at hpre
  exact ⟨hpre.1.imp_right Or.inr, hpre.2.imp_right Or.inr⟩

/-- the connection names one passes to `reorder` to get the connection objects in the order `cl`,
    those with `rev c` written with their two block names swapped -/
def reversalNames (w : World) (cl : List Nat) (rev : Nat → Bool) : List CName :=
  cl.map fun c => if rev c = true then ((w.ckey c).2, (w.ckey c).1) else w.ckey c

theorem pre_reorder_of_perm {w : World} (hI : Grid.Inv w) (bl cl : List Nat) (rev : Nat → Bool)
    (hb : bl.Perm w.blocklist) (hc : cl.Perm w.connectionlist)
    (hanti : ∀ c ∈ cl, rev c = true → dget w.connection ((w.ckey c).2, (w.ckey c).1) = none) :
    pre w (.reorder (bl.map w.bname) (reversalNames w cl rev)) = true := by
  unfold pre
  simp only [Bool.and_eq_true, Bool.or_eq_true, List.isPerm_iff]
  refine ⟨Or.inr ?_, Or.inr ?_⟩
  · have e : (bl.map w.bname).map (dget w.block) = bl.map some := by
      rw [List.map_map]
      exact List.map_congr_left fun b hb' => hI.bd_complete b (hb.mem_iff.mp hb')
    rw [e]; exact hb.map some
  · have e : (reversalNames w cl rev).map (resolveCon w) = cl.map some := by
      unfold reversalNames
      rw [List.map_map]
      refine List.map_congr_left fun c hc' => ?_
      have hd := hI.cd_complete c (hc.mem_iff.mp hc')
      show resolveCon w (if rev c = true then ((w.ckey c).2, (w.ckey c).1) else w.ckey c) = some c
      by_cases hr : rev c = true
      · rw [if_pos hr]; simp only [resolveCon, hanti c hc' hr, hd]
      · rw [if_neg hr]; simp only [resolveCon, hd]
    rw [e]; exact hc.map some

end Proofs.Grid
