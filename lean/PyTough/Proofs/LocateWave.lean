/-
  The loop of `quadtree.search_wave` (C12).  It never runs out of the fuel the model
  gives it (a potential that every round lowers), and it is a complete breadth-first search of the
  neighbour graph it explores (`AvoidReach`).
-/
import PyTough.Proofs.Locate
namespace Proofs.Locate
open Model.Locate

/-- potential: elements still to do + entries of `all` not yet seen -/
def waveMu (all todo done : List Nat) : Nat :=
  todo.length + (all.filter fun n => !(done.contains n || todo.contains n)).length

theorem waveMu_append {all todo done : List Nat} {n : Nat} (hall : all.contains n = true)
    (hd : done.contains n = false) (ht : todo.contains n = false) :
    waveMu all (todo ++ [n]) done ≤ waveMu all todo done := by
  unfold waveMu
  have e : (all.filter fun m => !(done.contains m || (todo ++ [n]).contains m))
      = (all.filter fun m => !(done.contains m || todo.contains m)).filter fun m => !(m == n) := by
    rw [List.filter_filter]
    apply List.filter_congr
    intro m _
    simp only [List.contains_append, List.contains_cons, List.contains_nil, Bool.or_false, Bool.not_or, Bool.and_assoc, Bool.and_comm]
  have key : ((all.filter fun m => !(done.contains m || todo.contains m)).filter fun m => !(m == n)).length
      < (all.filter fun m => !(done.contains m || todo.contains m)).length :=
    List.length_filter_lt_length_iff_exists.mpr
      ⟨n, List.mem_filter.mpr ⟨by simpa using hall, by rw [hd, ht]; rfl⟩, by simp⟩
  rw [e, List.length_append, List.length_singleton]
  omega

theorem waveStep_cons (g : Geo) (b : Rect) (done todo : List Nat) (n : Nat) (t : List Nat) :
    waveStep g b done todo (n :: t) =
      waveStep g b done (if rectanglesIntersect (g.bbox n) b && !(done.contains n || todo.contains n) then todo ++ [n] else todo) t := by
  unfold waveStep
  rw [List.foldl_cons]

theorem waveMu_waveStep {g : Geo} {all : List Nat} {b : Rect} {done : List Nat} (nb todo : List Nat)
    (hall : ∀ n ∈ nb, all.contains n = true) : waveMu all (waveStep g b done todo nb) done ≤ waveMu all todo done := by
  unfold waveStep
  refine List.foldlRecOn (motive := fun td => waveMu all td done ≤ waveMu all todo done) nb _ (Nat.le_refl _)
    fun td htd n hn => ?_
  split
  · rename_i hc
    simp only [Bool.and_eq_true, Bool.not_eq_true', Bool.or_eq_false_iff] at hc
    exact Nat.le_trans (waveMu_append (hall n hn) hc.2.1 hc.2.2) htd
  · exact htd

/-- one round of the loop lowers the potential: `elt` leaves `todo` for `done`, and what `waveStep` adds
    was unseen -/
theorem waveMu_round (g : Geo) (all : List Nat) (b : Rect) (elt : Nat) (todo done : List Nat) :
    waveMu all (waveStep g b (done ++ [elt]) todo ((g.nbrs elt).filter fun n => all.contains n)) (done ++ [elt])
      < waveMu all (elt :: todo) done := by
  have hstep := waveMu_waveStep (g := g) (b := b) (done := done ++ [elt])
    ((g.nbrs elt).filter fun n => all.contains n) todo (fun n hn => (List.mem_filter.mp hn).2)
  have hpop : waveMu all todo (done ++ [elt]) + 1 = waveMu all (elt :: todo) done := by
    unfold waveMu
    have e : (all.filter fun n => !((done ++ [elt]).contains n || todo.contains n))
        = all.filter fun n => !(done.contains n || (elt :: todo).contains n) := by
      apply List.filter_congr
      intro m _
      simp only [List.contains_append, List.contains_cons, List.contains_nil, Bool.or_false, Bool.or_assoc]
    rw [e, List.length_cons]; omega
  omega

theorem searchWaveLoop_fuel {g : Geo} {all : List Nat} {b : Rect} {p : Pt} :
    ∀ (f1 f2 : Nat) (todo done : List Nat), waveMu all todo done < f1 → waveMu all todo done < f2 →
      searchWaveLoop g all b p f1 todo done = searchWaveLoop g all b p f2 todo done := by
  intro f1
  induction f1 with
  | zero => intro f2 todo done h1; omega
  | succ n ih =>
    intro f2 todo done h1 h2
    cases f2 with
    | zero => omega
    | succ m =>
      cases todo with
      | nil => simp [searchWaveLoop]
      | cons elt t =>
        simp only [searchWaveLoop]
        split
        · rfl
        · have := waveMu_round g all b elt t done
          exact ih _ _ _ (by omega) (by omega)

theorem waveMu_lt_searchFuel (all todo : List Nat) : waveMu all todo [] < searchFuel all todo := by
  unfold waveMu searchFuel
  have := List.length_filter_le (fun n => !(([] : List Nat).contains n || todo.contains n)) all
  omega

/-- `search_wave` with the fuel the model gives it behaves as with any larger fuel: the `none`
    of an exhausted loop is never returned. -/
theorem searchWave_fuel_enough (g : Geo) (all : List Nat) (leaf : QTree) (p : Pt) (extra : Nat) :
    searchWaveLoop g all leaf.bounds p (searchFuel all leaf.elements + extra) leaf.elements [] = searchWave g all leaf p := by
  unfold searchWave
  apply searchWaveLoop_fuel
  · have := waveMu_lt_searchFuel all leaf.elements; omega
  · exact waveMu_lt_searchFuel all leaf.elements

/-- the neighbours `search_wave` is willing to visit from `x`: in `all_elements`, bounding box
    meeting the leaf rectangle -/
def admissible (g : Geo) (all : List Nat) (b : Rect) (x : Nat) : List Nat :=
  ((g.nbrs x).filter fun n => all.contains n).filter fun n => rectanglesIntersect (g.bbox n) b

/-- `x` reaches `c` through admissible steps without touching `done` -/
inductive AvoidReach (g : Geo) (all : List Nat) (b : Rect) (c : Nat) (done : List Nat) : Nat → Prop
  | base : c ∉ done → AvoidReach g all b c done c
  | step {x n : Nat} : x ∉ done → n ∈ admissible g all b x → AvoidReach g all b c done n → AvoidReach g all b c done x

theorem AvoidReach.not_done {g : Geo} {all : List Nat} {b : Rect} {c : Nat} {done : List Nat} {x : Nat}
    (h : AvoidReach g all b c done x) : x ∉ done := by
  cases h with
  | base h => exact h
  | step h _ _ => exact h

/-- moving `elt ≠ c` to `done`: either `x` still reaches `c`, or an admissible neighbour of `elt` does -/
theorem AvoidReach.push {g : Geo} {all : List Nat} {b : Rect} {c : Nat} {done : List Nat} {elt : Nat} (hne : c ≠ elt) {x : Nat}
    (h : AvoidReach g all b c done x) :
    AvoidReach g all b c (done ++ [elt]) x ∨ ∃ m ∈ admissible g all b elt, AvoidReach g all b c (done ++ [elt]) m := by
  induction h with
  | base hc =>
    left; apply AvoidReach.base
    simp only [List.mem_append, List.mem_singleton, not_or]
    exact ⟨hc, hne⟩
  | @step x n hx hn _ ih =>
    rcases ih with ih | ih
    · by_cases hxe : x = elt
      · right; subst hxe; exact ⟨n, hn, ih⟩
      · left
        apply AvoidReach.step _ hn ih
        simp only [List.mem_append, List.mem_singleton, not_or]
        exact ⟨hx, hxe⟩
    · right; exact ih

theorem subset_waveStep {g : Geo} {b : Rect} {done : List Nat} (nb todo : List Nat) (x : Nat) (h : x ∈ todo) :
    x ∈ waveStep g b done todo nb := by
  unfold waveStep
  refine List.foldlRecOn nb _ h fun td htd n _ => ?_
  split
  · exact List.mem_append_left _ htd
  · exact htd

theorem mem_waveStep {g : Geo} {b : Rect} {done : List Nat} : ∀ (nb todo : List Nat) (m : Nat),
    m ∈ nb → rectanglesIntersect (g.bbox m) b = true → m ∉ done → m ∈ waveStep g b done todo nb := by
  intro nb
  induction nb with
  | nil => intro todo m h; cases h
  | cons n t ih =>
    intro todo m hm hint hnd
    rw [waveStep_cons]
    rcases List.mem_cons.mp hm with rfl | hm
    · apply subset_waveStep
      split
      · exact List.mem_append_right _ (List.mem_singleton_self m)
      · rename_i hcond
        -- the condition failed although m meets the rectangle and is not done: m is already in todo
        simp only [hint, Bool.true_and, Bool.not_eq_true', Bool.or_eq_false_iff, not_and,
          List.contains_eq_mem, decide_eq_false_iff_not] at hcond
        exact Classical.not_not.mp (hcond hnd)
    · exact ih _ m hm hint hnd

theorem searchWaveLoop_complete {g : Geo} {all : List Nat} {b : Rect} {p : Pt} {c : Nat}
    (hu : UniqueAt g p) (hc : g.containsPoint c p = true) :
    ∀ (fuel : Nat) (todo done : List Nat), waveMu all todo done < fuel →
      (∃ t ∈ todo, AvoidReach g all b c done t) → searchWaveLoop g all b p fuel todo done = some c := by
  intro fuel
  induction fuel with
  | zero => intro todo done h; omega
  | succ n ih =>
    intro todo done hfuel ⟨t, ht, hreach⟩
    cases todo with
    | nil => cases ht
    | cons elt rest =>
      simp only [searchWaveLoop]
      split
      · rename_i he
        rw [hu elt c he hc]
      · rename_i he
        have hne : c ≠ elt := fun h => he (h ▸ hc)
        have := waveMu_round g all b elt rest done
        apply ih _ _ (by omega)
        rcases hreach.push hne with h | ⟨m, hm, h⟩
        · have htne : t ≠ elt := fun hte => h.not_done (List.mem_append_right _ (List.mem_singleton.mpr hte))
          exact ⟨t, subset_waveStep _ _ _ ((List.mem_cons.mp ht).resolve_left htne), h⟩
        · unfold admissible at hm
          rw [List.mem_filter] at hm
          exact ⟨m, mem_waveStep _ _ _ hm.1 hm.2 h.not_done, h⟩

/-- **completeness of the quadtree search, relative to the neighbour graph**: if the column that
    contains the point is reachable from an element of the point's leaf through neighbours that are in
    the tree and whose bounding boxes meet the leaf rectangle, `qtree.search` returns it. -/
theorem search_complete_of_reachable {g : Geo} {q : QT} {p : Pt} {c : Nat} {l : QTree}
    (hu : UniqueAt g p) (hc : g.containsPoint c p = true) (hl : q.root.leaf p = some l)
    (hr : ∃ e ∈ l.elements, AvoidReach g q.all l.bounds c [] e) : q.search g p = some c := by
  unfold QT.search
  rw [hl]
  unfold searchWave
  exact searchWaveLoop_complete hu hc _ _ _ (waveMu_lt_searchFuel _ _) hr

end Proofs.Locate
