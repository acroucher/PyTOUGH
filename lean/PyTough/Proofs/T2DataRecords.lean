/-
  C01 proofs: one written record read back (on top of the C02/C13 record lemmas); before it, what the C01 files need
  of `Except` and of lists of two or three.
-/
import PyTough.Model.T2Data
import PyTough.Proofs.InconLines
namespace Proofs.T2
open Py Model Model.T2 Proofs Proofs.Incon

theorem ok_of_toBool {ε α : Type} {x : Except ε α} (h : x.toBool = true) : ∃ a, x = .ok a := by
  cases x with
  | error e => cases h
  | ok a => exact ⟨a, rfl⟩

theorem forall_ok_of_decide {ε α : Type} {x : Except ε α} {P : α → Prop} [DecidablePred P]
    (h : (match x with | .ok a => decide (P a) | .error _ => true) = true) : ∀ a, x = .ok a → P a := by
  rintro a rfl
  exact of_decide_eq_true h

-- Mathlib's `List.length_eq_two` / `_three`; these files import core only
theorem length_eq_two {α : Type} {l : List α} (h : l.length = 2) : ∃ a b, l = [a, b] :=
  match l, h with
  | [a, b], _ => ⟨a, b, rfl⟩

theorem length_eq_three {α : Type} {l : List α} (h : l.length = 3) : ∃ a b c, l = [a, b, c] :=
  match l, h with
  | [a, b, c], _ => ⟨a, b, c, rfl⟩

/-- the type letters `read_function` knows -/
def ValidTyp (c : Char) : Prop := c = 's' ∨ c = 'd' ∨ c = 'e' ∨ c = 'f' ∨ c = 'g' ∨ c = 'x'

instance (c : Char) : Decidable (ValidTyp c) := by unfold ValidTyp; infer_instance
-- `NumericTyp` is InconLines'; decidable here so that the `…Shape` structures can be decided on the generated tables
instance (c : Char) : Decidable (NumericTyp c) := by unfold NumericTyp; infer_instance

theorem NumericTyp.valid {c : Char} (h : NumericTyp c) : ValidTyp c := by
  rcases h with h | h | h | h | h <;> simp [ValidTyp, h]

/-- what a reader (default conversion functions) gets back from the columns that hold `v` -/
def canonV (f : FieldSpec) (v : Val) : Val := (reparse .default f v).toVal

theorem writeValuesLine_eq (r : Gen.Sections.Rec) (vals : List Val) :
    writeValuesLine r vals = Model.Incon.writeLine r.fs vals := by
  unfold writeValuesLine Model.Incon.writeLine nl
  rfl

/-- the written line `l` as a reader gets it: as it is, or with white space after its newline (`padstring`) -/
inductive Padded (l : Str) : Str → Prop
  | mk (pad : Str) (hpad : ∀ c ∈ pad, isStrWs c = true) : Padded l (l ++ pad)

theorem Padded.refl (l : Str) : Padded l l := by
  simpa only [List.append_nil] using Padded.mk (l := l) [] nofun

theorem Padded.padstring (l : Str) : Padded l (padstring l) := .mk _ (spaces_ws _)

/-- the values written (one per leading field) come back as their
    `canonV`, the remaining (numeric) fields of the record as `None` -/
theorem readValues_written (r : Gen.Sections.Rec) (vals : List Val)
    (hvalid : ∀ f ∈ r.fs, ValidTyp f.typ)
    (hnum : ∀ f ∈ r.fs.drop vals.length, NumericTyp f.typ)
    {l l' : Str} (h : writeValuesLine r vals = .ok l) (hp : Padded l l') :
    readValues .default r l' =
      .ok ((vals.zip r.fs).map (fun vf => canonV vf.2 vf.1) ++ (r.fs.drop vals.length).map (fun _ => Val.none)) := by
  obtain ⟨pad, hpad⟩ := hp
  rw [writeValuesLine_eq] at h
  unfold readValues
  rw [line_roundtrip .default r.fs vals hnum (fun vf hvf => hvalid _ (List.of_mem_zip hvf).2) h pad hpad]
  show Except.ok (List.map PVal.toVal _) = _
  congr 1
  rw [List.map_append, List.map_map, List.map_map]
  rfl

theorem canonV_none {f : FieldSpec} (h : NumericTyp f.typ) : canonV f .none = .none := by
  unfold canonV; rw [reparse_none _ h]; rfl

theorem canonV_int {f : FieldSpec} (ht : f.typ = 'd') {i : Int} {s : Str} (h : writeField f (.int i) = .ok s) :
    canonV f (.int i) = .int i := by
  unfold canonV; rw [reparse_int _ ht i h]; rfl

end Proofs.T2
