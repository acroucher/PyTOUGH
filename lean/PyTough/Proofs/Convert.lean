/-
  Flavour conversion (C20), the containers: membership in the section list under insert / delete / update, the
  generator list and the generator lookup under deletion (`list.remove` / `del` one object at a time) and
  assignment, and the dicts (`d[k] = v`, `del d[k]`, MULTI).
-/
import PyTough.Model.Convert
import PyTough.Proofs.ListLemmas
namespace Proofs.Convert
open Py Model.Convert Gen.ConvertTables

theorem mem_listInsert (l : List Str) (i : Nat) (x k : Str) :
    k ∈ listInsert l i x ↔ k = x ∨ k ∈ l := by
  have hl : k ∈ l ↔ k ∈ l.take i ∨ k ∈ l.drop i := by
    rw [← List.mem_append, List.take_append_drop]
  rw [listInsert, List.mem_append, List.mem_cons, hl]
  exact or_left_comm

theorem count_listInsert (l : List Str) (i : Nat) (x k : Str) :
    (listInsert l i x).count k = l.count k + if x = k then 1 else 0 := by
  rw [listInsert, List.count_append, List.count_cons, ← Nat.add_assoc, ← List.count_append, List.take_append_drop]
  simp only [beq_iff_eq]

theorem insertSectionL_of_mem {secs : List Str} {s : Str} (h : s ∈ secs) : insertSectionL secs s = secs := by
  rw [insertSectionL, if_pos (List.contains_iff_mem.mpr h)]

theorem insertSectionL_of_not_mem {secs : List Str} {s : Str} (h : s ∉ secs) :
    insertSectionL secs s = listInsert secs (sectionInsertionIndex secs s) s := by
  rw [insertSectionL, if_neg (fun hc => h (List.contains_iff_mem.mp hc))]

theorem mem_insertSectionL (secs : List Str) (s k : Str) :
    k ∈ insertSectionL secs s ↔ k = s ∨ k ∈ secs := by
  by_cases hs : s ∈ secs
  · rw [insertSectionL_of_mem hs]
    exact ⟨Or.inr, fun h => h.elim (fun e => e ▸ hs) id⟩
  · rw [insertSectionL_of_not_mem hs]
    exact mem_listInsert _ _ _ _

theorem insert_SIMUL {secs : List Str} (h : SIMUL ∉ secs) : insertSectionL secs SIMUL = SIMUL :: secs := by
  have hi : sectionInsertionIndex secs SIMUL = 0 := by
    unfold sectionInsertionIndex
    have : sections.findIdx? (· == SIMUL) = some 0 := by decide
    rw [this]
    rfl
  rw [insertSectionL_of_not_mem h, hi]
  simp [listInsert]

theorem mem_foldl_insert (xs secs : List Str) (k : Str) :
    k ∈ xs.foldl insertSectionL secs ↔ k ∈ xs ∨ k ∈ secs := by
  induction xs generalizing secs with
  | nil => simp
  | cons x r ih =>
    rw [List.foldl_cons, ih, mem_insertSectionL, List.mem_cons, or_left_comm, or_assoc]

theorem count_foldl_erase (xs l : List Str) (k : Str) :
    (xs.foldl deleteSectionL l).count k = l.count k - xs.count k := by
  induction xs generalizing l with
  | nil => rfl
  | cons x r ih =>
    rw [List.foldl_cons, ih, deleteSectionL, List.count_erase, List.count_cons, Nat.sub_sub, Nat.add_comm]

/-- after `update_sections` the section list holds exactly the keywords whose data is present -/
theorem mem_updateSectionsL (present secs : List Str) (k : Str) :
    k ∈ updateSectionsL present secs ↔ k ∈ present := by
  simp only [updateSectionsL]
  generalize hS : (List.filter (fun k => !secs.contains k) present).foldl insertSectionL secs = s1
  -- every present keyword has been inserted
  have hs1 : k ∈ present → k ∈ s1 := fun hp => by
    rw [← hS, mem_foldl_insert, List.mem_filter]
    by_cases hk : k ∈ secs
    · exact Or.inr hk
    · exact Or.inl ⟨hp, by simpa using hk⟩
  rw [← List.count_pos_iff, count_foldl_erase]
  by_cases hp : k ∈ present
  · -- and is not among the keywords erased afterwards
    have h0 : (s1.filter (fun k => !present.contains k)).count k = 0 :=
      List.count_eq_zero.mpr fun hm => by simpa [hp] using (List.mem_filter.mp hm).2
    have := List.count_pos_iff.mpr (hs1 hp)
    simp only [hp, iff_true]
    omega
  · -- any other keyword is erased as often as it occurs
    have h0 : (s1.filter (fun k => !present.contains k)).count k = s1.count k :=
      List.count_filter (by simpa using hp)
    simp only [hp, iff_false]
    omega

@[simp] theorem convGen_id (g : Gener) : (convGen g).id = g.id := by
  unfold convGen; split <;> rfl
@[simp] theorem convGen_block (g : Gener) : (convGen g).block = g.block := by
  unfold convGen; split <;> rfl
@[simp] theorem convGen_name (g : Gener) : (convGen g).name = g.name := by
  unfold convGen; split <;> rfl
@[simp] theorem convGen_payload (g : Gener) : (convGen g).payload = g.payload := by
  unfold convGen; split <;> rfl

/-! `SameObj gens`: entries with the same identity are the same record (they *are* one Python object).
  No distinctness is assumed: an object may be listed more than once.  A condition of the model only, where
  records are compared by value; of Python objects it is true. -/

def SameObj (gens : List Gener) : Prop := ∀ a ∈ gens, ∀ b ∈ gens, a.id = b.id → a = b

theorem removeObj_cons_same {y : Gener} {m : List Gener} {gid : Nat} (h : y.id = gid) :
    removeObj (y :: m) gid = m :=
  List.eraseP_cons_of_pos (beq_iff_eq.mpr h)

theorem removeObj_cons_ne {y : Gener} {m : List Gener} {gid : Nat} (h : y.id ≠ gid) :
    removeObj (y :: m) gid = y :: removeObj m gid :=
  List.eraseP_cons_of_neg fun hb => h (beq_iff_eq.mp hb)

theorem foldl_removeObj_cons_ne (dl : List Gener) (y : Gener) (m : List Gener) (h : ∀ g ∈ dl, g.id ≠ y.id) :
    dl.foldl (fun l g => removeObj l g.id) (y :: m) = y :: dl.foldl (fun l g => removeObj l g.id) m := by
  induction dl generalizing m with
  | nil => rfl
  | cons g r ih =>
    have hg : y.id ≠ g.id := fun h' => h g (List.mem_cons_self ..) h'.symm
    rw [List.foldl_cons, List.foldl_cons, removeObj_cons_ne hg]
    exact ih _ (fun g' hg' => h g' (List.mem_cons_of_mem _ hg'))

/-- removing, one `list.remove` at a time, every listed object that satisfies `p` (a property of the object)
    leaves exactly the others — whether or not an object is listed several times -/
theorem foldl_removeObj_filter (l : List Gener) (p : Gener → Bool) (f : Gener → Gener) (hf : ∀ g, (f g).id = g.id)
    (hs : SameObj l) :
    (l.filter p).foldl (fun l g => removeObj l g.id) (l.map f) = (l.filter (fun g => !p g)).map f := by
  induction l with
  | nil => rfl
  | cons x r ih =>
    have hs' : SameObj r := fun a ha b hb => hs a (List.mem_cons_of_mem _ ha) b (List.mem_cons_of_mem _ hb)
    by_cases hp : p x = true
    · simp only [List.filter_cons, hp, if_true, List.map_cons, List.foldl_cons, Bool.not_true, Bool.false_eq_true, if_false]
      rw [removeObj_cons_same (hf x)]
      exact ih hs'
    · have hp' : p x = false := by simpa using hp
      simp only [List.filter_cons, hp', Bool.false_eq_true, if_false, List.map_cons, Bool.not_false, if_true]
      rw [foldl_removeObj_cons_ne]
      · rw [ih hs']
      · intro g hg hid
        have hg' := List.mem_filter.mp hg
        have : g = x := hs g (List.mem_cons_of_mem _ hg'.1) x (List.mem_cons_self ..) (by rw [hid, hf])
        rw [this, hp'] at hg'
        exact Bool.noConfusion hg'.2

theorem convGensList_eq (gens : List Gener) (hs : SameObj gens) :
    convGensList gens = (gens.filter (fun g => !toDelete g)).map convGen :=
  foldl_removeObj_filter gens toDelete convGen convGen_id hs

/-- the generator list after conversion: the generators that are not deleted, converted, in their order -/
theorem convertGenerators_gens (d : T2) (h : (d.gens.map (·.id)).Nodup) :
    (convertGenerators d).gens = (d.gens.filter (fun g => !toDelete g)).map convGen :=
  convGensList_eq d.gens (inj_of_nodup_map Gener.id d.gens h)

abbrev GDict := List ((Str × Str) × Nat)

/-- `e` is the lookup entry *of* `g`: stored under its (block, name) and pointing to that very object -/
def entryOf (g : Gener) (e : (Str × Str) × Nat) : Bool := e.1 == (g.block, g.name) && e.2 == g.id

theorem dictStep_eq_filter (dc : GDict) (g : Gener) (hk : (dc.map (·.1)).Nodup) :
    dictStep dc g = dc.filter fun e => !entryOf g e := by
  unfold dictStep
  split
  · rename_i hl
    have hl : dc.lookup (g.block, g.name) = some g.id := by simpa using hl
    refine List.filter_congr fun e he => ?_
    by_cases h1 : e.1 = (g.block, g.name)
    · -- the one entry under this key is the one the lookup found
      have h2 := lookup_of_mem_nodup dc hk e.1 e.2 he
      rw [h1, hl] at h2
      simp [entryOf, h1, (Option.some.inj h2).symm]
    · simp [entryOf, beq_false_of_ne h1, h1]
  · rename_i hl
    refine (List.filter_eq_self.mpr fun e he => ?_).symm
    cases h : entryOf g e with
    | false => rfl
    | true =>
      simp only [entryOf, Bool.and_eq_true, beq_iff_eq] at h
      have h2 := lookup_of_mem_nodup dc hk e.1 e.2 he
      rw [h.1, h.2] at h2
      exact absurd (by simp [h2]) hl

theorem foldl_dictStep_eq_filter (dl : List Gener) (dc : GDict) (hk : (dc.map (·.1)).Nodup) :
    dl.foldl dictStep dc = dc.filter fun e => dl.all fun g => !entryOf g e := by
  induction dl generalizing dc with
  | nil => exact (List.filter_eq_self.mpr fun _ _ => rfl).symm
  | cons g r ih =>
    rw [List.foldl_cons, dictStep_eq_filter dc g hk, ih _ (hk.sublist (List.filter_sublist.map _)), List.filter_filter]
    simp only [List.all_cons, Bool.and_comm]

theorem convDict_eq (gens : List Gener) (dict : GDict) (hk : (dict.map (·.1)).Nodup) :
    convDict gens dict = dict.filter fun e => (gens.filter toDelete).all fun g => !entryOf g e :=
  foldl_dictStep_eq_filter _ dict hk

theorem convDict_mem (gens : List Gener) (dict : GDict) (hk : (dict.map (·.1)).Nodup) (e : (Str × Str) × Nat) :
    e ∈ convDict gens dict ↔
      e ∈ dict ∧ ∀ g ∈ gens, toDelete g = true → ¬ (e.1 = (g.block, g.name) ∧ e.2 = g.id) := by
  -- membership in the filter of `convDict_eq`, its Boolean test read as a proposition
  simp only [convDict_eq gens dict hk, List.mem_filter, List.all_eq_true, entryOf, and_imp, Bool.not_eq_true',
    ← Bool.not_eq_true, Bool.and_eq_true, beq_iff_eq]

theorem convDict_nodup_keys (gens : List Gener) (dict : GDict) (hk : (dict.map (·.1)).Nodup) :
    ((convDict gens dict).map (·.1)).Nodup := by
  rw [convDict_eq gens dict hk]
  exact hk.sublist (List.filter_sublist.map _)

/-- the lookup after conversion, when an entry that points to a generator is stored under that generator's
    (block, name): exactly the former entries that do not point to a deleted generator -/
theorem convertGenerators_lookup (d : T2) (hk : (d.gendict.map (·.1)).Nodup)
    (hwf : ∀ e ∈ d.gendict, ∀ g ∈ d.gens, g.id = e.2 → (g.block, g.name) = e.1) (e : (Str × Str) × Nat) :
    e ∈ (convertGenerators d).gendict ↔ e ∈ d.gendict ∧ ∀ g ∈ d.gens, toDelete g = true → g.id ≠ e.2 := by
  show e ∈ convDict d.gens d.gendict ↔ _
  rw [convDict_mem _ _ hk]
  constructor
  · rintro ⟨he, h⟩
    exact ⟨he, fun g hg hd hid => h g hg hd ⟨(hwf e he g hg hid).symm, hid.symm⟩⟩
  · rintro ⟨he, h⟩
    exact ⟨he, fun g hg hd hkey => h g hg hd hkey.2.symm⟩

/-! `self.generator[key] = obj` (`gdSet`): keys stay unique, the entry of the key is replaced where it stands -/

theorem gdSet_keys (dc : GDict) (k : Str × Str) (v : Nat) :
    (gdSet dc k v).map (·.1) = if k ∈ dc.map (·.1) then dc.map (·.1) else dc.map (·.1) ++ [k] := by
  induction dc with
  | nil => simp [gdSet]
  | cons x r ih =>
    obtain ⟨a, b⟩ := x
    unfold gdSet
    by_cases h : a = k
    · subst h; simp
    · have h1 : (a == k) = false := by simpa using h
      have h2 : ¬ k = a := fun h' => h h'.symm
      simp only [h1, Bool.false_eq_true, if_false, List.map_cons, ih, List.mem_cons, h2, false_or]
      split <;> simp

theorem gdSet_nodup_keys (dc : GDict) (k : Str × Str) (v : Nat) (hk : (dc.map (·.1)).Nodup) :
    ((gdSet dc k v).map (·.1)).Nodup := by
  rw [gdSet_keys]
  split
  · exact hk
  · rename_i h
    exact List.nodup_append.mpr ⟨hk, by simp, by
      intro a ha b hb
      simp only [List.mem_singleton] at hb
      subst hb
      exact fun hab => h (hab ▸ ha)⟩

/-- `d[k] = v` on an association list, for any function with the two equations of `gdSet` and `Dict.set` (which, unlike
    `Proofs.upsert`, overwrite the first entry of the key only) -/
theorem lookup_set_of_eqns {α β : Type} [BEq α] [LawfulBEq α] [DecidableEq α] (set : List (α × β) → α → β → List (α × β))
    (h0 : ∀ k v, set [] k v = [(k, v)])
    (h1 : ∀ k' v' r k v, set ((k', v') :: r) k v = if k' == k then (k', v) :: r else (k', v') :: set r k v)
    (l : List (α × β)) (k j : α) (v : β) :
    (set l k v).lookup j = if j = k then some v else l.lookup j := by
  induction l with
  | nil => rw [h0]; exact lookup_cons_ite k j v []
  | cons x r ih =>
    obtain ⟨a, b⟩ := x
    rw [h1, lookup_cons_ite a j b]
    by_cases ha : a = k
    · rw [if_pos (beq_iff_eq.mpr ha), lookup_cons_ite, ha]
      split <;> rfl
    · rw [if_neg (mt beq_iff_eq.mp ha), lookup_cons_ite, ih]
      by_cases hj : j = a
      · rw [if_pos hj, if_pos hj, if_neg fun e => ha (hj.symm.trans e)]
      · rw [if_neg hj, if_neg hj]

theorem lookup_gdSet (dc : GDict) (k j : Str × Str) (v : Nat) :
    (gdSet dc k v).lookup j = if j = k then some v else dc.lookup j :=
  lookup_set_of_eqns gdSet (fun _ _ => rfl) (fun _ _ _ _ _ => rfl) dc k j v

theorem has_set (m : Dict) (k k' : Str) (v : PyV) : (Dict.set m k v).has k' = (m.has k' || k == k') := by
  induction m with
  | nil => simp [Dict.set, Dict.has]
  | cons x r ih =>
    unfold Dict.set
    split
    · rename_i h
      have hx : x.1 = k := by simpa using h
      by_cases hk : k = k' <;> simp [Dict.has, hx, hk]
    · simp only [Dict.has, List.any_cons] at ih ⊢
      rw [ih, Bool.or_assoc]

theorem has_del (m : Dict) (k : Str) : (Dict.del m k).has k = false := by
  simp [Dict.has, Dict.del]

theorem has_del_ne (m : Dict) (k k' : Str) (h : k ≠ k') : (Dict.del m k).has k' = m.has k' := by
  simp only [Dict.del, Dict.has, List.any_filter]
  congr 1
  funext x
  by_cases hx : x.1 = k' <;> simp [hx, Ne.symm h]

theorem isEmpty_set (m : Dict) (k : Str) (v : PyV) : (Dict.set m k v).isEmpty = false := by
  cases m with
  | nil => rfl
  | cons x r => unfold Dict.set; split <;> rfl

theorem get_set (m : Dict) (k j : Str) (v : PyV) :
    Dict.get? (Dict.set m k v) j = if j = k then some v else Dict.get? m j :=
  lookup_set_of_eqns Dict.set (fun _ _ => rfl) (fun _ _ _ _ _ => rfl) m k j v

theorem multiA2T_no_eos (m : Dict) : (multiA2T m).has kEos = false := by
  unfold multiA2T
  split
  · rename_i h
    have : m = [] := by simpa using h
    subst this; rfl
  · rw [has_set]
    have hne : (kNumInc == kEos) = false := by decide
    rw [hne, Bool.or_false]
    split
    · exact has_del _ _
    · rename_i h; simpa using h

/-- MULTI stays present / absent -/
theorem multiA2T_isEmpty (m : Dict) : (multiA2T m).isEmpty = m.isEmpty := by
  unfold multiA2T
  split
  · rfl
  · rename_i h
    rw [isEmpty_set]
    simpa using h

theorem multiT2A_eos (eos : Str) (m : Dict) (h : m ≠ []) :
    Dict.get? (multiNumInc (multiSetEos eos m)) kEos = some (.str eos) := by
  have h1 : m.isEmpty = false := List.isEmpty_eq_false_iff.mpr h
  unfold multiNumInc multiSetEos
  simp only [h1, isEmpty_set, Bool.false_eq_true, if_false]
  rw [get_set, if_neg (by decide), get_set, if_pos rfl]

end Proofs.Convert
