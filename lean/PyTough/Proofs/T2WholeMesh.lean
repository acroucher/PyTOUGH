/-
  C01: whole objects written with the mesh in an ASCII MESH file: `write()` leaves ELEME / CONNE out of the main
  file, `read()` runs the keyword loop on the main file and then `read_meshfile` on the MESH file.
-/
import PyTough.Proofs.T2WholeKinds
namespace Proofs.T2
open Py Model Model.T2 Proofs Proofs.Incon
open Gen.Sections (Rec)

theorem readMeshfile_written (d d0 : T2Data)
    (hb : ∀ b ∈ d.blocks, GoodBlock d0.rocks b) (hwb : ∀ b ∈ d.blocks, ∃ l, writeBlock mainTabs b = .ok l)
    (hc : ∀ c ∈ d.conns, GoodConn (canonBlocks d.blocks) c) (hwc : ∀ c ∈ d.conns, ∃ l, writeConn mainTabs c = .ok l)
    (bl cl : List Str) (hbl : writeBlocks mainTabs d.blocks = .ok bl) (hcl : writeConns mainTabs d.conns = .ok cl) :
    readMeshfile .default ((bl ++ cl).length + 1) d0 (bl ++ cl) =
      .ok { d0 with blocks := canonBlocks d.blocks, conns := canonConns d.conns,
                    sections := d0.sections ++ [c!"ELEME", c!"CONNE"] } := by
  obtain ⟨_, hbl', B, rfl, h1⟩ := blocks_readsBack (block_shape mainTabs (Or.inl rfl)) d0.rocks d.blocks hb hwb
  obtain ⟨_, hcl', C, rfl, h2⟩ := conns_readsBack (conn_shape mainTabs (Or.inl rfl)) (canonBlocks d.blocks) d.conns hc hwc
  cases hbl.symm.trans hbl'
  cases hcl.symm.trans hcl'
  obtain ⟨n, hn⟩ : ∃ n, ((nl c!"ELEME" :: B) ++ (nl c!"CONNE" :: C)).length + 1 = n + 3 :=
    ⟨B.length + C.length, by simp only [List.length_append, List.length_cons]; omega⟩
  have hk1 : keywordOf (nl c!"ELEME") = c!"ELEME" := by decide
  have hk2 : keywordOf (nl c!"CONNE") = c!"CONNE" := by decide
  have h1' : ∀ rest, readBlocks .default mainTabs d0.rocks (B ++ rest) = .ok (canonBlocks d.blocks, rest) := h1
  have h2' : readConns .default mainTabs (canonBlocks d.blocks) C = .ok (canonConns d.conns, []) := by
    have := h2 []
    rwa [List.append_nil] at this
  rw [hn, List.cons_append]
  simp +decide only [readMeshfile, hk1, hk2, readGridSection, ↓reduceIte, h1', h2', bind, Except.bind, pure,
    Except.pure, List.append_assoc, List.singleton_append]

/-- the sections `write()` leaves out of the main file when the mesh goes to a MESH file -/
def notMesh (kw : Str) : Bool := !([c!"ELEME", c!"CONNE"] : List Str).contains kw

theorem mapM_skip (f : Str → Except Exc (List Str)) (p : Str → Bool) :
    ∀ (kws : List Str) (texts : List (List Str)),
      kws.mapM (fun kw => if p kw then f kw else pure []) = .ok texts →
      ∃ texts', (kws.filter p).mapM f = .ok texts' ∧ texts'.flatten = texts.flatten := by
  intro kws
  induction kws with
  | nil => intro texts h; simp only [List.mapM_nil, pure, Except.pure] at h; cases h; exact ⟨[], rfl, rfl⟩
  | cons k ks ih =>
    intro texts h
    obtain ⟨t, ts, h1, h2, rfl⟩ := mapM_cons_ok _ _ _ _ h
    obtain ⟨ts', h3, h4⟩ := ih ts h2
    by_cases hp : p k = true
    · simp only [hp, ↓reduceIte] at h1
      refine ⟨t :: ts', ?_, by simp [h4]⟩
      simp only [List.filter_cons, hp, ↓reduceIte, List.mapM_cons, h1, h3, bind, Except.bind, pure, Except.pure]
    · simp only [hp, pure, Except.pure] at h1
      cases h1
      refine ⟨ts', ?_, by simp [h4]⟩
      simp only [List.filter_cons, hp]
      exact h3

theorem write_ascii (d : T2Data) (hxp : d.extraPrecision = [])
    (cfg : WriteCfg) (hfl : FlavourOK d cfg) (hcfg : cfg.mesh = .ascii) (d' : T2Data) (f : Files) (hw : d.write cfg = .ok (d', f)) :
    d' = d.updateSections ∧ ∃ texts bl cl, (d'.sections.filter notMesh).mapM (writeSection mainTabs d') = .ok texts ∧
      writeBlocks mainTabs d'.blocks = .ok bl ∧ writeConns mainTabs d'.conns = .ok cl ∧
      f = { main := [nl (strip d.title)] ++ texts.flatten ++ [nl d.endKeyword], mesh := some (bl ++ cl), pdat := none } := by
  have hx : d.updateSections.extraPrecision = [] := hxp
  unfold T2Data.write at hw
  have h1 : (MeshKind.ascii == MeshKind.ascii) = true := by decide
  have h2 : (MeshKind.ascii == MeshKind.infile) = false := by decide
  have hw' : (writeBlocks mainTabs d.updateSections.blocks >>= fun bl =>
      writeConns mainTabs d.updateSections.conns >>= fun cl =>
      List.mapM (fun kw => if (![c!"ELEME", c!"CONNE"].contains kw) = true then
                writeSection mainTabs d.updateSections kw else Except.ok []) d.updateSections.sections >>=
      fun v => (.ok (d.updateSections, { main := [nl (strip d.updateSections.title)] ++ v.flatten ++ [nl d.updateSections.endKeyword],
                                          mesh := some (bl ++ cl), pdat := none }) : Except Exc (T2Data × Files))) = .ok (d', f) := by
    cases ha : d.updateSections.autough2 <;>
      simpa only [hcfg, ha, writeExtraPrecision_covered d hxp cfg hfl, h1, h2, Bool.false_eq_true, if_false, if_true, pure, bind,
        Except.pure, Except.bind, hx, List.contains_nil, Bool.not_false, Bool.true_or, Bool.and_true] using hw
  simp only [bind_ok_iff] at hw'
  obtain ⟨bl, hb, cl, hc, v, hm, h⟩ := hw'
  cases h
  obtain ⟨texts, ht, hflat⟩ := mapM_skip (writeSection mainTabs d.updateSections) notMesh d.updateSections.sections v hm
  exact ⟨rfl, texts, bl, cl, ht, hb, hc, by rw [hflat]; rfl⟩

/-- a successful `write()` of a covered flavour returns the object with `_sections` updated, and nothing else changed -/
theorem write_updates (d : T2Data) (hxp : d.extraPrecision = []) (cfg : WriteCfg) (hfl : FlavourOK d cfg)
    (hcfg : cfg.mesh = .infile ∨ cfg.mesh = .ascii) (h : (d.write cfg).toBool = true) :
    ∃ f, d.write cfg = .ok (d.updateSections, f) := by
  obtain ⟨⟨d', f⟩, h⟩ := ok_of_toBool h
  have hd : d' = d.updateSections := by
    rcases hcfg with hc | hc
    · exact (write_infile d hxp cfg hfl hc d' f h).1
    · exact (write_ascii d hxp cfg hfl hc d' f h).1
  subst hd
  exact ⟨f, h⟩

/-- `hnob`: the object read from the main file holds no blocks, so `read_meshfile` runs -/
theorem whole_read_write_ascii (d : T2Data) (step : Str → T2Data → T2Data) (Good : Str → T2Data → Prop) (K : Str → Prop)
    (hK : ∀ kw, K kw → kw ∈ allSections)
    (hxp : d.extraPrecision = []) (hend : IsEnd d.endKeyword)
    (cfg : WriteCfg) (hfl : FlavourOK d cfg) (hcfg : cfg.mesh = .ascii) (d' : T2Data) (f : Files) (hw : d.write cfg = .ok (d', f))
    (hstep : ∀ kw d0, K kw → d0.extraPrecision = [] → Good kw d0 → StepRT d' kw d0 (step kw d0))
    (hKs : ∀ kw ∈ d'.sections.filter notMesh, K kw)
    (hgood : GoodFrom step Good (d'.sections.filter notMesh) (startObj d))
    (hnob : (canonFrom step (d'.sections.filter notMesh) (startObj d)).blocks = [])
    (hb : ∀ b ∈ d'.blocks, GoodBlock (canonFrom step (d'.sections.filter notMesh) (startObj d)).rocks b)
    (hwb : ∀ b ∈ d'.blocks, ∃ l, writeBlock mainTabs b = .ok l)
    (hc : ∀ c ∈ d'.conns, GoodConn (canonBlocks d'.blocks) c) (hwc : ∀ c ∈ d'.conns, ∃ l, writeConn mainTabs c = .ok l) :
    T2Data.read .default f =
      .ok { canonFrom step (d'.sections.filter notMesh) (startObj d) with
              blocks := canonBlocks d'.blocks, conns := canonConns d'.conns,
              sections := (canonFrom step (d'.sections.filter notMesh) (startObj d)).sections ++ [c!"ELEME", c!"CONNE"],
              endKeyword := d.endKeyword } := by
  obtain ⟨hd', texts, bl, cl, hm, hbl, hcl, rfl⟩ := write_ascii d hxp cfg hfl hcfg d' f hw
  have hloop := (whole_loop d' step Good K hK hstep d.endKeyword hend _
    (startObj d) none (texts.flatten ++ [nl d.endKeyword])
    ((texts.flatten ++ [nl d.endKeyword]).length + 2) texts hKs rfl hgood hm (Or.inl ⟨rfl, rfl⟩) (by omega)).2
  generalize hA : canonFrom step (d'.sections.filter notMesh) (startObj d) = a at hloop hnob hb ⊢
  have hmesh := readMeshfile_written d' { a with endKeyword := d.endKeyword } hb hwb hc hwc bl cl hbl hcl
  refine (read_titled d (texts.flatten ++ [nl d.endKeyword]) (some (bl ++ cl))).trans ?_
  rw [hloop]
  show (if ({ a with endKeyword := d.endKeyword } : T2Data).blocks.isEmpty then _ else _) = _
  have : ({ a with endKeyword := d.endKeyword } : T2Data).blocks.isEmpty = true := by
    show a.blocks.isEmpty = true
    rw [hnob]; rfl
  rw [this, if_pos rfl, hmesh]

end Proofs.T2
