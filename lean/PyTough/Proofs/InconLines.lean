/-
  One written line read back (C13; the records of C01 use it too).  `reparse rf f v` is the reading of the text written for `v` in
  field `f`; `reparse_int`, `reparse_real`, `reparse_none`, `reparse_name` say what it is for each kind of
  value.  `line_roundtrip`: a written line, followed by whitespace only (the newline, the padding
  `padstring` adds), parses to the `reparse` of its values and to `None` in the (numeric) fields it
  leaves empty: `parse_written` of `FixedRecord`, with `parseString_ws` for what follows.
-/
import PyTough.Model.Incon
import PyTough.Proofs.FixedRecord
namespace Proofs.Incon
open Py Model Model.Incon Proofs

/-- the field types in which whitespace-only text reads as "nothing" (`read_ws`) -/
def NumericTyp (typ : Char) : Prop := typ = 'd' ∨ typ = 'e' ∨ typ = 'f' ∨ typ = 'g' ∨ typ = 'x'

theorem numeric_of_e {f : FieldSpec} (h : f.typ = 'e') : NumericTyp f.typ := Or.inr (Or.inl h)
theorem numeric_of_d {f : FieldSpec} (h : f.typ = 'd') : NumericTyp f.typ := Or.inl h

/-- what a value reads back as after `write_values_to_string` put it in field `f`:
    the composition characterised by `Proofs.roundtrip_*` (`FixedRecord`) -/
def reparse (rf : ReadFn) (f : FieldSpec) (v : Val) : PVal :=
  match writeField f v with
  | .ok s => (match readField rf f.typ s with | .ok p => p | .error _ => .none)
  | .error _ => .none

theorem reparse_eq {rf : ReadFn} {f : FieldSpec} {v : Val} {s : Str} {p : PVal}
    (hw : writeField f v = .ok s) (hr : readField rf f.typ s = .ok p) : reparse rf f v = p := by
  unfold reparse; rw [hw]; simp only; rw [hr]

-- what the numeric fields of an initial-conditions file are asked to hold (`Kind`, `BlockWF`, `TimingWF`)
def IsReal (v : Val) : Prop := ∃ r, v = .real r
def IsRealOrNone (v : Val) : Prop := v = .none ∨ ∃ r, v = .real r
def IsIntOrNone (v : Val) : Prop := v = .none ∨ ∃ i, v = .int i

theorem reparse_real (rf : ReadFn) {f : FieldSpec} (ht : f.typ = 'e') (r : Rat) {s : Str}
    (h : writeField f (.real r) = .ok s) :
    ∃ q, q ≤ f.prec.getD 6 ∧ reparse rf f (.real r) =
      .flt (.fin (decide (r < 0)) (fmtEParts q r.num.natAbs r.den).1 ((fmtEParts q r.num.natAbs r.den).2 - q)) := by
  obtain ⟨q, hq, hr⟩ := roundtrip_e_real rf ht r h
  exact ⟨q, hq, reparse_eq h (by rw [ht]; exact hr)⟩

theorem reparse_int (rf : ReadFn) {f : FieldSpec} (ht : f.typ = 'd') (i : Int) {s : Str}
    (h : writeField f (.int i) = .ok s) : reparse rf f (.int i) = .int i :=
  reparse_eq h (by rw [ht]; exact roundtrip_d_int rf ht i h)

theorem reparse_real_ne_none (rf : ReadFn) {f : FieldSpec} (ht : f.typ = 'e') {v : Val} (hv : IsReal v) {s : Str}
    (h : writeField f v = .ok s) : reparse rf f v ≠ .none := by
  obtain ⟨r, rfl⟩ := hv
  obtain ⟨q, _, hq⟩ := reparse_real rf ht r h
  rw [hq]; simp

theorem reparse_none (rf : ReadFn) {f : FieldSpec} (ht : NumericTyp f.typ) : reparse rf f .none = .none := by
  obtain ⟨h1, h2⟩ := roundtrip_absent rf (f := f) (v := .none) (Or.inl rfl)
  exact reparse_eq h1 (h2 ht)

theorem reparse_name (rf : ReadFn) {f : FieldSpec} (ht : f.typ = 's') (hp : f.prec = none)
    {nm : Str} (hlen : nm.length = f.width) (hnl : '\n' ∉ nm) :
    writeField f (.str nm) = .ok nm ∧ reparse rf f (.str nm) = .str nm :=
  have h := roundtrip_s_full rf ht hp hlen hnl
  ⟨h.1, reparse_eq h.1 (by rw [ht]; exact h.2)⟩

theorem writeLine_ok {fs : List FieldSpec} {vals : List Val} {l : Str} (h : writeLine fs vals = .ok l) :
    ∃ rec, writeValues fs vals = .ok rec ∧ l = rec ++ ['\n'] := by
  obtain ⟨rec, hw, h⟩ := bind_ok_iff.mp h
  cases h
  exact ⟨rec, hw, rfl⟩

theorem written_each {fs : List FieldSpec} {vals : List Val} {l : Str} (h : writeLine fs vals = .ok l) :
    ∀ vf ∈ vals.zip fs, ∃ s, writeField vf.2 vf.1 = .ok s := by
  obtain ⟨rec, hwv, _⟩ := writeLine_ok h
  obtain ⟨strs, hs, _⟩ := writeValues_ok_iff.mp hwv
  intro vf hvf
  obtain ⟨s, _, h'⟩ := hs.left vf hvf
  exact ⟨s, h'⟩

theorem line_roundtrip (rf : ReadFn) (fs : List FieldSpec) (vals : List Val)
    (hnum : ∀ f ∈ fs.drop vals.length, NumericTyp f.typ)
    (htyp : ∀ vf ∈ vals.zip fs, vf.2.typ = 's' ∨ vf.2.typ = 'd' ∨ vf.2.typ = 'e' ∨ vf.2.typ = 'f' ∨ vf.2.typ = 'g' ∨ vf.2.typ = 'x')
    {l : Str} (h : writeLine fs vals = .ok l) (ws : Str) (hws : ∀ c ∈ ws, isStrWs c = true) :
    parseString rf fs (l ++ ws) =
      .ok ((vals.zip fs).map (fun vf => reparse rf vf.2 vf.1) ++ (fs.drop vals.length).map (fun _ => PVal.none)) := by
  obtain ⟨rec, hw, rfl⟩ := writeLine_ok h
  have hnl : ∀ c ∈ ['\n'] ++ ws, isStrWs c = true := List.forall_mem_append.mpr ⟨by decide, hws⟩
  rw [List.append_assoc, parse_written rf _ fs vals hw, parseString_ws rf hnum hnl,
    mapM_pure_map _ (fun vf => reparse rf vf.2 vf.1) _ (fun vf hvf => by
      obtain ⟨s, hs⟩ := written_each h vf hvf
      obtain ⟨p, hp⟩ := readField_total rf (htyp vf hvf) s
      rw [hs, ok_bind, hp, reparse_eq hs hp]; rfl)]
  rfl

theorem padded_roundtrip (rf : ReadFn) (fs : List FieldSpec) (vals : List Val)
    (hnum : ∀ f ∈ fs.drop vals.length, NumericTyp f.typ)
    (htyp : ∀ vf ∈ vals.zip fs, vf.2.typ = 's' ∨ vf.2.typ = 'd' ∨ vf.2.typ = 'e' ∨ vf.2.typ = 'f' ∨ vf.2.typ = 'g' ∨ vf.2.typ = 'x')
    {l : Str} (h : writeLine fs vals = .ok l) :
    parseString rf fs (padstring l) =
      .ok ((vals.zip fs).map (fun vf => reparse rf vf.2 vf.1) ++ (fs.drop vals.length).map (fun _ => PVal.none)) :=
  line_roundtrip rf fs vals hnum htyp h (List.replicate (80 - l.length) ' ') (spaces_ws _)

end Proofs.Incon
