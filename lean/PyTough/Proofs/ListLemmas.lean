/-
  Core-Lean facts that the proof modules share, in five parts: inversion of `>>=` and `Except.map`; a run of `List.mapM`
  read as the element-wise relation `All2` between arguments and results; `foldlM`; association lists written by
  `upsert` and read by `List.lookup` (the insertion-ordered dicts of the models); plain facts about lists.
-/
namespace Proofs

theorem bind_ok_iff.{u, v} {ε : Type u} {α β : Type v} {x : Except ε α} {f : α → Except ε β} {b : β} :
    (x >>= f) = .ok b ↔ ∃ a, x = .ok a ∧ f a = .ok b := by
  cases x with
  | error e => exact ⟨fun h => (by cases h), fun ⟨a, h, _⟩ => (by cases h)⟩
  | ok a => exact ⟨fun h => ⟨a, rfl, h⟩, fun ⟨a', h, h'⟩ => (by cases h; exact h')⟩

theorem ok_bind {ε α β : Type} (a : α) (f : α → Except ε β) : (Except.ok a >>= f) = f a := rfl

theorem map_ok_iff {ε α β : Type} {x : Except ε α} {g : α → β} {b : β} : x.map g = .ok b ↔ ∃ a, x = .ok a ∧ b = g a := by
  cases x with
  | error e => exact ⟨nofun, fun ⟨_, h, _⟩ => nomatch h⟩
  | ok a => exact ⟨fun h => ⟨a, rfl, (Except.ok.inj h).symm⟩, fun ⟨_, h, e⟩ => by cases h; rw [e]; rfl⟩

theorem map_eq_map_cases {ε α β γ : Type} {A : Except ε α} {V : Except ε β} {f : α → γ} {g : β → γ} (h : A.map f = V.map g) :
    (∃ e, A = .error e ∧ V = .error e) ∨ ∃ a v, A = .ok a ∧ V = .ok v ∧ f a = g v := by
  cases A with
  | error e =>
    cases V with
    | error e' => injection h with h; exact .inl ⟨e, rfl, by rw [h]⟩
    | ok v => cases h
  | ok a =>
    cases V with
    | error e' => cases h
    | ok v => injection h with h; exact .inr ⟨a, v, rfl, rfl, h⟩

theorem error_iff_map_error {ε α β : Type} (x : Except ε α) (f : α → β) (e : ε) : x = .error e ↔ x.map f = .error e := by
  cases x with
  | error e' => exact ⟨fun h => by rw [h]; rfl, fun h => by injection h with h; rw [h]⟩
  | ok a => exact ⟨nofun, nofun⟩

/-- two lists of equal length related element by element -/
inductive All2 {α β : Type} (R : α → β → Prop) : List α → List β → Prop where
  | nil : All2 R [] []
  | cons {a b as bs} (h : R a b) (t : All2 R as bs) : All2 R (a :: as) (b :: bs)

section
variable {α β : Type} {R : α → β → Prop} {l : List α} {m : List β}

theorem All2.length_eq (h : All2 R l m) : l.length = m.length := by
  induction h with
  | nil => rfl
  | cons _ _ ih => simp [ih]

theorem All2.imp {R' : α → β → Prop} (h : All2 R l m) (hi : ∀ a ∈ l, ∀ b, R a b → R' a b) : All2 R' l m := by
  induction h with
  | nil => exact .nil
  | cons hab _ ih =>
    exact .cons (hi _ (by simp) _ hab) (ih (fun a ha => hi a (List.mem_cons_of_mem _ ha)))

theorem All2.left (h : All2 R l m) : ∀ a ∈ l, ∃ b ∈ m, R a b := by
  induction h with
  | nil => intro a ha; cases ha
  | cons hab _ ih =>
    intro a ha
    rcases List.mem_cons.mp ha with rfl | ha
    · exact ⟨_, by simp, hab⟩
    · obtain ⟨b, hb, hr⟩ := ih a ha
      exact ⟨b, List.mem_cons_of_mem _ hb, hr⟩

theorem All2.zip (h : All2 R l m) : ∀ p ∈ l.zip m, R p.1 p.2 := by
  induction h with
  | nil => nofun
  | cons hab _ ih => exact List.forall_mem_cons.mpr ⟨hab, ih⟩

theorem All2.flip (h : All2 R l m) : All2 (fun b a => R a b) m l := by
  induction h with
  | nil => exact .nil
  | cons hab _ ih => exact .cons hab ih

theorem All2.right (h : All2 R l m) : ∀ b ∈ m, ∃ a ∈ l, R a b := h.flip.left

theorem All2.map_left {γ : Type} {g : γ → α} {l : List γ} (h : All2 (fun c b => R (g c) b) l m) :
    All2 R (l.map g) m := by
  induction h with
  | nil => exact .nil
  | cons hab _ ih => exact .cons hab ih

theorem All2.append_inv : ∀ {l₁ l₂ : List α} {m : List β},
    All2 R (l₁ ++ l₂) m → ∃ m₁ m₂, m = m₁ ++ m₂ ∧ All2 R l₁ m₁ ∧ All2 R l₂ m₂ := by
  intro l₁
  induction l₁ with
  | nil => intro l₂ m h; exact ⟨[], m, rfl, .nil, h⟩
  | cons a as ih =>
    intro l₂ m h
    cases h with
    | cons hab t =>
      obtain ⟨m₁, m₂, e, h1, h2⟩ := ih t
      exact ⟨_ :: m₁, m₂, by rw [e]; rfl, .cons hab h1, h2⟩

end

theorem mapM_ok_iff {ε α β : Type} (f : α → Except ε β) : ∀ (l : List α) (out : List β),
    l.mapM f = .ok out ↔ All2 (fun a b => f a = .ok b) l out := by
  intro l
  induction l with
  | nil => exact fun out => ⟨fun h => by cases h; exact .nil, fun h => by cases h; rfl⟩
  | cons a as ih =>
    intro out
    simp only [List.mapM_cons, bind_ok_iff, ih, pure, Except.pure, Except.ok.injEq]
    exact ⟨fun ⟨_, ha, _, hs, e⟩ => e ▸ .cons ha hs, fun h => by cases h with | cons ha hs => exact ⟨_, ha, _, hs, rfl⟩⟩

theorem mapM_cons_ok {ε α β : Type} (f : α → Except ε β) (a : α) (as : List α) (out : List β)
    (h : (a :: as).mapM f = .ok out) : ∃ x xs, f a = .ok x ∧ as.mapM f = .ok xs ∧ out = x :: xs := by
  cases (mapM_ok_iff f _ _).mp h with
  | cons ha hs => exact ⟨_, _, ha, (mapM_ok_iff f _ _).mpr hs, rfl⟩

section
variable {ε α β : Type} {f : α → Except ε β} {l : List α} {bs : List β}

/-- `mapM` in `Except` returns `bs` exactly when `f` returns the elements of `bs`, one for one -/
theorem mapM_eq_ok : l.mapM f = .ok bs ↔ l.map f = bs.map .ok := by
  induction l generalizing bs with
  | nil => cases bs <;> simp [pure, Except.pure]
  | cons a as ih =>
    simp only [List.mapM_cons, bind_ok_iff, ih, List.map_cons, pure, Except.pure, Except.ok.injEq]
    cases bs with
    | nil => simp
    | cons b bs => simp [eq_comm]

theorem mapM_error_iff {e : ε} : l.mapM f = .error e ↔
    ∃ (j : Nat) (a : α), l[j]? = some a ∧ f a = .error e ∧ ∀ (j' : Nat) (a' : α), j' < j → l[j']? = some a' → ∃ b, f a' = .ok b := by
  induction l with
  | nil => exact ⟨nofun, fun ⟨_, _, h, _⟩ => nomatch h⟩
  | cons x r ih =>
    have hc : (x :: r).mapM f = .error e ↔ f x = .error e ∨ (∃ b, f x = .ok b) ∧ r.mapM f = .error e := by
      rw [List.mapM_cons]
      cases f x <;> cases r.mapM f <;> simp [bind, Except.bind, pure, Except.pure]
    rw [hc, ih]
    constructor
    · rintro (h | ⟨h0, j, a, hj, ha, hb⟩)
      · exact ⟨0, x, rfl, h, fun _ _ hj => absurd hj (Nat.not_lt_zero _)⟩
      · refine ⟨j + 1, a, hj, ha, fun j' a' hj' hget => ?_⟩
        cases j' with
        | zero => cases hget; exact h0
        | succ j' => exact hb j' a' (Nat.lt_of_succ_lt_succ hj') hget
    · rintro ⟨j, a, hj, ha, hb⟩
      cases j with
      | zero => cases hj; exact .inl ha
      | succ j =>
        exact .inr ⟨hb 0 x (Nat.succ_pos _) rfl, j, a, hj, ha, fun j' a' hj' hget => hb (j' + 1) a' (Nat.succ_lt_succ hj') hget⟩

theorem mapM_error {e : ε} (h : l.mapM f = .error e) : ∃ a ∈ l, f a = .error e :=
  let ⟨_, a, hj, ha, _⟩ := mapM_error_iff.mp h
  ⟨a, List.mem_of_getElem? hj, ha⟩

theorem mapM_ok_of_each (h : ∀ a ∈ l, ∃ b, f a = .ok b) : ∃ bs, l.mapM f = .ok bs := by
  cases hm : l.mapM f with
  | ok bs => exact ⟨bs, rfl⟩
  | error e =>
    obtain ⟨a, ha, he⟩ := mapM_error hm
    obtain ⟨b, hb⟩ := h a ha
    exact absurd (hb ▸ he) (by simp)

end

/-- `mapM_eq_ok` for `Option` -/
theorem mapM_eq_some {α β : Type} {f : α → Option β} {l : List α} {bs : List β} :
    l.mapM f = some bs ↔ l.map f = bs.map some := by
  induction l generalizing bs with
  | nil => cases bs <;> simp
  | cons a as ih =>
    simp only [List.mapM_cons, Option.bind_eq_bind, Option.bind_eq_some_iff, ih, List.map_cons, Option.pure_def, Option.some.injEq]
    cases bs with
    | nil => simp
    | cons b bs => simp [eq_comm]

theorem mapM_some_map {α β γ : Type} (f : α → Option β) (g : β → γ) (h : α → γ) (hh : ∀ a b, f a = some b → h a = g b)
    (l : List α) (r : List β) (hr : l.mapM f = some r) : l.map h = r.map g := by
  rw [mapM_eq_some] at hr
  refine List.ext_getElem? fun i => ?_
  have := congrArg (·[i]?) hr
  simp only [List.getElem?_map] at this ⊢
  cases ha : l[i]? with
  | none => cases hb : r[i]? <;> simp [ha, hb] at this ⊢
  | some a =>
    cases hb : r[i]? with
    | none => simp [ha, hb] at this
    | some b => simp [ha, hb] at this ⊢; exact hh a b this

theorem mapM_congr_mem {m : Type → Type} [Monad m] [LawfulMonad m] {α β : Type} {f g : α → m β} (l : List α)
    (h : ∀ a ∈ l, f a = g a) : l.mapM f = l.mapM g := by
  induction l with
  | nil => rfl
  | cons a r ih =>
    rw [List.mapM_cons, List.mapM_cons, h a List.mem_cons_self, ih (fun x hx => h x (List.mem_cons_of_mem _ hx))]

/-- mapping first and then running `f` is running `g`, when the two agree element by element -/
theorem mapM_map_congr {m : Type → Type} [Monad m] [LawfulMonad m] {α β γ : Type} {f : β → m γ} {g : α → m γ} {h : α → β}
    (l : List α) (e : ∀ a ∈ l, f (h a) = g a) : (l.map h).mapM f = l.mapM g :=
  List.mapM_map.trans (mapM_congr_mem l e)

theorem mapM_pure_map {m : Type → Type} [Monad m] [LawfulMonad m] {α β : Type} (f : α → m β) (g : α → β) (l : List α)
    (h : ∀ a ∈ l, f a = pure (g a)) : l.mapM f = pure (l.map g) := by
  rw [mapM_congr_mem l h, List.mapM_pure]

section
variable {ε : Type _} {σ : Type _} {α : Type _} {F : σ → α → Except ε σ} {s s' : σ}

theorem foldlM_nil_ok (h : ([] : List α).foldlM F s = .ok s') : s' = s := (Except.ok.inj h).symm

theorem foldlM_cons_ok {a : α} {t : List α} (h : (a :: t).foldlM F s = .ok s') :
    ∃ s2, F s a = .ok s2 ∧ t.foldlM F s2 = .ok s' := by
  rw [List.foldlM_cons] at h
  exact bind_ok_iff.mp h

end

theorem foldlM_inv {ε σ α} (P : σ → Prop) (F : σ → α → Except ε σ)
    (hF : ∀ s a s', F s a = .ok s' → P s → P s') : ∀ (l : List α) (s s' : σ), l.foldlM F s = .ok s' → P s → P s'
  | [], s, s', h, hp => foldlM_nil_ok h ▸ hp
  | a :: t, s, s', h, hp => by
    obtain ⟨s2, h2, h'⟩ := foldlM_cons_ok h
    exact foldlM_inv P F hF t s2 s' h' (hF s a s2 h2 hp)

theorem lookup_cons_ite {κ β : Type} [BEq κ] [LawfulBEq κ] [DecidableEq κ] (a j : κ) (b : β) (l : List (κ × β)) :
    ((a, b) :: l).lookup j = if j = a then some b else l.lookup j := by
  rw [List.lookup_cons]
  by_cases h : j = a
  · simp [h]
  · rw [if_neg h, (by simpa using h : (j == a) = false)]

theorem mem_of_lookup {κ β : Type} [BEq κ] [LawfulBEq κ] {l : List (κ × β)} {k : κ} {v : β} (h : l.lookup k = some v) :
    (k, v) ∈ l := by
  obtain ⟨l₁, l₂, rfl, _⟩ := List.lookup_eq_some_iff.mp h
  exact List.mem_append_right _ List.mem_cons_self

theorem lookup_of_mem_nodup {κ β : Type} [BEq κ] [LawfulBEq κ] (dc : List (κ × β)) (h : (dc.map (·.1)).Nodup) (k : κ)
    (v : β) (hm : (k, v) ∈ dc) : dc.lookup k = some v := by
  obtain ⟨s, t, rfl⟩ := List.append_of_mem hm
  rw [List.map_append, List.nodup_append] at h
  exact List.lookup_eq_some_iff.mpr ⟨s, t, rfl, fun p hp => bne_iff_ne.mpr fun e =>
    h.2.2 _ (List.mem_map_of_mem hp) _ (List.mem_map_of_mem List.mem_cons_self) e.symm⟩

/-- overwriting in place the value under key `k`: the look-up sees the new value under `k`, if `k` was there, and nothing
    else changes -/
theorem lookup_map_set {κ β : Type} [BEq κ] [LawfulBEq κ] [DecidableEq κ] (k : κ) (v : β) (d : List (κ × β)) (j : κ) :
    (d.map fun e => if e.1 = k then (k, v) else e).lookup j =
      if j = k then (d.lookup k).map fun _ => v else d.lookup j := by
  induction d with
  | nil => split <;> rfl
  | cons e d ih =>
    obtain ⟨a, b⟩ := e
    rw [List.map_cons]
    by_cases ha : a = k
    · subst ha
      rw [if_pos rfl, lookup_cons_ite, lookup_cons_ite, lookup_cons_ite, ih, if_pos rfl]
      split <;> rfl
    · rw [if_neg ha, lookup_cons_ite, lookup_cons_ite, lookup_cons_ite, ih, if_neg (Ne.symm ha)]
      by_cases hj : j = k
      · rw [if_pos hj, if_neg (hj ▸ Ne.symm ha), if_pos hj]
      · rw [if_neg hj, if_neg hj]

/-- `d[k] = v` on an insertion-ordered dict whose entries carry their own key (`key c`): an entry with the key of `c` is
    overwritten where it stands, else `c` goes to the end -/
def upsert {γ κ : Type} [DecidableEq κ] (key : γ → κ) (l : List γ) (c : γ) : List γ :=
  if l.any (fun x => key x = key c) then l.map (fun x => if key x = key c then c else x) else l ++ [c]

section
variable {γ κ β : Type} [DecidableEq κ] {key : γ → κ}

theorem mem_upsert {l : List γ} {c x : γ} (h : x ∈ upsert key l c) : x ∈ l ∨ x = c := by
  unfold upsert at h
  split at h
  · obtain ⟨y, hy, hyx⟩ := List.mem_map.1 h
    split at hyx
    · exact Or.inr hyx.symm
    · exact Or.inl (hyx ▸ hy)
  · simpa using h

theorem any_key_iff {l : List γ} {k : κ} : l.any (fun x => key x = k) = true ↔ k ∈ l.map key := by
  rw [List.any_eq_true, List.mem_map]
  exact exists_congr fun x => and_congr_right fun _ => decide_eq_true_iff

theorem keys_upsert (l : List γ) (c : γ) :
    (upsert key l c).map key = if key c ∈ l.map key then l.map key else l.map key ++ [key c] := by
  unfold upsert
  split
  · rename_i h
    rw [if_pos (any_key_iff.mp h), List.map_map]
    refine List.map_congr_left fun x _ => ?_
    show key (if key x = key c then c else x) = key x
    split
    · rename_i e; exact e.symm
    · rfl
  · rename_i h
    rw [if_neg (mt any_key_iff.mpr h), List.map_append]
    rfl

theorem mem_foldl_upsert : ∀ {cs acc : List γ} {x : γ}, x ∈ cs.foldl (upsert key) acc → x ∈ acc ∨ x ∈ cs
  | [], _, _, h => Or.inl h
  | c :: cs, acc, x, h => by
    rcases mem_foldl_upsert (cs := cs) h with h1 | h1
    · rcases mem_upsert h1 with h2 | rfl
      · exact Or.inl h2
      · exact Or.inr List.mem_cons_self
    · exact Or.inr (List.mem_cons_of_mem _ h1)

theorem foldl_upsert_append : ∀ (r acc : List γ),
    ((acc ++ r).map key).Nodup → r.foldl (upsert key) acc = acc ++ r
  | [], acc, _ => (List.append_nil acc).symm
  | c :: r, acc, h => by
    have hc : key c ∉ acc.map key := fun hm => by
      rw [List.map_append, List.nodup_append] at h
      exact h.2.2 _ hm _ (List.mem_map_of_mem List.mem_cons_self) rfl
    rw [List.foldl_cons, upsert, if_neg (mt any_key_iff.mp hc), foldl_upsert_append r _ (by simpa using h),
      List.append_assoc]
    rfl

variable [BEq κ] [LawfulBEq κ]

theorem upsert_fst (d : List (κ × β)) (k : κ) (v : β) :
    upsert (·.1) d (k, v) =
      if (d.lookup k).isSome then d.map (fun e => if e.1 = k then (k, v) else e) else d ++ [(k, v)] := by
  have hany : d.any (fun x => decide (x.1 = k)) = (d.lookup k).isSome := by
    rw [Bool.eq_iff_iff, List.any_eq_true, List.lookup_isSome_iff]
    exact exists_congr fun p => and_congr_right fun _ => by rw [decide_eq_true_iff, beq_iff_eq]; exact eq_comm
  rw [← hany]
  rfl

theorem lookup_upsert (d : List (κ × β)) (k j : κ) (v : β) :
    (upsert (·.1) d (k, v)).lookup j = if j = k then some v else d.lookup j := by
  rw [upsert_fst]
  cases hk : d.lookup k with
  | some x => rw [Option.isSome_some, if_pos rfl, lookup_map_set k v, hk]; rfl
  | none =>
    rw [Option.isSome_none, if_neg Bool.false_ne_true, List.lookup_append, lookup_cons_ite, List.lookup_nil]
    split
    · rename_i hj; rw [hj, hk]; rfl
    · exact Option.or_none

/-- after a run of assignments the last one to a key is seen, else what was there -/
theorem lookup_foldl_upsert (ps d : List (κ × β)) (k : κ) :
    (ps.foldl (upsert (·.1)) d).lookup k = (ps.reverse ++ d).lookup k := by
  induction ps generalizing d with
  | nil => rfl
  | cons p ps ih =>
    rw [List.foldl_cons, ih, List.reverse_cons, List.append_assoc, List.lookup_append, List.lookup_append,
      lookup_upsert, List.singleton_append, lookup_cons_ite]

theorem lookup_foldl_upsert_of_not_mem {ps d : List (κ × β)} {k : κ} (h : ∀ p ∈ ps, p.1 ≠ k) :
    (ps.foldl (upsert (·.1)) d).lookup k = d.lookup k := by
  rw [lookup_foldl_upsert, List.lookup_append,
    List.lookup_eq_none_iff.mpr fun p hp => by simpa using Ne.symm (h p (List.mem_reverse.mp hp))]
  rfl

theorem lookup_foldl_upsert_of_mem {ps d : List (κ × β)} {k : κ} (hex : ∃ p ∈ ps, p.1 = k) :
    ∃ p ∈ ps, p.1 = k ∧ (ps.foldl (upsert (·.1)) d).lookup k = some p.2 := by
  obtain ⟨p, hp, hk⟩ := hex
  obtain ⟨v, hv⟩ := Option.isSome_iff_exists.mp
    (List.lookup_isSome_iff.mpr ⟨p, List.mem_reverse.mpr hp, by rw [hk]; exact BEq.rfl⟩)
  exact ⟨(k, v), List.mem_reverse.mp (mem_of_lookup hv), rfl, by rw [lookup_foldl_upsert, List.lookup_append, hv]; rfl⟩

end

theorem inj_of_nodup_map {α β : Type} (f : α → β) (l : List α) (h : (l.map f).Nodup) :
    ∀ x ∈ l, ∀ y ∈ l, f x = f y → x = y :=
  fun _ hx _ hy => List.Pairwise.forall_of_forall_of_flip (R := fun x y => f x = f y → x = y) (fun _ _ _ => rfl)
    ((List.pairwise_map.1 h).imp fun hne e => absurd e hne)
    ((List.pairwise_map.1 h).imp fun hne e => absurd e.symm hne) hx hy

theorem nodup_of_map {α β : Type} (f : α → β) (l : List α) (h : (l.map f).Nodup) : l.Nodup :=
  List.Pairwise.of_map f (fun _ _ hne e => hne (congrArg f e)) h

theorem nodup_map_on {α β : Type} (f : α → β) (l : List α) (hnd : l.Nodup)
    (hinj : ∀ x ∈ l, ∀ y ∈ l, f x = f y → x = y) : (l.map f).Nodup :=
  List.pairwise_map.2 (hnd.imp_of_mem fun hx hy hne e => hne (hinj _ hx _ hy e))

/-- With distinct keys a member is found by its key.  `p` is the test for the key of `a` in whichever Boolean form a model spells it (`decide (key x = k)`, `key x == k`); the
    converse is core's `List.mem_of_find?_eq_some` with `List.find?_some`. -/
theorem find?_of_mem_nodup {α κ : Type} {key : α → κ} {l : List α} (hnd : (l.map key).Nodup) {a : α} (ha : a ∈ l)
    {p : α → Bool} (hp : ∀ x, p x = true ↔ key x = key a) : l.find? p = some a := by
  cases hf : l.find? p with
  | none => exact absurd ((hp a).2 rfl) (List.find?_eq_none.1 hf a ha)
  | some b => rw [inj_of_nodup_map key l hnd b (List.mem_of_find?_eq_some hf) a ha ((hp b).1 (List.find?_some hf))]

theorem filter_unique {α : Type} {l : List α} {p : α → Bool} {a : α} (hn : l.Nodup) (ha : a ∈ l)
    (hu : ∀ y ∈ l, p y = true → y = a) : l.filter p = if p a = true then [a] else [] := by
  by_cases hp : p a = true
  · rw [if_pos hp]
    induction l with
    | nil => cases ha
    | cons x r ih =>
      obtain ⟨hx, hr⟩ := List.nodup_cons.mp hn
      rcases List.mem_cons.mp ha with rfl | har
      · rw [List.filter_cons_of_pos hp,
          List.filter_eq_nil_iff.mpr fun y hy hpy => hx (hu y (List.mem_cons_of_mem _ hy) hpy ▸ hy)]
      · rw [List.filter_cons_of_neg fun hpx => hx (hu x List.mem_cons_self hpx ▸ har),
          ih hr har fun y hy => hu y (List.mem_cons_of_mem _ hy)]
  · rw [if_neg hp, List.filter_eq_nil_iff]
    exact fun y hy hpy => hp (hu y hy hpy ▸ hpy)

theorem flatten_length_ge {α : Type} (body : List (List α)) (h : ∀ l ∈ body, l ≠ []) :
    body.length ≤ body.flatten.length := by
  induction body with
  | nil => simp
  | cons l r ih =>
    have h1 := h l (by simp)
    have h2 := ih (fun l' hl' => h l' (List.mem_cons_of_mem _ hl'))
    cases l with
    | nil => exact absurd rfl h1
    | cons a t => simp only [List.length_cons, List.flatten_cons, List.length_append]; omega

theorem mapM_flatten_length {ε α γ : Type} (f : α → Except ε (List γ)) (hf : ∀ a ls, f a = .ok ls → 1 ≤ ls.length)
    (l : List α) (out : List (List γ)) (h : l.mapM f = .ok out) : l.length ≤ out.flatten.length := by
  have hall := (mapM_ok_iff f l out).mp h
  rw [hall.length_eq]
  refine flatten_length_ge out fun ls hls e => ?_
  obtain ⟨a, _, ha⟩ := hall.right ls hls
  subst e
  exact absurd (hf a [] ha) (Nat.not_succ_le_zero 0)

theorem exists_zip_left {α β : Type} (l : List α) (m : List β) (h : l.length ≤ m.length) (a : α) (ha : a ∈ l) :
    ∃ b, (a, b) ∈ l.zip m := by
  induction l generalizing m with
  | nil => cases ha
  | cons x xs ih =>
    cases m with
    | nil => simp at h
    | cons b bs =>
      rcases List.mem_cons.mp ha with rfl | ha
      · exact ⟨b, by simp⟩
      · obtain ⟨b', hb'⟩ := ih bs (by simpa using h) ha
        exact ⟨b', by simp [hb']⟩

/-- zipped with a list that repeats one value `v`, every pair is `(·, v)` -/
theorem zip_map_const {α β γ : Type} (g : β → α → γ) (v : β) : ∀ (c : List α) (fs : List β),
    c.length ≤ fs.length → (∀ f ∈ fs, f = v) → (c.zip fs).map (fun vf => g vf.2 vf.1) = c.map (g v)
  | [], _, _, _ => rfl
  | _ :: _, [], hl, _ => absurd hl (Nat.not_succ_le_zero _)
  | x :: xs, f :: fr, hl, hf => by
    rw [List.zip_cons_cons, List.map_cons, List.map_cons, hf f List.mem_cons_self,
      zip_map_const g v xs fr (Nat.le_of_succ_le_succ hl) fun f' hf' => hf f' (List.mem_cons_of_mem _ hf')]

theorem mem_zip_const {α β : Type} {v : β} {fs : List β} (hf : ∀ f ∈ fs, f = v) {c : List α} {vf : α × β}
    (h : vf ∈ c.zip fs) : vf.2 = v ∧ vf.1 ∈ c :=
  ⟨hf _ (List.of_mem_zip h).2, (List.of_mem_zip h).1⟩

theorem dropWhile_eq_nil_iff {α : Type} {p : α → Bool} {l : List α} : l.dropWhile p = [] ↔ ∀ a ∈ l, p a = true := by
  induction l with
  | nil => simp
  | cons a l ih => rw [List.dropWhile_cons]; cases h : p a <;> simp [h, ih]

theorem dropWhile_reverse_of_last {α : Type} {p : α → Bool} {l : List α}
    (h : ∀ x, l.getLast? = some x → p x = false) : (l.reverse.dropWhile p).reverse = l := by
  cases hs : l.reverse with
  | nil => rw [List.reverse_eq_nil_iff.mp hs]; rfl
  | cons x r =>
    have hx : l.getLast? = some x := by rw [← List.head?_reverse, hs]; rfl
    rw [List.dropWhile_cons, if_neg (by rw [h x hx]; decide), ← hs, List.reverse_reverse]

theorem getD_set {α} (l : List α) (i j : Nat) (v d : α) :
    (l.set i v).getD j d = if i = j ∧ i < l.length then v else l.getD j d := by
  simp only [List.getD_eq_getElem?_getD, List.getElem?_set]
  by_cases h : i = j
  · subst h
    by_cases h2 : i < l.length <;> simp [h2]
  · simp [h]

end Proofs
