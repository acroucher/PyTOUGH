/-
  C03 proofs: the trip through the file is monotone, so `StableSurfaces g` holds exactly when no
  surface rounds onto a layer bottom it lies strictly above (`SurfaceClear g`).
-/
import PyTough.Proofs.GeoFileNames
import PyTough.Proofs.GeoFileWF
import Mathlib.Tactic.Linarith
import Mathlib.Tactic.Ring
namespace Proofs.GeoFile
open Py Model Model.GeoFile Proofs

/-! ### rounding to the file's decimals is monotone -/

/-- a tie: `N/D = k + 1/2` -/
theorem roundHalfEven_tie {N D k : Nat} (h : 2 * N = 2 * (k * D) + D) (hD : 0 < D) :
    roundHalfEven N D = if k % 2 = 0 then k else k + 1 := by
  have hq : N / D = k := Nat.div_eq_of_lt_le (by omega) (by rw [Nat.add_mul, Nat.one_mul]; omega)
  have hr : 2 * (N % D) = D := by rw [Nat.mod_def, hq, Nat.mul_comm D k]; omega
  simp only [roundHalfEven, hq, hr, gt_iff_lt, Nat.lt_irrefl, if_false]

theorem roundHalfEven_mono {N D N' D' : Nat} (hD : 0 < D) (hD' : 0 < D') (h : N * D' ≤ N' * D) :
    roundHalfEven N D ≤ roundHalfEven N' D' := by
  obtain ⟨-, a⟩ := roundHalfEven_nearest N D hD
  obtain ⟨b, -⟩ := roundHalfEven_nearest N' D' hD'
  generalize hM : roundHalfEven N D = M at a
  generalize hM' : roundHalfEven N' D' = M' at b
  by_contra hlt
  obtain ⟨A, rfl⟩ : ∃ A, M = A + 1 := ⟨M - 1, by omega⟩
  -- A + 1/2 ≤ N/D ≤ N'/D' ≤ M' + 1/2 ≤ A + 1/2, so both quotients are the tie A + 1/2
  rw [Nat.add_mul, Nat.one_mul] at a
  have b' : M' * D' ≤ A * D' := Nat.mul_le_mul_right _ (by omega)
  have c1 : (2 * (A * D) + D) * D' ≤ 2 * N * D' := Nat.mul_le_mul_right _ (by omega)
  have c2 : 2 * N * D' ≤ 2 * N' * D := by
    rw [Nat.mul_assoc, Nat.mul_assoc]; exact Nat.mul_le_mul_left _ h
  have c3 : 2 * N' * D ≤ (2 * (A * D') + D') * D := Nat.mul_le_mul_right _ (by omega)
  have c4 : (2 * (A * D) + D) * D' = (2 * (A * D') + D') * D := by ring
  have f1 : 2 * N = 2 * (A * D) + D :=
    Nat.eq_of_mul_eq_mul_right hD' (Nat.le_antisymm (c4 ▸ Nat.le_trans c2 c3) c1)
  have f2 : 2 * N' = 2 * (A * D') + D' :=
    Nat.eq_of_mul_eq_mul_right hD (Nat.le_antisymm c3 (c4 ▸ Nat.le_trans c1 c2))
  obtain rfl : M' = A := Nat.eq_of_mul_eq_mul_right hD' (by omega)
  -- and a tie is rounded to the same even neighbour on both sides
  rw [roundHalfEven_tie f1 hD] at hM
  rw [roundHalfEven_tie f2 hD'] at hM'
  omega

/-! ### values as signed fractions -/

/-- `|y|` -/
def mag (y : Flt) : Rat := (y.absNum : Rat) / (y.den : Rat)

theorem mag_nonneg (y : Flt) : 0 ≤ mag y := div_nonneg (Nat.cast_nonneg _) (Nat.cast_nonneg _)

theorem toRat_eq (y : Flt) : y.toRat = if y.isNeg then -mag y else mag y := by
  cases y with
  | negZero => simp [Flt.toRat, Flt.isNeg, Flt.absNum, mag]
  | q r =>
    simp only [Flt.toRat, Flt.isNeg, Flt.absNum, Flt.den, mag, decide_eq_true_eq]
    have hr : (r.num : Rat) / (r.den : Rat) = r := Rat.num_div_den r
    rw [Nat.cast_natAbs]
    split
    next hn => rw [abs_of_neg (Rat.num_neg.mpr hn), Int.cast_neg, neg_div, neg_neg, hr]
    next hn => rw [abs_of_nonneg (Rat.num_nonneg.mpr (not_lt.mp hn)), hr]

theorem scale10_neg (a : Int) (p : Nat) : scale10 a (-(p : Int)) = mkRat a (10 ^ p) := by
  unfold scale10
  split
  · rw [show p = 0 by omega]; simp [Rat.mkRat_one]
  · simp

/-- the digits `'%.pf'` prints for `y` -/
def mOf (p : Nat) (y : Flt) : Nat := fM p y.absNum y.den

theorem roundF_toRat (p : Nat) (y : Flt) :
    (roundF p y).toRat = if y.isNeg then -((mOf p y : Rat) / ((10 ^ p : Nat) : Rat)) else (mOf p y : Rat) / ((10 ^ p : Nat) : Rat) := by
  unfold roundF ofDec
  -- the rounded digits, spelt out in `roundF`, are `mOf p y`
  change (if mOf p y = 0 then _ else _ : Flt).toRat = _
  by_cases hm : mOf p y = 0
  · rw [if_pos hm, hm]
    cases y.isNeg <;> simp [Flt.toRat]
  · rw [if_neg hm]
    simp only [Flt.toRat, scale10_neg, Rat.mkRat_eq_div]
    cases y.isNeg <;> simp [neg_div, mOf, fM]

theorem mOf_mono (p : Nat) {y1 y2 : Flt} (h : mag y1 ≤ mag y2) : mOf p y1 ≤ mOf p y2 := by
  apply roundHalfEven_mono (Flt.den_pos y1) (Flt.den_pos y2)
  have d1 : (0 : Rat) < (y1.den : Rat) := Nat.cast_pos.mpr (Flt.den_pos y1)
  have d2 : (0 : Rat) < (y2.den : Rat) := Nat.cast_pos.mpr (Flt.den_pos y2)
  have h' : y1.absNum * y2.den ≤ y2.absNum * y1.den := by exact_mod_cast (div_le_div_iff₀ d1 d2).mp h
  rw [Nat.mul_right_comm, Nat.mul_right_comm y2.absNum]
  exact Nat.mul_le_mul_right _ h'

theorem mOf_zero (p : Nat) {y : Flt} (h : mag y ≤ 0) : mOf p y = 0 := by
  have h0 : mOf p (.q 0) = 0 := by simp [mOf, fM, Flt.absNum, roundHalfEven]
  have := mOf_mono p (y2 := .q 0) (le_of_le_of_eq h (by simp [mag, Flt.absNum]))
  omega

/-- **rounding to `p` decimals is monotone** -/
theorem roundF_mono (p : Nat) {y1 y2 : Flt} (h : y1.toRat ≤ y2.toRat) :
    (roundF p y1).toRat ≤ (roundF p y2).toRat := by
  rw [roundF_toRat, roundF_toRat]
  rw [toRat_eq y1, toRat_eq y2] at h
  have h10 : (0 : Rat) ≤ ((10 ^ p : Nat) : Rat) := Nat.cast_nonneg _
  have m1 := mag_nonneg y1
  have m2 := mag_nonneg y2
  revert h
  cases y1.isNeg <;> cases y2.isNeg <;> simp only [if_true, if_false, Bool.false_eq_true] <;> intro h
  · exact div_le_div_of_nonneg_right (Nat.cast_le.mpr (mOf_mono p h)) h10
  · -- 0 ≤ y1 ≤ y2 ≤ 0: both round to zero
    rw [mOf_zero p (y := y1) (by linarith), mOf_zero p (y := y2) (by linarith)]
    simp
  · exact le_trans (neg_nonpos.mpr (div_nonneg (Nat.cast_nonneg _) h10)) (div_nonneg (Nat.cast_nonneg _) h10)
  · -- y1 ≤ y2 ≤ 0: the magnitudes are in the opposite order
    exact neg_le_neg (div_le_div_of_nonneg_right (Nat.cast_le.mpr (mOf_mono p (neg_le_neg_iff.mp h))) h10)

theorem div_toRat (x : Flt) (s : Rat) : (x.div s).toRat = x.toRat / s := by
  cases x <;> simp [Flt.div, Flt.toRat]

theorem mul_toRat (x : Flt) (s : Rat) : (x.mul s).toRat = x.toRat * s := by
  cases x <;> simp [Flt.mul, Flt.toRat]

/-- **the trip through the file is monotone**: coordinates keep their (weak) order -/
theorem canonC_mono (p : Nat) {s : Rat} (hs : 0 < s) {x y : Flt} (h : x.toRat ≤ y.toRat) :
    (canonC p s x).toRat ≤ (canonC p s y).toRat := by
  unfold canonC
  rw [mul_toRat, mul_toRat]
  apply mul_le_mul_of_nonneg_right _ (le_of_lt hs)
  apply roundF_mono p
  rw [div_toRat, div_toRat]
  exact div_le_div_of_nonneg_right h (le_of_lt hs)

/-! ### surfaces and layer boundaries -/

/-- the tops of the re-read layers, pair by pair -/
theorem zip_layerTops_tops (s : Rat) : ∀ (ls : List GLayer) (above : Option GLayer) (t : Flt),
    layerTopsOK t ls = true →
    ∀ p ∈ ls.zip (layerTops (canonC 2 s t) (canonLayersAux s above ls)),
      p.2.top = canonC 2 s p.1.top ∧ (p.1.top = t ∨ ∃ lb ∈ ls, p.1.top = lb.bottom) := by
  intro ls
  induction ls with
  | nil => intro _ _ _ p hp; simp at hp
  | cons l r ih =>
    intro above t hok p hp
    simp only [layerTopsOK, Bool.and_eq_true, beq_iff_eq] at hok
    simp only [canonLayersAux, layerTops, List.zip_cons_cons, List.mem_cons] at hp
    rcases hp with rfl | hp
    · refine ⟨?_, Or.inl hok.1⟩
      show canonC 2 s t = canonC 2 s l.top
      rw [hok.1]
    · have hb : (canonLayerAt s above l).bottom = canonC 2 s l.bottom := rfl
      rw [hb] at hp
      obtain ⟨h2, h3⟩ := ih _ l.bottom hok.2 p hp
      refine ⟨h2, Or.inr ?_⟩
      rcases h3 with h3 | ⟨lb, hlb, h3⟩
      · exact ⟨l, by simp, h3⟩
      · exact ⟨lb, List.mem_cons_of_mem _ hlb, h3⟩

theorem zip_canonLayers_tops (s : Rat) {l0 : GLayer} {r : List GLayer} (hok : layerTopsOK l0.bottom (l0 :: r) = true) :
    ∀ p ∈ (l0 :: r).zip (canonLayers s (l0 :: r)), p.2.top = canonC 2 s p.1.top ∧ ∃ lb ∈ l0 :: r, p.1.top = lb.bottom := by
  intro p hp
  rw [canonLayers_cons] at hp
  obtain ⟨h2, h3⟩ := zip_layerTops_tops s (l0 :: r) none l0.bottom hok p hp
  refine ⟨h2, ?_⟩
  rcases h3 with h3 | h3
  · exact ⟨l0, by simp, h3⟩
  · exact h3

/-- (`hc` is the column clause of `Consistent`) -/
theorem canonColumn_surface {s : Rat} {nodes' : List GNode} {layers' : List GLayer} {l0 : GLayer} {c : GColumn}
    (hl : layers'.head?.map (·.bottom) = some (canonC 2 s l0.bottom))
    (hc : (if c.defaultSurface then c.surface == some l0.bottom else c.surface.isSome) = true) :
    ∃ z, c.surface = some z ∧ (canonColumn s nodes' layers' c).surface = some (canonC 2 s z) := by
  unfold canonColumn
  by_cases hd : c.defaultSurface = true
  · simp only [hd, if_true, beq_iff_eq] at hc ⊢
    exact ⟨l0.bottom, hc, hl⟩
  · simp only [hd, Bool.false_eq_true, if_false] at hc ⊢
    obtain ⟨z, hz⟩ := Option.isSome_iff_exists.mp hc
    exact ⟨z, hz, by rw [hz]; rfl⟩

section
variable {C : Flt → Flt} (mono : ∀ x y : Flt, x.toRat ≤ y.toRat → (C x).toRat ≤ (C y).toRat) (z b : Flt)
include mono

/-- a monotone map keeps the outcome of `z > b` exactly when it does not merge a `z` above `b` with `b` -/
theorem cmp_gt_iff : decide (z.toRat > b.toRat) = decide ((C z).toRat > (C b).toRat) ↔
    (z.toRat > b.toRat → (C z).toRat ≠ (C b).toRat) := by
  rw [decide_eq_decide]
  constructor
  · intro h hgt heq
    exact absurd (heq ▸ h.mp hgt) (lt_irrefl _)
  · intro h
    exact ⟨fun hgt => lt_of_le_of_ne (mono b z (le_of_lt hgt)) (Ne.symm (h hgt)),
      fun hgt' => not_le.mp fun hle => absurd (mono z b hle) (not_le.mpr hgt')⟩

theorem cmp_le_of_ne (h : z.toRat > b.toRat → (C z).toRat ≠ (C b).toRat) :
    decide (z.toRat ≤ b.toRat) = decide ((C z).toRat ≤ (C b).toRat) := by
  rw [decide_eq_decide, ← not_lt, ← not_lt (a := (C b).toRat)]
  exact not_congr (decide_eq_decide.mp ((cmp_gt_iff mono z b).mpr h))

end

/-- **When can rounding move a surface across a layer boundary?**  Exactly when some column surface
    lies strictly above a layer bottom and both are written as the same decimal. -/
theorem stableSurfaces_iff {g : Geo} (hwf : WF g = true) (hcons : Consistent g = true) :
    StableSurfaces g = SurfaceClear g := by
  obtain ⟨L, LL, s, w⟩ := wfp_of hwf
  have mono := fun (x y : Flt) => canonC_mono 2 (scale_pos w.sc) (x := x) (y := y)
  obtain ⟨l0, r, hl⟩ := List.exists_cons_of_ne_nil w.layersNe
  unfold Consistent at hcons
  rw [hl] at hcons
  simp only [Bool.and_eq_true, List.all_eq_true] at hcons
  obtain ⟨htops, hcols⟩ := hcons
  have hhead : (canonLayers s (l0 :: r)).head?.map (·.bottom) = some (canonC 2 s l0.bottom) := rfl
  -- every column has a surface, and its re-read surface is the rounded one
  have hsurf := fun c hc => canonColumn_surface (s := s) (nodes' := g.nodes.map (canonNode s)) hhead (hcols c hc)
  have htop := zip_canonLayers_tops s htops
  have hlen : (l0 :: r).length = (canonLayers s (l0 :: r)).length := (canonLayers_length s _).symm
  apply Bool.eq_iff_iff.mpr
  rw [stableSurfaces_iff_forall, w.sOf, hl]
  unfold SurfaceClear
  rw [w.sOf, hl]
  simp only [List.all_eq_true]
  constructor
  · -- stable → clear: a surface above a bottom stays above it, so the two are not made equal
    intro hst c hc l hlm
    obtain ⟨z, hz, hz'⟩ := hsurf c hc
    obtain ⟨l', hl'⟩ := exists_zip_left _ _ (Nat.le_of_eq hlen) l hlm
    obtain ⟨z1, z1', e1, e1', h1, _⟩ := hst c hc (l, l') hl'
    rw [hz] at e1 ⊢
    rw [hz'] at e1'
    cases e1; cases e1'
    rw [(zip_canonLayers s _ (l, l') hl').2] at h1
    simp only [Bool.not_eq_true', Bool.and_eq_false_iff, decide_eq_false_iff_not]
    exact imp_iff_not_or.mp ((cmp_gt_iff mono z _).mp h1)
  · -- clear → stable: every bottom and every top (the bottom of the layer above) compares as before
    intro hcl c hc p hp
    obtain ⟨z, hz, hz'⟩ := hsurf c hc
    obtain ⟨ht, lb, hlb, htb⟩ := htop p hp
    have key : ∀ b ∈ l0 :: r, z.toRat > b.bottom.toRat → (canonC 2 s z).toRat ≠ (canonC 2 s b.bottom).toRat := by
      intro b hbm
      have hc1 := hcl c hc b hbm
      rw [hz] at hc1
      simp only [Bool.not_eq_true', Bool.and_eq_false_iff, decide_eq_false_iff_not] at hc1
      exact imp_iff_not_or.mpr hc1
    refine ⟨z, _, hz, hz', ?_, ?_⟩
    · rw [(zip_canonLayers s _ p hp).2]
      exact (cmp_gt_iff mono z _).mpr (key _ (List.of_mem_zip hp).1)
    · rw [ht, htb]
      exact cmp_le_of_ne mono z _ (key lb hlb)

end Proofs.GeoFile
