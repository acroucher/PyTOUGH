/-
  The structural invariant as a proposition: one `KindOK` per kind of object, and for each cached set
  (`node.column`, `col.connection`, `col.neighbour`) an iff with the primary data. An edit that is a record update
  of the state is framed by `{ h with … }` on the proof.
-/
import PyTough.Proofs.GeoRegistry
namespace Proofs.Geo
open Model.Geo Model.Geo.Geo Py

/-- a cached set `L = {a ∈ as | P a}` when `x` joins `as`; `s` says whether `x` belongs to it (for the connections of
    column `c` when connection `x` is added: `s` is `c = c0 ∨ c = c1`) -/
theorem cached_insert {as L L' : List Nat} {x : Nat} {P P' : Nat → Prop} {s : Prop}
    (h : ∀ a, a ∈ L ↔ a ∈ as ∧ P a) (hx : x ∉ as) (hL : ∀ a, a ∈ L' ↔ a ∈ L ∨ (a = x ∧ s))
    (hold : ∀ a ∈ as, (P' a ↔ P a)) (hnew : P' x ↔ s) : ∀ a, a ∈ L' ↔ a ∈ as ++ [x] ∧ P' a := by
  intro a
  rw [hL, h, List.mem_append, List.mem_singleton]
  by_cases e : a = x
  · subst e; simp only [hx, false_and, false_or, true_and, or_true, hnew]
  · simp only [e, false_and, or_false]
    exact and_congr_right fun ha => (hold a ha).symm

/-- … and when `x` leaves `as` -/
theorem cached_erase {as L L' : List Nat} {x : Nat} {P : Nat → Prop}
    (h : ∀ a, a ∈ L ↔ a ∈ as ∧ P a) (hnd : as.Nodup) (hL : ∀ a, a ∈ L' ↔ a ∈ L ∧ (a ≠ x ∨ ¬P x)) :
    ∀ a, a ∈ L' ↔ a ∈ as.erase x ∧ P a := by
  intro a
  rw [hL, h, hnd.mem_erase_iff]
  exact ⟨fun ⟨⟨ha, hp⟩, hor⟩ => ⟨⟨fun e => hor.elim (· e) fun hn => hn (e ▸ hp), ha⟩, hp⟩,
    fun ⟨⟨hne, ha⟩, hp⟩ => ⟨⟨ha, hp⟩, Or.inl hne⟩⟩

/-- one kind of object: the listed ids are allocated, and list and dictionary agree -/
structure KindOK {κ : Type} [DecidableEq κ] (size : Nat) (list : List Nat) (dict : Dict κ) (name : Nat → κ) :
    Prop where
  lt : ∀ i ∈ list, i < size
  reg : regOK list dict name = true

section
variable {κ : Type} [DecidableEq κ] {n : Nat} {l : List Nat} {d : Dict κ} {nm : Nat → κ}

theorem KindOK.fresh (h : KindOK n l d nm) : n ∉ l := fun hm => Nat.lt_irrefl _ (h.lt n hm)

theorem KindOK.nodup (h : KindOK n l d nm) : l.Nodup := regOK_nodup h.reg

theorem KindOK.mem_erase (h : KindOK n l d nm) {i k : Nat} : k ∈ l.erase i ↔ k ≠ i ∧ k ∈ l := h.nodup.mem_erase_iff

theorem KindOK.push {α} [Inhabited α] {a : Array α} {f : α → κ} (h : KindOK a.size l d fun i => f a[i]!) (x : α)
    (hfresh : d.contains (f x) = false) :
    KindOK (a.push x).size (l ++ [a.size]) (d.set (f x) a.size) fun i => f (a.push x)[i]! where
  lt := by
    rw [Array.size_push]
    exact forall_mem_push.mpr ⟨fun j hj => Nat.lt_succ_of_lt (h.lt j hj), Nat.lt_succ_self _⟩
  reg := regOK_append h.reg h.fresh hfresh (by simp only [getElem!_push_eq])
    fun j hj => by simp only [getElem!_push_lt _ _ _ (h.lt j hj)]

theorem KindOK.erase (h : KindOK n l d nm) {k : κ} {i : Nat} (hk : Dict.get? d k = some i) :
    KindOK n (l.erase i) (Dict.del d k) nm :=
  ⟨fun j hj => h.lt j (List.mem_of_mem_erase hj), regOK_erase h.reg hk⟩

theorem KindOK.rename {α} [Inhabited α] {a : Array α} {f : α → κ} (h : KindOK a.size l d fun j => f a[j]!)
    {old new : κ} {i : Nat} (hk : Dict.get? d old = some i) (hnew : d.contains new = false ∨ new = old)
    (upd : α → α) (hupd : ∀ x, f (upd x) = new) :
    KindOK (a.modify i upd).size l ((Dict.del d old).set new i) fun j => f (a.modify i upd)[j]! := by
  have hilt : i < a.size := h.lt i (regOK_mem h.reg hk)
  refine ⟨fun j hj => by rw [Array.size_modify]; exact h.lt j hj, ?_⟩
  apply regOK_rename h.reg hk hnew
  · rw [getElem!_modify, if_pos ⟨rfl, hilt⟩]; exact hupd _
  · intro j _ hji; rw [getElem!_modify, if_neg fun e => hji e.1.symm]

theorem KindOK.congr {n' : Nat} {nm' : Nat → κ} (h : KindOK n l d nm) (hn : n' = n) (hnm : ∀ j ∈ l, nm' j = nm j) :
    KindOK n' l d nm' :=
  ⟨hn ▸ h.lt, regOK_congr h.reg hnm⟩

end

/-- `geoInv0` as a proposition (`inv0_iff`). `cons` is the registry of connections; `colCons`, `nbrs` are the cached
    sets `Column.cons`, `Column.nbrs` -/
structure Inv0 (g : Geo) : Prop where
  nodes : KindOK g.N.size g.nodelist g.nodeD fun i => (g.node i).name
  cols : KindOK g.C.size g.columnlist g.columnD fun i => (g.col i).name
  cons : KindOK g.K.size g.connlist g.connD g.conKey
  lays : KindOK g.L.size g.layerlist g.layerD fun i => (g.lay i).name
  wells : KindOK g.W.size g.welllist g.wellD fun i => (g.well i).name
  colNodes : ∀ c ∈ g.columnlist, ∀ n ∈ (g.col c).nodes, n ∈ g.nodelist
  nodeCols : ∀ n ∈ g.nodelist, ∀ c, c ∈ (g.node n).cols ↔ c ∈ g.columnlist ∧ n ∈ (g.col c).nodes
  conEnds : ∀ k ∈ g.connlist, (g.con k).c0 ∈ g.columnlist ∧ (g.con k).c1 ∈ g.columnlist
  colCons : ∀ c ∈ g.columnlist, ∀ k, k ∈ (g.col c).cons ↔ k ∈ g.connlist ∧ ((g.con k).c0 = c ∨ (g.con k).c1 = c)
  nbrs : ∀ c ∈ g.columnlist, ∀ d, d ∈ (g.col c).nbrs ↔ g.joined c d = true
  conNodes : ∀ k ∈ g.connlist, ∃ a b, (g.con k).nodes = some (a, b) ∧ a ≠ b ∧
    isSide (g.col (g.con k).c0).nodes a b = true ∧ isSide (g.col (g.con k).c1).nodes a b = true
  orient : Oriented g

theorem joined_mem {g : Geo} (hends : ∀ k ∈ g.connlist, (g.con k).c0 ∈ g.columnlist ∧ (g.con k).c1 ∈ g.columnlist)
    {c d : Nat} (h : g.joined c d = true) : d ∈ g.columnlist := by
  obtain ⟨k, hk, hor⟩ := (joined_iff g c d).mp h
  rcases hor with ⟨_, e⟩ | ⟨e, _⟩
  · exact e ▸ (hends k hk).2
  · exact e ▸ (hends k hk).1

theorem not_joined {g : Geo} {c : Nat} (hno : ∀ k ∈ g.connlist, (g.con k).c0 ≠ c ∧ (g.con k).c1 ≠ c) (d : Nat) :
    ¬g.joined c d = true := by
  intro hj
  obtain ⟨k, hk, hor⟩ := (joined_iff g c d).mp hj
  rcases hor with ⟨e, _⟩ | ⟨_, e⟩
  · exact (hno k hk).1 e
  · exact (hno k hk).2 e

theorem inv0_iff (g : Geo) : g.geoInv0 = true ↔ Inv0 g := by
  rw [geoInv0_iff, heapOK_iff, registriesOK_iff, nodeColsOK_iff, colConsOK_iff, nbrsOK_iff, conNodesOK_iff, orientOK_iff]
  constructor
  · rintro ⟨⟨a1, a2, a3, a4, a5⟩, ⟨b1, b2, b3, b4, b5⟩, ⟨n1, n2⟩, ⟨c1, c2⟩, nb, cn, o⟩
    exact
      { nodes := ⟨a1, b1⟩, cols := ⟨a2, b2⟩, cons := ⟨a3, b5⟩, lays := ⟨a4, b3⟩, wells := ⟨a5, b4⟩
        colNodes := n1
        nodeCols := fun n hn c => ⟨(n2 n hn).1 c, fun ⟨hc, hm⟩ => (n2 n hn).2 c hc hm⟩
        conEnds := c1
        colCons := fun c hc k => ⟨(c2 c hc).1 k, fun ⟨hk, ht⟩ => (c2 c hc).2 k hk ht⟩
        nbrs := fun c hc d => ⟨(nb c hc).1 d, fun hj => (nb c hc).2 d (joined_mem c1 hj) hj⟩
        conNodes := cn, orient := o }
  · intro h
    exact ⟨⟨h.nodes.lt, h.cols.lt, h.cons.lt, h.lays.lt, h.wells.lt⟩,
      ⟨h.nodes.reg, h.cols.reg, h.lays.reg, h.wells.reg, h.cons.reg⟩,
      ⟨h.colNodes, fun n hn => ⟨fun c hc => (h.nodeCols n hn c).mp hc, fun c hc hm => (h.nodeCols n hn c).mpr ⟨hc, hm⟩⟩⟩,
      ⟨h.conEnds, fun c hc =>
        ⟨fun k hk => (h.colCons c hc k).mp hk, fun k hk ht => (h.colCons c hc k).mpr ⟨hk, ht⟩⟩⟩,
      fun c hc => ⟨fun d hd => (h.nbrs c hc d).mp hd, fun d _ hj => (h.nbrs c hc d).mpr hj⟩, h.conNodes, h.orient⟩

theorem inv0_of_geoInv {g : Geo} (h : g.geoInv = true) : Inv0 g := (inv0_iff g).mp ((geoInv_iff g).mp h).1

theorem inv0_lift {g g' : Geo} (f : Inv0 g → Inv0 g') (h : g.geoInv0 = true) : g'.geoInv0 = true :=
  (inv0_iff g').mpr (f ((inv0_iff g).mp h))

theorem setupNames_inv0 {g g' : Geo} (hs : g.setupNames = .ok g') (h : Inv0 g) : Inv0 g' := by
  obtain ⟨b, c, -, -, rfl⟩ := setupNames_spec hs
  exact { h with }

theorem geoInv_lift {g g' : Geo} (f : Inv0 g → Inv0 g') (hl : g'.layersOK = g.layersOK)
    (hn : g'.namesFresh = g.namesFresh) (h : g.geoInv = true) : g'.geoInv = true := by
  obtain ⟨h0, hl0, hn0⟩ := (geoInv_iff g).mp h
  exact (geoInv_iff g').mpr ⟨inv0_lift f h0, hl.trans hl0, hn.trans hn0⟩

variable {g : Geo}

/-- columns changed at most in their connection and neighbour sets: the clauses that mention connections are shown
    again -/
theorem Inv0.setConns (h : Inv0 g) (C' : Array Column) (K' : Array Conn) (kl : List Nat) (kd : Dict (Name × Name))
    (hs : C'.size = g.C.size)
    (hsame : ∀ j : Nat, { C'[j]! with cons := [], nbrs := [] } = { g.col j with cons := [], nbrs := [] })
    (cons : KindOK K'.size kl kd fun k => ((g.col K'[k]!.c0).name, (g.col K'[k]!.c1).name))
    (conEnds : ∀ k ∈ kl, K'[k]!.c0 ∈ g.columnlist ∧ K'[k]!.c1 ∈ g.columnlist)
    (colCons : ∀ c ∈ g.columnlist, ∀ k, k ∈ C'[c]!.cons ↔ k ∈ kl ∧ (K'[k]!.c0 = c ∨ K'[k]!.c1 = c))
    (nbrs : ∀ c ∈ g.columnlist, ∀ d, d ∈ C'[c]!.nbrs ↔
      ∃ k ∈ kl, (K'[k]!.c0 = c ∧ K'[k]!.c1 = d) ∨ (K'[k]!.c0 = d ∧ K'[k]!.c1 = c))
    (conNodes : ∀ k ∈ kl, ∃ a b, K'[k]!.nodes = some (a, b) ∧ a ≠ b ∧
      isSide (g.col K'[k]!.c0).nodes a b = true ∧ isSide (g.col K'[k]!.c1).nodes a b = true) :
    Inv0 { g with C := C', K := K', connlist := kl, connD := kd } := by
  have hname : ∀ j : Nat, C'[j]!.name = (g.col j).name := fun j => congrArg (·.name) (hsame j)
  have hnodes : ∀ j : Nat, C'[j]!.nodes = (g.col j).nodes := fun j => congrArg (·.nodes) (hsame j)
  have harea : ∀ j : Nat, C'[j]!.area = (g.col j).area := fun j => congrArg (·.area) (hsame j)
  exact { h with
    cols := h.cols.congr hs fun j _ => hname j
    cons := cons.congr rfl fun k _ => by simp only [Geo.conKey, Geo.col, hname]; rfl
    colNodes := by simp only [Geo.col, hnodes]; exact h.colNodes
    nodeCols := by simp only [Geo.col, hnodes]; exact h.nodeCols
    conEnds := conEnds
    colCons := colCons
    nbrs := fun c hc d => (nbrs c hc d).trans (joined_iff { g with C := C', K := K', connlist := kl, connD := kd } c d).symm
    conNodes := by simp only [Geo.col, Geo.con, hnodes]; exact conNodes
    orient := by simp only [Oriented, Geo.col, hnodes, harea]; exact h.orient }

/-- columns changed at most in their name, surface and layer count: only the two registries keyed by column names
    are shown again -/
theorem Inv0.setCols (h : Inv0 g) (C' : Array Column) (cd : Dict Name) (kd : Dict (Name × Name))
    (hs : C'.size = g.C.size)
    (hsame : ∀ j : Nat, { C'[j]! with name := [], numLayers := 0, surface := none } =
      { g.col j with name := [], numLayers := 0, surface := none })
    (cols : regOK g.columnlist cd (fun j => C'[j]!.name) = true)
    (cons : regOK g.connlist kd (fun k => (C'[(g.con k).c0]!.name, C'[(g.con k).c1]!.name)) = true) :
    Inv0 { g with C := C', columnD := cd, connD := kd } := by
  have hnodes : ∀ j : Nat, C'[j]!.nodes = (g.col j).nodes := fun j => congrArg (·.nodes) (hsame j)
  have harea : ∀ j : Nat, C'[j]!.area = (g.col j).area := fun j => congrArg (·.area) (hsame j)
  have hcons : ∀ j : Nat, C'[j]!.cons = (g.col j).cons := fun j => congrArg (·.cons) (hsame j)
  have hnbrs : ∀ j : Nat, C'[j]!.nbrs = (g.col j).nbrs := fun j => congrArg (·.nbrs) (hsame j)
  exact { h with
    cols := ⟨hs ▸ h.cols.lt, cols⟩
    cons := ⟨h.cons.lt, cons⟩
    colNodes := by simp only [Geo.col, hnodes]; exact h.colNodes
    nodeCols := by simp only [Geo.col, hnodes]; exact h.nodeCols
    colCons := by simp only [Geo.col, hcons]; exact h.colCons
    nbrs := by simp only [Geo.col, hnbrs]; exact h.nbrs
    conNodes := by simp only [Geo.col, Geo.con, hnodes]; exact h.conNodes
    orient := by simp only [Oriented, Geo.polygon, Geo.col, hnodes, harea]; exact h.orient }

/-- only the orientation clause is shown again -/
theorem SameStructure.inv0 {g' : Geo} (s : SameStructure g g') (ho : Oriented g') (h : Inv0 g) : Inv0 g' where
  nodes := by rw [s.Nsize, s.nodelist, s.nodeD, funext s.nodeName]; exact h.nodes
  cols := by rw [s.Csize, s.columnlist, s.columnD, funext s.colName]; exact h.cols
  cons := by rw [s.K, s.connlist, s.connD, funext s.conKey]; exact h.cons
  lays := by rw [s.Lsize, s.layerlist, s.layerD, funext s.layName]; exact h.lays
  wells := by rw [s.Wsize, s.welllist, s.wellD, funext s.wellName]; exact h.wells
  colNodes := by simp only [s.columnlist, s.nodelist, s.colNodes]; exact h.colNodes
  nodeCols := by simp only [s.columnlist, s.nodelist, s.colNodes, s.nodeCols]; exact h.nodeCols
  conEnds := by simp only [s.columnlist, s.connlist, s.con]; exact h.conEnds
  colCons := by simp only [s.columnlist, s.connlist, s.con, s.colCons]; exact h.colCons
  nbrs := by simp only [s.columnlist, s.colNbrs, s.joined]; exact h.nbrs
  conNodes := by simp only [s.connlist, s.con, s.colNodes]; exact h.conNodes
  orient := ho

end Proofs.Geo
