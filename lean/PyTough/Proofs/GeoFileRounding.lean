/-
  C03 proofs: rounding to the decimals of a field is idempotent — a number that already is the
  decimal its field holds is written as the same text (`10.2f`, `10.1f` and `10.2e` fields alike).
-/
import PyTough.Proofs.GeoFileNum
namespace Proofs.GeoFile
open Py Model Model.GeoFile Proofs

/-! ### the fraction behind a decimal -/

theorem scale10_eq (neg : Bool) (m : Nat) (t : Int) :
    scale10 (if neg then -(m : Int) else m) t = mkRat (if neg then -(decNum m t : Int) else decNum m t) (decDen t) := by
  unfold scale10 decNum decDen
  split
  · rw [Rat.mkRat_one]; cases neg <;> simp [Rat.neg_mul]
  · rfl

/-- sign, numerator and denominator of the float read from the decimal `±m·10^t`, `m ≠ 0` -/
theorem ofDec_parts (neg : Bool) {m : Nat} (hm : m ≠ 0) (t : Int) :
    (ofDec neg m t).isNeg = neg ∧
    ∃ j : Nat, 0 < j ∧ decNum m t = (ofDec neg m t).absNum * j ∧ decDen t = (ofDec neg m t).den * j := by
  unfold ofDec
  rw [if_neg hm]
  exact signed_mkRat_parts neg (decNum_pos (Nat.pos_of_ne_zero hm) t) (decDen_pos t) (scale10_eq neg m t)

/-! ### a decimal with `p` places prints as itself -/

theorem decNum_neg (m p : Nat) : decNum m (-(p : Int)) = m := by
  rw [decNum_eq, tenUp, show (-(p : Int)).toNat = 0 by omega, Nat.pow_zero, Nat.mul_one]

theorem decDen_neg (p : Nat) : decDen (-(p : Int)) = 10 ^ p := by
  rw [decDen_eq, tenDn, Int.neg_neg, Int.toNat_natCast]

/-- sign and rounded digits of `roundF p y` are those of `y` -/
theorem roundF_parts (p : Nat) (y : Flt) :
    (roundF p y).isNeg = y.isNeg ∧
    roundHalfEven ((roundF p y).absNum * 10 ^ p) (roundF p y).den = roundHalfEven (y.absNum * 10 ^ p) y.den := by
  unfold roundF
  generalize roundHalfEven (y.absNum * 10 ^ p) y.den = M
  by_cases hM : M = 0
  · subst hM
    cases y.isNeg <;> exact ⟨rfl, by simp [ofDec, Flt.absNum, roundHalfEven]⟩
  · obtain ⟨hs, j, hj, ha, hb⟩ := ofDec_parts y.isNeg hM (-(p : Int))
    rw [decNum_neg] at ha
    rw [decDen_neg] at hb
    refine ⟨hs, ?_⟩
    -- `M / 10^p` in lowest terms is `absNum / den`, so `absNum · 10^p = M · den`
    rw [hb, ← Nat.mul_assoc, Nat.mul_right_comm, ← ha]
    exact roundHalfEven_exact M _ (Flt.den_pos _)

theorem textF_roundF (w p : Nat) (y : Flt) : textF w p (roundF p y) = textF w p y := by
  unfold textF fmtFBody
  obtain ⟨h1, h2⟩ := roundF_parts p y
  rw [h1, h2]

theorem roundF_idem (p : Nat) (y : Flt) : roundF p (roundF p y) = roundF p y := by
  obtain ⟨h1, h2⟩ := roundF_parts p y
  unfold roundF at h1 h2 ⊢
  rw [h1, h2]

/-- sign and printed parts of `roundE p x` are those of `x` -/
theorem roundE_parts (p : Nat) (x : Flt) :
    (roundE p x).isNeg = x.isNeg ∧
    fmtEParts p (roundE p x).absNum (roundE p x).den = fmtEParts p x.absNum x.den := by
  unfold roundE
  by_cases hn : x.absNum = 0
  · rw [hn, fmtEParts_zero]
    cases x.isNeg <;> exact ⟨rfl, fmtEParts_zero p 1⟩
  · have hm : (fmtEParts p x.absNum x.den).1 ≠ 0 := Nat.pos_iff_ne_zero.mp (Nat.lt_of_lt_of_le (pow10_pos p)
      (fmtEParts_normalised p x.absNum x.den (Nat.pos_of_ne_zero hn) (Flt.den_pos x)).1)
    obtain ⟨hs, j, hj, ha, hb⟩ := ofDec_parts x.isNeg hm ((fmtEParts p x.absNum x.den).2 - p)
    -- the value is the decimal `m·10^(e-p)`, whatever fraction represents it
    exact ⟨hs, fmtEParts_reprint p hn (Flt.den_pos x) hj (Flt.den_pos _) ha hb⟩

theorem textE_roundE (w p : Nat) (x : Flt) : textE w p (roundE p x) = textE w p x := by
  unfold textE fmtEBody
  obtain ⟨h1, h2⟩ := roundE_parts p x
  rw [h1, h2]

/-! ### the written field is the same for a value and for its rounded form -/

theorem writeField_of_text {f : FieldSpec} {v v' : Val} {t : Str} {pv : PVal} (h : FieldRT f v t pv) (hv : v' ≠ .none)
    (hx : f.typ ≠ 'x') (hf : fmtVal f v' = .ok t) : writeField f v' = writeField f v ∧ fitsB f v' = true := by
  have hl : t.length ≤ f.width := Nat.le_of_eq h.len
  refine ⟨h.w ▸ writeField_of_fits hv hx hf hl, ?_⟩
  unfold fitsB
  rw [hf]
  simpa using hl

theorem writeField_roundF {p : Nat} {y : Flt} (h : fitsB (fF p) y.toVal = true) :
    writeField (fF p) (roundF p y).toVal = writeField (fF p) y.toVal ∧ fitsB (fF p) (roundF p y).toVal = true :=
  writeField_of_text (fItem_ok h) (toVal_ne_none _) (by simp [fF])
    ((fmtVal_f_flt (f := fF p) rfl _).trans (congrArg Except.ok (textF_roundF 10 p y)))

theorem writeField_roundE {x : Flt} (h : fitsB fE x.toVal = true) :
    writeField fE (roundE 2 x).toVal = writeField fE x.toVal :=
  (writeField_of_text (f := fE) (eItem_ok h) (toVal_ne_none _) (by decide)
    ((fmtVal_e_flt (f := fE) rfl _).trans (congrArg Except.ok (textE_roundE 10 2 x)))).1

/-- the `10.2e` header sizes reprint identically: `SizesStable` holds for every geometry whose
    sizes fit their fields -/
theorem sizesStable_of_fits (g : Geo) (h1 : fitsB fE g.hdr.atmosVolume.toVal = true)
    (h2 : fitsB fE g.hdr.atmosConnection.toVal = true) : SizesStable g = true := by
  unfold SizesStable
  rw [writeField_roundE h1, writeField_roundE h2]
  simp

/-! ### coordinates: to file units, rounded, back -/

theorem mul_div_flt (x : Flt) {s : Rat} (hs : s ≠ 0) : (x.mul s).div s = x := by
  cases x with
  | q r => simp only [Flt.mul, Flt.div]; rw [Rat.mul_div_cancel hs]
  | negZero => rfl

theorem canonC_div (p : Nat) {s : Rat} (hs : s ≠ 0) (x : Flt) : (canonC p s x).div s = roundF p (x.div s) :=
  mul_div_flt _ hs

theorem canonC_idem (p : Nat) (hp : 0 < p) {s : Rat} (hs : s ≠ 0) (x : Flt) : canonC p s (canonC p s x) = canonC p s x := by
  unfold canonC
  rw [mul_div_flt _ hs, roundF_idem p]

/-- **key**: a coordinate and its canonical form are written identically -/
theorem writeField_canonC {p : Nat} {s : Rat} (hs : s ≠ 0) {x : Flt} (h : fitsC p s x = true) :
    writeField (fF p) ((canonC p s x).div s).toVal = writeField (fF p) (x.div s).toVal := by
  rw [canonC_div p hs]
  exact (writeField_roundF h).1

theorem fitsC_canonC {p : Nat} (hp : 0 < p) {s : Rat} (hs : s ≠ 0) {x : Flt} (h : fitsC p s x = true) :
    fitsC p s (canonC p s x) = true := by
  unfold fitsC
  rw [canonC_div p hs]
  exact (writeField_roundF h).2

end Proofs.GeoFile
