/-
  C01: composition of the per-section round trips into whole objects.  Each section kind is given a round trip of
  one uniform shape `StepRT`: its text is `keyword line :: body`; its reader, started on the body followed by *any
  continuation that begins with a keyword line*, returns the section's canonical update of the reader's state and
  leaves the continuation — or, for PARAM, hands the keyword line it read ahead back to the loop.  The keyword loop
  of `read()` on the text `write()` produced then composes them by induction over the section list.
-/
import PyTough.Proofs.T2DataFile
import PyTough.Proofs.T2DataParam
namespace Proofs.T2
open Py Model Model.T2 Proofs
open Gen.Sections (Rec)

/-- the continuation of a section in a written file begins with a keyword line (the next section's, or ENDCY /
    ENDFI) -/
def KwStart (tail : List Str) : Prop :=
  ∃ l r, tail = l :: r ∧ isBlank (padstring l) = false ∧ paramStops.any (startsWith (padstring l)) = true

/-- `hdr` is a line that both the keyword loop (raw or padded) and PARAM's look-ahead take for the keyword line
    of the section `kw`: `nl kw` for most sections, `MESHMAKER` for MESHM, `SHORT` + frequency for SHORT -/
structure HdrOf (kw hdr : Str) : Prop where
  ne : hdr ≠ []
  raw : keywordOf hdr = kw
  padded : keywordOf (padstring hdr) = kw
  notBlank : isBlank (padstring hdr) = false
  stops : paramStops.any (startsWith (padstring hdr)) = true

/-- the shape of a section round trip that the keyword loop needs: the section of `d` is written as its keyword line
    `hdr` and a body, and the reader started in state `d0` on the body followed by a continuation that begins with a
    keyword line returns `d1` and the continuation (possibly having read its first line ahead).  `line` is `hdr` raw,
    or padded when PARAM read it ahead.  `StepOK.reads` (T2DataFile) asks the same for whatever follows; PARAM's
    reader needs `KwStart tail`. -/
structure StepRT (d : T2Data) (kw : Str) (d0 d1 : T2Data) : Prop where
  writes : ∃ hdr body, writeSection mainTabs d kw = .ok (hdr :: body) ∧ HdrOf kw hdr ∧
    ∀ line, line = hdr ∨ line = padstring hdr → ∀ tail, KwStart tail → ∃ nxt rest',
      readSection .default none d0 kw line (body ++ tail) = .ok (d1, nxt, rest') ∧ Follows tail nxt rest'
  xp : d1.extraPrecision = []

/-- the reader's object after the sections `kws`, each applying its canonical update `step kw` and being
    recorded in `_sections` -/
def canonFrom (step : Str → T2Data → T2Data) : List Str → T2Data → T2Data
  | [], d0 => d0
  | kw :: kws, d0 => canonFrom step kws { step kw d0 with sections := (step kw d0).sections ++ [kw] }

/-- the side conditions of the sections `kws`, each stated on the reader's state when the section is met -/
def GoodFrom (step : Str → T2Data → T2Data) (Good : Str → T2Data → Prop) : List Str → T2Data → Prop
  | [], _ => True
  | kw :: kws, d0 => Good kw d0 ∧ GoodFrom step Good kws { step kw d0 with sections := (step kw d0).sections ++ [kw] }

instance (kw hdr : Str) : Decidable (HdrOf kw hdr) :=
  decidable_of_iff (_ ∧ _ ∧ _ ∧ _ ∧ _) ⟨fun ⟨h1, h2, h3, h4, h5⟩ => ⟨h1, h2, h3, h4, h5⟩,
    fun h => ⟨h.ne, h.raw, h.padded, h.notBlank, h.stops⟩⟩

theorem hdrOf_nl : ∀ kw ∈ paramStops, HdrOf kw (nl kw) := by decide +kernel

theorem sections_not_end : ∀ kw ∈ allSections, ¬ IsEnd kw := by
  unfold IsEnd; decide +kernel

theorem mem_stops_of_end {kw : Str} (h : IsEnd kw) : kw ∈ paramStops := by
  unfold paramStops
  rcases h with rfl | rfl <;> simp

theorem kwStart_of_hdr {kw hdr : Str} (h : HdrOf kw hdr) (r : List Str) : KwStart (hdr :: r) :=
  ⟨hdr, r, rfl, h.notBlank, h.stops⟩

/-- `K` picks the kinds for which `hstep` gives a `StepRT` (the callers take `· ∈ wholeKinds`).  The first conjunct is
    what the induction needs of the rest of the file to use `StepRT.writes` of the section before it. -/
theorem whole_loop (d : T2Data) (step : Str → T2Data → T2Data) (Good : Str → T2Data → Prop) (K : Str → Prop)
    (hK : ∀ kw, K kw → kw ∈ allSections)
    (hstep : ∀ kw d0, K kw → d0.extraPrecision = [] → Good kw d0 → StepRT d kw d0 (step kw d0))
    (endkw : Str) (hend : IsEnd endkw) :
    ∀ (kws : List Str) (d0 : T2Data) (nxt : Option Str) (ls : List Str) (fuel : Nat) (texts : List (List Str)),
      (∀ kw ∈ kws, K kw) → d0.extraPrecision = [] → GoodFrom step Good kws d0 →
      kws.mapM (writeSection mainTabs d) = .ok texts → Follows (texts.flatten ++ [nl endkw]) nxt ls →
      (texts.flatten ++ [nl endkw]).length < fuel →
      KwStart (texts.flatten ++ [nl endkw]) ∧
      readLoop .default none fuel d0 nxt ls = .ok { canonFrom step kws d0 with endKeyword := endkw } := by
  intro kws
  induction kws with
  | nil =>
    intro d0 nxt ls fuel texts _ _ _ hw hrep hf
    cases hw
    obtain ⟨fuel, rfl⟩ : ∃ k, fuel = k + 1 := ⟨fuel - 1, by simp at hf; omega⟩
    exact ⟨kwStart_of_hdr (hdrOf_nl _ (mem_stops_of_end hend)) [], readLoop_end _ _ fuel d0 hend hrep⟩
  | cons kw kws ih =>
    intro d0 nxt ls fuel texts hKs hxp ⟨hg0, hgrest⟩ hw hrep hf
    obtain ⟨fuel, rfl⟩ : ∃ k, fuel = k + 1 := ⟨fuel - 1, by omega⟩
    obtain ⟨t, ts, hwt, hwts, rfl⟩ := mapM_cons_ok _ _ _ _ hw
    have hKkw : K kw := hKs kw (by simp)
    have hrt := hstep kw d0 hKkw hxp hg0
    obtain ⟨hdr, body, hwb, hhdr, hreads⟩ := hrt.writes
    cases hwt.symm.trans hwb
    have hmem := hK kw hKkw
    have hlay : ((hdr :: body) :: ts).flatten ++ [nl endkw] = hdr :: (body ++ (ts.flatten ++ [nl endkw])) := by
      simp
    rw [hlay] at hrep ⊢
    -- the rest of the file begins with a keyword line (the induction hypothesis, at any loop state)
    have hrest := fun nxt' ls' hrep' => ih { step kw d0 with sections := (step kw d0).sections ++ [kw] } nxt' ls' fuel ts
      (fun k hk => hKs k (List.mem_cons_of_mem _ hk)) hrt.xp hgrest hwts hrep'
      (by simp only [List.flatten_cons, List.length_append, List.length_cons] at hf ⊢; omega)
    have htail := (hrest none _ (Or.inl ⟨rfl, rfl⟩)).1
    obtain ⟨nxt', ls', hrep', h⟩ := readLoop_section .default none fuel (by simpa using hmem)
      (sections_not_end kw hmem)
      hhdr.ne hhdr.raw hhdr.padded hrep (fun line hline => hreads line hline _ htail)
    exact ⟨kwStart_of_hdr hhdr _, h.trans (hrest nxt' ls' hrep').2⟩

def canonTitle (d : T2Data) : Str := rstripNewline (slice (nl (strip d.title)) 0 80)

/-- the flavours / `write()` arguments covered: a TOUGH2 object (no `simulator`; `write()` then ignores the
    extra-precision arguments), or an AUTOUGH2 object written with `extra_precision=None, echo_extra_precision=None` -/
def FlavourOK (d : T2Data) (cfg : WriteCfg) : Prop := d.simulator = [] ∨ (cfg.xp = none ∧ cfg.echo = none)

theorem writeExtraPrecision_off (d : T2Data) (hx : d.extraPrecision = []) :
    writeExtraPrecision d none none = .ok (d, none) := by
  unfold writeExtraPrecision
  simp only [hx, List.isEmpty_nil, ↓reduceIte, pure, Except.pure]

/-- for the covered flavours `write()` does nothing before the section loop but `update_sections`: the extra-precision
    step it takes for an AUTOUGH2 object returns the object as it is, and no companion file -/
theorem writeExtraPrecision_covered (d : T2Data) (hxp : d.extraPrecision = []) (cfg : WriteCfg) (hfl : FlavourOK d cfg)
    (ha : d.updateSections.autough2 = true) :
    writeExtraPrecision d.updateSections cfg.xp cfg.echo = .ok (d.updateSections, none) := by
  have hs : d.simulator ≠ [] := fun hs => by simp [T2Data.autough2, T2Data.updateSections, hs] at ha
  obtain ⟨h1, h2⟩ := hfl.resolve_left hs
  rw [h1, h2]
  exact writeExtraPrecision_off _ hxp

theorem write_infile (d : T2Data) (hxp : d.extraPrecision = [])
    (cfg : WriteCfg) (hfl : FlavourOK d cfg) (hcfg : cfg.mesh = .infile) (d' : T2Data) (f : Files) (hw : d.write cfg = .ok (d', f)) :
    d' = d.updateSections ∧ ∃ texts, d'.sections.mapM (writeSection mainTabs d') = .ok texts ∧
      f = { main := [nl (strip d.title)] ++ texts.flatten ++ [nl d.endKeyword], mesh := none, pdat := none } := by
  have hx : d.updateSections.extraPrecision = [] := hxp
  unfold T2Data.write at hw
  have h1 : (MeshKind.infile == MeshKind.ascii) = false := by decide
  have h2 : (MeshKind.infile == MeshKind.infile) = true := by decide
  have hw' : (List.mapM (fun kw => writeSection mainTabs d.updateSections kw) d.updateSections.sections >>=
      fun v => (.ok (d.updateSections, { main := [nl (strip d.updateSections.title)] ++ v.flatten ++ [nl d.updateSections.endKeyword],
                                          mesh := none, pdat := none }) : Except Exc (T2Data × Files))) = .ok (d', f) := by
    -- either flavour; for an AUTOUGH2 object `writeExtraPrecision_covered` applies
    cases ha : d.updateSections.autough2 <;>
      simpa only [hcfg, ha, writeExtraPrecision_covered d hxp cfg hfl, h1, h2, Bool.false_eq_true, if_false, if_true, pure, bind,
        Except.pure, Except.bind, hx, List.contains_nil, Bool.not_false, Bool.true_and, Bool.true_or] using hw
  obtain ⟨v, hm, h⟩ := bind_ok_iff.mp hw'
  cases h
  exact ⟨rfl, v, hm, rfl⟩

/-- the reader's fresh object once the title line is read -/
def startObj (d : T2Data) : T2Data := { T2Data.empty with title := canonTitle d }

theorem read_titled (d : T2Data) (body : List Str) (mesh : Option (List Str)) :
    T2Data.read .default { main := nl (strip d.title) :: body, mesh := mesh, pdat := none } =
      (readLoop .default none (body.length + 2) (startObj d) none body).bind fun v =>
        match mesh with
        | some m => if v.blocks.isEmpty then readMeshfile .default (m.length + 1) v m else .ok v
        | none => .ok v :=
  rfl

/-- `read (write d)` for a main file that holds the mesh: the title, then `whole_loop` over the sections written;
    `step`, `Good`, `K` are instantiated by `stepCanon d'`, `GoodStep d'`, `· ∈ wholeKinds` in Props.C01 -/
theorem whole_read_write (d : T2Data) (step : Str → T2Data → T2Data) (Good : Str → T2Data → Prop) (K : Str → Prop)
    (hK : ∀ kw, K kw → kw ∈ allSections)
    (hxp : d.extraPrecision = []) (hend : IsEnd d.endKeyword)
    (cfg : WriteCfg) (hfl : FlavourOK d cfg) (hcfg : cfg.mesh = .infile) (d' : T2Data) (f : Files) (hw : d.write cfg = .ok (d', f))
    (hstep : ∀ kw d0, K kw → d0.extraPrecision = [] → Good kw d0 → StepRT d' kw d0 (step kw d0))
    (hKs : ∀ kw ∈ d'.sections, K kw)
    (hgood : GoodFrom step Good d'.sections (startObj d)) :
    T2Data.read .default f = .ok { canonFrom step d'.sections (startObj d) with endKeyword := d.endKeyword } := by
  obtain ⟨hd', texts, hm, rfl⟩ := write_infile d hxp cfg hfl hcfg d' f hw
  have hloop := (whole_loop d' step Good K hK hstep d.endKeyword hend d'.sections
    (startObj d) none (texts.flatten ++ [nl d.endKeyword])
    ((texts.flatten ++ [nl d.endKeyword]).length + 2) texts hKs rfl hgood hm (Or.inl ⟨rfl, rfl⟩) (by omega)).2
  refine (read_titled d (texts.flatten ++ [nl d.endKeyword]) none).trans ?_
  rw [hloop]
  rfl

end Proofs.T2
