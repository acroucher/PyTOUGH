/-
  C19: on the same grid `block_mapping` is the identity wherever it returns (7 of the 9 combinations of
  atmosphere types; mapping a geometry onto itself is the case of equal types), except that per-column atmosphere
  blocks go to the single atmosphere block of a type-0 source; the two failing combinations raise KeyError.
-/
import PyTough.Proofs.MappingMain
namespace Proofs.Mapping
open Py Model.Mapping

theorem sqDist_self (a : Rat × Rat) : sqDist a a = 0 := by
  unfold sqDist; grind

theorem mul_self_nonneg' (x : Rat) : 0 ≤ x * x := by
  rcases Rat.le_total (a := 0) (b := x) with h | h
  · exact Rat.mul_nonneg h h
  · have : 0 ≤ -x := by grind
    have := Rat.mul_nonneg this this
    grind

theorem sqDist_le_zero {a b : Rat × Rat} (h : sqDist a b ≤ 0) : a = b := by
  unfold sqDist at h
  have h1 := mul_self_nonneg' (a.1 - b.1)
  have h2 := mul_self_nonneg' (a.2 - b.2)
  have e1 : (a.1 - b.1) * (a.1 - b.1) = 0 := by grind
  have e2 : (a.2 - b.2) * (a.2 - b.2) = 0 := by grind
  have f1 : a.1 - b.1 = 0 := by
    rcases Rat.mul_eq_zero.mp e1 with h | h <;> exact h
  have f2 : a.2 - b.2 = 0 := by
    rcases Rat.mul_eq_zero.mp e2 with h | h <;> exact h
  ext <;> grind

theorem absQ_self (x : Rat) : absQ (x - x) = 0 := by
  unfold absQ; split <;> grind

theorem absQ_le_zero {x y : Rat} (h : absQ (x - y) ≤ 0) : x = y := by
  unfold absQ at h
  split at h <;> grind

theorem distinctPts_pairwise : ∀ l : List (Rat × Rat), distinctPts l = true → l.Pairwise (· ≠ ·)
  | [], _ => .nil
  | a :: as, h => by
    simp only [distinctPts, Bool.and_eq_true, List.all_eq_true, decide_eq_true_eq] at h
    exact List.pairwise_cons.mpr ⟨h.1, distinctPts_pairwise as h.2⟩

theorem distinctQ_pairwise : ∀ l : List Rat, distinctQ l = true → l.Pairwise (· ≠ ·)
  | [], _ => .nil
  | a :: as, h => by
    simp only [distinctQ, Bool.and_eq_true, List.all_eq_true, decide_eq_true_eq] at h
    exact List.pairwise_cons.mpr ⟨h.1, distinctQ_pairwise as h.2⟩

theorem nearestCol_self {g : Geo} (hd : distinctPts (g.cols.map Col.centre) = true) {c C : Col}
    (hc : c ∈ g.cols) (hC : NearestCol g c.centre C) : C = c := by
  have := hC.2 c hc
  rw [sqDist_self] at this
  exact inj_of_nodup_map Col.centre g.cols (distinctPts_pairwise _ hd) C hC.1 c hc (sqDist_le_zero this)

theorem nearestLay_self {L : List Lay} (hd : distinctQ (L.map (·.centre)) = true) {l S : Lay}
    (hl : l ∈ L) (hS : NearestLay L l.centre S) : S = l := by
  have := hS.2 l hl
  rw [absQ_self] at this
  exact inj_of_nodup_map (fun (l : Lay) => l.centre) L (distinctQ_pairwise _ hd) S hS.1 l hl (absQ_le_zero this)

/-- `s` and `t` have the same naming convention, columns and layers (atmosphere type and block
    order are free).  Underground blocks and columns are mapped to themselves; the atmosphere block over the
    column name `cn` goes to the block of the source's atmosphere layer over `cn` — over the atmosphere
    column name when the source has a single atmosphere block. -/
theorem blockMapping_sameGrid (q : List (Rat × Rat) → Rat × Rat → Nat) (hq : IsNearest q) (s t : Geo)
    (hconv : s.conv = t.conv) (hcols : s.cols = t.cols) (hlays : s.lays = t.lays)
    (hs : SrcWF s) (ht : TgtWF t) (ha : atmOK s t = true) (hd : distinctCentres t = true) :
    ∃ m cm g0 an un san sun, Mapped q s t m cm g0 g0 an un san sun ∧
      (∀ d ∈ un, dget m d = .ok d) ∧ (∀ c ∈ t.cols, dget cm c.name = .ok c.name) ∧
      ∀ cn ∈ atmCols t, dget m (rawName t.conv g0.name cn) =
        blockName t.conv g0.name (if s.atm = 0 then atmColName t.conv else cn) := by
  obtain ⟨cv, a, d1, cols, lays⟩ := s
  obtain ⟨cv', b, d2, cols', lays'⟩ := t
  simp only at hconv hcols hlays
  subst hconv hcols hlays
  simp only [distinctCentres, Bool.and_eq_true] at hd
  obtain ⟨hdc, hdl⟩ := hd
  obtain ⟨m, cm, g0, s0, an, un, san, sun, M⟩ := blockMapping_main q hq _ _ hs ht ha
  -- `s0` is `g0`: the two layer lists are one
  cases (List.cons.inj (M.tlays.symm.trans M.slays)).1
  have hcm : ∀ c ∈ cols, dget cm c.name = .ok c.name := by
    intro c hc
    obtain ⟨C, hC, hget⟩ := M.cols c hc
    have : C = c := nearestCol_self hdc hc hC
    rw [this] at hget
    exact hget
  refine ⟨m, cm, g0, an, un, san, sun, M, ?_, hcm, ?_⟩
  · intro d hdm
    obtain ⟨p, hp, rfl⟩ := (tgt_mem_under ht M.tnames d).mp hdm
    obtain ⟨C, S, L', v, hC, hS, hL, _, hv, hget⟩ := M.under p.1 p.2 hp
    obtain ⟨hl, hc, hlt⟩ := (mem_underPairs _ p.1 p.2).mp hp
    have hCc : C = p.2 := nearestCol_self hdc hc hC
    have hSl : S = p.1 := nearestLay_self hdl hl hS
    subst hCc hSl
    rw [if_neg (Rat.not_le.mpr hlt)] at hL
    subst hL
    cases (tgt_under_name ht hp).symm.trans hv
    exact hget
  · intro cn hcn
    obtain ⟨sc, v, hsc, hv, _, hget⟩ := M.atm cn hcn
    rw [hget, ← hv]
    by_cases h0 : a = 0
    · rw [if_pos h0, if_pos h0]
    · rw [if_neg h0, if_neg h0]
      -- the source has no single atmosphere block, so neither has the target: `cn` is a column name, mapped to itself
      rcases mem_atmCols.mp hcn with ⟨ht0, _⟩ | ⟨_, c, hc, rfl⟩
      · exact absurd (M.atmSrc ht0) h0
      · rw [Except.ok.inj (hsc.symm.trans (hcm c hc))]

/-- Mapping a geometry onto itself is the identity (all three atmosphere types: equal types are never one
    of the failing combinations). -/
theorem identity (q : List (Rat × Rat) → Rat × Rat → Nat) (hq : IsNearest q) (g : Geo)
    (hs : srcOK g = true) (ht : tgtOK g = true) (hd : distinctCentres g = true) :
    ∃ m cm names, blockMapping q g g = .ok (m, cm) ∧ g.blockNameList = .ok names ∧
      (∀ d ∈ names, dget m d = .ok d) ∧ (∀ c ∈ g.cols, dget cm c.name = .ok c.name) := by
  have ht := tgtWF_of ht
  obtain ⟨m, cm, g0, an, un, san, sun, M, hunder, hcols, hatm⟩ :=
    blockMapping_sameGrid q hq g g rfl rfl rfl (srcWF_of hs) ht ((atmOK_iff g g).mpr id) hd
  refine ⟨m, cm, an ++ un, M.run, M.tnames.all, fun d hd => ?_, hcols⟩
  rcases List.mem_append.mp hd with hd | hd
  · rw [M.atm_names] at hd
    obtain ⟨cn, hcn, rfl⟩ := List.mem_map.mp hd
    -- source and target type are the same: the block over `cn` in either
    have : (if g.atm = 0 then atmColName g.conv else cn) = cn := by
      rcases mem_atmCols.mp hcn with ⟨h0, rfl⟩ | ⟨h1, _⟩
      · exact if_pos h0
      · exact if_neg (by omega)
    rw [hatm cn hcn, this]
    exact tgt_atm_name ht M.tlays (atmCols_sub hcn)
  · exact hunder d hd

/-! ### the known defect: source atmosphere type 1 or 2 onto target type 0 -/

/-- For well-formed geometries (`SrcWF`, `TgtWF`): whenever the target has a single atmosphere block and the source
    has none or one per column, `block_mapping` raises KeyError: the target's atmosphere column name is not a key of
    the column mapping, provided no target column bears that name (`hnc`). -/
theorem blockMapping_keyError (q : List (Rat × Rat) → Rat × Rat → Nat) (hq : IsNearest q) (s t : Geo)
    (hs : SrcWF s) (ht : TgtWF t) (h0 : t.atm = 0) (hsa : s.atm ≠ 0)
    (hnc : ∀ c ∈ t.cols, c.name ≠ atmColName t.conv) :
    blockMapping q s t = .error .keyError := by
  obtain ⟨cm, lm, g0, s0, hm⟩ := mapsOK_exists hq hs ht
  obtain ⟨an, un, hN⟩ := blockNames_spec ht.names ht.dmplex hm.tlays
  have hnames := hN.all
  obtain ⟨n, hn, hane⟩ := hN.atm0 h0
  rw [tgt_atm_name ht hm.tlays (List.mem_cons_self ..)] at hn
  cases hn
  -- the column mapping has no entry for the atmosphere column name
  have hkey : dget cm (atmColName t.conv) = .error .keyError := by
    have hcm := hm.colRun
    unfold columnMapping at hcm
    have hinit : ¬ (s.atm = 0 ∧ t.atm = 0) := fun h => hsa h.1
    simp only [if_neg hinit, List.nil_append] at hcm
    split at hcm
    · cases hcm
    · rename_i ps hps
      cases hcm
      apply dget_dictOf_none
      intro p hp hk
      obtain ⟨c, hc, hf⟩ := mapE_mem_right hps p hp
      rw [colPair_key hf] at hk
      exact hnc c hc hk
  have hone : mapOne s t cm lm (rawName t.conv g0.name (atmColName t.conv)) = .error .keyError := by
    have hll := ht.names.layLen g0 (by rw [hm.tlays]; simp)
    unfold mapOne
    simp only [columnName_rawName t.conv g0.name _ hll (atmColName_length _), hkey]
  unfold blockMapping
  simp only [hm.colRun, hm.layRun, hnames, hane, List.singleton_append, mapE, hone]

end Proofs.Mapping
