/-
  C13: which values are written at the field's own precision.  `FullPrec f (.real r)` (hypothesis
  of the fixpoint theorem) says "the text `'%w.pe' % r` fits the field".  Here it is characterised
  exactly by the length of that text (`eTextLen`), hence by the sign of `r` and the number of digits
  of its printed exponent, and a sufficient condition is given purely on the value
  (`InDecades a b r`: `r = 0` or `10^-a ≤ |r| < 10^b`).
-/
import PyTough.Proofs.InconFixpoint
namespace Proofs.Incon
open Py Model Model.Incon Model.Names Proofs

/-- the decimal exponent that `'%.{p}e' % r` prints -/
def printedExp (p : Nat) (r : Rat) : Int := (fmtEParts p r.num.natAbs r.den).2

/-- number of characters of `'%.{p}e' % r`: sign, mantissa (`d` or `d.ddd`), `e±`, exponent digits (≥ 2) -/
def eTextLen (p : Nat) (r : Rat) : Nat :=
  (if r < 0 then 1 else 0) + (if p = 0 then 1 else p + 2) + 2 + max 2 (natDigits (printedExp p r).natAbs).length

theorem fullPrec_real_iff {f : FieldSpec} (ht : f.typ = 'e') (r : Rat) :
    FullPrec f (.real r) ↔ eTextLen (f.prec.getD 6) r ≤ f.width := by
  have hlen : (signChars (decide (r < 0)) ++ fmtEBody (f.prec.getD 6) r.num.natAbs r.den).length =
      eTextLen (f.prec.getD 6) r := eText_length _ _ _ _ r.den_pos
  unfold FullPrec
  constructor
  · intro h
    obtain ⟨s, hs, hl⟩ := h r rfl
    rw [fmtVal_e_real ht] at hs
    cases hs
    rw [pad_length, hlen] at hl
    omega
  · intro h r' hr'
    cases hr'
    refine ⟨_, fmtVal_e_real ht r, ?_⟩
    rw [pad_length, hlen]
    omega

theorem fullPrec_of_not_real {f : FieldSpec} {v : Val} (h : ∀ r, v ≠ .real r) : FullPrec f v :=
  fun r hr => absurd hr (h r)

theorem expDigits_le_iff (p : Nat) (r : Rat) {k : Nat} (hk : 2 ≤ k) :
    max 2 (natDigits (printedExp p r).natAbs).length ≤ k ↔ (printedExp p r).natAbs < 10 ^ k := by
  rw [← natDigits_length_le_iff (by omega)]
  omega

/-- `r = 0`, or `10^-a ≤ |r| < 10^b` (written without division) -/
def InDecades (a b : Nat) (r : Rat) : Prop :=
  r.num.natAbs = 0 ∨ (r.den ≤ r.num.natAbs * 10 ^ a ∧ r.num.natAbs < 10 ^ b * r.den)

instance (a b : Nat) (r : Rat) : Decidable (InDecades a b r) := by unfold InDecades; exact inferInstance

theorem log10Floor_bounds (n d a b : Nat) (hn : 0 < n) (hd : 0 < d) (h1 : d ≤ n * 10 ^ a) (h2 : n < 10 ^ b * d) :
    -(a : Int) ≤ log10Floor n d ∧ log10Floor n d < (b : Int) := by
  rcases log10Floor_spec n d hn hd with ⟨a', he, l1, l2⟩ | ⟨k, hk, he, l1, l2⟩
  · rw [he]
    refine ⟨by omega, ?_⟩
    have : 10 ^ a' * d < 10 ^ b * d := by omega
    have := (Nat.pow_lt_pow_iff_right (by decide)).mp (Nat.lt_of_mul_lt_mul_right this)
    omega
  · rw [he]
    refine ⟨?_, by omega⟩
    have : n * 10 ^ (k - 1) < n * 10 ^ a := by omega
    have := (Nat.pow_lt_pow_iff_right (by decide)).mp (Nat.lt_of_mul_lt_mul_left this)
    omega

/-- the printed exponent of a value in `[10^-a, 10^b)` lies in `[-a, b]` (`b` itself only through the
    rounding carry `9.99…e(b-1) → 1.00…e b`) -/
theorem printedExp_bounds (p a b : Nat) (r : Rat) (h : InDecades a b r) :
    -(a : Int) ≤ printedExp p r ∧ printedExp p r ≤ (b : Int) := by
  unfold printedExp
  rcases h with h0 | ⟨h1, h2⟩
  · rw [h0, fmtEParts_zero]; simp
  · have hn : 0 < r.num.natAbs := by
      rcases Nat.eq_zero_or_pos r.num.natAbs with h0 | h0
      · rw [h0, Nat.zero_mul] at h1; have := r.den_pos; omega
      · exact h0
    obtain ⟨l1, l2⟩ := log10Floor_bounds _ _ a b hn r.den_pos h1 h2
    rw [fmtEParts_eq _ _ _ hn]
    split <;> simp only <;> omega

theorem printedExp_natAbs_lt (p a b k : Nat) (r : Rat) (h : InDecades a b r) (ha : a < 10 ^ k) (hb : b < 10 ^ k) :
    (printedExp p r).natAbs < 10 ^ k := by
  obtain ⟨h1, h2⟩ := printedExp_bounds p a b r h
  omega

theorem fullPrec_of_inDecades {f : FieldSpec} (ht : f.typ = 'e') (r : Rat) (a b k : Nat) (hk : 2 ≤ k)
    (h : InDecades a b r) (ha : a < 10 ^ k) (hb : b < 10 ^ k) (hp : f.prec.getD 6 ≠ 0)
    (hw : (if r < 0 then 1 else 0) + f.prec.getD 6 + 4 + k ≤ f.width) : FullPrec f (.real r) := by
  rw [fullPrec_real_iff ht]
  have h1 := (expDigits_le_iff (f.prec.getD 6) r hk).mpr (printedExp_natAbs_lt _ a b k r h ha hb)
  unfold eTextLen
  rw [if_neg hp]
  omega

/-- `w = p + 7`: the `20.13e` fields of the incon table, one column wider than the sign-less
    two-digit-exponent text -/
theorem eTextLen_le_p7 (p : Nat) (hp : p ≠ 0) (r : Rat) :
    eTextLen p r ≤ p + 7 ↔
      ((0 ≤ r ∧ (printedExp p r).natAbs < 1000) ∨ (r < 0 ∧ (printedExp p r).natAbs < 100)) := by
  have h3 := expDigits_le_iff p r (k := 3) (by omega)
  have h2 := expDigits_le_iff p r (k := 2) (by omega)
  unfold eTextLen
  rw [if_neg hp]
  by_cases h : r < 0
  · have hn : ¬ (0 ≤ r) := Rat.not_le.mpr h
    simp only [h, if_true, hn, false_and, true_and, false_or]
    rw [← h2]; omega
  · have hn : 0 ≤ r := Rat.not_lt.mp h
    simp only [h, if_false, hn, false_and, true_and, or_false]
    rw [← h3]; omega

/-- `w = p + 6`: the `15.9e` and `12.6e` fields, exactly as wide as the sign-less
    two-digit-exponent text -/
theorem eTextLen_le_p6 (p : Nat) (hp : p ≠ 0) (r : Rat) :
    eTextLen p r ≤ p + 6 ↔ (0 ≤ r ∧ (printedExp p r).natAbs < 100) := by
  have h2 := expDigits_le_iff p r (k := 2) (by omega)
  unfold eTextLen
  rw [if_neg hp]
  by_cases h : r < 0
  · have hn : ¬ (0 ≤ r) := Rat.not_le.mpr h
    simp only [h, if_true, hn, false_and, iff_false]
    omega
  · have hn : 0 ≤ r := Rat.not_lt.mp h
    simp only [h, if_false, hn, true_and]
    rw [← h2]; omega

theorem fullPrec_iff_class {f : FieldSpec} (ht : f.typ = 'e') {p w : Nat} (hp : f.prec.getD 6 = p)
    (hw : f.width = w) {P : Rat → Prop} (hP : ∀ r, eTextLen p r ≤ w ↔ P r) (v : Val) :
    FullPrec f v ↔ ∀ r, v = .real r → P r := by
  constructor
  · intro h r hr
    have := (fullPrec_real_iff ht r).mp (hr ▸ h)
    rw [hp, hw] at this
    exact (hP r).mp this
  · intro h r hr
    have := (fullPrec_real_iff ht r).mpr (by rw [hp, hw]; exact (hP r).mpr (h r hr))
    exact this r rfl

end Proofs.Incon
