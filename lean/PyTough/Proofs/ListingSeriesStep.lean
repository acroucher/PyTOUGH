/-
  history() against stepping, one table at one result time.  The stepping reader (`read_table_TOUGH2`, model `readRowsL`)
  walks the row lines of a table — line `rowOffset skips k` for the k-th entry of the recorded `skiplines` — and stores
  `read_table_line(line)` in the row its key addresses; history() reads a selected line with the same `read_table_line`
  and picks one column (`pickCell`).  The two are the same cell, and on the lines `flat segs ++ after` of a table region
  `rowOffset skips k` is the k-th printed data line (`lineAt_region`), so `Props.C06.history_table_eq_stepping_region_partial`
  need not assume `rowInPlace`.  Core Lean only.
-/
import PyTough.Model.ListingHistory
import PyTough.Proofs.ListingHistory
import PyTough.Proofs.Listing
import PyTough.Proofs.ListingWhole
namespace Proofs.SeriesStep
open Py Model Model.Listing Proofs.History
open Proofs.Whole (flat rowLines stored rowUpd rowUpd_some readRowsL_inv applyRows_size applyRows_line)

/-- offset of the k-th row line from the first results line: one line per earlier row plus the recorded `skiplines` -/
def rowOffset (skips : List Nat) (k : Nat) : Nat := k + (skips.take k).sum

theorem rowOffset_cons_succ (a : Nat) (more : List Nat) (k : Nat) :
    rowOffset (a :: more) (k + 1) = (1 + a) + rowOffset more k := by
  simp only [rowOffset, List.take_succ_cons, List.sum_cons]; omega

theorem rowLines_getElem (skips : List Nat) (rest : List Str) (k : Nat) (hk : k < skips.length) :
    (rowLines skips rest)[k]? = some (lineAt rest (rowOffset skips k)) := by
  induction skips generalizing rest k with
  | nil => simp at hk
  | cons skip more ih =>
    cases k with
    | zero =>
      simp only [rowLines, List.getElem?_cons_zero, rowOffset, List.take_zero, List.sum_nil, Nat.add_zero]
      rw [← headD_drop rest 0]; simp
    | succ k =>
      simp only [rowLines, List.getElem?_cons_succ]
      rw [ih _ k (by simpa using hk), List.drop_drop, lineAt_drop, rowOffset_cons_succ]

theorem rowLines_length (skips : List Nat) (rest : List Str) : (rowLines skips rest).length = skips.length := by
  induction skips generalizing rest with
  | nil => rfl
  | cons s m ih => simp [rowLines, ih]

theorem readRowsL_frame (kp : List Int) (nc : Nat) (np : List (Option Int)) (skips : List Nat) (rest : List Str) (t t' : Table)
    (rest' : List Str) (h : readRowsL kp nc np skips rest t = .ok (t', rest')) :
    t'.rows = t.rows ∧ t'.cols = t.cols ∧ t'.data.size = t.data.size := by
  rw [(readRowsL_inv _ _ _ _ _ _ _ _ h).1]
  exact ⟨rfl, rfl, applyRows_size _ _⟩

theorem readRowsL_row (kp : List Int) (nc : Nat) (np : List (Option Int)) (skips : List Nat) (rest : List Str) (t t' : Table)
    (rest' : List Str) (h : readRowsL kp nc np skips rest t = .ok (t', rest')) (hsz : t.data.size = t.rows.size)
    (k : Nat) (line : Str) (hk : (rowLines skips rest)[k]? = some line) :
    ∃ key vals r, keyFromLine line kp = .ok key ∧ readTableLineTOUGH2 line nc np = .ok vals ∧ lastIdx t.rows key = some r ∧
      (vals.length = t.cols.length ∨ vals.length = 1) ∧
      ((∀ k' line' key', k < k' → (rowLines skips rest)[k']? = some line' → keyFromLine line' kp = .ok key' →
          lastIdx t.rows key' ≠ some r) → t'.data[r]? = some (stored t.cols.length vals).toArray) := by
  obtain ⟨ht', hall, _⟩ := readRowsL_inv _ _ _ _ _ _ _ _ h
  obtain ⟨⟨r, v⟩, hu⟩ := Option.isSome_iff_exists.mp (hall line (List.mem_of_getElem? hk))
  obtain ⟨key, vals, hkey, hvals, hr, hlen, rfl⟩ := rowUpd_some hu
  refine ⟨key, vals, r, hkey, hvals, hr, hlen, fun hlater => ?_⟩
  rw [ht']
  refine applyRows_line _ _ _ k line r _ hk hu (by rw [hsz]; exact (Proofs.Listing.lastIdx_spec hr).1) ?_
  intro k' line' hkk' hl' v' hv'
  obtain ⟨key', _, hk', _, hr', _⟩ := rowUpd_some hv'
  exact hlater k' line' key' hkk' hl' hk' hr'

theorem colIdx_lt (cols : List Str) (c : Str) (vi : Nat) (h : colIdx cols c = some vi) : vi < cols.length :=
  (List.getElem?_eq_some_iff.mp (Proofs.Listing.colIdx_spec h)).1

theorem rowView_get_eq (t : Table) (r : Nat) (rev : Bool) (vals : List FVal) (col : Str)
    (hd : t.data[r]? = some vals.toArray) (hl : vals.length = t.cols.length) :
    (t.rowView r rev).get col = match colIdx t.cols col with
      | some vi => (vals[vi]?).map (fun v => if rev then negF v else v)
      | none => none := by
  cases hc : colIdx t.cols col with
  | some vi =>
    have hvi : vi < vals.length := by rw [hl]; exact colIdx_lt _ _ _ hc
    rw [Proofs.Listing.rowView_get t r vi col vals.toArray vals[vi] rev hc hd (by simpa using hl) (by simp [hvi])]
    simp [hvi]
  | none =>
    unfold Table.rowView RowView.get
    cases rev <;> simp [hd, List.map_fst_zip, hl, hc]

theorem fieldsOf_length (line : Str) (np : List (Option Int)) : (fieldsOf line np).length = np.length - 1 := by
  induction np with
  | nil => rfl
  | cons a r ih =>
    cases r with
    | nil => rfl
    | cons b r' => simp only [fieldsOf, List.length_cons] at ih ⊢; omega

/-- `read_table_line_TOUGH2` pads with zeros: it never returns fewer values than the table has columns -/
theorem readTableLineTOUGH2_length (line : Str) (nc : Nat) (np : List (Option Int)) (vals : List FVal)
    (h : readTableLineTOUGH2 line nc np = .ok vals) : nc ≤ vals.length := by
  unfold readTableLineTOUGH2 at h
  simp only [bind, Except.bind, pure, Except.pure] at h
  split at h
  · cases h
  · rename_i v hv
    injection h with h; subst h
    have := congrArg List.length (Proofs.mapM_eq_ok.mp hv)
    rw [List.length_map, List.length_map, fieldsOf_length] at this
    simp only [List.length_append, List.length_replicate]; omega

/-- decidable, per table and result time: the key printed on the k-th row line addresses row `r` of the table, and no later row
    line of the table addresses row `r` again (a repeated key would overwrite it: numpy keeps the last).  A row line whose key
    cannot be read passes both tests: stepping raises on it, and the theorems that assume `rowInPlace` assume that stepping returns -/
def rowInPlace (t : Table) (L : List Str) (k r : Nat) : Bool :=
  (match keyFromLine (lineAt L (rowOffset t.skips k)) t.keyPos with
    | .ok key => lastIdx t.rows key == some r
    | .error _ => true) &&
  (List.range t.skips.length).all fun k' =>
    !(decide (k < k')) ||
      (match keyFromLine (lineAt L (rowOffset t.skips k')) t.keyPos with
        | .ok key' => lastIdx t.rows key' != some r
        | .error _ => true)

/-- the value of `t'[r][col]` (sign flipped when the row is addressed by its reversed name) as history() reports it -/
def steppingCell (t' : Table) (r : Nat) (e : Sel) : Except Exc (Nat × FVal) :=
  match (t'.rowView r e.2.2.1).get e.2.1 with
  | some v => .ok (e.2.2.2, v)
  | none => .error .keyError

theorem cellOf_eq_steppingCell_row (readVals : Str → Except Exc (List FVal)) (cols : List Str) (t' : Table) (L : List Str)
    (hcols : t'.cols = cols) (e : Sel) (r : Nat) (vals : List FVal)
    (hv : readVals (lineAt L e.1.toNat) = .ok vals) (hl : vals.length = cols.length) (hdata : t'.data[r]? = some vals.toArray) :
    cellOf readVals (colIdx cols) L e = steppingCell t' r e := by
  unfold cellOf steppingCell pickCell
  rw [rowView_get_eq t' r e.2.2.1 vals e.2.1 hdata (by rw [hcols]; exact hl), hcols]
  simp only [hv]
  cases hc : colIdx cols e.2.1 with
  | none => rfl
  | some vi =>
    have := colIdx_lt _ _ _ hc
    simp only
    rw [List.getElem?_eq_getElem (by omega)]
    rfl

/-- for what `read_table_TOUGH2` stores (`stored`): a line that gave a single value fills a table without columns -/
theorem cellOf_eq_steppingCell_stored (t t' : Table) (L : List Str) (r : Nat) (vals : List FVal) (e : Sel)
    (hvals : readTableLineTOUGH2 (lineAt L e.1.toNat) t.cols.length t.numpos = .ok vals)
    (hlen : vals.length = t.cols.length ∨ vals.length = 1)
    (hd : t'.data[r]? = some ((stored t.cols.length vals).toArray)) (hcols : t'.cols = t.cols) :
    cellOf (fun l => readTableLineTOUGH2 l t.cols.length t.numpos) (colIdx t.cols) L e = steppingCell t' r e := by
  by_cases hl : vals.length = t.cols.length
  · exact cellOf_eq_steppingCell_row _ t.cols t' L hcols e r vals hvals hl (by rw [hd, stored, if_pos hl])
  · have h1 : vals.length = 1 := by rcases hlen with h | h; exact absurd h hl; exact h
    have h0 : t.cols.length = 0 := by have := readTableLineTOUGH2_length _ _ _ _ hvals; omega
    have hnil : t.cols = [] := List.eq_nil_of_length_eq_zero h0
    have hvals0 : readTableLineTOUGH2 (lineAt L e.1.toNat) 0 t.numpos = .ok vals := by rw [← h0]; exact hvals
    unfold cellOf steppingCell pickCell Table.rowView RowView.get
    simp only [hcols, hnil]
    cases e.2.2.1 <;> simp [colIdx, colIdx.go, hvals0]

theorem lineAt_region (segs : List (Str × List Str)) (after : List Str) (k : Nat) (d : Str)
    (hk : (segs.map (·.1))[k]? = some d) :
    lineAt (flat segs ++ after) (rowOffset (segs.map (·.2.length)) k) = d := by
  induction segs generalizing k with
  | nil => simp at hk
  | cons sg r ih =>
    cases k with
    | zero =>
      simp only [List.map_cons, List.getElem?_cons_zero, Option.some.injEq] at hk
      subst hk
      simp [rowOffset, flat, lineAt]
    | succ k =>
      simp only [List.map_cons, List.getElem?_cons_succ] at hk
      simp only [List.map_cons]
      rw [rowOffset_cons_succ, ← lineAt_drop]
      have : (flat (sg :: r) ++ after).drop (1 + sg.2.length) = flat r ++ after := by
        simp only [flat, List.cons_append, List.append_assoc]
        rw [Nat.add_comm, List.drop_succ_cons, List.drop_left]
      rw [this]
      exact ih k hk

theorem readTableLineOf_eq (fam : Fam) (t : Table) :
    readTableLineOf fam t = if (bound fam "read_table_line" == "read_table_line_AUTOUGH2") = true
      then fun l => readTableLineAUTOUGH2 l (t.numpos.headD none) else fun l => readTableLineTOUGH2 l t.cols.length t.numpos := by
  funext l
  unfold readTableLineOf
  split <;> rfl

end Proofs.SeriesStep
