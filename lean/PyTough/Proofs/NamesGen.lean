/-
  The name generators of `mulgrid` (C17).  Alphabetic and decimal names each come with their exact
  length on both sides of the capacity, their characters and a decoder.  Under the length check such a
  name is a `GenSpec`: a total, injective naming function cut off at a capacity, beyond which the naming
  error is raised; over a list of numbers it runs in closed form.  Also `new_dict_key`.
-/
import PyTough.Proofs.NamesDigits
import PyTough.Proofs.FixedDigits
import PyTough.Proofs.ListLemmas
namespace Proofs.Names
open Py Model.Names

/-- An alphabet as the generators use it: duplicate-free (what `uniqstring` returns), without
    blanks or digits (e.g. letters), non-empty, and with at least two characters when names may
    not contain spaces (a one-character alphabet then makes `int_to_chars` recurse for ever).
    No blank, because names are justified with blanks and decoded by filtering the blanks out; no
    digit, because a digit of the alphabet could make `fix_blockname` fire on a generated name. -/
structure AlphabetOK (chars : Str) (spaces : Bool) : Prop where
  nodup : chars.Nodup
  clean : ∀ c ∈ chars, c ≠ ' ' ∧ isDigit c = false
  size : if spaces = true then 1 ≤ chars.length else 2 ≤ chars.length

theorem AlphabetOK.stepOK {chars : Str} {spaces : Bool} (h : AlphabetOK chars spaces) : StepOK chars spaces := by
  have := h.size
  cases spaces
  · right; simpa using this
  · left; rfl

theorem AlphabetOK.pos {chars : Str} {spaces : Bool} (h : AlphabetOK chars spaces) : 0 < chars.length := by
  have := h.size
  cases spaces <;> simp at this <;> omega

/-- what `pad_to_length` does to the digit string when it applies (`length and not spaces`) -/
def padS (chars : Str) (spaces : Bool) (L : Nat) (s : Str) : Str :=
  if L ≠ 0 ∧ spaces = false then List.replicate (L - s.length) (chars.headD ' ') ++ s else s

theorem intToChars_ok {chars : Str} {spaces : Bool} (h : AlphabetOK chars spaces) (i L : Nat) :
    intToChars i [] chars spaces L = .ok (padS chars spaces L (D chars spaces i)) := by
  have hpos := h.pos
  obtain ⟨c0, r, hc⟩ := List.exists_cons_of_length_pos hpos
  have hpad : ∀ s, (if (L ≠ 0 && !spaces) = true then padToLength chars L s else .ok s) =
      .ok (padS chars spaces L s) := by
    intro s
    simp [padS, hc, padToLength, apply_ite Except.ok]
  unfold intToChars
  by_cases hi : i = 0
  · subst hi
    simpa [D_zero] using hpad []
  · have hn0 : chars.length ≠ 0 := by omega
    have hn1 : (chars.length = 1 && !spaces) = false := by
      have hsz := h.size
      cases spaces
      · simp at hsz ⊢; omega
      · simp
    simp only [hi, if_false, hn0, hn1, Bool.false_eq_true]
    exact hpad _

theorem just_eq_pad (left : Bool) (s : Str) (n : Nat) : just left s n = Model.pad left n s := rfl

theorem length_padS (chars : Str) (spaces : Bool) (L : Nat) (s : Str) :
    max L (padS chars spaces L s).length = max L s.length := by
  unfold padS
  split
  · simp; omega
  · rfl

/-- the name made from number `k`: `justfn(int_to_chars(k, chars, spaces, length = L), L)` -/
def alphaName (chars : Str) (spaces left : Bool) (L k : Nat) : Str :=
  just left (padS chars spaces L (D chars spaces k)) L

/-- the number a name was made from: the value of its characters other than blanks (`decodeA_alphaName`) -/
def decodeA (chars : Str) (spaces : Bool) (name : Str) : Nat :=
  val chars (off spaces) (name.filter (· != ' '))

theorem alphaName_length {chars : Str} {spaces : Bool} (h : AlphabetOK chars spaces) (left : Bool) (L k : Nat) :
    (k ≤ capA chars.length spaces L → (alphaName chars spaces left L k).length = L) ∧
    (capA chars.length spaces L < k → L < (alphaName chars spaces left L k).length) := by
  have hlen : (alphaName chars spaces left L k).length = max L (D chars spaces k).length := by
    unfold alphaName; rw [just_eq_pad, pad_length, length_padS]
  have := length_D_le h.stepOK h.pos L k
  rw [hlen]
  constructor <;> intro hk <;> omega

theorem mem_padS {chars : Str} {spaces : Bool} (h : AlphabetOK chars spaces) (L k : Nat) (c : Char)
    (hc : c ∈ padS chars spaces L (D chars spaces k)) : c ∈ chars := by
  unfold padS at hc
  split at hc
  · rcases List.mem_append.mp hc with hc | hc
    · have := (List.mem_replicate.mp hc).2
      subst this
      obtain ⟨a, r, rfl⟩ := List.exists_cons_of_length_pos h.pos
      simp
    · exact mem_D h.stepOK h.pos _ _ hc
  · exact mem_D h.stepOK h.pos _ _ hc

theorem alphaName_chars {chars : Str} {spaces : Bool} (h : AlphabetOK chars spaces) (left : Bool) (L k : Nat) :
    ∀ c ∈ alphaName chars spaces left L k, c ∈ chars ∨ c = ' ' := by
  intro c hc
  exact (mem_pad hc).symm.imp_left (mem_padS h L k c)

theorem decodeA_alphaName {chars : Str} {spaces : Bool} (h : AlphabetOK chars spaces) (left : Bool) (L k : Nat) :
    decodeA chars spaces (alphaName chars spaces left L k) = k := by
  unfold decodeA alphaName
  rw [just_eq_pad, pad_filter _ L (fun c hc => (h.clean c (mem_padS h L k c hc)).1)]
  unfold padS
  split
  · rename_i hp
    obtain ⟨_, rfl⟩ := hp
    simp only [off, Bool.false_eq_true, if_false]
    rw [val_pad h.pos]
    exact val_D h.stepOK h.nodup h.pos k
  · exact val_D h.stepOK h.nodup h.pos k

theorem decChars_len : decChars.length = 10 := rfl
theorem decChars_step : StepOK decChars false := Or.inr (by decide)

theorem mem_decChars : ∀ c ∈ decChars, c ≠ ' ' ∧ isDigit c = true := by decide

theorem natStr_pos {k : Nat} (hk : k ≠ 0) : natStr k = D decChars false k := by
  simp [natStr, hk, D]

theorem mem_natStr (k : Nat) : ∀ c ∈ natStr k, c ≠ ' ' ∧ isDigit c = true := by
  intro c hc
  by_cases hk : k = 0
  · subst hk
    simp only [natStr, if_true, List.mem_singleton] at hc
    subst hc; decide
  · rw [natStr_pos hk] at hc
    exact mem_decChars c (mem_D decChars_step (by decide) k c hc)

theorem val_natStr (k : Nat) : val decChars 0 (natStr k) = k := by
  by_cases hk : k = 0
  · subst hk; decide
  · rw [natStr_pos hk]
    exact val_D decChars_step (by decide) (by decide) k

theorem length_natStr_le {L : Nat} (hL : 0 < L) (k : Nat) : (natStr k).length ≤ L ↔ k ≤ 10 ^ L - 1 := by
  by_cases hk : k = 0
  · subst hk
    simp [natStr]; omega
  · rw [natStr_pos hk]
    exact length_D_le decChars_step (by decide) L k

/-- `justfn(str(k), L)` -/
def numName (left : Bool) (L k : Nat) : Str := just left (natStr k) L

/-- likewise for a decimal name (`decodeN_numName`) -/
def decodeN (name : Str) : Nat := val decChars 0 (name.filter (· != ' '))

theorem numName_length (left : Bool) {L : Nat} (hL : 0 < L) (k : Nat) :
    (k ≤ 10 ^ L - 1 → (numName left L k).length = L) ∧ (10 ^ L - 1 < k → L < (numName left L k).length) := by
  have hlen : (numName left L k).length = max L (natStr k).length := pad_length _ _ _
  have := length_natStr_le hL k
  rw [hlen]
  constructor <;> intro hk <;> omega

theorem numName_chars (left : Bool) (L k : Nat) : ∀ c ∈ numName left L k, isDigit c = true ∨ c = ' ' := by
  intro c hc
  exact (mem_pad hc).symm.imp_left fun hc => (mem_natStr k c hc).2

theorem decodeN_numName (left : Bool) (L k : Nat) : decodeN (numName left L k) = k := by
  unfold decodeN numName
  rw [just_eq_pad, pad_filter _ L (fun c hc => (mem_natStr k c hc).1)]
  exact val_natStr k

theorem mapM'_eq_mapM {α β : Type} (f : α → Except Exc β) (l : List α) : mapM' f l = l.mapM f := by
  induction l with
  | nil => rfl
  | cons a r ih =>
    rw [List.mapM_cons, mapM', ih]
    cases f a with
    | error e => rfl
    | ok b => cases r.mapM f <;> rfl

theorem mapM'_map {α β γ : Type} (f : β → Except Exc γ) (p : α → β) (l : List α) :
    mapM' f (l.map p) = mapM' (fun a => f (p a)) l := by
  rw [mapM'_eq_mapM, mapM'_eq_mapM, List.mapM_map]
  rfl

/-- `g` is the naming function `nm`, injective, cut off at `cap`; `good` is whatever else a user wants of each name
    within the capacity (`ColWF`, `LayWF`) -/
structure GenSpec (g : Nat → Except Exc Str) (cap : Nat) (nm : Nat → Str) (good : Str → Prop) : Prop where
  eq : ∀ k, g k = if k ≤ cap then .ok (nm k) else .error .naming
  inj : ∀ {k1 k2}, nm k1 = nm k2 → k1 = k2
  wf : ∀ k, k ≤ cap → good (nm k)

section
variable {g : Nat → Except Exc Str} {cap : Nat} {nm : Nat → Str} {good : Str → Prop}

theorem GenSpec.ok_iff (h : GenSpec g cap nm good) {k : Nat} {name : Str} : g k = .ok name ↔ k ≤ cap ∧ nm k = name := by
  rw [h.eq]
  by_cases hk : k ≤ cap
  · rw [if_pos hk]; exact ⟨fun e => ⟨hk, Except.ok.inj e⟩, fun e => by rw [e.2]⟩
  · rw [if_neg hk]; exact ⟨fun e => (by cases e), fun e => absurd e.1 hk⟩

theorem GenSpec.error_iff (h : GenSpec g cap nm good) {k : Nat} {e : Exc} : g k = .error e ↔ cap < k ∧ e = .naming := by
  rw [h.eq]
  by_cases hk : k ≤ cap
  · rw [if_pos hk]; exact ⟨fun e => (by cases e), fun e => by omega⟩
  · rw [if_neg hk]; exact ⟨fun e => ⟨by omega, by cases e; rfl⟩, fun e => by rw [e.2]⟩

theorem GenSpec.inj_ok (h : GenSpec g cap nm good) {k1 k2 : Nat} {name : Str} (h1 : g k1 = .ok name) (h2 : g k2 = .ok name) :
    k1 = k2 :=
  h.inj ((h.ok_iff.mp h1).2.trans (h.ok_iff.mp h2).2.symm)

theorem GenSpec.wf_of_ok (h : GenSpec g cap nm good) {k : Nat} {name : Str} (hk : g k = .ok name) : good name := by
  obtain ⟨hc, rfl⟩ := h.ok_iff.mp hk
  exact h.wf k hc

theorem GenSpec.mapM'_eq (h : GenSpec g cap nm good) : ∀ ks : List Nat,
    mapM' g ks = if ∀ k ∈ ks, k ≤ cap then .ok (ks.map nm) else .error .naming
  | [] => by simp [mapM']
  | a :: ks => by
    unfold mapM'
    rw [h.eq a, h.mapM'_eq ks]
    have hc : (∀ k ∈ a :: ks, k ≤ cap) ↔ a ≤ cap ∧ ∀ k ∈ ks, k ≤ cap := List.forall_mem_cons
    by_cases ha : a ≤ cap
    · by_cases hks : ∀ k ∈ ks, k ≤ cap
      · rw [if_pos ha, if_pos hks, if_pos (hc.mpr ⟨ha, hks⟩)]; rfl
      · rw [if_pos ha, if_neg hks, if_neg fun h' => hks (hc.mp h').2]
    · rw [if_neg ha, if_neg fun h' => ha (hc.mp h').1]

theorem GenSpec.range (h : GenSpec g cap nm good) (N : Nat) :
    mapM' (fun k => g (k + 1)) (List.range N) =
      if N ≤ cap then .ok ((List.range N).map fun k => nm (k + 1)) else .error .naming := by
  rw [← mapM'_map g (· + 1), h.mapM'_eq, List.map_map]
  have : (∀ k ∈ (List.range N).map (· + 1), k ≤ cap) ↔ N ≤ cap := by
    simp only [List.mem_map, List.mem_range, forall_exists_index, and_imp, forall_apply_eq_imp_iff₂]
    exact ⟨fun hk => by cases N with | zero => omega | succ n => exact hk n (by omega), fun hN k hk => by omega⟩
  simp only [this]
  rfl

theorem GenSpec.range_names (h : GenSpec g cap nm good) {N : Nat} (hN : N ≤ cap) :
    ((List.range N).map fun k => nm (k + 1)).length = N ∧ ((List.range N).map fun k => nm (k + 1)).Nodup ∧
    ∀ x ∈ (List.range N).map fun k => nm (k + 1), good x := by
  refine ⟨by simp, List.pairwise_map.mpr (List.nodup_range.imp fun hab e => hab (Nat.succ.inj (h.inj e))), fun x hx => ?_⟩
  obtain ⟨k, hk, rfl⟩ := List.mem_map.mp hx
  exact h.wf _ (by have := List.mem_range.mp hk; omega)

/-- the `if len(name) > L: raise NamingConventionError` wrapper -/
def limited (L : Nat) (name : Str) : Except Exc Str := if name.length > L then .error .naming else .ok name

theorem genSpec_limited {f : Nat → Str} {L : Nat} {dec : Str → Nat}
    (hlen : ∀ k, (k ≤ cap → (f k).length = L) ∧ (cap < k → L < (f k).length))
    (hdec : ∀ k, dec (f k) = k) (hwf : ∀ k, k ≤ cap → good (f k)) :
    GenSpec (fun k => limited L (f k)) cap f good := by
  refine ⟨fun k => ?_, fun {k1 k2} e => by rw [← hdec k1, e, hdec], hwf⟩
  unfold limited
  by_cases hk : k ≤ cap
  · rw [if_pos hk, if_neg (by have := (hlen k).1 hk; omega)]
  · rw [if_neg hk, if_pos ((hlen k).2 (by omega))]

theorem GenSpec.ite {p : Prop} [Decidable p] {g1 g2 : Nat → Except Exc Str} {cap1 cap2 : Nat} {nm1 nm2 : Nat → Str}
    (h1 : p → GenSpec g1 cap1 nm1 good) (h2 : ¬ p → GenSpec g2 cap2 nm2 good) :
    GenSpec (fun k => if p then g1 k else g2 k) (if p then cap1 else cap2) (if p then nm1 else nm2) good := by
  by_cases h : p
  · simpa only [h, if_true] using h1 h
  · simpa only [h, if_false] using h2 h

end

/-- characters of a generated name: from the alphabet, a blank, or a decimal digit -/
def NameChar (chars : Str) (c : Char) : Prop := c ∈ chars ∨ c = ' ' ∨ isDigit c = true

def colAlpha (conv : Nat) : Bool := Gen.Conventions.alphaColumnConventions.contains conv
def layNum (conv : Nat) : Bool := Gen.Conventions.numericLayerConventions.contains conv

theorem columnNameFromNumber_eq {chars : Str} {spaces : Bool} (h : AlphabetOK chars spaces) (conv k : Nat) (left : Bool) :
    columnNameFromNumber conv k left chars spaces =
      if colAlpha conv = true then limited (colnameLength conv) (alphaName chars spaces left (colnameLength conv) k)
      else limited (colnameLength conv) (numName false (colnameLength conv) k) := by
  unfold columnNameFromNumber nodeColNameFromNumber colAlpha
  rw [intToChars_ok h]
  by_cases hc : Gen.Conventions.alphaColumnConventions.contains conv = true
  · simp only [hc, if_true]; rfl
  · simp only [hc]; rfl

theorem nodeNameFromNumber_eq (conv k : Nat) (left : Bool) (chars : Str) (spaces : Bool) :
    nodeNameFromNumber conv k left chars spaces = columnNameFromNumber conv k left chars spaces := rfl

theorem layerNameFromNumber_eq {chars : Str} {spaces : Bool} (h : AlphabetOK chars spaces) (conv k : Nat) (left : Bool) :
    layerNameFromNumber conv k left chars spaces =
      if layNum conv = true then limited (layernameLength conv) (numName left (layernameLength conv) k)
      else limited (layernameLength conv) (alphaName chars spaces left (layernameLength conv) k) := by
  unfold layerNameFromNumber layNum
  rw [intToChars_ok h]
  by_cases hc : Gen.Conventions.numericLayerConventions.contains conv = true
  · simp only [hc, if_true]; rfl
  · simp only [hc]; rfl

/-- largest column / node number that has a name under the convention -/
def columnCapacity (conv n : Nat) (spaces : Bool) : Nat :=
  if colAlpha conv = true then capA n spaces (colnameLength conv) else 10 ^ colnameLength conv - 1

/-- largest layer number that has a name under the convention -/
def layerCapacity (conv n : Nat) (spaces : Bool) : Nat :=
  if layNum conv = true then 10 ^ layernameLength conv - 1 else capA n spaces (layernameLength conv)

def columnNm (conv : Nat) (chars : Str) (spaces left : Bool) : Nat → Str :=
  if colAlpha conv = true then alphaName chars spaces left (colnameLength conv) else numName false (colnameLength conv)
def layerNm (conv : Nat) (chars : Str) (spaces left : Bool) : Nat → Str :=
  if layNum conv = true then numName left (layernameLength conv) else alphaName chars spaces left (layernameLength conv)

theorem newDictKeyLoop_eq {chars : Str} {spaces : Bool} (h : AlphabetOK chars spaces) (d : List Str)
    (left : Bool) (length : Nat) : ∀ (fuel i : Nat),
    newDictKeyLoop d left length chars spaces fuel i =
      match (List.range' (i + 1) fuel).find? fun j => !d.contains (alphaName chars spaces left length j) with
      | some j => .ok (alphaName chars spaces left length j, j)
      | none => .error .generic
  | 0, _ => rfl
  | fuel + 1, i => by
    rw [newDictKeyLoop, intToChars_ok h, List.range'_succ, List.find?_cons, newDictKeyLoop_eq h d left length fuel]
    dsimp only [alphaName]
    cases d.contains (just left (padS chars spaces length (D chars spaces (i + 1))) length) <;> rfl

theorem newDictKey_spec {chars : Str} {spaces : Bool} (h : AlphabetOK chars spaces) (d : List Str)
    (istart : Nat) (left : Bool) (length : Nat) :
    ∃ j, newDictKey d istart left length chars spaces = .ok (alphaName chars spaces left length j, j) ∧
      istart < j ∧ j ≤ istart + d.length + 1 ∧ alphaName chars spaces left length j ∉ d ∧
      ∀ m, istart < m → m < j → alphaName chars spaces left length m ∈ d := by
  unfold newDictKey
  rw [newDictKeyLoop_eq h]
  cases hf : (List.range' (istart + 1) (d.length + 1)).find? fun j => !d.contains (alphaName chars spaces left length j) with
  | some j =>
    obtain ⟨a, b, c⟩ := List.find?_range'_eq_some.mp hf
    have := List.mem_range'_1.mp b
    exact ⟨j, rfl, by omega, by omega, by simpa using a, fun m h1 h2 => by simpa using c m h1 h2⟩
  | none =>
    -- no free name among the next `d.length + 1` numbers: their names, which are distinct, would all be in `d`
    have hnd : ((List.range' (istart + 1) (d.length + 1)).map (alphaName chars spaces left length)).Nodup :=
      List.pairwise_map.mpr ((List.pairwise_lt_range' (s := istart + 1) (n := d.length + 1)).imp fun hab e => by
        have := congrArg (decodeA chars spaces) e
        rw [decodeA_alphaName h, decodeA_alphaName h] at this
        omega)
    have := hnd.length_le_of_subset (l₂ := d) fun x hx => by
      obtain ⟨j, hj, rfl⟩ := List.mem_map.mp hx
      have := List.mem_range'_1.mp hj
      simpa using List.find?_range'_eq_none.mp hf j this.1 this.2
    rw [List.length_map, List.length_range'] at this
    omega

end Proofs.Names
