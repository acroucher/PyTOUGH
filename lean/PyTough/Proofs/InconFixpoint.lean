/-
  C13: writing what was read.  The decimal read back from a `%e` text that kept the field's
  precision is printed with the same text (`rewrite_real_stable`, by `fmtEParts_reprint`).  Lifted
  through lines, blocks and the parts of `write` to `write_back`: the second generation of a file
  with `AllFull` is the first.
-/
import PyTough.Proofs.InconRoundtrip
namespace Proofs.Incon
open Py Model Model.Incon Model.Names Proofs

theorem pvalToVal_fin (neg : Bool) {m : Nat} (hm : m ≠ 0) (t : Int) :
    pvalToVal (.flt (.fin neg m t)) = .real (mkRat (if neg then -(decNum m t : Int) else decNum m t) (decDen t)) := by
  by_cases ht : t ≥ 0 <;> cases neg <;> simp [pvalToVal, hm, decNum, decDen, ht, Rat.neg_mkRat]

/-- When the first write of a real needed no reduction of precision, `write_values_to_string` puts
    the same text in the field for the decimal that `parse_string` returned as it did for the
    original value. -/
theorem rewrite_real_stable (rf : ReadFn) {f : FieldSpec} (ht : f.typ = 'e') (r : Rat) {s : Str}
    (hfull : fmtVal f (.real r) = .ok s) (hfit : s.length ≤ f.width) :
    writeField f (.real r) = .ok s ∧ writeField f (pvalToVal (reparse rf f (.real r))) = .ok s := by
  have hd : 0 < r.den := r.den_pos
  have htx : f.typ ≠ 'x' := by rw [ht]; decide
  have hw := writeField_of_fits (by simp) htx hfull hfit
  refine ⟨hw, ?_⟩
  have hs' : s = pad f.left f.width (signChars (decide (r < 0)) ++ fmtEBody (f.prec.getD 6) r.num.natAbs r.den) := by
    rw [fmtVal_e_real ht] at hfull; cases hfull; rfl
  have hre : reparse rf f (.real r) = .flt (.fin (decide (r < 0)) (fmtEParts (f.prec.getD 6) r.num.natAbs r.den).1
      ((fmtEParts (f.prec.getD 6) r.num.natAbs r.den).2 - (f.prec.getD 6 : Nat))) :=
    reparse_eq hw (by rw [ht, hs', read_eText rf _ _ _ _ _ _ hd])
  rw [hre]
  by_cases hr0 : r.num.natAbs = 0
  · -- the value is zero: it is read back as zero
    have hz : r = 0 := Rat.num_eq_zero.mp (by omega)
    subst hz
    have : fmtEParts (f.prec.getD 6) (0 : Rat).num.natAbs (0 : Rat).den = (0, 0) := fmtEParts_zero _ _
    rw [this]
    exact hw
  · -- otherwise as a decimal with the sign of `r` that prints the digits of `r`: the same text
    have hm : (fmtEParts (f.prec.getD 6) r.num.natAbs r.den).1 ≠ 0 := by
      have := (fmtEParts_normalised (f.prec.getD 6) r.num.natAbs r.den (by omega) hd).1
      have := pow10_pos (f.prec.getD 6)
      omega
    obtain ⟨e1, j, hj, e2, e3⟩ := signed_mkRat_parts (decide (r < 0)) (decNum_pos (Nat.pos_of_ne_zero hm)
      ((fmtEParts (f.prec.getD 6) r.num.natAbs r.den).2 - (f.prec.getD 6 : Nat))) (decDen_pos _) rfl
    rw [pvalToVal_fin _ hm]
    refine writeField_of_fits (by simp) htx ?_ hfit
    rw [fmtVal_e_real ht, e1, hs']
    unfold fmtEBody
    rw [fmtEParts_reprint _ hr0 hd hj (Rat.den_pos _) e2 e3]

/-- a written value as it is handed back to `write` after having been read (exact decimal: A-float) -/
def back (rf : ReadFn) (f : FieldSpec) (v : Val) : Val := pvalToVal (reparse rf f v)

/-- writing the re-read value reproduces the text of the first write -/
def StableW (rf : ReadFn) (f : FieldSpec) (v : Val) : Prop :=
  ∀ s, writeField f v = .ok s → writeField f (back rf f v) = .ok s

/-- the first write of a real kept the field's own precision -/
def FullPrec (f : FieldSpec) (v : Val) : Prop :=
  ∀ r, v = .real r → ∃ s, fmtVal f (.real r) = .ok s ∧ s.length ≤ f.width

theorem stable_none (rf : ReadFn) {f : FieldSpec} (ht : NumericTyp f.typ) : StableW rf f .none := by
  intro s hs
  unfold back
  rw [reparse_none rf ht]
  exact hs

theorem stable_real (rf : ReadFn) {f : FieldSpec} (ht : f.typ = 'e') {v : Val} (hv : IsReal v)
    (hfull : FullPrec f v) : StableW rf f v := by
  obtain ⟨r, rfl⟩ := hv
  obtain ⟨s0, h1, h2⟩ := hfull r rfl
  obtain ⟨hw, hb⟩ := rewrite_real_stable rf ht r h1 h2
  intro s hs
  rw [hw] at hs; cases hs
  exact hb

theorem stable_intOrNone (rf : ReadFn) {f : FieldSpec} (ht : f.typ = 'd') {v : Val} (hv : IsIntOrNone v) :
    StableW rf f v := by
  rcases hv with rfl | ⟨i, rfl⟩
  · exact stable_none rf (numeric_of_d ht)
  · intro s hs
    unfold back
    rw [reparse_int rf ht i hs]
    exact hs

theorem stable_realOrNone (rf : ReadFn) {f : FieldSpec} (ht : f.typ = 'e') {v : Val} (hv : IsRealOrNone v)
    (hfull : FullPrec f v) : StableW rf f v := by
  rcases hv with rfl | hv
  · exact stable_none rf (numeric_of_e ht)
  · exact stable_real rf ht hv hfull

/-- the values of one record, each handed back through its own field -/
def backVals (rf : ReadFn) (fs : List FieldSpec) (vals : List Val) : List Val :=
  (vals.zip fs).map (fun vf => back rf vf.2 vf.1)

theorem writeValues_back (rf : ReadFn) : ∀ (fs : List FieldSpec) (vals : List Val) {line : Str},
    (∀ vf ∈ vals.zip fs, StableW rf vf.2 vf.1) → writeValues fs vals = .ok line →
    writeValues fs (backVals rf fs vals) = .ok line
  | [], vals, _, _, h => by rw [writeValues_nil_specs] at h ⊢; exact h
  | _ :: _, [], _, _, h => h
  | f :: fs, v :: vs, _, hst, h => by
    obtain ⟨t, r, ht, hr, rfl⟩ := writeValues_cons_ok h
    have e : backVals rf (f :: fs) (v :: vs) = back rf f v :: backVals rf fs vs := rfl
    rw [e, writeValues_cons, hst (v, f) (by simp) t ht,
      writeValues_back rf fs vs (fun vf hvf => hst vf (List.mem_cons_of_mem _ hvf)) hr]
    rfl

theorem writeLine_back (rf : ReadFn) {fs : List FieldSpec} {vals : List Val} {l : Str}
    (hst : ∀ vf ∈ vals.zip fs, StableW rf vf.2 vf.1) (h : writeLine fs vals = .ok l) :
    writeLine fs (backVals rf fs vals) = .ok l := by
  obtain ⟨rec, hw, rfl⟩ := writeLine_ok h
  unfold writeLine
  rw [writeValues_back rf fs vals hst hw]
  rfl

/-- no real of the block needed reduced precision -/
structure BlockFull (L : Layout) (b : Block Val) : Prop where
  vars : ∀ x ∈ b.vars, FullPrec L.v x
  por : FullPrec L.por b.porosity
  perm : ∀ k, b.permeability = some k → FullPrec L.k1 k.1 ∧ FullPrec L.k2 k.2.1 ∧ FullPrec L.k3 k.2.2

/-- the block that `read` returned, handed back to `write` -/
def backBlock (rf : ReadFn) (L : Layout) (sim : Str) (b : Block Val) : Block Val :=
  (canonBlock rf L sim b).mapVals pvalToVal

theorem chunks4_map {α β : Type} (g : α → β) : ∀ (fuel : Nat) (l : List α),
    chunks4 fuel (l.map g) = (chunks4 fuel l).map (List.map g) := by
  intro fuel
  induction fuel with
  | zero => intro l; rfl
  | succ fuel ih =>
    intro l
    cases l with
    | nil => rfl
    | cons a r =>
      simp only [List.map_cons, chunks4]
      rw [← List.map_cons, ← List.map_drop, ih, ← List.map_take]

theorem writeBlock_back (rf : ReadFn) {S : Specs} {L : Layout} (hL : LayoutOK S L) (sim : Str) {b : Block Val}
    (hwf : BlockWF b) (hfull : BlockFull L b) {lines : List Str} (hw : writeBlock S sim b = .ok lines) :
    writeBlock S sim (backBlock rf L sim b) = .ok lines := by
  obtain ⟨l1, h1, ls, hls, rfl⟩ := (writeBlock_ok_iff hL).mp hw
  -- the name comes back as itself
  have hname := reparse_blockname rf hL hwf
  have hbackname : back rf L.name (.str (unfixBlockname b.block)) = .str (unfixBlockname b.block) := by
    unfold back; rw [hname]; rfl
  have hhdr : blockRecVals sim (backBlock rf L sim b) = backVals rf S.incon1Tr (blockRecVals sim b) := by
    unfold blockRecVals backBlock canonBlock Block.mapVals backVals
    rw [hL.incon1Tr]
    by_cases hs : sim = TOUGHREACT
    · rcases hp : b.permeability with _ | ⟨k1, k2, k3⟩ <;> simp [hs, back, hname, pvalToVal]
    · cases hp : b.permeability <;> simp [hs, back, hname, pvalToVal]
  have hst1 := blockRec_forall hL sim b (P := fun f v => StableW rf f v)
    (fun s hs => by rw [hbackname]; exact hs) (stable_intOrNone rf hL.nseq_d hwf.nseq)
    (stable_intOrNone rf hL.nadd_d hwf.nadd) (stable_realOrNone rf hL.por_e hwf.por hfull.por)
    (fun k hk => ⟨stable_real rf hL.k1_e (hwf.perm k hk).1 (hfull.perm k hk).1,
      stable_real rf hL.k2_e (hwf.perm k hk).2.1 (hfull.perm k hk).2.1,
      stable_real rf hL.k3_e (hwf.perm k hk).2.2 (hfull.perm k hk).2.2⟩)
  have hvars : (backBlock rf L sim b).vars = b.vars.map (back rf L.v) := by
    unfold backBlock canonBlock Block.mapVals back
    simp [List.map_map, Function.comp_def]
  refine (writeBlock_ok_iff hL).mpr ⟨l1, by rw [hhdr]; exact writeLine_back rf hst1 h1, ls, ?_, rfl⟩
  rw [hvars, List.length_map, chunks4_map]
  refine (mapM_ok_iff _ _ _).mpr (All2.map_left (((mapM_ok_iff _ _ _).mp hls).imp fun c hc l hab => ?_))
  rw [hL.incon2] at hab ⊢
  rw [← zip_map_const (back rf) L.v c [L.v, L.v, L.v, L.v] (by simpa using (chunks4_bounds hc).2) (by simp)]
  apply writeLine_back rf _ hab
  intro vf hvf
  obtain ⟨h2, h1⟩ := mem_zip_const (v := L.v) (by simp) hvf
  rw [h2]
  have hx := chunks4_subset hc h1
  exact stable_real rf hL.v_e (hwf.vars_real _ hx) (hfull.vars _ hx)

/-- the object `read` returned, handed back to `write` (values as exact decimals) -/
def backIncon (rf : ReadFn) (L : Layout) (T U : TLayout) (x : Incon Val) (reset : Bool) : Incon Val :=
  (canonIncon rf L T U x reset).mapVals pvalToVal

/-- no value of `x` needed the width guard's reduced precision, and (when the long header is
    written) the header's 6-decimal time is the same for the in-memory and the re-read `sumtim` -/
structure AllFull (rf : ReadFn) (L : Layout) (T U : TLayout) (h3 : FieldSpec) (x : Incon Val) (reset : Bool) : Prop where
  blocks : ∀ b ∈ x.blocks, BlockFull L b
  timing : ∀ t, x.timing = some t → reset = false →
    FullPrec (if x.simulator = TOUGHREACT then U else T).tstart t.tstart ∧
    FullPrec (if x.simulator = TOUGHREACT then U else T).sumtim t.sumtim ∧
    (∀ s, writeField h3 t.sumtim = .ok s →
      writeField h3 (back rf (if x.simulator = TOUGHREACT then U else T).sumtim t.sumtim) = .ok s)

theorem timing_back (rf : ReadFn) {fs : List FieldSpec} {T : TLayout} (hT : TimingOK fs T) {t : Timing Val}
    (hwf : TimingWF t) (hf1 : FullPrec T.tstart t.tstart) (hf2 : FullPrec T.sumtim t.sumtim) {l : Str}
    (h : writeLine fs [t.kcyc, t.iter, t.nm, t.tstart, t.sumtim] = .ok l) :
    writeLine fs [back rf T.kcyc t.kcyc, back rf T.iter t.iter, back rf T.nm t.nm, back rf T.tstart t.tstart,
      back rf T.sumtim t.sumtim] = .ok l := by
  have hb : backVals rf fs [t.kcyc, t.iter, t.nm, t.tstart, t.sumtim] =
      [back rf T.kcyc t.kcyc, back rf T.iter t.iter, back rf T.nm t.nm, back rf T.tstart t.tstart,
        back rf T.sumtim t.sumtim] := by
    rw [hT.shape]; rfl
  rw [← hb]
  exact writeLine_back rf (timing_forall hT t (P := fun f v => StableW rf f v)
    (stable_intOrNone rf hT.kcyc_d hwf.kcyc) (stable_intOrNone rf hT.iter_d hwf.iter)
    (stable_intOrNone rf hT.nm_d hwf.nm) (stable_realOrNone rf hT.tstart_e hwf.tstart hf1)
    (stable_real rf hT.sumtim_e hwf.sumtim hf2)) h

theorem backIncon_blocks (rf : ReadFn) (L : Layout) (T U : TLayout) (x : Incon Val) (reset : Bool) :
    (backIncon rf L T U x reset).blocks = x.blocks.map (backBlock rf L x.simulator) := by
  simp [backIncon, canonIncon, Incon.mapVals, backBlock, List.map_map, Function.comp_def]

/-- **Writing it again**: for a well-formed `x` none of whose values needed reduced
    precision (`AllFull`), the object that `read` returned for the file `write` produced — handed
    back to `write` with its values as exact decimals — is written as the very same lines. -/
theorem write_back (rf : ReadFn) {S : Specs} {L : Layout} {T U : TLayout} {h0 h1 h2 h3 : FieldSpec}
    (hL : LayoutOK S L) (hT : TimingOK S.timing T) (hU : TimingOK S.timingTr U) (hH : HeaderOK S h0 h1 h2 h3)
    (x : Incon Val) (nvars : Option Nat) (reset : Bool) (hwf : InconWF x nvars)
    (hfull : AllFull rf L T U h3 x reset) {file : List Str} (hw : write S x reset = .ok file) :
    write S (backIncon rf L T U x reset) reset = .ok file := by
  have hblocks := backIncon_blocks rf L T U x reset
  have hsim : (backIncon rf L T U x reset).simulator = x.simulator := rfl
  obtain ⟨header, body, footer, rfl, hbody, hcase⟩ := write_parts hw
  have hbody' : (backIncon rf L T U x reset).blocks.mapM (writeBlock S x.simulator) = .ok body := by
    rw [hblocks]
    exact (mapM_ok_iff _ _ _).mpr (All2.map_left (((mapM_ok_iff _ _ _).mp hbody).imp fun b hb' _ h =>
      writeBlock_back rf hL x.simulator (hwf.blocks b hb').1 (hfull.blocks b hb') h))
  cases hcase with
  | short htw hh =>
    have ht' : timingWritten (backIncon rf L T U x reset) reset = false := by
      unfold timingWritten at htw ⊢
      simp [backIncon, canonIncon, Incon.mapVals, timingWritten, htw]
    rw [write_short ht', hsim, hh, hbody']
    rfl
  | long t l ht hh hl =>
    have htwf := hwf.timing t ht
    obtain ⟨hf1, hf2, hhdr⟩ := hfull.timing t ht rfl
    have hV := timingOK_ite hT hU x.simulator
    -- `V`: the timing layout of the object's flavour
    generalize eV : (if x.simulator = TOUGHREACT then U else T) = V at hf1 hf2 hhdr hV
    have ht' : (backIncon rf L T U x false).timing =
        some (Timing.mk (back rf V.kcyc t.kcyc) (back rf V.iter t.iter) (back rf V.nm t.nm)
          (back rf V.tstart t.tstart) (back rf V.sumtim t.sumtim)) := by
      simp [backIncon, canonIncon, Incon.mapVals, timingWritten, ht, canonTiming, back, eV]
    have hlen : (backIncon rf L T U x false).blocks.length = x.blocks.length := by
      rw [hblocks, List.length_map]
    -- the header: only the time differs, and it is printed identically by hypothesis
    have hh' : writeLine S.headerLong [Val.str headerTitle, Val.int x.blocks.length, Val.str headerMiddle,
        back rf V.sumtim t.sumtim] = .ok header := by
      obtain ⟨s, hs⟩ := written_each hh (t.sumtim, h3) (by rw [hH.shape]; simp)
      have e0 : writeField h3 (back rf V.sumtim t.sumtim) = writeField h3 t.sumtim := by rw [hhdr s hs, hs]
      rw [← hh]
      unfold writeLine writeValues
      rw [hH.shape]
      simp only [List.zip_cons_cons, List.zip_nil_right, List.mapM_cons, List.mapM_nil, e0]
    rw [write_long ht', hsim, hlen, hh', hbody', timing_back rf hV htwf hf1 hf2 hl]
    rfl

end Proofs.Incon
